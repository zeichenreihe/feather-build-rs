/-!
# Base-256 digits and two's complement, on plain arithmetic

Every big-endian codec of the models that a read-back lemma is proved about (`ClassRead.be16`/`u16`, `CodeWrite.u16b`,
`PoolWrite.be16`, `RawLayout.be`/`takeBE`, `ClassParse.u16`, `FrameDecode.u2` …) is written out digit by digit, so each
unfolds by `rfl` (`show`) to one of the shapes below; a signed reader applied to the residue of a signed number (`toI16 (ofI16 v)`,
`wrapI8` …) unfolds to the `if` of `signed_emod`; the decoders that test the first byte instead (`CodeDecode.s16`, `s32`)
are brought to that form in `CodeBytes`.
-/

namespace Be

theorem val16 (n : Nat) (h : n < 65536) : n / 256 % 256 * 256 + n % 256 = n := by
  rw [Nat.mod_eq_of_lt (Nat.div_lt_of_lt_mul h)]
  exact Nat.div_add_mod' n 256

/-- as the readers that fold from the left compute it -/
theorem val32 (n : Nat) (h : n < 4294967296) :
    ((n / 16777216 % 256 * 256 + n / 65536 % 256) * 256 + n / 256 % 256) * 256 + n % 256 = n := by
  have e1 : n / 256 / 256 = n / 65536 := Nat.div_div_eq_div_mul n 256 256
  have e2 : n / 65536 / 256 = n / 16777216 := Nat.div_div_eq_div_mul n 65536 256
  rw [Nat.mod_eq_of_lt (Nat.div_lt_of_lt_mul h : n / 16777216 < 256), ← e2, Nat.div_add_mod', ← e1, Nat.div_add_mod',
    Nat.div_add_mod']

/-- as the readers that weigh each byte compute it -/
theorem val32' (n : Nat) (h : n < 4294967296) :
    n / 16777216 % 256 * 16777216 + n / 65536 % 256 * 65536 + n / 256 % 256 * 256 + n % 256 = n :=
  Eq.trans (by omega) (val32 n h)

theorem signed_emod (M : Nat) (v : Int) (h1 : -(M : Int) ≤ v) (h2 : v < M) :
    (if (v % (2 * M : Nat)).toNat < M then ((v % (2 * M : Nat)).toNat : Int)
      else ((v % (2 * M : Nat)).toNat : Int) - (2 * M : Nat)) = v := by
  by_cases h : 0 ≤ v
  · rw [Int.emod_eq_of_lt h (by omega), if_pos (by omega)]; omega
  · have e : v % (2 * M : Nat) = v + (2 * M : Nat) := by
      rw [← Int.add_mul_emod_self_left v (2 * M : Nat) 1, Int.mul_one]
      exact Int.emod_eq_of_lt (by omega) (by omega)
    rw [e, if_neg (by omega)]; omega

end Be
