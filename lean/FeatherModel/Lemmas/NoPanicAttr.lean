import Lean.Meta.Tactic.Simp.RegisterCommand

/-!
# The simp set `np` of `Lemmas/ClassWriteFullNoPanic` (an attribute is declared in a module before the one that uses it)
-/

/-- "never the panic outcome" of `pure`, the explicit error, `>>=`, the primitives and the combinators of the class writer,
and of each writer function once it is proved -/
register_simp_attr np
