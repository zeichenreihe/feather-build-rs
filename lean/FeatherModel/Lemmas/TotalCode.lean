import FeatherModel.Lemmas.TotalAnno
import FeatherModel.Model.TotalCode

/-!
# C16 — the parts of `read_code`: no panic at all, every guarded operation is silent, allocation requests are bounded

The model is the code after the repairs of the defects this audit found in `read_code`: e3534dd (`start_pc + length`
checked), 4853513 (label counter wide enough for all 65536 offsets), 6b80d4b (frame offsets checked), 8349742
(`read_u8_vec` grows with the bytes present), 835fdd2 (element values nested at most 255 deep).

All statements are `Spec openSites B …`: `openSites` is the list of audited sites still open (`Sites.openIds`, which
`Thm.C16.open_sites` evaluates), and it is empty, so each says "never panics" (and that the `alloc` account stays below `B`). The generic lemmas of the sibling
modules are used here at `S := openSites`.
Everything outside the second pass works for any `B ≥ 65535` that also bounds the length of the unread input (the
buffer of an unknown attribute grows with the bytes present). A step of the second pass taken by itself needs `B` to
bound the length of its instruction, for its two `Vec::with_capacity(n)`; `Lemmas/TotalPasses.lean` relates the two
passes, finds the instruction inside the code (so 65535 will do) and concludes for `read_code` as a whole.
-/

namespace Total.Code

open TM

/-- the sites `read_code` can still panic at: none -/
def openSites : List Nat := []

variable {B : Nat}

theorem Labels.addUnchecked_spec (l : Labels) (pc : Nat) : Spec openSites B (l.addUnchecked pc) (fun _ => True) := by
  unfold Labels.addUnchecked
  split <;> exact Spec.ret _ trivial

theorem Labels.getOrCreate_spec (l : Labels) (pc : Nat) : Spec openSites B (l.getOrCreate pc) (fun _ => True) := by
  unfold Labels.getOrCreate
  exact Spec.bind (Spec.guard _) (fun _ _ => Labels.addUnchecked_spec l pc)

theorem Labels.getOrCreateExcl_spec (l : Labels) (pc : Nat) : Spec openSites B (l.getOrCreateExcl pc) (fun _ => True) := by
  unfold Labels.getOrCreateExcl
  exact Spec.bind (Spec.guard _) (fun _ _ => Labels.addUnchecked_spec l pc)

theorem Labels.getOrCreateRange_spec (l : Labels) (a b : Nat) :
    Spec openSites B (l.getOrCreateRange a b) (fun _ => True) := by
  unfold Labels.getOrCreateRange
  refine Spec.bind (Labels.getOrCreate_spec l a) (fun l1 _ => ?_)
  exact Spec.bind (Spec.guard _) (fun _ _ => Labels.getOrCreateExcl_spec l1 _)

theorem Labels.tryGet_spec (l : Labels) (pc : Nat) : Spec openSites B (l.tryGet pc) (fun _ => True) := by
  unfold Labels.tryGet
  exact Spec.weaken (Spec.guard _) (fun _ _ => trivial)

theorem skip_pos (c : Cur) (a : Nat) : (c.skip a).pos = c.pos + a := rfl
theorem skip_len (c : Cur) (a : Nat) : (c.skip a).len = c.len := rfl

theorem skip_skip (c : Cur) (a b : Nat) : (c.skip a).skip b = c.skip (a + b) := by
  simp [Cur.skip, List.drop_drop, Nat.add_assoc]

theorem skip_zero (c : Cur) : c.skip 0 = c := by cases c; simp [Cur.skip]

theorem skip_rest_length (c : Cur) (a : Nat) : (c.skip a).rest.length = c.rest.length - a := by
  simp [Cur.skip]

/-- `c'` is `c` after reading `k` bytes: reading is skipping bytes that are there -/
def Reads (c : Cur) (k : Nat) (c' : Cur) : Prop := c' = c.skip k ∧ k ≤ c.rest.length

theorem Reads.refl (c : Cur) : Reads c 0 c := ⟨(skip_zero c).symm, Nat.zero_le _⟩

theorem Reads.trans {a b c : Cur} {j k : Nat} (h1 : Reads a j b) (h2 : Reads b k c) : Reads a (j + k) c := by
  obtain ⟨rfl, h1⟩ := h1
  obtain ⟨rfl, h2⟩ := h2
  rw [skip_rest_length] at h2
  exact ⟨skip_skip a j k, by omega⟩

theorem splitExact_eq : ∀ (k : Nat) (s : Bytes),
    Cur.splitExact k s = if k ≤ s.length then some (s.take k, s.drop k) else none
  | 0, s => by simp [Cur.splitExact]
  | k + 1, [] => by simp [Cur.splitExact]
  | k + 1, a :: s => by
    simp only [Cur.splitExact, splitExact_eq k s, List.length_cons, Nat.add_le_add_iff_right]
    split <;> rfl

theorem Cur.take_spec (k : Nat) (c : Cur) :
    Spec openSites B (c.take k) (fun r => r.1 = c.rest.take k ∧ Reads c k r.2) := by
  unfold Cur.take
  rw [splitExact_eq]
  by_cases h : k ≤ c.rest.length
  · rw [if_pos h]
    exact Spec.ret _ ⟨rfl, rfl, h⟩
  · rw [if_neg h]
    exact Spec.fail

/-! What a read returns is a function of the cursor (`peek8`, `peekI32`; anything where the bytes are not there), and so
is the number of padding bytes `align` reads (`pad`). -/

def peek8 (c : Cur) : Nat :=
  match c.rest.take 1 with
  | [a] => byte a
  | _ => 0

def peekI32 (c : Cur) : Int :=
  match c.rest.take 4 with
  | [a, b, x, d] => toI32 (((byte a * 256 + byte b) * 256 + byte x) * 256 + byte d)
  | _ => 0

def pad (c : Cur) : Nat := if c.pos % 4 = 0 then 0 else 4 - c.pos % 4

theorem peek8_le (c : Cur) : peek8 c ≤ 255 := by
  unfold peek8
  split
  · exact Spec.byte_le _
  · exact Nat.zero_le _

theorem Cur.u8_spec (c : Cur) : Spec openSites B c.u8 (fun r => r.1 = peek8 c ∧ Reads c 1 r.2) := by
  unfold Cur.u8
  refine Spec.bind (Cur.take_spec 1 c) (fun ⟨b, c'⟩ h => ?_)
  dsimp only
  split
  · exact Spec.ret _ ⟨by unfold peek8; rw [← h.1], h.2⟩
  · exact Spec.fail

theorem Cur.u16_spec (c : Cur) : Spec openSites B c.u16 (fun r => Reads c 2 r.2) := by
  unfold Cur.u16
  refine Spec.bind (Cur.take_spec 2 c) (fun ⟨b, c'⟩ h => ?_)
  dsimp only
  split
  · exact Spec.ret _ h.2
  · exact Spec.fail

theorem Cur.i16_spec (c : Cur) : Spec openSites B c.i16 (fun r => Reads c 2 r.2) := by
  unfold Cur.i16
  exact Spec.bind (Cur.u16_spec c) (fun ⟨n, c'⟩ h => Spec.ret _ h)

theorem Cur.i32_spec (c : Cur) : Spec openSites B c.i32 (fun r => r.1 = peekI32 c ∧ Reads c 4 r.2) := by
  unfold Cur.i32
  refine Spec.bind (Cur.take_spec 4 c) (fun ⟨b, c'⟩ h => ?_)
  dsimp only
  split
  · exact Spec.ret _ ⟨by unfold peekI32; rw [← h.1], h.2⟩
  · exact Spec.fail

/-- `align_to_4_byte_boundary`: its `unreachable!()` (site 30) is unreachable -/
theorem Cur.align_spec (c : Cur) : Spec openSites B c.align (fun c' => Reads c (pad c) c') := by
  unfold Cur.align
  dsimp only
  refine Spec.bind (Spec.check_true (by simp; omega)) (fun _ _ => ?_)
  exact Spec.bind (Cur.take_spec _ c) (fun ⟨b, c'⟩ h => Spec.ret _ h.2)

theorem Cur.branch16_spec (p : Nat) (c : Cur) : Spec openSites B (c.branch16 p) (fun r => Reads c 2 r.2) := by
  unfold Cur.branch16
  refine Spec.bind (Cur.i16_spec c) (fun ⟨off, c'⟩ h => ?_)
  dsimp only
  split
  · exact Spec.ret _ h
  · exact Spec.fail

theorem Cur.branch32_spec (p : Nat) (c : Cur) : Spec openSites B (c.branch32 p) (fun r => Reads c 4 r.2) := by
  unfold Cur.branch32
  refine Spec.bind (Cur.i32_spec c) (fun ⟨off, c'⟩ h => ?_)
  dsimp only
  split
  · exact Spec.ret _ h.2
  · exact Spec.fail

theorem tableCount_spec (low high : Int) : Spec openSites B (tableCount low high) (fun n => n = (high - low + 1).toNat) := by
  unfold tableCount
  exact Spec.ite Spec.fail (Spec.ite Spec.fail (Spec.ret _ rfl))

theorem pairCount_spec (n : Int) : Spec openSites B (pairCount n) (fun k => k = n.toNat) := by
  unfold pairCount
  exact Spec.ite Spec.fail (Spec.ret _ rfl)

theorem pass1Table_spec (p : Nat) : ∀ (n : Nat) (l : Labels) (c : Cur),
    Spec openSites B (pass1Table p n l c) (fun r => Reads c (4 * n) r.2)
  | 0, l, c => Spec.ret _ (Reads.refl c)
  | n + 1, l, c => by
    unfold pass1Table
    refine Spec.bind (Cur.branch32_spec p c) (fun ⟨t, c1⟩ h1 => ?_)
    refine Spec.bind (Labels.getOrCreate_spec l t) (fun l1 _ => ?_)
    exact Spec.weaken (pass1Table_spec p n l1 c1) (fun r hr => (by omega : 4 + 4 * n = 4 * (n + 1)) ▸ h1.trans hr)

theorem pass1Pairs_spec (p : Nat) : ∀ (n : Nat) (l : Labels) (c : Cur),
    Spec openSites B (pass1Pairs p n l c) (fun r => Reads c (8 * n) r.2)
  | 0, l, c => Spec.ret _ (Reads.refl c)
  | n + 1, l, c => by
    unfold pass1Pairs
    refine Spec.bind (Cur.i32_spec c) (fun ⟨k, c0⟩ h0 => ?_)
    refine Spec.bind (Cur.branch32_spec p c0) (fun ⟨t, c1⟩ h1 => ?_)
    refine Spec.bind (Labels.getOrCreate_spec l t) (fun l1 _ => ?_)
    exact Spec.weaken (pass1Pairs_spec p n l1 c1) (fun r hr => (by omega : 4 + 4 + 8 * n = 8 * (n + 1)) ▸ (h0.2.trans h1).trans hr)

/-- a cursor that has only been read from: `rest` is what the code has from `pos` on (so `pos ≤ len`; a `skip` past the
end breaks it) -/
def WF (c : Cur) : Prop := c.pos + c.rest.length = c.len

theorem WF.reads {c c' : Cur} {k : Nat} (h : WF c) (hr : Reads c k c') : WF c' := by
  obtain ⟨rfl, hk⟩ := hr
  simp only [WF, skip_pos, skip_len, skip_rest_length] at *
  omega

theorem WF.le {c : Cur} (h : WF c) : c.pos ≤ c.len := Nat.le.intro h

theorem WF.start (code : Bytes) : WF (Cur.start code) := by simp [WF, Cur.start]

theorem readOperand_spec (o : Operand) (c : Cur) :
    Spec openSites B (readOperand o c) (fun c' => Reads c o.size c') := by
  cases o <;> simp only [readOperand, Operand.size]
  case none_ => exact Spec.ret _ (Reads.refl c)
  case imm k => exact Spec.bind (Cur.take_spec k c) (fun ⟨_, c1⟩ h => Spec.ret _ h.2)
  case ldc1 | newarray =>
    refine Spec.bind (Cur.u8_spec c) (fun ⟨i, c1⟩ h => ?_)
    exact Spec.bind (Spec.guard _) (fun _ _ => Spec.ret _ h.2)
  case indy =>
    exact Spec.bind (Cur.u16_spec c) (fun ⟨i, c1⟩ h => Spec.fail)
  case iface | multi =>
    refine Spec.bind (Cur.u16_spec c) (fun ⟨i, c1⟩ h => ?_)
    refine Spec.bind (Spec.guard _) (fun _ _ => ?_)
    exact Spec.bind (Cur.take_spec _ c1) (fun ⟨_, c2⟩ h2 => Spec.ret _ (h.trans h2.2))
  all_goals
    refine Spec.bind (Cur.u16_spec c) (fun ⟨i, c1⟩ h => ?_)
    exact Spec.bind (Spec.guard _) (fun _ _ => Spec.ret _ h)

/-- `iload_n` / `istore_n`: the two `u8` operations and the `unreachable!()` (sites 21–26) are silent inside their
match arm -/
theorem loadStoreN_spec (s1 s2 s3 base0 base op : Nat) (h0 : base0 ≤ op) (h1 : op ≤ base0 + 19) (hb : base + 4 ≤ 255) :
    Spec openSites B (loadStoreN s1 s2 s3 base0 base op) (fun _ => True) := by
  unfold loadStoreN
  refine Spec.bind (Spec.subU_le h0) (fun shifted hs => ?_)
  have hs' : shifted = op - base0 := hs
  refine Spec.bind (Spec.addU8_le (by omega)) (fun o ho => ?_)
  have ho' : o = base + shifted / 4 := ho
  refine Spec.check_true ?_
  simp only [Bool.and_eq_true, decide_eq_true_eq]
  omega

theorem pass2Table_spec (l : Labels) (p : Nat) : ∀ (n : Nat) (c : Cur),
    Spec openSites B (pass2Table l p n c) (fun c' => Reads c (4 * n) c')
  | 0, c => Spec.ret _ (Reads.refl c)
  | n + 1, c => by
    unfold pass2Table
    refine Spec.bind (Cur.branch32_spec p c) (fun ⟨t, c1⟩ h1 => ?_)
    refine Spec.bind (Labels.tryGet_spec l t) (fun _ _ => ?_)
    exact Spec.weaken (pass2Table_spec l p n c1) (fun r hr => (by omega : 4 + 4 * n = 4 * (n + 1)) ▸ h1.trans hr)

theorem pass2Pairs_spec (l : Labels) (p : Nat) : ∀ (n : Nat) (c : Cur),
    Spec openSites B (pass2Pairs l p n c) (fun c' => Reads c (8 * n) c')
  | 0, c => Spec.ret _ (Reads.refl c)
  | n + 1, c => by
    unfold pass2Pairs
    refine Spec.bind (Cur.i32_spec c) (fun ⟨k, c0⟩ h0 => ?_)
    refine Spec.bind (Cur.branch32_spec p c0) (fun ⟨t, c1⟩ h1 => ?_)
    refine Spec.bind (Labels.tryGet_spec l t) (fun _ _ => ?_)
    exact Spec.weaken (pass2Pairs_spec l p n c1) (fun r hr => (by omega : 4 + 4 + 8 * n = 8 * (n + 1)) ▸ (h0.2.trans h1).trans hr)

/-- the unread input only shrinks -/
abbrev Shrinks (s : Bytes) (r : Labels × Bytes) : Prop := r.2.length ≤ s.length

variable {N : Nat}

theorem loopLI {body : Labels → Bytes → TM (Labels × Bytes)}
    (h : ∀ l s, s.length ≤ N → Spec openSites B (body l s) (Fits N)) :
    ∀ n l s, s.length ≤ N → Spec openSites B (loopL body n l s) (Fits N)
  | 0, l, s, hs => Spec.ret _ hs
  | n + 1, l, s, hs => by
    unfold loopL
    exact Spec.bind (h l s hs) (fun ⟨l1, s1⟩ h1 => loopLI h n l1 s1 h1)

theorem vecL_spec {body : Labels → Bytes → TM (Labels × Bytes)}
    (h : ∀ l s, s.length ≤ N → Spec openSites B (body l s) (Fits N)) {n : Nat} (hn : n ≤ B) (l : Labels) {s : Bytes}
    (hs : s.length ≤ N) : Spec openSites B (vecL body n l s) (Fits N) := by
  unfold vecL
  exact Spec.bind (Spec.request hn) (fun _ _ => loopLI h n l s hs)

theorem vec16L_spec (hB : 65535 ≤ B) {body : Labels → Bytes → TM (Labels × Bytes)}
    (h : ∀ l s, s.length ≤ N → Spec openSites B (body l s) (Fits N)) (l : Labels) {s : Bytes} (hs : s.length ≤ N) :
    Spec openSites B (vec16L body l s) (Fits N) := by
  unfold vec16L
  exact Spec.u16I hs (fun n s1 h1 hn => vecL_spec h (Nat.le_trans hn hB) l h1)

theorem readVType_spec (l : Labels) (s : Bytes) (hs : s.length ≤ N) : Spec openSites B (readVType l s) (Fits N) := by
  unfold readVType
  refine Spec.u8I hs (fun tag s1 h1 _ => ?_)
  dsimp only
  refine Spec.ite (Spec.ret _ h1) (Spec.ite ?_ (Spec.ite ?_ Spec.fail))
  · exact Spec.u16I h1 (fun i s2 h2 _ => Spec.bind (Spec.guard _) (fun _ _ => Spec.ret _ h2))
  · exact Spec.u16I h1 (fun pc s2 h2 _ => Spec.bind (Labels.getOrCreate_spec l pc) (fun _ _ => Spec.ret _ h2))

/-- `read_stack_map_frame`: the three `u8` subtractions (sites 27, 28, 29) are silent inside their match arms -/
theorem readFrame_spec (hB : 65535 ≤ B) (l : Labels) (s : Bytes) (hs : s.length ≤ N) :
    Spec openSites B (readFrame l s) (fun r => Fits N r.2) := by
  unfold readFrame
  refine Spec.u8I hs (fun t s1 h1 _ => ?_)
  have vt {d : Nat} {s' : Bytes} (h : s'.length ≤ N) :
      Spec openSites B (do let (l, s) ← readVType l s'; pure (d, l, s)) (fun r => Fits N r.2) :=
    Spec.bind (readVType_spec l s' h) (fun ⟨_, s2⟩ h2 => Spec.ret _ h2)
  dsimp only
  refine Spec.byCases (fun _ => Spec.ret _ h1) fun _ => Spec.byCases (fun _ => ?_) fun _ => Spec.ite Spec.fail <|
    Spec.byCases (fun _ => Spec.u16I h1 fun d s2 h2 _ => vt h2) fun _ =>
    Spec.byCases (fun _ => Spec.u16I h1 fun d s2 h2 _ => ?_) fun _ =>
    Spec.byCases (fun _ => Spec.u16I h1 fun d s2 h2 _ => Spec.ret _ h2) fun _ =>
    Spec.byCases (fun _ => Spec.u16I h1 fun d s2 h2 _ => ?_) fun _ => Spec.u16I h1 fun d s2 h2 _ => ?_
  · exact Spec.bind (Spec.subU_le (by omega)) (fun _ _ => vt h1)
  · exact Spec.bind (Spec.subU_le (by omega)) (fun _ _ => Spec.ret _ h2)
  · refine Spec.bind (Spec.subU_le (by omega)) (fun k (hk : k = t - 251) => ?_)
    exact Spec.bind (vecL_spec readVType_spec (by omega) l h2) (fun ⟨_, s3⟩ h3 => Spec.ret _ h3)
  · refine Spec.bind (vec16L_spec hB readVType_spec l h2) (fun ⟨l1, s3⟩ h3 => ?_)
    exact Spec.bind (vec16L_spec hB readVType_spec l1 h3) (fun ⟨_, s4⟩ h4 => Spec.ret _ h4)

theorem readFrames_spec (hB : 65535 ≤ B) : ∀ (n : Nat) (first : Bool) (offset : Nat) (l : Labels) (s : Bytes), s.length ≤ N →
    Spec openSites B (readFrames n first offset l s) (Fits N)
  | 0, _, _, l, s, hs => Spec.ret _ hs
  | n + 1, first, offset, l, s, hs => by
    unfold readFrames
    refine Spec.bind (readFrame_spec hB l s hs) (fun ⟨delta, l1, s1⟩ h1 => ?_)
    refine Spec.bind (Spec.guard _) (fun _ _ => Spec.bind (Spec.guard _) (fun _ _ => ?_))
    exact Spec.bind (Labels.getOrCreate_spec l1 _) (fun l2 _ => readFrames_spec hB n false _ l2 s1 h1)

theorem readCldcFrame_spec (hB : 65535 ≤ B) (l : Labels) (s : Bytes) (hs : s.length ≤ N) :
    Spec openSites B (readCldcFrame l s) (fun r => Fits N r.2) := by
  unfold readCldcFrame
  refine Spec.u16I hs (fun off s1 h1 _ => ?_)
  refine Spec.bind (vec16L_spec hB readVType_spec l h1) (fun ⟨l1, s2⟩ h2 => ?_)
  exact Spec.bind (vec16L_spec hB readVType_spec l1 h2) (fun ⟨l2, s3⟩ h3 => Spec.ret _ h3)

theorem readCldcFrames_spec (hB : 65535 ≤ B) : ∀ (n : Nat) (l : Labels) (acc : List Nat) (s : Bytes), s.length ≤ N →
    Spec openSites B (readCldcFrames n l acc s) (fun r => Fits N r.2)
  | 0, l, acc, s, hs => Spec.ret _ hs
  | n + 1, l, acc, s, hs => by
    unfold readCldcFrames
    exact Spec.bind (readCldcFrame_spec hB l s hs) (fun ⟨o, l1, s1⟩ h1 => readCldcFrames_spec hB n l1 (o :: acc) s1 h1)

theorem createAll_spec : ∀ (os : List Nat) (l : Labels), Spec openSites B (createAll os l) (fun _ => True)
  | [], l => Spec.ret _ trivial
  | o :: os, l => by
    unfold createAll
    exact Spec.bind (Labels.getOrCreate_spec l o) (fun l1 _ => createAll_spec os l1)

theorem readException_spec (l : Labels) (s : Bytes) (hs : s.length ≤ N) : Spec openSites B (readException l s) (Fits N) := by
  unfold readException
  refine Spec.u16I hs fun a s h _ => Spec.bind (Labels.getOrCreate_spec l a) fun l _ => ?_
  refine Spec.u16I h fun b s h _ => Spec.bind (Labels.getOrCreateExcl_spec l b) fun l _ => ?_
  refine Spec.u16I h fun x s h _ => Spec.bind (Labels.getOrCreate_spec l x) fun l _ => ?_
  exact Spec.u16I h fun c s h _ => Spec.bind (Spec.guard _) fun _ _ => Spec.ret _ h

theorem readLineI (l : Labels) (s : Bytes) (hs : s.length ≤ N) : Spec openSites B (readLine l s) (Fits N) := by
  unfold readLine
  refine Spec.u16I hs fun pc s h _ => Spec.bind (Labels.getOrCreate_spec l pc) fun l _ => ?_
  exact Spec.u16I h fun _ s h _ => Spec.ret _ h

/-- `readLineI` at `N := s.length`: the reader returns no more than it was given -/
theorem readLine_spec (l : Labels) (s : Bytes) : Spec openSites B (readLine l s) (Shrinks s) :=
  readLineI l s (Nat.le_refl _)

theorem readLv_spec (l : Labels) (s : Bytes) (hs : s.length ≤ N) : Spec openSites B (readLv l s) (Fits N) := by
  unfold readLv
  refine Spec.u16I hs fun a s h _ => Spec.u16I h fun b s h _ => Spec.bind (Labels.getOrCreateRange_spec l a b) fun l _ => ?_
  refine Spec.u16I h fun n s h _ => Spec.bind (Spec.guard _) fun _ _ => ?_
  refine Spec.u16I h fun d s h _ => Spec.bind (Spec.guard _) fun _ _ => ?_
  exact Spec.u16I h fun _ s h _ => Spec.ret _ h

theorem readLvTarget_spec (l : Labels) (s : Bytes) (hs : s.length ≤ N) : Spec openSites B (readLvTarget l s) (Fits N) := by
  unfold readLvTarget
  refine Spec.u16I hs fun a s h _ => Spec.u16I h fun b s h _ => Spec.bind (Labels.getOrCreateRange_spec l a b) fun l _ => ?_
  exact Spec.u16I h fun _ s h _ => Spec.ret _ h

theorem readTargetCode_spec (l : Labels) (s : Bytes) (hs : s.length ≤ N) : Spec openSites B (readTargetCode l s) (Fits N) := by
  unfold readTargetCode
  refine Spec.u8I hs (fun t s1 h1 _ => ?_)
  dsimp only
  refine Spec.ite ?_ (Spec.ite ?_ (Spec.ite ?_ (Spec.ite ?_ Spec.fail)))
  · exact Spec.u16I h1 fun n s2 h2 _ => loopLI readLvTarget_spec n l s2 h2
  · exact Spec.u16I h1 fun _ s2 h2 _ => Spec.ret _ h2
  · exact Spec.u16I h1 fun pc s2 h2 _ => Spec.bind (Labels.getOrCreate_spec l pc) fun _ _ => Spec.ret _ h2
  · refine Spec.u16I h1 fun pc s2 h2 _ => Spec.bind (Labels.getOrCreate_spec l pc) fun _ _ => ?_
    exact Spec.u8I h2 fun _ s3 h3 _ => Spec.ret _ h3

/-- the inner `match kind { 0 | 1 | 2 => …, _ => unreachable!() }` (site 32) -/
theorem readTypePathEntry_spec (s : Bytes) (hs : s.length ≤ N) : Spec openSites B (readTypePathEntry s) (Fits N) := by
  unfold readTypePathEntry
  refine Spec.u8I hs fun kind s1 h1 _ => Spec.u8I h1 fun arg s2 h2 _ => ?_
  dsimp only
  refine Spec.byCases (fun h => ?_) fun _ => Spec.ite (Spec.ret _ h2) Spec.fail
  refine Spec.bind (Spec.check_true ?_) (fun _ _ => Spec.bind (Spec.guard _) (fun _ _ => Spec.ret _ h2))
  have : kind = 0 ∨ kind = 1 ∨ kind = 2 := by omega
  rcases this with h | h | h <;> subst h <;> rfl

theorem readTypePath_spec (s : Bytes) (hs : s.length ≤ N) : Spec openSites B (readTypePath s) (Fits N) := by
  unfold readTypePath
  exact Spec.u8I hs fun n s1 h1 _ => Spec.loopNI readTypePathEntry_spec n s1 h1

theorem readTypeAnno_spec (l : Labels) (s : Bytes) (hs : s.length ≤ N) : Spec openSites B (readTypeAnno l s) (Fits N) := by
  unfold readTypeAnno
  refine Spec.bind (readTargetCode_spec l s hs) (fun ⟨l1, s1⟩ h1 => Spec.bind (readTypePath_spec s1 h1) (fun ⟨_, s2⟩ h2 => ?_))
  refine Spec.u16I h2 fun d s3 h3 _ => Spec.bind (Spec.guard _) (fun _ _ => ?_)
  exact Spec.bind (Anno.readPairs_spec s3 h3) (fun ⟨_, s4⟩ h4 => Spec.ret _ h4)

/-- one attribute of the Code attribute; the bound on the unread input is `B` itself here: the buffer of an unknown
attribute holds at most the bytes still unread -/
theorem readCodeAttr_spec (hB : 65535 ≤ B) (st : AttrState) (s : Bytes) (hs : s.length ≤ B) :
    Spec openSites B (readCodeAttr st s) (Fits B) := by
  unfold readCodeAttr
  refine Spec.u16I hs (fun ni s1 h1 _ => Spec.bind (Spec.ofOption _) (fun name _ => Spec.u32I h1 (fun length s2 h2 _ => ?_)))
  have table {body : Labels → Bytes → TM (Labels × Bytes)} (hb : ∀ l s, s.length ≤ B → Spec openSites B (body l s) (Fits B)) :
      Spec openSites B (do let (n, s) ← u16 s2; let (l, s) ← loopL body n st.labels s; pure ({ st with labels := l }, s))
        (Fits B) :=
    Spec.u16I h2 (fun n s3 h3 _ => Spec.bind (loopLI hb n st.labels s3 h3) (fun ⟨_, s4⟩ h4 => Spec.ret _ h4))
  dsimp only
  refine Spec.ite ?_ (Spec.ite ?_ (Spec.ite (table readLineI) (Spec.ite (table readLv_spec) (Spec.ite (table readTypeAnno_spec) ?_))))
  · refine Spec.u16I h2 (fun n s3 h3 hn => Spec.bind (Spec.request (Nat.le_trans hn hB)) (fun _ _ => ?_))
    refine Spec.bind (readFrames_spec hB n true 0 st.labels s3 h3) (fun ⟨l, s4⟩ h4 => ?_)
    exact Spec.bind (Spec.guard _) (fun _ _ => Spec.ret _ h4)
  · refine Spec.u16I h2 (fun n s3 h3 hn => Spec.bind (Spec.request (Nat.le_trans hn hB)) (fun _ _ => ?_))
    refine Spec.bind (readCldcFrames_spec hB n st.labels [] s3 h3) (fun ⟨l, offsets, s4⟩ h4 => ?_)
    exact Spec.bind (createAll_spec _ l) (fun l2 _ => Spec.bind (Spec.guard _) (fun _ _ => Spec.ret _ h4))
  · exact Spec.bind (Spec.takeVecI h2) (fun ⟨_, s3⟩ h3 => Spec.ret _ h3.2)

theorem readCodeAttrs_spec (hB : 65535 ≤ B) : ∀ (n : Nat) (st : AttrState) (s : Bytes), s.length ≤ B →
    Spec openSites B (readCodeAttrs n st s) (fun _ => True)
  | 0, st, s, _ => Spec.ret _ trivial
  | n + 1, st, s, hs => by
    unfold readCodeAttrs
    exact Spec.bind (readCodeAttr_spec hB st s hs) (fun ⟨st1, s1⟩ h1 => readCodeAttrs_spec hB n st1 s1 h1)

theorem Labels.new_spec (hB : 65535 ≤ B) {n : Nat} (hn : n ≤ 65535) : Spec openSites B (Labels.new n) (fun _ => True) := by
  unfold Labels.new
  exact Spec.bind (Spec.request (by omega)) (fun _ _ => Spec.ret _ trivial)

/-! ## the label counter: all 65536 offsets can be labelled (site 2, fixed by 4853513) -/

theorem or_two_pow (k : Nat) : (2 ^ k - 1) ||| (1 <<< k) = 2 ^ (k + 1) - 1 := by
  apply Nat.eq_of_testBit_eq
  intro i
  rw [Nat.testBit_or, Nat.testBit_two_pow_sub_one, Nat.testBit_two_pow_sub_one, Nat.one_shiftLeft, Nat.testBit_two_pow]
  by_cases h1 : i < k <;> by_cases h2 : k = i <;> simp [h1, h2] <;> omega

theorem addUnchecked_fresh (cl k : Nat) (st : Acct) :
    Labels.addUnchecked ⟨cl, 2 ^ k - 1, k⟩ k st = (.ok ⟨cl, 2 ^ (k + 1) - 1, k + 1⟩, st) := by
  unfold Labels.addUnchecked Labels.has
  simp only [Nat.testBit_two_pow_sub_one, Nat.lt_irrefl, decide_false, Bool.false_eq_true, if_false, ret_apply, or_two_pow]

theorem addRange_new (cl : Nat) (k : Nat) : ∀ (st : Acct),
    Labels.addRange ⟨cl, 0, 0⟩ k st = (.ok ⟨cl, 2 ^ k - 1, k⟩, st) := by
  induction k with
  | zero => intro st; rfl
  | succ k ih =>
    intro st
    unfold Labels.addRange
    rw [bnd_apply, ih st]
    exact addUnchecked_fresh cl k st

end Total.Code
