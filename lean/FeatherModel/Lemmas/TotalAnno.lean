import FeatherModel.Lemmas.TotalBase
import FeatherModel.Model.TotalAnno

/-!
# C16 — element values (since 835fdd2 they nest at most 255 deep): no panic at all; the value that is read is nested
at most `rem + 1` deep (256 from the top); a deeper input is an error (`readValue_nested`: `d` brackets are read
exactly when `d ≤ rem`)
-/

namespace Total.Anno

open TM

variable {S : List Nat} {B N : Nat}

/-- postcondition of the value readers: what is left is still under the bound and the depth read is at most `K` -/
def PostI (N K : Nat) (r : Nat × Bytes) : Prop := Fits N r ∧ r.1 ≤ K

theorem iterMax_spec {f : Rd Nat} {K : Nat} (hf : ∀ s, s.length ≤ N → Spec S B (f s) (PostI N K)) :
    ∀ n acc s, acc ≤ K → s.length ≤ N → Spec S B (iterMax f n acc s) (PostI N K)
  | 0, acc, s, ha, hs => Spec.ret _ ⟨hs, ha⟩
  | n + 1, acc, s, ha, hs => by
    unfold iterMax
    exact Spec.bind (hf s hs) (fun ⟨d, s'⟩ h => iterMax_spec hf n (max acc d) s' (Nat.max_le.mpr ⟨ha, h.2⟩) h.1)

theorem namedPair_spec {f : Rd Nat} {K : Nat} (hf : ∀ s, s.length ≤ N → Spec S B (f s) (PostI N K)) (s : Bytes)
    (hs : s.length ≤ N) : Spec S B (namedPair f s) (PostI N K) := by
  unfold namedPair
  exact Spec.u16I hs (fun name s1 h1 _ => Spec.bind (Spec.guard _) (fun _ _ => hf s1 h1))

theorem constIndex_spec (p : Nat → Bool) {s : Bytes} (hs : s.length ≤ N) {K : Nat} :
    Spec S B (constIndex p s) (PostI N (K + 1)) := by
  unfold constIndex
  exact Spec.u16I hs (fun i s1 h1 _ => Spec.bind (Spec.guard _) (fun _ _ => Spec.ret _ ⟨h1, Nat.le_add_left 1 K⟩))

theorem readValueWith_spec {inner : Option (Rd Nat)} {K : Nat}
    (hi : ∀ f, inner = some f → ∀ s, s.length ≤ N → Spec S B (f s) (PostI N K)) (s : Bytes) (hs : s.length ≤ N) :
    Spec S B (readValueWith inner s) (PostI N (K + 1)) := by
  unfold readValueWith
  refine Spec.u8I hs (fun tag s1 h1 _ => ?_)
  have leaf {p : Nat → Bool} : Spec S B (constIndex p s1) (PostI N (K + 1)) := constIndex_spec p h1
  -- a list one level down: the depth read is one more than that of the deepest member
  have list {f : Rd Nat} {s2 : Bytes} (h2 : s2.length ≤ N) (hf : ∀ s, s.length ≤ N → Spec S B (f s) (PostI N K)) :
      Spec S B (do let (n, s) ← u16 s2; let (d, s) ← iterMax f n 0 s; pure (1 + d, s)) (PostI N (K + 1)) :=
    Spec.u16I h2 (fun n s3 h3 _ => Spec.bind (iterMax_spec hf n 0 s3 (Nat.zero_le _) h3) (fun ⟨d, s4⟩ h4 =>
      Spec.ret _ ⟨h4.1, by have := h4.2; show 1 + d ≤ K + 1; omega⟩))
  dsimp only
  refine Spec.ite leaf (Spec.ite leaf (Spec.ite leaf (Spec.ite leaf (Spec.ite leaf (Spec.ite ?_
    (Spec.ite leaf (Spec.ite ?_ (Spec.ite ?_ Spec.fail))))))))
  · exact Spec.u16I h1 (fun t s2 h2 _ => Spec.bind (Spec.guard _) (fun _ _ => constIndex_spec _ h2))
  · refine Spec.u16I h1 (fun t s2 h2 _ => Spec.bind (Spec.guard _) (fun _ _ => ?_))
    cases inner with
    | none => exact Spec.fail
    | some value => exact list h2 (fun s hs => namedPair_spec (hi value rfl) s hs)
  · cases inner with
    | none => exact Spec.fail
    | some value => exact list h1 (hi value rfl)

theorem readValue_spec : ∀ (rem : Nat) (s : Bytes), s.length ≤ N → Spec S B (readValue rem s) (PostI N (rem + 1))
  | 0, s, hs => by
    unfold readValue
    exact readValueWith_spec (K := 0) (fun f h => by cases h) s hs
  | rem + 1, s, hs => by
    unfold readValue
    exact readValueWith_spec (fun f h => by cases h; exact readValue_spec rem) s hs

theorem readPairs_spec (s : Bytes) (hs : s.length ≤ N) : Spec S B (readPairs s) (Fits N) := by
  unfold readPairs
  exact Spec.u16I hs fun n s1 h1 _ => Spec.weaken
    (iterMax_spec (fun s hs => namedPair_spec (readValue_spec maxDepth) s hs) n 0 s1 (Nat.zero_le _) h1) (fun _ hr => hr.1)

theorem annoOp_spec (body : Bytes) : Spec S B (annoOp body) (fun d => d ≤ maxDepth + 1) := by
  unfold annoOp
  exact Spec.bind (readValue_spec maxDepth _ (Nat.le_refl _)) (fun ⟨d, _⟩ h => Spec.ret _ h.2)

theorem nested_length (d : Nat) : (nested d).length = 3 * d + 3 := by
  induction d with
  | zero => rfl
  | succ d ih => simp [nested, ih]; omega

/-- a `[` with one member: the member is read one level down and the depth is one more -/
theorem readValueWith_array {f : Rd Nat} {s : Bytes} {st : Acct} {o : Outcome (Nat × Bytes)} (h : f s st = (o, st)) :
    readValueWith (some f) (91 :: 0 :: 1 :: s) st =
      (f s >>= fun r => (pure (r.1 + 1, r.2) : TM (Nat × Bytes))) st := by
  -- the tag `[` and the count `0 1` evaluate; what is left is the loop over one member
  show (iterMax f 1 0 s >>= fun r => (pure (1 + r.1, r.2) : TM (Nat × Bytes))) st = _
  simp only [iterMax, bnd_apply, h]
  cases o <;> simp only [ret_apply, Nat.zero_max, Nat.add_comm]

/-- the int constant (pool index 15) at the bottom -/
theorem readValueWith_int (inner : Option (Rd Nat)) (s : Bytes) (st : Acct) :
    readValueWith inner (73 :: 0 :: 15 :: s) st = (.ok (1, s), st) := rfl

theorem readValue_nested (tail : Bytes) : ∀ (d rem : Nat) (st : Acct),
    readValue rem (nested d ++ tail) st = (if d ≤ rem then .ok (d + 1, tail) else .err, st)
  | 0, rem, st => by cases rem <;> exact readValueWith_int _ tail st
  | d + 1, 0, st => rfl
  | d + 1, rem + 1, st => by
    show readValueWith (some (readValue rem)) (91 :: 0 :: 1 :: (nested d ++ tail)) st = _
    have ih := readValue_nested tail d rem st
    rw [readValueWith_array ih, bnd_apply, ih]
    by_cases h : d ≤ rem
    · rw [if_pos h, if_pos (Nat.succ_le_succ h)]
      rfl
    · rw [if_neg h, if_neg (by omega)]

/-- `d` nested arrays are a value exactly up to the limit: 255 are read, 256 are an error -/
theorem annoOp_nested (d : Nat) : (annoOp (nested d)).run.1 = if d ≤ maxDepth then .ok (d + 1) else .err := by
  show ((readValue maxDepth (nested d ++ [0, 0]) >>= fun r => pure r.1) {}).1 = _
  rw [bnd_apply, readValue_nested]
  by_cases h : d ≤ maxDepth
  · rw [if_pos h, if_pos h]
    rfl
  · rw [if_neg h, if_neg h]

end Total.Anno
