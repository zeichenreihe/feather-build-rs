import FeatherModel.Lemmas.CodeWriteMain
import FeatherModel.Lemmas.FrameWrite

/-!
# The frames `write_code` collects sit at strictly increasing `u16` offsets

The positions recorded by an attempt increase strictly (`CodeWrite.Result.Ok`); the `frames` vector holds,
after the retry loop, exactly the pushes of the final attempt (`frames.clear()`).
-/

namespace FrameWrite
open FrameDenote

theorem collect_incr (ps : List Nat) (fs : List (Option Frame)) : ∀ (prev : Option Nat),
    ps.Pairwise (· < ·) → (∀ x ∈ ps, x ≤ 65535) → (∀ q, prev = some q → ∀ x ∈ ps, q < x) →
    Incr prev (collect ps fs) := by
  fun_induction collect ps fs <;> intro prev hs hb hprev
  · rename_i p ps f fs ih
    obtain ⟨a, c⟩ := List.pairwise_cons.mp hs
    refine ⟨?_, hb p List.mem_cons_self,
      ih (some p) c (fun x hx => hb x (List.mem_cons_of_mem _ hx)) (fun q hq x hx => Option.some.inj hq ▸ a x hx)⟩
    cases prev with
    | none => trivial
    | some q => exact hprev q rfl p List.mem_cons_self
  · rename_i p ps fs ih
    exact ih prev (List.pairwise_cons.mp hs).2 (fun x hx => hb x (List.mem_cons_of_mem _ hx))
      (fun q hq x hx => hprev q hq x (List.mem_cons_of_mem _ hx))
  · trivial

theorem framesOf_incr (is : List CodeWrite.Insn) (res : CodeWrite.Result) (h : CodeWrite.writeCode is = .ok res)
    (fs : List (Option Frame)) : Incr none (framesOf res fs) :=
  collect_incr _ fs none (CodeWrite.writeCode_ok is res h).pos_u16.1 (CodeWrite.writeCode_ok is res h).pos_u16.2 nofun

theorem collect_eq (ps : List Nat) (fs : List (Option Frame)) :
    collect ps fs = (ps.zip fs).filterMap fun x => x.2.map (x.1, ·) := by
  induction ps generalizing fs with
  | nil => simp [collect]
  | cons p ps ih => rcases fs with _ | ⟨_ | f, fs⟩ <;> simp [collect, ih]

theorem mem_collect_iff (ps : List Nat) (fs : List (Option Frame)) (pc : Nat) (f : Frame) :
    (pc, f) ∈ collect ps fs ↔ ∃ k : Nat, ps[k]? = some pc ∧ fs[k]? = some (some f) := by
  rw [collect_eq, List.mem_filterMap]
  constructor
  · rintro ⟨⟨p, o⟩, hm, he⟩
    obtain ⟨k, hk⟩ := List.mem_iff_getElem?.mp hm
    obtain ⟨h1, h2⟩ := List.getElem?_zip_eq_some.mp hk
    obtain ⟨f', rfl, he⟩ := Option.map_eq_some_iff.mp he
    cases he
    exact ⟨k, h1, h2⟩
  · rintro ⟨k, h1, h2⟩
    exact ⟨(pc, some f), List.mem_iff_getElem?.mpr ⟨k, List.getElem?_zip_eq_some.mpr ⟨h1, h2⟩⟩, rfl⟩

theorem writeF_spec (is : List CodeWrite.Insn) (fs : List (Option Frame)) (fuel : Nat) (wide : List Nat) :
    (writeF is fs fuel wide []).1 = CodeWrite.write is fuel wide ∧
      ∀ res, CodeWrite.write is fuel wide = .ok res → (writeF is fs fuel wide []).2 = framesOf res fs := by
  fun_induction CodeWrite.write is fuel wide <;> simp only [writeF, *, if_true, if_false, true_and]
  -- branch 5 of `write` is the retry, branch 7 the success (the order is listed at `CodeWrite.write_fuel`)
  case case5 => exact ‹_ ∧ _›.2
  case case7 => intro res hr; cases hr; rfl
  all_goals nofun

end FrameWrite
