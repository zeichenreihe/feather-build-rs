import FeatherModel.Model.Merge
import FeatherModel.Lemmas.AList

/-! `zip_map` / `zip_map_combination` as C09 uses them: the key union keeps first occurrences in order (`dedup`, `unionKeys`);
the zipped map holds under every key the merge of what the two sides have there (`Joined`, `zipComb_at`) and has exactly
the keys of the union; the zip fails exactly when two entries under one key conflict (`zipComb_none_iff`). -/

namespace Merge
open AList
variable {K V W α β : Type}

theorem combOf_eq_none {oa ob : Option α} : combOf oa ob = none ↔ oa = none ∧ ob = none := by
  cases oa <;> cases ob <;> simp [combOf]

theorem combOf_left_right {oa ob : Option α} {c : Comb α} (h : combOf oa ob = some c) :
    c.left = oa ∧ c.right = ob := by
  cases oa <;> cases ob <;> simp [combOf] at h <;> subst h <;> simp [Comb.left, Comb.right]

theorem combOf_of_left_right (c : Comb α) : combOf c.left c.right = some c := by
  cases c <;> rfl

theorem Comb.left_map (g : α → β) (c : Comb α) : (c.map g).left = c.left.map g := by cases c <;> rfl
theorem Comb.right_map (g : α → β) (c : Comb α) : (c.map g).right = c.right.map g := by cases c <;> rfl

/-- the side of a combination by number: `false` is A (`left`), `true` is B (`right`). A `Bool` so that the facts about the
two sides are one statement with a `cases j` proof; side `j` owns column `j.toNat + 1` of a merged row (`[s, a, b]`), which
is how `mergeNames_spec` and `Joined.side` address it. -/
def Comb.side (j : Bool) (c : Comb α) : Option α := bif j then c.right else c.left

theorem Comb.side_map (g : α → β) (j : Bool) (c : Comb α) : (c.map g).side j = (c.side j).map g := by
  cases j <;> cases c <;> rfl

theorem collectOpt_eq (g : K → Option W) (ks : List K) : collectOpt g ks = collect g ks := by
  induction ks with
  | nil => rfl
  | cons k ks ih =>
    simp only [collect_cons, ← ih, Option.bind_eq_match, Option.map_eq_match]
    set_option smartUnfolding false in rfl

variable [BEq K] {m n : AList K V} {f : Comb V → Option W} {r : AList K W}

/-- the third is the merge (by `f`) of what the two sides have at some path: absent when both are, otherwise what `f`
makes of their combination -/
inductive Joined (f : Comb α → Option β) : Option α → Option α → Option β → Prop
  | neither : Joined f none none none
  | of {c r} : f c = some r → Joined f c.left c.right (some r)

variable {ab : Comb (AList K V)}

theorem zipMap_keys (h : zipMap m n f = some r) : r.keys = unionKeys m n := by
  rw [zipMap, collectOpt_eq] at h
  exact collect_keys h

theorem zipComb_keys (h : zipComb ab f = some r) : r.keys = sideKeys ab.left ab.right := by
  cases ab with
  | a m => exact mapValsM_keys h
  | b n => exact mapValsM_keys h
  | ab m n => exact zipMap_keys h

variable [LawfulBEq K]

theorem mem_dedup {l : List K} {k : K} : k ∈ dedup l ↔ k ∈ l := by
  induction l with
  | nil => simp [dedup]
  | cons x xs ih =>
    simp only [dedup, List.mem_cons, List.mem_filter, ih]
    by_cases hk : k = x <;> simp [hk]

theorem nodup_dedup (l : List K) : (dedup l).Nodup := by
  induction l with
  | nil => simp [dedup]
  | cons x xs ih =>
    simp only [dedup, List.nodup_cons, List.mem_filter]
    exact ⟨by simp, ih.sublist List.filter_sublist⟩

theorem dedup_append {l1 : List K} (l2 : List K) (h : l1.Nodup) :
    dedup (l1 ++ l2) = l1 ++ (dedup l2).filter (fun k => !l1.contains k) := by
  induction l1 with
  | nil =>
    simp only [List.nil_append, List.contains_nil, Bool.not_false]
    exact (List.filter_eq_self.mpr (fun _ _ => rfl)).symm
  | cons x xs ih =>
    rw [List.nodup_cons] at h
    simp only [List.cons_append, dedup, ih h.2, List.filter_append, List.filter_filter]
    congr 2
    · rw [List.filter_eq_self]
      intro a ha
      have : a ≠ x := fun e => h.1 (e ▸ ha)
      simpa using this
    · apply List.filter_congr
      intro a _
      simp

theorem unionKeys_eq (hm : NoDupKeys m) (hn : NoDupKeys n) :
    unionKeys m n = m.keys ++ n.keys.filter (fun k => !contains k m) := by
  have hn' : dedup n.keys = n.keys := by simpa [dedup] using dedup_append [] (noDupKeys_iff.mp hn)
  rw [unionKeys, dedup_append _ (noDupKeys_iff.mp hm), hn']
  simp only [contains_eq_keys_contains]

theorem mem_unionKeys {k : K} : k ∈ unionKeys m n ↔ k ∈ m.keys ∨ k ∈ n.keys := by
  simp [unionKeys, mem_dedup]

theorem combOf_eq_none_iff_not_mem {k : K} : combOf (lookup k m) (lookup k n) = none ↔ k ∉ unionKeys m n := by
  rw [combOf_eq_none, lookup_none_iff, lookup_none_iff, mem_unionKeys, not_or]

theorem zipMap_lookup (h : zipMap m n f = some r) (k : K) :
    lookup k r = (combOf (lookup k m) (lookup k n)).bind f := by
  rw [zipMap, collectOpt_eq] at h
  rw [collect_lookup h]
  split
  · cases combOf (lookup k m) (lookup k n) <;> rfl
  · next hk => rw [combOf_eq_none_iff_not_mem.mpr hk]; rfl

theorem zipMap_none_iff :
    zipMap m n f = none ↔ ∃ k c, combOf (lookup k m) (lookup k n) = some c ∧ f c = none := by
  rw [zipMap, collectOpt_eq, collect_none_iff]
  constructor
  · rintro ⟨k, hk, hg⟩
    cases hc : combOf (lookup k m) (lookup k n) with
    | none => exact absurd hk (combOf_eq_none_iff_not_mem.mp hc)
    | some c =>
      rw [hc] at hg
      exact ⟨k, c, hc, hg⟩
  · rintro ⟨k, c, hc, hf⟩
    refine ⟨k, Classical.not_not.mp fun hk => ?_, by rw [hc]; exact hf⟩
    rw [combOf_eq_none_iff_not_mem.mpr hk] at hc
    cases hc

theorem zipComb_at (h : zipComb ab f = some r) (k : K) :
    Joined f (ab.left.bind (lookup k)) (ab.right.bind (lookup k)) (lookup k r) := by
  cases ab with
  | a m | b m =>
    simp only [Comb.left, Comb.right, Option.bind_some, Option.bind_none]
    cases hv : lookup k m with
    | none => rw [mapValsM_lookup h, hv]; exact .neither
    | some v =>
      obtain ⟨w, hf, hw⟩ := mapValsM_lookup_some h hv
      exact hw ▸ .of hf
  | ab m n =>
    show Joined f (lookup k m) (lookup k n) (lookup k r)
    rw [zipMap_lookup h]
    cases hc : combOf (lookup k m) (lookup k n) with
    | none =>
      obtain ⟨h1, h2⟩ := combOf_eq_none.mp hc
      rw [h1, h2]
      exact .neither
    | some c =>
      obtain ⟨h1, h2⟩ := combOf_left_right hc
      rw [← h1, ← h2]
      cases hf : f c with
      | some w => rw [Option.bind_some, hf]; exact .of hf
      | none =>
        -- `f` failing on an entry it met makes the whole zip fail
        rw [zipComb, zipMap_none_iff.mpr ⟨k, c, hc, hf⟩] at h
        cases h

/-- the two sides are both present and in conflict -/
def combBad (conf : α → α → Bool) : Comb α → Bool
  | .ab x y => conf x y
  | _ => false

def Comb.All (P : α → Prop) : Comb α → Prop
  | .a x => P x
  | .b y => P y
  | .ab x y => P x ∧ P y

variable {conf : V → V → Bool}

theorem anyShared_iff (hm : NoDupKeys m) :
    anyShared m n conf = true ↔ ∃ k x y, lookup k m = some x ∧ lookup k n = some y ∧ conf x y = true := by
  unfold anyShared
  rw [List.any_eq_true]
  constructor
  · rintro ⟨⟨k, x⟩, hmem, h⟩
    simp only at h
    split at h
    · rename_i y hy
      exact ⟨k, x, y, lookup_of_mem_nodup (noDupKeys_iff.mp hm) hmem, hy, h⟩
    · cases h
  · rintro ⟨k, x, y, hx, hy, hc⟩
    exact ⟨(k, x), lookup_mem hx, by simp [hy, hc]⟩

theorem zipComb_none_iff {P : V → Prop} (hf : ∀ c, Comb.All P c → (f c = none ↔ combBad conf c = true))
    (hab : Comb.All (fun m => NoDupKeys m ∧ ∀ e ∈ m, P e.2) ab) :
    zipComb ab f = none ↔ combBad (fun m n => anyShared m n conf) ab = true := by
  cases ab with
  | a m | b m =>
    refine ⟨fun h => ?_, nofun⟩
    obtain ⟨k, v, hmem, hn⟩ := mapValsM_none_iff.mp h
    exact nomatch (hf _ (by exact hab.2 _ hmem)).mp hn
  | ab m n =>
    obtain ⟨⟨hm, hpm⟩, ⟨_, hpn⟩⟩ := hab
    simp only [zipComb, combBad, zipMap_none_iff, anyShared_iff hm]
    constructor
    · rintro ⟨k, c, hc, hn'⟩
      -- `f` fails on `c`, so `c` is a conflicting pair; its sides are the two entries under `k`
      obtain ⟨hl, hr⟩ := combOf_left_right hc
      cases c with
      | a x => exact nomatch (hf (.a x) (hpm _ (lookup_mem hl.symm))).mp hn'
      | b y => exact nomatch (hf (.b y) (hpn _ (lookup_mem hr.symm))).mp hn'
      | ab x y =>
        exact ⟨k, x, y, hl.symm, hr.symm, (hf (.ab x y) ⟨hpm _ (lookup_mem hl.symm), hpn _ (lookup_mem hr.symm)⟩).mp hn'⟩
    · rintro ⟨k, x, y, hx, hy, hc⟩
      exact ⟨k, .ab x y, by rw [hx, hy]; rfl, (hf (.ab x y) ⟨hpm _ (lookup_mem hx), hpn _ (lookup_mem hy)⟩).mpr hc⟩

end Merge
