import FeatherModel.Spec.Opcodes
import FeatherModel.Gen.Constants
import FeatherModel.Gen.ReaderArms
import FeatherModel.Model.ClassRead

/-!
# Vocabulary of the translator tie (C01, reader side)

Definitions used in the *statements* of the theorems of `Thm/C01.lean`, section "generated tables": how the generated
tables (`Gen/Constants.lean`, `Gen/ReaderArms.lean`, written by `translate/constants_to_lean.py` and
`translate/insn_arms_to_lean.py` from the Rust source) are read, and which JVMS instruction a value of the hand-written
model's instruction type stands for. Short on purpose: this file is part of what the theorems mean.
-/

namespace Arms

open JvmsTables ClassRead

/-! ## the generated reader tables, as functions of the opcode -/

/-- name of the `Instruction` constructor with declaration index `c` -/
def ctorName (c : Nat) : JStr := (Gen.ReaderArms.ctorNames[c]?).getD []

/-- the arm of the first loop of `read_code` an opcode byte takes (class codes: see `Gen/ReaderArms.lean`; 21 = bails) -/
def p1Class (op : Nat) : Nat := Gen.ReaderArms.p1Dense.getD op 21

/-- the arm of the `wide` sub-match of the first loop: bytes skipped after the modified opcode, `none` = bails -/
def p1WideSkip? (w : Nat) : Option Nat :=
  let n := Gen.ReaderArms.p1WideDense.getD w 21
  if n < 16 then some n else none

/-- the same classes for the hand-written model's `P1Kind` -/
def p1Code : P1Kind → Nat
  | .skip n => n
  | .branch16 => 16
  | .branch32 => 17
  | .tableswitch => 18
  | .lookupswitch => 19
  | .wide => 20
  | .invalid => 21

/-- bytes consumed by the reader primitives 1..9 of `Gen/ReaderArms.lean` -/
def readWidth : Nat → Nat
  | 1 => 1 | 2 => 1 | 3 => 2 | 4 => 2 | 5 => 4 | 6 => 1 | 7 => 2 | 8 => 2 | 9 => 4
  | _ => 0

/-- what the second loop of the Rust reader does with an opcode -/
inductive RArm where
  /-- `opcode::X => Instruction::Y(args)`: constructor, reader primitives in order, resolver -/
  | straight (ctor : Nat) (reads : List Nat) (resolver : Nat)
  /-- a `*load_<n>` / `*store_<n>` opcode: constructor and the index computed from the opcode -/
  | localN (ctor : Nat) (index : Nat)
  /-- `tableswitch` (kind 0) / `lookupswitch` (kind 1) -/
  | switch (ctor : Nat) (kind : Nat)
  | wide
  /-- explicit `bail!` arm or no arm at all (catch-all `bail!`) -/
  | bail
  deriving DecidableEq, Repr

/-- the arithmetic of a range arm: `shifted = opcode - base; index = shifted & mask; opcode' = base2 + (shifted >> shift)`,
then the inner match on `opcode'` -/
def expandLocalN (f : Gen.ReaderArms.LocalN) (op : Nat) : Option (Nat × Nat) :=
  if f.lo ≤ op ∧ op ≤ f.hi then
    ((f.inner.lookup (f.base2 + ((op - f.base) >>> f.shift))).map fun c => (c, (op - f.base) &&& f.mask))
  else none

/-- an entry of `Gen.ReaderArms.p2Dense` / `p2WideDense`, read for opcode byte `op` -/
def rArmOf (e : Nat × Nat × List Nat × Nat) (op : Nat) : RArm :=
  match e with
  | (0, c, rs, rv) => .straight c rs rv
  | (1, f, _, _) =>
    match (Gen.ReaderArms.localN[f]?).bind (expandLocalN · op) with
    | some (c, i) => .localN c i
    | none => .bail
  | (2, c, _, k) => .switch c k
  | (3, _, _, _) => .wide
  | _ => .bail

/-- the arm of the second loop of `read_code` an opcode byte takes -/
def rArm (op : Nat) : RArm := rArmOf (Gen.ReaderArms.p2Dense.getD op (5, 0, [], 0)) op

/-- the arm of the `wide` sub-match of the second loop -/
def rWideArm (w : Nat) : RArm := rArmOf (Gen.ReaderArms.p2WideDense.getD w (5, 0, [], 0)) w

/-- the constructor an arm builds -/
def RArm.ctor? : RArm → Option Nat
  | .straight c _ _ => some c
  | .localN c _ => some c
  | .switch c _ => some c
  | _ => none

/-- `opcode::X => Instruction::Y` for a constructor without fields: nothing read, nothing resolved -/
def RArm.isUnit : RArm → Bool
  | .straight _ [] 0 => true
  | _ => false

/-- the index a `*load_<n>` / `*store_<n>` arm computes from the opcode -/
def RArm.implicitIndex? : RArm → Option Nat
  | .localN _ j => some j
  | _ => none

/-- operand bytes after the opcode, where the arm fixes them -/
def RArm.operandBytes? : RArm → Option Nat
  | .straight _ rs _ => some (rs.map readWidth).sum
  | .localN _ _ => some 0
  | _ => none

/-! ## what the JVMS demands of an arm -/

/-- operand bytes after the opcode according to the JVMS, where fixed -/
def jvmsOperandBytes : Option Operands → Option Nat
  | some (.bytes n) => some n
  | some .branch16 => some 2
  | some .branch32 => some 4
  | _ => none

/-- the class the first loop of `read_code` has to put an opcode in, according to the JVMS -/
def jvmsP1Class : Option Operands → Nat
  | some (.bytes n) => n
  | some .branch16 => 16
  | some .branch32 => 17
  | some .tableswitch => 18
  | some .lookupswitch => 19
  | some .wide => 20
  | none => 21

/-- how an arm of the second loop treats its operand: 16 / 17 = a branch target (`read_i16/i32_as_branch_target_label`
resolved by `labels.try_get`), 18 / 19 = the switches, 20 = wide, 21 = bail, 0 = plain operands; 99 (no JVMS class) = an
arm that reads a branch offset or resolves a label in any other combination, or a switch of an unknown kind -/
def RArm.operandClass : RArm → Nat
  | .straight _ [8] 9 => 16
  | .straight _ [9] 9 => 17
  | .straight _ rs rv => if rs.contains 8 || rs.contains 9 || rv == 9 then 99 else 0
  | .localN _ _ => 0
  | .switch _ 0 => 18
  | .switch _ 1 => 19
  | .switch _ _ => 99
  | .wide => 20
  | .bail => 21

def jvmsOperandClass : Option Operands → Nat
  | some (.bytes _) => 0
  | o => jvmsP1Class o

/-! ## the small tag dispatches -/

/-- `get_integer_as_byte` ↦ `integer`: the pool entry kind a getter of `PoolRead` accepts (the word after `get_`) -/
def getterKind (g : JStr) : JStr := ((g.drop 4).takeWhile (· != 95))

/-- the arm of `read_stack_map_frame` a tag byte takes: (variant, `some k` if `offset_delta = frame_type - k`);
`none` = bails -/
def frameArm? (t : Nat) : Option (JStr × Option Nat) :=
  (Gen.ReaderArms.frameArms.find? fun a => a.1 ≤ t && t ≤ a.2.1).bind fun a =>
    if a.2.2.1 = jstr "bail" then none else some (a.2.2.1, if a.2.2.2.1 = 0 then some a.2.2.2.2 else none)

/-! ## which instruction a value of the model's `Insn` stands for -/

/-- JVMS mnemonic of the *general form* of the instruction (`iload` for `iload_2` and `wide iload`, `ldc` for `ldc_w` /
`ldc2_w`, `goto` for `goto_w`). `simple`, `branch`, `field` carry their opcode; `load` / `store` carry the kind
0..4 = i l f d a, i.e. the offset from `iload` / `istore`. -/
def insnMnemonic : Insn → JStr
  | .simple op => (mnemonic? op).getD []
  | .bipush _ => jstr "bipush"
  | .sipush _ => jstr "sipush"
  | .ldc _ => jstr "ldc"
  | .load k _ => (mnemonic? (0x15 + k)).getD []
  | .store k _ => (mnemonic? (0x36 + k)).getD []
  | .iinc _ _ => jstr "iinc"
  | .branch op _ => (mnemonic? op).getD []
  | .goto _ => jstr "goto"
  | .jsr _ => jstr "jsr"
  | .ret _ => jstr "ret"
  | .tableswitch _ _ _ _ => jstr "tableswitch"
  | .lookupswitch _ _ => jstr "lookupswitch"
  | .field op _ => (mnemonic? op).getD []
  | .invokevirtual _ => jstr "invokevirtual"
  | .invokespecial _ _ => jstr "invokespecial"
  | .invokestatic _ _ => jstr "invokestatic"
  | .invokeinterface _ => jstr "invokeinterface"
  | .invokedynamic _ => jstr "invokedynamic"
  | .new _ => jstr "new"
  | .newarray _ => jstr "newarray"
  | .anewarray _ => jstr "anewarray"
  | .checkcast _ => jstr "checkcast"
  | .instanceof _ => jstr "instanceof"
  | .multianewarray _ _ => jstr "multianewarray"

/-- the local-variable index of a `load` / `store` -/
def insnLocal? : Insn → Option Nat
  | .load _ i => some i
  | .store _ i => some i
  | _ => none

/-- the values of the reader model's instruction type that stand for an instruction (what `decodeInsn` builds): the opcode
of `simple` / `branch` / `field` is one of the respective instructions, the kind of `load` / `store` is 0..4 -/
def RdDomain : Insn → Prop
  | .simple op => isSimpleOp op = true
  | .branch op _ => isCondBranchOp op = true
  | .field op _ => 0xb2 ≤ op ∧ op ≤ 0xb5
  | .load k _ => k < 5
  | .store k _ => k < 5
  | _ => True

/-! ## the model's constants, next to the name of the Rust constant they mirror -/

/-- (`class_constants::attribute::NAME`, the model's constant) -/
def modelAttributeNames : List (JStr × JStr) := [
  (jstr "ANNOTATION_DEFAULT", sAnnotationDefault), (jstr "BOOTSTRAP_METHODS", sBootstrapMethods), (jstr "CODE", sCode),
  (jstr "CONSTANT_VALUE", sConstantValue), (jstr "DEPRECATED", sDeprecated), (jstr "ENCLOSING_METHOD", sEnclosingMethod),
  (jstr "EXCEPTIONS", sExceptions), (jstr "INNER_CLASSES", sInnerClasses), (jstr "LINE_NUMBER_TABLE", sLineNumberTable),
  (jstr "LOCAL_VARIABLE_TABLE", sLocalVariableTable), (jstr "LOCAL_VARIABLE_TYPE_TABLE", sLocalVariableTypeTable),
  (jstr "METHOD_PARAMETERS", sMethodParameters), (jstr "MODULE", sModule), (jstr "MODULE_MAIN_CLASS", sModuleMainClass),
  (jstr "MODULE_PACKAGES", sModulePackages), (jstr "NEST_HOST", sNestHost), (jstr "NEST_MEMBERS", sNestMembers),
  (jstr "PERMITTED_SUBCLASSES", sPermittedSubclasses), (jstr "RECORD", sRecord),
  (jstr "RUNTIME_VISIBLE_ANNOTATIONS", sRVA), (jstr "RUNTIME_VISIBLE_PARAMETER_ANNOTATIONS", sRVPA),
  (jstr "RUNTIME_VISIBLE_TYPE_ANNOTATIONS", sRVTA), (jstr "RUNTIME_INVISIBLE_ANNOTATIONS", sRIA),
  (jstr "RUNTIME_INVISIBLE_PARAMETER_ANNOTATIONS", sRIPA), (jstr "RUNTIME_INVISIBLE_TYPE_ANNOTATIONS", sRITA),
  (jstr "SIGNATURE", sSignature), (jstr "SOURCE_DEBUG_EXTENSION", sSourceDebugExtension), (jstr "SOURCE_FILE", sSourceFile),
  (jstr "STACK_MAP", sStackMap), (jstr "STACK_MAP_TABLE", sStackMapTable), (jstr "SYNTHETIC", sSynthetic)]

/-- the bits a flag struct of `duke/src/tree` keeps: the `|` of its masks -/
def maskOf (table : List (JStr × List (JStr × Nat))) (struct : JStr) : Nat :=
  ((table.lookup struct).getD []).foldl (fun m e => m ||| e.2) 0

/-- (flag struct, the model's mask) -/
def modelMasks : List (JStr × Nat) := [
  (jstr "ClassAccess", maskClass), (jstr "InnerClassFlags", maskInner), (jstr "FieldAccess", maskField),
  (jstr "MethodAccess", maskMethod), (jstr "ParameterFlags", maskParam), (jstr "ModuleFlags", maskModule),
  (jstr "ModuleRequiresFlags", maskRequires), (jstr "ModuleExportsFlags", maskExports), (jstr "ModuleOpensFlags", maskExports)]

/-! ## probes of the model's tag dispatches on a fixed payload (zeros) -/

def poolEntryName : PoolEntry → JStr
  | .utf8 _ => jstr "Utf8" | .int _ => jstr "Integer" | .float _ => jstr "Float" | .long _ => jstr "Long"
  | .double _ => jstr "Double" | .cls _ => jstr "Class" | .str _ => jstr "String" | .fieldRef _ _ => jstr "FieldRef"
  | .methodRef _ _ => jstr "MethodRef" | .ifaceMethodRef _ _ => jstr "InterfaceMethodRef"
  | .nameAndType _ _ => jstr "NameAndType" | .methodHandle _ _ => jstr "MethodHandle" | .methodType _ => jstr "MethodType"
  | .dynamic _ _ => jstr "Dynamic" | .invokeDynamic _ _ => jstr "InvokeDynamic" | .module _ => jstr "Module"
  | .package _ => jstr "Package"

/-- the model's `readPoolEntry` on `tag` followed by twelve zero bytes: (entry kind, bytes consumed after the tag, slots) -/
def poolProbe (tag : Nat) : Option (JStr × Nat × Nat) :=
  match readPoolEntry (tag :: List.replicate 12 0) with
  | .ok ((e, slots), rest) => some (poolEntryName e, 12 - rest.length, slots)
  | _ => none

def vtypeName : VType → JStr
  | .top => jstr "Top" | .int => jstr "Integer" | .float => jstr "Float" | .double => jstr "Double" | .long => jstr "Long"
  | .null => jstr "Null" | .uninitThis => jstr "UninitializedThis" | .object _ => jstr "Object" | .uninit _ => jstr "Uninitialized"

def frameName : Frame → JStr
  | .same => jstr "Same" | .same1 _ => jstr "SameLocals1StackItem" | .chop _ => jstr "Chop" | .append _ => jstr "Append"
  | .full _ _ => jstr "Full"

end Arms
