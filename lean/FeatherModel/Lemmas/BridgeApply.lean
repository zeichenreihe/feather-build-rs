import FeatherModel.Lemmas.BridgeIndex

/-! The insertion loop of `add_specialized_methods_to_mappings` (C15): what changes, what does not. -/

namespace Bridge

/-- effect of one pair on the entry `k` of class `c` (`o` = the entry before). The default `[]` is never seen in a result:
a pair whose `namedOf` fails aborts the loop (`applyPairs_named`). -/
def stepF (namedOf : MRef → Option JStr) (p : MRef × MRef) (c : JStr) (k : MemberKey) (o : Option Method) : Option Method :=
  if touches c k p then some (newEntry o p.2 ((namedOf p.1).getD [])) else o

def foldF (namedOf : MRef → Option JStr) : List (MRef × MRef) → JStr → MemberKey → Option Method → Option Method
  | [], _, _, o => o
  | p :: ps, c, k, o => foldF namedOf ps c k (stepF namedOf p c k o)

/-- relation between a class entry before and after: only the method map changes, entry by entry as `f` says;
the old method keys stay in place, new keys are appended -/
structure ClassRel (f : MemberKey → Option Method → Option Method) (cl cl' : Class) : Prop where
  names : cl'.names = cl.names
  doc : cl'.doc = cl.doc
  fields : cl'.fields = cl.fields
  order : ∃ extra, cl'.methods.map Prod.fst = cl.methods.map Prod.fst ++ extra
  entries : ∀ k, AList.lookup k cl'.methods = f k (AList.lookup k cl.methods)

/-- relation between a mapping set before and after: header, class keys and their order are kept, no class appears,
and every class is related by `ClassRel (F c)` -/
structure MapRel (F : JStr → MemberKey → Option Method → Option Method) (m m' : Mappings) : Prop where
  ns : m'.ns = m.ns
  doc : m'.doc = m.doc
  keys : m'.classes.map Prod.fst = m.classes.map Prod.fst
  absent : ∀ c, AList.lookup c m.classes = none → AList.lookup c m'.classes = none
  present : ∀ c cl, AList.lookup c m.classes = some cl →
    ∃ cl', AList.lookup c m'.classes = some cl' ∧ ClassRel (F c) cl cl'

theorem ClassRel.of_id {f : MemberKey → Option Method → Option Method} (cl : Class) (h : ∀ k o, f k o = o) :
    ClassRel f cl cl :=
  ⟨rfl, rfl, rfl, ⟨[], (List.append_nil _).symm⟩, fun k => (h k _).symm⟩

theorem MapRel.refl (m : Mappings) : MapRel (fun _ _ o => o) m m :=
  ⟨rfl, rfl, rfl, fun _ h => h, fun _ cl h => ⟨cl, h, .of_id cl fun _ _ => rfl⟩⟩

theorem MapRel.trans {F G : JStr → MemberKey → Option Method → Option Method} {m m1 m2 : Mappings}
    (h1 : MapRel F m m1) (h2 : MapRel G m1 m2) : MapRel (fun c k o => G c k (F c k o)) m m2 := by
  refine ⟨h2.ns.trans h1.ns, h2.doc.trans h1.doc, h2.keys.trans h1.keys, fun c h => h2.absent c (h1.absent c h), ?_⟩
  intro c cl h
  obtain ⟨cl1, hl1, r1⟩ := h1.present c cl h
  obtain ⟨cl2, hl2, r2⟩ := h2.present c cl1 hl1
  refine ⟨cl2, hl2, ⟨r2.names.trans r1.names, r2.doc.trans r1.doc, r2.fields.trans r1.fields, ?_, ?_⟩⟩
  · obtain ⟨e1, he1⟩ := r1.order
    obtain ⟨e2, he2⟩ := r2.order
    exact ⟨e1 ++ e2, by rw [he2, he1, List.append_assoc]⟩
  · intro k
    rw [r2.entries k, r1.entries k]

theorem touches_iff {c : JStr} {k : MemberKey} {p : MRef × MRef} :
    touches c k p = true ↔ p.1.cls = c ∧ (p.2.name, p.2.desc) = k := by
  unfold touches
  rw [Bool.and_eq_true, beq_iff_eq, beq_iff_eq]

theorem stepF_of_ne (namedOf : MRef → Option JStr) {p : MRef × MRef} {c : JStr} (h : p.1.cls ≠ c) (k : MemberKey)
    (o : Option Method) : stepF namedOf p c k o = o := by
  unfold stepF touches
  rw [beq_false_of_ne h]
  rfl

theorem applyOne_rel (namedOf : MRef → Option JStr) (m m' : Mappings) (b s : MRef)
    (h : applyOne namedOf m b s = some m') : MapRel (stepF namedOf (b, s)) m m' := by
  unfold applyOne at h
  split at h
  · cases h
  next named hn =>
  split at h
  · next hl =>
    cases h
    refine ⟨rfl, rfl, rfl, fun _ h => h, fun c cl hc => ?_⟩
    have hne : b.cls ≠ c := fun e => nomatch (e ▸ hl).symm.trans hc
    exact ⟨cl, hc, .of_id cl (stepF_of_ne namedOf hne)⟩
  next cl hl =>
  split at h
  · cases h
  cases h
  refine ⟨rfl, rfl, keys_upsert_of_some _ hl, fun c hc => ?_, fun c cl0 hc => ?_⟩
  · rwa [lookup_upsert_ne _ _ (fun e => nomatch (e ▸ hc).symm.trans hl)]
  · by_cases hcb : c = b.cls
    · subst hcb
      cases hl.symm.trans hc
      refine ⟨_, lookup_upsert_self _ _ _, rfl, rfl, rfl, keys_upsert_append _ _ _, fun k => ?_⟩
      simp only [lookup_upsert, stepF, touches, beq_self_eq_true, Bool.true_and, hn, Option.getD_some, beq_iff_eq]
      by_cases hk : k = (s.name, s.desc)
      · rw [if_pos hk, if_pos hk.symm, hk]
      · rw [if_neg hk, if_neg (Ne.symm hk)]
    · exact ⟨cl0, by rwa [lookup_upsert_ne _ _ hcb], .of_id cl0 (stepF_of_ne namedOf (Ne.symm hcb))⟩

theorem applyPairs_rel (namedOf : MRef → Option JStr) (ps : List (MRef × MRef)) (m m' : Mappings)
    (h : applyPairs namedOf ps m = some m') : MapRel (foldF namedOf ps) m m' := by
  induction ps generalizing m with
  | nil => cases h; exact MapRel.refl _
  | cons p rest ih =>
    unfold applyPairs at h
    split at h
    · cases h
    next m1 h1 => exact (applyOne_rel namedOf _ m1 _ _ h1).trans (ih m1 h)

theorem applyPairs_named (namedOf : MRef → Option JStr) (ps : List (MRef × MRef)) (m m' : Mappings)
    (h : applyPairs namedOf ps m = some m') (p : MRef × MRef) (hp : p ∈ ps) : ∃ named, namedOf p.1 = some named := by
  induction ps generalizing m with
  | nil => cases hp
  | cons q rest ih =>
    unfold applyPairs at h
    split at h
    · cases h
    next m1 h1 =>
    rcases List.mem_cons.mp hp with rfl | hp
    · unfold applyOne at h1
      split at h1
      · cases h1
      next named hn => exact ⟨named, hn⟩
    · exact ih m1 h hp

theorem lastTouch_cons (p : MRef × MRef) (ps : List (MRef × MRef)) (c : JStr) (k : MemberKey) :
    lastTouch (p :: ps) c k =
      if touches c k p then some ((lastTouch ps c k).getD p) else lastTouch ps c k := by
  unfold lastTouch
  rw [List.filter_cons]
  split
  · rw [List.getLast?_cons]
  · rfl

theorem lastTouch_mem {ps : List (MRef × MRef)} {c : JStr} {k : MemberKey} {q : MRef × MRef}
    (h : lastTouch ps c k = some q) : q ∈ ps ∧ touches c k q = true :=
  List.mem_filter.mp (List.mem_of_getLast? h)

theorem lastTouch_eq_none_iff {ps : List (MRef × MRef)} {c : JStr} {k : MemberKey} :
    lastTouch ps c k = none ↔ ∀ q ∈ ps, touches c k q = false := by
  unfold lastTouch
  simp only [List.getLast?_eq_none_iff, List.filter_eq_nil_iff, Bool.not_eq_true]

theorem foldF_eq (namedOf : MRef → Option JStr) (c : JStr) (k : MemberKey) (ps : List (MRef × MRef)) (o : Option Method) :
    foldF namedOf ps c k o =
      match lastTouch ps c k with
      | none => o
      | some p => some (newEntry o p.2 ((namedOf p.1).getD [])) := by
  induction ps generalizing o with
  | nil => rfl
  | cons p rest ih =>
    rw [foldF, ih, lastTouch_cons]
    unfold stepF
    by_cases ht : touches c k p = true
    · rw [if_pos ht, if_pos ht]
      cases lastTouch rest c k with
      | none => rfl
      -- a later write keeps what the earlier one kept of `o`: comment and parameters
      | some q => cases o <;> rfl
    · rw [if_neg ht, if_neg ht]

theorem remapPairs_sound (f : MRef → Option MRef) (qs : List (MRef × MRef)) (acc ps : AList MRef MRef)
    (h : remapPairs f qs acc = some ps) (p : MRef × MRef) (hp : p ∈ ps) :
    p ∈ acc ∨ ∃ q, q ∈ qs ∧ f q.1 = some p.1 ∧ f q.2 = some p.2 := by
  induction qs generalizing acc with
  | nil => cases h; exact Or.inl hp
  | cons q rest ih =>
    unfold remapPairs at h
    split at h
    · cases h
    next b' hb =>
    split at h
    · cases h
    next s' hs =>
    rcases ih _ h with h1 | ⟨q', hq, h1⟩
    · rcases mem_upsert h1 with h1 | h1
      · exact Or.inl h1
      · cases h1; exact Or.inr ⟨q, List.mem_cons_self, hb, hs⟩
    · exact Or.inr ⟨q', List.mem_cons_of_mem _ hq, h1⟩

theorem remapPairs_complete (f : MRef → Option MRef) (qs : List (MRef × MRef)) (acc ps : AList MRef MRef)
    (h : remapPairs f qs acc = some ps) (k : MRef)
    (hk : k ∈ acc.map Prod.fst ∨ ∃ q, q ∈ qs ∧ f q.1 = some k) : k ∈ ps.map Prod.fst := by
  induction qs generalizing acc with
  | nil => cases h; exact hk.elim id fun ⟨_, hq, _⟩ => nomatch hq
  | cons q rest ih =>
    unfold remapPairs at h
    split at h
    · cases h
    next b' hb =>
    split at h
    · cases h
    refine ih _ h ?_
    rw [keys_upsert, mem_setInsert]
    rcases hk with hk | ⟨q', hq, hk⟩
    · exact Or.inl (Or.inl hk)
    · rcases List.mem_cons.mp hq with rfl | hq
      · exact Or.inl (Or.inr (Option.some.inj (hk.symm.trans hb)))
      · exact Or.inr ⟨q', hq, hk⟩

end Bridge
