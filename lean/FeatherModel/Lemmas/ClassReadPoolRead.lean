import FeatherModel.Spec.ClassEncode
import FeatherModel.Lemmas.ClassReadCursor
import FeatherModel.Lemmas.Mutf8RoundTrip

/-! C01 lemmas: `PoolRead::read` on the JVMS serialisation of any list of constant-pool entries. -/

namespace ClassRead
open Outcome Spec

theorem readPoolEntry_enc (e : PoolEntry) (he : PoolEntryOk e) (r : Bytes) :
    readPoolEntry (encPoolEntry e ++ r) = ok ((e, poolSlots e), r) := by
  cases e with
  | utf8 s =>
    exact bind_ok (u8_cons 1 _) <| bind_ok (u16_be16 _ he.2 _) <| bind_ok (takeN_append _ r) <|
      bind_ok (congrArg ofOption (Mutf8.decode_encode s he.1)) rfl
  | int v => exact bind_ok (u8_cons 3 _) <| bind_ok (i32_be v he r) rfl
  | float b => exact bind_ok (u8_cons 4 _) <| bind_ok (u32_be32 b he r) rfl
  | long v => exact bind_ok (u8_cons 5 _) <| bind_ok (i64_be v he r) rfl
  | double b => exact bind_ok (u8_cons 6 _) <| bind_ok (u64_be64 b he r) rfl
  | cls i | str i | methodType i | module i | package i => exact bind_ok (u8_cons _ _) <| bind_ok (u16_be16 i he r) rfl
  | fieldRef c n | methodRef c n | ifaceMethodRef c n | nameAndType c n | dynamic c n | invokeDynamic c n =>
    exact bind_ok (u8_cons _ _) <| bind_ok (u16_be16 c he.1 _) <| bind_ok (u16_be16 n he.2 r) rfl
  | methodHandle k i => exact bind_ok (u8_cons 15 _) <| bind_ok (u8_cons k _) <| bind_ok (u16_be16 i he.2 r) rfl

theorem poolSlots_cases (e : PoolEntry) : poolSlots e = 1 ∨ poolSlots e = 2 := by cases e <;> simp [poolSlots]

theorem readPoolLoop_enc (es : List PoolEntry) (hes : ∀ e ∈ es, PoolEntryOk e) (fuel count : Nat) (racc : List (Option PoolEntry))
    (len : Nat) (hcount : count = len + (es.map poolSlots).sum) (hfuel : es.length ≤ fuel) (r : Bytes) :
    readPoolLoop fuel count racc len (es.flatMap encPoolEntry ++ r) = ok (racc.reverse ++ poolSlotsOf es, r) := by
  induction es generalizing fuel racc len with
  | nil =>
    simp only [List.map_nil, List.sum_nil, Nat.add_zero] at hcount
    cases fuel <;> simp [readPoolLoop, poolSlotsOf, hcount]
  | cons e es ih =>
    cases fuel with
    | zero => simp at hfuel
    | succ fuel =>
      simp only [List.map_cons, List.sum_cons] at hcount
      have hs := poolSlots_cases e
      have hlt : len < count := by omega
      have ih' := fun racc len h =>
        ih (fun x hx => hes x (List.mem_cons_of_mem e hx)) fuel racc len h (Nat.le_of_succ_le_succ hfuel)
      simp only [readPoolLoop, hlt, if_true, List.flatMap_cons, List.append_assoc,
        readPoolEntry_enc e (hes e List.mem_cons_self), ok_bind]
      split
      · next h2 => rw [ih' _ _ (by omega)]; simp [poolSlotsOf, h2]
      · next hne => rw [ih' _ _ (by omega)]; simp [poolSlotsOf, hne]

theorem sum_slots_ge (es : List PoolEntry) : es.length ≤ (es.map poolSlots).sum := by
  induction es with
  | nil => simp
  | cons e es ih => have := poolSlots_cases e; simp [List.sum_cons]; omega

theorem readPool_enc (es : List PoolEntry) (hes : ∀ e ∈ es, PoolEntryOk e) (hcount : poolCount es < 65536) (r : Bytes) :
    readPool (encPool es ++ r) = ok (poolTable es, r) := by
  have hge := sum_slots_ge es
  simp only [readPool, encPool, List.append_assoc, u16_be16 _ hcount, ok_bind]
  rw [readPoolLoop_enc es hes (poolCount es) (poolCount es) [none] 1 (by simp [poolCount]) (by simp [poolCount]; omega)]
  simp [poolTable]

end ClassRead
