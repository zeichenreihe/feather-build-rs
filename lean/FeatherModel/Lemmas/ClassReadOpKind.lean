import FeatherModel.Model.ClassReadCode

/-! C01 lemmas: which arm of the two opcode dispatches an opcode selects (finite checks). -/

namespace ClassRead

theorem isSimpleOp_lt (op : Nat) (h : isSimpleOp op = true) : op < 256 := by
  simp only [isSimpleOp, Bool.or_eq_true, Bool.and_eq_true, decide_eq_true_eq, beq_iff_eq] at h
  omega

theorem isCondBranchOp_lt (op : Nat) (h : isCondBranchOp op = true) : op < 256 := by
  simp only [isCondBranchOp, Bool.or_eq_true, Bool.and_eq_true, decide_eq_true_eq, beq_iff_eq] at h
  omega

theorem opKind_simple (op : Nat) (h : isSimpleOp op = true) : opKind op = .simple := by simp [opKind, h]

theorem opKind_cond_aux : ∀ op, op < 256 → isCondBranchOp op = true → opKind op = .cond := by decide +kernel
theorem opKind_cond (op : Nat) (h : isCondBranchOp op = true) : opKind op = .cond :=
  opKind_cond_aux op (isCondBranchOp_lt op h) h

theorem opKind_load : ∀ k, k < 5 → opKind (0x15 + k) = .load k := by decide +kernel
theorem opKind_store : ∀ k, k < 5 → opKind (0x36 + k) = .store k := by decide +kernel
theorem opKind_loadN : ∀ k, k < 5 → ∀ i, i < 4 → opKind (0x1a + k * 4 + i) = .loadN k i := by decide +kernel
theorem opKind_storeN : ∀ k, k < 5 → ∀ i, i < 4 → opKind (0x3b + k * 4 + i) = .storeN k i := by decide +kernel
theorem opKind_field : ∀ op, op ≤ 0xb5 → 0xb2 ≤ op → opKind op = .field := by decide +kernel

theorem p1Kind_simple_aux : ∀ op, op < 256 → isSimpleOp op = true → p1Kind op = .skip 0 := by decide +kernel
theorem p1Kind_simple (op : Nat) (h : isSimpleOp op = true) : p1Kind op = .skip 0 :=
  p1Kind_simple_aux op (isSimpleOp_lt op h) h
theorem p1Kind_cond_aux : ∀ op, op < 256 → isCondBranchOp op = true → p1Kind op = .branch16 := by decide +kernel
theorem p1Kind_cond (op : Nat) (h : isCondBranchOp op = true) : p1Kind op = .branch16 :=
  p1Kind_cond_aux op (isCondBranchOp_lt op h) h
theorem p1Kind_load : ∀ k, k < 5 → p1Kind (0x15 + k) = .skip 1 := by decide +kernel
theorem p1Kind_store : ∀ k, k < 5 → p1Kind (0x36 + k) = .skip 1 := by decide +kernel
theorem p1Kind_loadN : ∀ k, k < 5 → ∀ i, i < 4 → p1Kind (0x1a + k * 4 + i) = .skip 0 := by decide +kernel
theorem p1Kind_storeN : ∀ k, k < 5 → ∀ i, i < 4 → p1Kind (0x3b + k * 4 + i) = .skip 0 := by decide +kernel
theorem p1Kind_field : ∀ op, op ≤ 0xb5 → 0xb2 ≤ op → p1Kind op = .skip 2 := by decide +kernel

/-- the condition `decodeWide` tests first on the opcode after `wide`, at a load `0x15 + k` -/
theorem wideLoad_aux : ∀ k, k < 5 → ((0x15 ≤ 0x15 + k && 0x15 + k ≤ 0x19) = true) := by decide +kernel
/-- the first two conditions of `decodeWide` at a store `0x36 + k`: not a load, a store -/
theorem wideStore_aux : ∀ k, k < 5 → ((0x15 ≤ 0x36 + k && 0x36 + k ≤ 0x19) = false ∧ (0x36 ≤ 0x36 + k && 0x36 + k ≤ 0x3a) = true) := by decide +kernel

end ClassRead
