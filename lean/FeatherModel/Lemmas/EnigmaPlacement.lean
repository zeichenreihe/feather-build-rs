import FeatherModel.Lemmas.EnigmaLex

/-!
# C12, placement: the trees written by `figure_out_files` / `write_one_tree_starting_at` partition the classes
`Anc classes a x`: `x` is `a` or one of its ancestors *along parents that are present in the set*. `postRaw` lists the
classes of a tree children first, `preDepth` parents first with the nesting depth.
-/

namespace Enigma

theorem parentInSet_some {classes : AList JStr Class} {key p : JStr} (h : parentInSet classes key = some p) :
    ∃ i, InnerNames.split key = some (p, i) ∧ AList.contains p classes = true := by
  unfold parentInSet at h
  split at h
  · rename_i p' i hs
    split at h
    · rename_i hc
      obtain rfl := Option.some.inj h
      exact ⟨i, hs, hc⟩
    · exact absurd h (by simp)
  · exact absurd h (by simp)

theorem parentInSet_length {classes : AList JStr Class} {key p : JStr} (h : parentInSet classes key = some p) :
    p.length < key.length := by
  obtain ⟨i, hs, _⟩ := parentInSet_some h
  exact InnerNames.split_length hs

theorem mem_childrenOf_iff {classes : AList JStr Class} {key : JStr} {e : JStr × Class} :
    e ∈ childrenOf classes key ↔ e ∈ classes ∧ parentInSet classes e.1 = some key := by
  unfold childrenOf
  rw [mem_isort]
  simp [List.mem_filter]

theorem mem_childrenOf {classes : AList JStr Class} {key : JStr} {e : JStr × Class} (h : e ∈ childrenOf classes key) :
    e ∈ classes ∧ parentInSet classes e.1 = some key := mem_childrenOf_iff.mp h

/-- the classes of a tree in the order in which the reader adds them: children first (post-order) -/
def postRaw (classes : AList JStr Class) : Nat → JStr → Class → List (JStr × Class)
  | 0, _, _ => []
  | fuel + 1, key, c => ((childrenOf classes key).flatMap fun e => postRaw classes fuel e.1 e.2) ++ [(key, c)]

/-- `Anc classes a x`: `x` is `a` or reached from `a` along parents that are keys of `classes` -/
inductive Anc (classes : AList JStr Class) : JStr → JStr → Prop
  | refl (a : JStr) : Anc classes a a
  | step {a p x : JStr} : parentInSet classes a = some p → Anc classes p x → Anc classes a x

theorem Anc.length_le {classes : AList JStr Class} {a x : JStr} (h : Anc classes a x) : x.length ≤ a.length := by
  induction h with
  | refl a => exact Nat.le_refl _
  | step hp _ ih => have := parentInSet_length hp; omega

theorem Anc.trans {classes : AList JStr Class} {a b c : JStr} (h1 : Anc classes a b) (h2 : Anc classes b c) :
    Anc classes a c := by
  induction h1 with
  | refl a => exact h2
  | step hp _ ih => exact Anc.step hp (ih h2)

theorem anc_sibling_false {classes : AList JStr Class} {y x x' : JStr} (h1 : Anc classes y x) (h2 : Anc classes y x')
    (hne : x ≠ x') (hpar : parentInSet classes x = parentInSet classes x') : False := by
  induction h1 with
  | refl a =>
    cases h2 with
    | refl => exact hne rfl
    | step hp h =>
      rw [hpar] at hp
      have := parentInSet_length hp
      have := h.length_le
      omega
  | step hp h1' ih =>
    cases h2 with
    | refl =>
      rw [← hpar] at hp
      have := parentInSet_length hp
      have := h1'.length_le
      omega
    | step hp' h =>
      obtain rfl := Option.some.inj (hp.symm.trans hp')
      exact ih h hne hpar

theorem mem_postRaw {classes : AList JStr Class} : ∀ (fuel : Nat) (key : JStr) (c : Class) (y : JStr × Class),
    y ∈ postRaw classes fuel key c → (key, c) ∈ classes → y ∈ classes ∧ Anc classes y.1 key := by
  intro fuel
  induction fuel with
  | zero => intro _ _ y h _; exact absurd h List.not_mem_nil
  | succ fuel ih =>
    intro key c y h hin
    simp only [postRaw, List.mem_append, List.mem_flatMap, List.mem_singleton] at h
    rcases h with ⟨e, he, hy⟩ | rfl
    · obtain ⟨hec, hep⟩ := mem_childrenOf he
      obtain ⟨h1, h2⟩ := ih e.1 e.2 y hy hec
      exact ⟨h1, h2.trans (Anc.step hep (Anc.refl _))⟩
    · exact ⟨hin, Anc.refl _⟩

theorem childrenOf_nodup {classes : AList JStr Class} (hnd : (classes.map Prod.fst).Nodup) (key : JStr) :
    ((childrenOf classes key).map Prod.fst).Nodup :=
  isort_keys_nodup keyLe (List.Nodup.sublist (List.Sublist.map _ List.filter_sublist) hnd)

theorem forest_nodup {classes : AList JStr Class} (fuel : Nat)
    (H : ∀ e ∈ classes, ((postRaw classes fuel e.1 e.2).map Prod.fst).Nodup) (nodes : List (JStr × Class))
    (hin : ∀ e ∈ nodes, e ∈ classes) (hnd : (nodes.map Prod.fst).Nodup)
    {q : Option JStr} (hsib : ∀ a ∈ nodes, parentInSet classes a.1 = q) :
    ((nodes.flatMap fun e => postRaw classes fuel e.1 e.2).map Prod.fst).Nodup := by
  rw [List.map_flatMap]
  refine List.pairwise_flatMap.mpr ⟨fun a ha => H a (hin a ha), List.Pairwise.imp_of_mem ?_ (List.pairwise_map.mp hnd)⟩
  intro a b ha hb hab x hx y hy hxy
  obtain ⟨x', hx', rfl⟩ := List.mem_map.mp hx
  obtain ⟨y', hy', hxy'⟩ := List.mem_map.mp hy
  have h1 := (mem_postRaw fuel a.1 a.2 x' hx' (hin a ha)).2
  have h2 := (mem_postRaw fuel b.1 b.2 y' hy' (hin b hb)).2
  rw [hxy', ← hxy] at h2
  exact anc_sibling_false h1 h2 hab ((hsib a ha).trans (hsib b hb).symm)

theorem postRaw_nodup {classes : AList JStr Class} (hnd : (classes.map Prod.fst).Nodup) (fuel : Nat) :
    ∀ e ∈ classes, ((postRaw classes fuel e.1 e.2).map Prod.fst).Nodup := by
  induction fuel with
  | zero => intro e _; simp [postRaw]
  | succ fuel ih =>
    intro e he
    simp only [postRaw, List.map_append, List.map_cons, List.map_nil]
    rw [List.nodup_append]
    refine ⟨?_, by simp, ?_⟩
    · exact forest_nodup fuel ih (childrenOf classes e.1) (fun x hx => (mem_childrenOf hx).1)
        (childrenOf_nodup hnd e.1) fun a ha => (mem_childrenOf ha).2
    · intro x hx y hy hxy
      obtain rfl := List.mem_singleton.mp hy
      obtain ⟨x', hx', rfl⟩ := List.mem_map.mp hx
      obtain ⟨k, hk, hxk⟩ := List.mem_flatMap.mp hx'
      obtain ⟨hkc, hkp⟩ := mem_childrenOf hk
      have h1 := (mem_postRaw fuel k.1 k.2 x' hxk hkc).2.length_le
      have h2 := parentInSet_length hkp
      rw [hxy] at h1
      omega

theorem maxKeyLen_le_iff (cs : AList JStr Class) (n : Nat) : maxKeyLen cs ≤ n ↔ ∀ e ∈ cs, e.1.length ≤ n := by
  have gen : ∀ (l : AList JStr Class) (init : Nat),
      l.foldl (fun a e => max a e.1.length) init ≤ n ↔ init ≤ n ∧ ∀ e ∈ l, e.1.length ≤ n := by
    intro l
    induction l with
    | nil => intro init; simp
    | cons x l ih => intro init; rw [List.foldl_cons, ih, Nat.max_le, List.forall_mem_cons, and_assoc]
  rw [maxKeyLen, gen]
  exact ⟨fun h => h.2, fun h => ⟨Nat.zero_le _, h⟩⟩

theorem le_maxKeyLen {classes : AList JStr Class} {e : JStr × Class} (h : e ∈ classes) : e.1.length ≤ maxKeyLen classes :=
  (maxKeyLen_le_iff classes _).mp (Nat.le_refl _) e h

/-- `treeFuel` exceeds every key length, so it satisfies the measure `maxKeyLen < fuel + key.length` of the tree inductions -/
theorem lt_treeFuel_add (classes : AList JStr Class) (n : Nat) : maxKeyLen classes < treeFuel classes + n :=
  Nat.lt_of_lt_of_le (Nat.lt_succ_self _) (Nat.le_add_right _ _)

theorem self_mem_postRaw (classes : AList JStr Class) (n : Nat) (e : JStr × Class) : e ∈ postRaw classes (n + 1) e.1 e.2 := by
  rw [postRaw]
  exact List.mem_append_right _ List.mem_cons_self

theorem mem_postRaw_child {classes : AList JStr Class} (n : Nat) (r p a : JStr × Class)
    (h : p ∈ postRaw classes n r.1 r.2) (hfuel : maxKeyLen classes < n + r.1.length) (ha : a ∈ classes)
    (hpar : parentInSet classes a.1 = some p.1) : a ∈ postRaw classes n r.1 r.2 := by
  induction n generalizing r with
  | zero => exact absurd h List.not_mem_nil
  | succ n ih =>
    simp only [postRaw, List.mem_append, List.mem_flatMap, List.mem_singleton] at h ⊢
    left
    rcases h with ⟨k, hk, hpk⟩ | rfl
    · have hkc := mem_childrenOf hk
      have := parentInSet_length hkc.2
      exact ⟨k, hk, ih k hpk (by omega)⟩
    · refine ⟨a, mem_childrenOf_iff.mpr ⟨ha, hpar⟩, ?_⟩
      have h1 := parentInSet_length hpar
      have h2 := le_maxKeyLen ha
      simp only at h1
      obtain ⟨n', rfl⟩ : ∃ n', n = n' + 1 := ⟨n - 1, by omega⟩
      exact self_mem_postRaw classes n' a

def isRoot (classes : AList JStr Class) (e : JStr × Class) : Bool := (parentInSet classes e.1).isNone

def rootsOf (classes : AList JStr Class) : List (JStr × Class) := classes.filter (isRoot classes)

/-- `rootsOf` is the filter that `rootFileNames` writes out inline -/
theorem rootFileNames_eq (classes : AList JStr Class) :
    rootFileNames classes = (rootsOf classes).map fun e => fileNameOf e.1 e.2 := rfl

theorem mem_rootsOf {classes : AList JStr Class} {r : JStr × Class} :
    r ∈ rootsOf classes ↔ r ∈ classes ∧ parentInSet classes r.1 = none := by
  simp [rootsOf, isRoot]

theorem forest_cover {classes : AList JStr Class} (a : JStr × Class)
    (ha : a ∈ classes) : ∃ r ∈ rootsOf classes, a ∈ postRaw classes (treeFuel classes) r.1 r.2 := by
  cases hp : parentInSet classes a.1 with
  | none => exact ⟨a, mem_rootsOf.mpr ⟨ha, hp⟩, self_mem_postRaw classes _ a⟩
  | some p =>
    obtain ⟨_, _, hc⟩ := parentInSet_some hp
    obtain ⟨pe, hpe, hpk⟩ := List.mem_map.mp ((contains_eq_true_iff p classes).mp hc)
    obtain ⟨r, hr, hpr⟩ := forest_cover pe hpe
    exact ⟨r, hr, mem_postRaw_child _ r pe a hpr (lt_treeFuel_add _ _) ha (by rw [hpk]; exact hp)⟩
termination_by a.1.length
decreasing_by rw [hpk]; exact parentInSet_length hp

/-- **every class lands in exactly one tree, exactly once**: the post-order listing of the trees of the roots (in any
order of the roots) is a permutation of the class entries -/
theorem forest_perm {classes : AList JStr Class} (hnd : (classes.map Prod.fst).Nodup) (roots : List (JStr × Class))
    (hr : roots.Perm (rootsOf classes)) :
    (roots.flatMap fun e => postRaw classes (treeFuel classes) e.1 e.2).Perm classes := by
  have hrin : ∀ e ∈ roots, e ∈ classes := fun e he => (mem_rootsOf.mp (hr.subset he)).1
  have hrroot : ∀ e ∈ roots, parentInSet classes e.1 = none := fun e he => (mem_rootsOf.mp (hr.subset he)).2
  have hrnd : (roots.map Prod.fst).Nodup := by
    refine ((hr.map Prod.fst).nodup_iff).mpr ?_
    exact List.Nodup.sublist (List.Sublist.map _ List.filter_sublist) hnd
  have hn1 := forest_nodup (treeFuel classes) (postRaw_nodup hnd _) roots hrin hrnd hrroot
  rw [List.perm_ext_iff_of_nodup (nodup_of_map Prod.fst hn1) (nodup_of_map Prod.fst hnd)]
  intro a
  constructor
  · intro ha
    obtain ⟨r, hr', har⟩ := List.mem_flatMap.mp ha
    exact (mem_postRaw _ r.1 r.2 a har (hrin r hr')).1
  · intro ha
    obtain ⟨r, hr', har⟩ := forest_cover a ha
    exact List.mem_flatMap.mpr ⟨r, hr.symm.subset hr', har⟩

theorem root_unique {classes : AList JStr Class} (hnd : (classes.map Prod.fst).Nodup) {r r' : JStr × Class}
    (hr : r ∈ rootsOf classes) (hr' : r' ∈ rootsOf classes) {a : JStr} (h : Anc classes a r.1) (h' : Anc classes a r'.1) :
    r = r' := by
  obtain ⟨hrc, hrroot⟩ := mem_rootsOf.mp hr
  obtain ⟨hr'c, hr'root⟩ := mem_rootsOf.mp hr'
  exact AList.eq_of_key_eq hnd hrc hr'c
    (Classical.byContradiction fun hne => anc_sibling_false h h' hne (by rw [hrroot, hr'root]))

theorem mem_tree_iff {classes : AList JStr Class} (hnd : (classes.map Prod.fst).Nodup) {r e : JStr × Class}
    (hr : r ∈ rootsOf classes) (he : e ∈ classes) :
    e ∈ postRaw classes (treeFuel classes) r.1 r.2 ↔ Anc classes e.1 r.1 := by
  refine ⟨fun h => (mem_postRaw _ r.1 r.2 e h (mem_rootsOf.mp hr).1).2, fun h => ?_⟩
  obtain ⟨r', hr', her'⟩ := forest_cover e he
  rw [root_unique hnd hr hr' h (mem_postRaw _ r'.1 r'.2 e her' (mem_rootsOf.mp hr').1).2]
  exact her'

theorem tree_unique {classes : AList JStr Class} (hnd : (classes.map Prod.fst).Nodup) {r r' e : JStr × Class}
    (hr : r ∈ rootsOf classes) (hr' : r' ∈ rootsOf classes)
    (h : e ∈ postRaw classes (treeFuel classes) r.1 r.2) (h' : e ∈ postRaw classes (treeFuel classes) r'.1 r'.2) :
    r = r' :=
  root_unique hnd hr hr' (mem_postRaw _ r.1 r.2 e h (mem_rootsOf.mp hr).1).2
    (mem_postRaw _ r'.1 r'.2 e h' (mem_rootsOf.mp hr').1).2

/-- pre-order walk with nesting depth -/
def preDepth (classes : AList JStr Class) : Nat → JStr → Class → Nat → List (Nat × (JStr × Class))
  | 0, _, _, _ => []
  | fuel + 1, key, c, d =>
    (d, (key, c)) :: (childrenOf classes key).flatMap fun e => preDepth classes fuel e.1 e.2 (d + 1)

/-- the `CLASS` line of a class written at depth `d`: simple names below a parent, full names at the top of a file -/
def headerEL (x : Nat × (JStr × Class)) : ELine :=
  { idents := x.1, first := kwCLASS,
    fields := shortName (x.1 != 0) x.2.1 :: ((dstOf x.2.2.names).map (shortName (x.1 != 0))).toList }

def isClassLine (l : ELine) : Bool := l.first == kwCLASS

theorem commentEL_noClass (n : Nat) (d : Option JStr) : (commentEL n d).filter isClassLine = [] := by
  rw [List.filter_eq_nil_iff]
  intro l hl
  unfold isClassLine
  rw [(commentEL_block n d l hl).2]
  decide

theorem paramEL_noClass (n : Nat) (ps : List (Nat × Param)) : (paramEL n ps).filter isClassLine = [] := by
  induction ps with
  | nil => rfl
  | cons e rest ih =>
    simp only [paramEL, List.cons_append, List.filter_cons, List.filter_append, commentEL_noClass, ih, List.append_nil]
    rfl

theorem fieldEL_noClass (n : Nat) (fs : List (MemberKey × Field)) : (fieldEL n fs).filter isClassLine = [] := by
  induction fs with
  | nil => rfl
  | cons e rest ih =>
    simp only [fieldEL, List.cons_append, List.filter_cons, List.filter_append, commentEL_noClass, ih, List.append_nil]
    rfl

theorem methodEL_noClass (n : Nat) (ms : List (MemberKey × Method)) : (methodEL n ms).filter isClassLine = [] := by
  induction ms with
  | nil => rfl
  | cons e rest ih =>
    simp only [methodEL, List.cons_append, List.filter_cons, List.filter_append, commentEL_noClass, paramEL_noClass, ih,
      List.append_nil]
    rfl

theorem classEL_header (key : JStr) (c : Class) (d : Nat) :
    (classEL key c d).filter isClassLine = [headerEL (d, (key, c))] := by
  simp only [classEL, List.cons_append, List.filter_cons, List.filter_append, commentEL_noClass, fieldEL_noClass,
    methodEL_noClass, List.append_nil]
  rfl

/-- **nesting in the text mirrors source-name nesting**: the `CLASS` lines of a written tree are the pre-order walk
along present parents, each class one level deeper than the class that is its present parent -/
theorem treeEL_classLines (classes : AList JStr Class) : ∀ (fuel : Nat) (key : JStr) (c : Class) (d : Nat),
    (treeEL classes fuel key c d).filter isClassLine = (preDepth classes fuel key c d).map headerEL := by
  intro fuel
  induction fuel with
  | zero => exact fun _ _ _ => rfl
  | succ fuel ih =>
    intro key c d
    simp only [treeEL, preDepth, List.filter_append, classEL_header, List.map_cons, List.singleton_append,
      List.filter_flatMap, List.map_flatMap, ih]

/-- the classes in the pre-order walk are those of the post-order listing -/
theorem preDepth_perm (classes : AList JStr Class) : ∀ (fuel : Nat) (key : JStr) (c : Class) (d : Nat),
    ((preDepth classes fuel key c d).map Prod.snd).Perm (postRaw classes fuel key c) := by
  intro fuel
  induction fuel with
  | zero => exact fun _ _ _ => List.Perm.refl _
  | succ fuel ih =>
    intro key c d
    simp only [preDepth, postRaw, List.map_cons]
    refine List.Perm.trans ?_ List.perm_append_comm
    simp only [List.singleton_append]
    refine List.Perm.cons _ ?_
    rw [List.map_flatMap]
    generalize childrenOf classes key = kids
    induction kids with
    | nil => exact List.Perm.refl _
    | cons e rest ihk =>
      simp only [List.flatMap_cons]
      exact (ih e.1 e.2 (d + 1)).append ihk

/-- depth `d` exactly for the root of the walk, and every other class is one deeper than its present parent, which
is in the walk -/
theorem preDepth_spec (classes : AList JStr Class) : ∀ (fuel : Nat) (key : JStr) (c : Class) (d : Nat)
    (x : Nat × (JStr × Class)), x ∈ preDepth classes fuel key c d →
      (x = (d, (key, c))) ∨ (d < x.1 ∧ ∃ p ∈ preDepth classes fuel key c d,
        parentInSet classes x.2.1 = some p.2.1 ∧ x.1 = p.1 + 1) := by
  intro fuel
  induction fuel with
  | zero => intro _ _ _ x h; exact absurd h List.not_mem_nil
  | succ fuel ih =>
    intro key c d x h
    simp only [preDepth, List.mem_cons, List.mem_flatMap] at h
    rcases h with rfl | ⟨e, he, hx⟩
    · exact Or.inl rfl
    · right
      rcases ih e.1 e.2 (d + 1) x hx with rfl | ⟨hlt, p, hp, hpar, hd⟩
      · refine ⟨Nat.lt_succ_self d, (d, (key, c)), by simp [preDepth], (mem_childrenOf he).2, rfl⟩
      · refine ⟨by omega, p, ?_, hpar, hd⟩
        simp only [preDepth, List.mem_cons, List.mem_flatMap]
        exact Or.inr ⟨e, he, hp⟩

end Enigma
