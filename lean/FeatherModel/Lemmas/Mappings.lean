import FeatherModel.Model.Mappings

/-!
# Facts about `Model/Mappings.lean`
The derived Boolean equality of the tree types is lawful; `get_namespace` returns the position of the first namespace with
the given name. `decEqByBEq` is a scoped instance: a test vector gets it only in a file that imports this module and says
`open Mappings in`; `open Mappings` without the import opens the model's namespace alone and `decide` runs the derived
`DecidableEq`.
-/

namespace Mappings

instance : LawfulBEq Param where
  rfl {a} := by rw [instBEqParam.beq_spec]; simp only [BEq.rfl, Bool.and_self]
  eq_of_beq {a b} h := by
    rw [instBEqParam.beq_spec] at h
    simp only [Bool.and_eq_true, beq_iff_eq] at h
    cases a; cases b
    simp only [Param.mk.injEq]
    exact h

instance : LawfulBEq Field where
  rfl {a} := by rw [instBEqField.beq_spec]; simp only [BEq.rfl, Bool.and_self]
  eq_of_beq {a b} h := by
    rw [instBEqField.beq_spec] at h
    simp only [Bool.and_eq_true, beq_iff_eq] at h
    cases a; cases b
    simp only [Field.mk.injEq]
    exact h

instance : LawfulBEq Method where
  rfl {a} := by rw [instBEqMethod.beq_spec]; simp only [BEq.rfl, Bool.and_self]
  eq_of_beq {a b} h := by
    rw [instBEqMethod.beq_spec] at h
    simp only [Bool.and_eq_true, beq_iff_eq] at h
    cases a; cases b
    simp only [Method.mk.injEq]
    exact h

instance : LawfulBEq Class where
  rfl {a} := by rw [instBEqClass.beq_spec]; simp only [BEq.rfl, Bool.and_self]
  eq_of_beq {a b} h := by
    rw [instBEqClass.beq_spec] at h
    simp only [Bool.and_eq_true, beq_iff_eq] at h
    cases a; cases b
    simp only [Class.mk.injEq]
    exact h

instance : LawfulBEq Mappings where
  rfl {a} := by rw [instBEqMappings.beq_spec]; simp only [BEq.rfl, Bool.and_self]
  eq_of_beq {a b} h := by
    rw [instBEqMappings.beq_spec] at h
    simp only [Bool.and_eq_true, beq_iff_eq] at h
    cases a; cases b
    simp only [Mappings.mk.injEq]
    exact h

/-- `==` as the decision procedure for equality of mapping sets, for test vectors (`open Mappings in decide +kernel`):
it evaluates both sides and compares, where the derived `DecidableEq` goes through `Eq.rec` casts that the kernel
resolves by unfolding the still unevaluated fields. -/
scoped instance (priority := high) decEqByBEq : DecidableEq Mappings := instDecidableEqOfLawfulBEq

theorem getNamespace_go_eq (name : JStr) : ∀ (l : List JStr) (i : Nat),
    getNamespace.go name l i = (l.findIdx? (· == name)).map (· + i) := by
  intro l
  induction l with
  | nil => intro _; rfl
  | cons n l ih =>
    intro i
    simp only [getNamespace.go, List.findIdx?_cons, ih]
    split
    · simp
    · simp [Option.map_map, Function.comp_def, Nat.add_comm, Nat.add_left_comm]

theorem getNamespace_eq (m : Mappings) (x : JStr) : m.getNamespace x = m.ns.findIdx? (· == x) := by
  simp [getNamespace, getNamespace_go_eq]

theorem getNamespace_eq_none_iff {m : Mappings} {x : JStr} : m.getNamespace x = none ↔ x ∉ m.ns := by
  rw [getNamespace_eq, List.findIdx?_eq_none_iff]
  exact ⟨fun h hx => by simpa using h x hx, fun h y hy => by simpa using fun e : y = x => h (e ▸ hy)⟩

theorem getNamespace_some {m : Mappings} {x : JStr} {i : Nat} (h : m.getNamespace x = some i) : m.ns[i]? = some x := by
  rw [getNamespace_eq, List.findIdx?_eq_some_iff_getElem] at h
  obtain ⟨hi, hx, _⟩ := h
  rw [List.getElem?_eq_getElem hi, eq_of_beq hx]

theorem getNamespace_of_nodup {m : Mappings} {x : JStr} {i : Nat} (hnd : m.ns.Nodup) (h : m.ns[i]? = some x) :
    m.getNamespace x = some i := by
  obtain ⟨hi, rfl⟩ := List.getElem?_eq_some_iff.mp h
  rw [getNamespace_eq, List.findIdx?_eq_some_iff_getElem]
  refine ⟨hi, by simp, fun j hji hj => ?_⟩
  exact List.pairwise_iff_getElem.mp (List.nodup_iff_pairwise_ne.mp hnd) j i (by omega) hi hji (eq_of_beq hj)

end Mappings
