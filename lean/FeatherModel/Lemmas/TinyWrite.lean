import FeatherModel.Lemmas.TinyText
import FeatherModel.Lemmas.AList
import FeatherModel.Lemmas.Order

/-!
# The Tiny v2 writer (C03)
The orders of the entries are total preorders (the orders of their sort keys: `Lemmas/Order.lean`); content equality of mapping sets
and the insertion-order independence of `Tiny.write`; the canonical form; what `Tiny.write?` refuses; the lines `write`
emits, seen through `lines` and `TinyLine::new`.
-/

namespace Tiny

theorem classLe_pre : TotalPre classLe := namesLe_ord.toTotalPre.on Class.names
theorem fieldLe_pre : TotalPre fieldLe := descNamesLe_ord.toTotalPre.on fun f : Field => (f.desc, f.names)
theorem methodLe_pre : TotalPre methodLe := descNamesLe_ord.toTotalPre.on fun m : Method => (m.desc, m.names)
theorem paramLe_pre : TotalPre paramLe := indexNamesLe_ord.toTotalPre.on fun p : Param => (p.index, p.names)

/-- element-wise relation of two lists -/
inductive All2 {α β : Type} (R : α → β → Prop) : List α → List β → Prop
  | nil : All2 R [] []
  | cons {a b as bs} : R a b → All2 R as bs → All2 R (a :: as) (b :: bs)

/-- `l'` has the entries of `l` in another order, entry by entry up to `R` -/
def PermRel {α : Type} (R : α → α → Prop) (l l' : List α) : Prop :=
  ∃ a b, l.Perm a ∧ All2 R a b ∧ b.Perm l'

/-- same method entry, parameters in any insertion order -/
def MethodEquiv (m m' : Method) : Prop :=
  m.desc = m'.desc ∧ m.names = m'.names ∧ m.doc = m'.doc ∧ m.params.Perm m'.params

/-- same class entry, fields / methods / parameters in any insertion order -/
def ClassEquiv (c c' : Class) : Prop :=
  c.names = c'.names ∧ c.doc = c'.doc ∧ c.fields.Perm c'.fields ∧
    PermRel (fun x y => x.1 = y.1 ∧ MethodEquiv x.2 y.2) c.methods c'.methods

/-- same content: the same entries under the same keys at every level, in any insertion order at every level -/
def ContentEq (m m' : Mappings) : Prop :=
  m.ns = m'.ns ∧ m.doc = m'.doc ∧ PermRel (fun x y => x.1 = y.1 ∧ ClassEquiv x.2 y.2) m.classes m'.classes

theorem All2.map_eq {α β γ : Type} {R : α → β → Prop} {f : α → γ} {g : β → γ} {l : List α} {l' : List β}
    (h : All2 R l l') (hR : ∀ a ∈ l, ∀ b ∈ l', R a b → f a = g b) : l.map f = l'.map g := by
  induction h with
  | nil => rfl
  | cons r _ ih =>
    rw [List.map_cons, List.map_cons, hR _ List.mem_cons_self _ List.mem_cons_self r,
      ih fun a ha b hb => hR a (List.mem_cons_of_mem _ ha) b (List.mem_cons_of_mem _ hb)]

theorem All2.mem_right {α β : Type} {R : α → β → Prop} : ∀ {l l'}, All2 R l l' → ∀ b ∈ l', ∃ a ∈ l, R a b
  | _, _, .nil, b, hb => by simp at hb
  | _, _, .cons r t, b, hb => by
    rcases List.mem_cons.mp hb with rfl | hb
    · exact ⟨_, List.mem_cons_self, r⟩
    · obtain ⟨a, ha, hr⟩ := All2.mem_right t b hb
      exact ⟨a, List.mem_cons_of_mem _ ha, hr⟩

theorem keysNodup_iff_noDupKeys {K V : Type} [BEq K] : ∀ {m : AList K V}, keysNodup m = true ↔ AList.NoDupKeys m
  | [] => by simp [keysNodup, AList.NoDupKeys]
  | (k, _) :: rest => by
    simp only [keysNodup, AList.NoDupKeys, Bool.and_eq_true, Bool.not_eq_true', keysNodup_iff_noDupKeys (m := rest)]

theorem keysNodup_iff {K V : Type} [BEq K] [LawfulBEq K] {m : AList K V} : keysNodup m = true ↔ m.keys.Nodup :=
  keysNodup_iff_noDupKeys.trans AList.noDupKeys_iff

/-- **the sort key separates the entries** (so the stable sort has exactly one result): the keys are unique, the key an
entry stands under is a function of its sort key (the `ToKey` of quill), and the order compares the sort key by a total
order -/
theorem entries_separated {K V κ : Type} [BEq K] [LawfulBEq K] {m : AList K V} (hnd : keysNodup m = true)
    {kle : κ → κ → Bool} (hk : TotalOrd kle) (sortKey : V → κ) (keyOf : κ → K) (hkey : ∀ e ∈ m, keyOf (sortKey e.2) = e.1) :
    ∀ e e', e ∈ m → e' ∈ m → kle (sortKey e.2) (sortKey e'.2) = true → kle (sortKey e'.2) (sortKey e.2) = true → e = e' :=
  fun e e' he he' h1 h2 =>
    AList.eq_of_key_eq (keysNodup_iff.mp hnd) he he' (by rw [← hkey e he, ← hkey e' he', hk.antisymm _ _ h1 h2])

theorem separates_values {K V : Type} {le : V → V → Bool} {m : AList K V}
    (h : ∀ e e', e ∈ m → e' ∈ m → le e.2 e'.2 = true → le e'.2 e.2 = true → e = e') :
    ∀ p q, p ∈ m.values → q ∈ m.values → le p q = true → le q p = true → p = q := by
  intro p q hp hq h1 h2
  obtain ⟨e, he, rfl⟩ := List.mem_map.mp hp
  obtain ⟨e', he', rfl⟩ := List.mem_map.mp hq
  rw [h e e' he he' h1 h2]

theorem wfMethod_params {m : Method} (h : wfMethod m = true) :
    keysNodup m.params = true ∧ ∀ e ∈ m.params, e.2.index = e.1 := by
  simp only [wfMethod, Bool.and_eq_true, List.all_eq_true, beq_iff_eq] at h
  exact ⟨h.1, fun e he => (h.2 e he).symm⟩

theorem wfClass_fields {c : Class} (h : wfClass c = true) :
    keysNodup c.fields = true ∧ ∀ e ∈ c.fields, firstName e.2.names = some e.1.1 ∧ e.2.desc = e.1.2 := by
  simp only [wfClass, Bool.and_eq_true, List.all_eq_true, beq_iff_eq] at h
  exact ⟨h.1.1.1, fun e he => ⟨(h.1.1.2 e he).1, (h.1.1.2 e he).2.symm⟩⟩

theorem wfClass_methods {c : Class} (h : wfClass c = true) : keysNodup c.methods = true ∧
    ∀ e ∈ c.methods, firstName e.2.names = some e.1.1 ∧ e.2.desc = e.1.2 ∧ wfMethod e.2 = true := by
  simp only [wfClass, Bool.and_eq_true, List.all_eq_true, beq_iff_eq] at h
  exact ⟨h.1.2, fun e he => ⟨(h.2 e he).1.1, (h.2 e he).1.2.symm, (h.2 e he).2⟩⟩

theorem wf_classes {m : Mappings} (h : wf m = true) :
    keysNodup m.classes = true ∧ ∀ e ∈ m.classes, firstName e.2.names = some e.1 ∧ wfClass e.2 = true := by
  simpa only [wf, Bool.and_eq_true, List.all_eq_true, beq_iff_eq] using h

theorem wfMethod_params_sep {m : Method} (h : wfMethod m = true) :
    ∀ e e', e ∈ m.params → e' ∈ m.params → paramLe e.2 e'.2 = true → paramLe e'.2 e.2 = true → e = e' :=
  entries_separated (wfMethod_params h).1 indexNamesLe_ord (fun p => (p.index, p.names)) Prod.fst (wfMethod_params h).2

theorem firstName_inj {a b : JStr} (h : some a = some b) : a = b := by simpa using h

/-- a missing first name gives `[]` as the key, so that `keyOf` is a total function; in a well-formed map the name is there -/
theorem wfClass_fields_sep {c : Class} (h : wfClass c = true) :
    ∀ e e', e ∈ c.fields → e' ∈ c.fields → fieldLe e.2 e'.2 = true → fieldLe e'.2 e.2 = true → e = e' :=
  entries_separated (wfClass_fields h).1 descNamesLe_ord (fun f => (f.desc, f.names)) (fun k => ((firstName k.2).getD [], k.1))
    fun e he => by rw [((wfClass_fields h).2 e he).1, ((wfClass_fields h).2 e he).2]; rfl

theorem wfClass_methods_sep {c : Class} (h : wfClass c = true) :
    ∀ e e', e ∈ c.methods → e' ∈ c.methods → methodLe e.2 e'.2 = true → methodLe e'.2 e.2 = true → e = e' :=
  entries_separated (wfClass_methods h).1 descNamesLe_ord (fun m => (m.desc, m.names)) (fun k => ((firstName k.2).getD [], k.1))
    fun e he => by rw [((wfClass_methods h).2 e he).1, ((wfClass_methods h).2 e he).2.1]; rfl

theorem wf_classes_sep {m : Mappings} (h : wf m = true) :
    ∀ e e', e ∈ m.classes → e' ∈ m.classes → classLe e.2 e'.2 = true → classLe e'.2 e.2 = true → e = e' :=
  entries_separated (wf_classes h).1 namesLe_ord Class.names (fun k => (firstName k).getD [])
    fun e he => by rw [((wf_classes h).2 e he).1]; rfl

/-- the step from one level to the next: `g` is the canonical form one level down, which the order does not see (`hg`) -/
theorem sortKV_mapVals_congr {K V : Type} {le : V → V → Bool} (hle : TotalPre le) (g : V → V)
    (hg : ∀ a b, le (g a) (g b) = le a b) {S : V → V → Prop} {m m' : AList K V}
    (h : PermRel (fun x y => x.1 = y.1 ∧ S x.2 y.2) m m') (hS : ∀ x ∈ m, ∀ y ∈ m', S x.2 y.2 → g x.2 = g y.2)
    (sep : ∀ e e', e ∈ m → e' ∈ m → le e.2 e'.2 = true → le e'.2 e.2 = true → e = e') :
    sortKV le (AList.mapVals g m) = sortKV le (AList.mapVals g m') := by
  obtain ⟨a, b, h1, h2, h3⟩ := h
  have hab : AList.mapVals g a = AList.mapVals g b := h2.map_eq fun x hx y hy r => by
    show (x.1, g x.2) = (y.1, g y.2)
    rw [r.1, hS x (h1.symm.subset hx) y (h3.subset hy) r.2]
  refine sortBy_eq_of_perm (hle.on Prod.snd) ?_ ((h1.map _).trans ((List.Perm.of_eq hab).trans (h3.map _)))
  intro x y hx hy
  obtain ⟨e, he, rfl⟩ := List.mem_map.mp hx
  obtain ⟨e', he', rfl⟩ := List.mem_map.mp hy
  show le (g e.2) (g e'.2) = true → le (g e'.2) (g e.2) = true → _
  rw [hg, hg]
  intro h1 h2
  rw [sep e e' he he' h1 h2]

theorem canonMethod_congr {m m' : Method} (hw : wfMethod m = true) (h : MethodEquiv m m') :
    canonMethod m = canonMethod m' := by
  obtain ⟨h1, h2, h3, h4⟩ := h
  have hs : sortKV paramLe m.params = sortKV paramLe m'.params :=
    sortBy_eq_of_perm (paramLe_pre.on Prod.snd) (wfMethod_params_sep hw) h4
  cases m; cases m'
  simp only [canonMethod] at h1 h2 h3 hs ⊢
  rw [h1, h2, h3, hs]

theorem sortKV_mapVals_eq {K V : Type} (le : V → V → Bool) (g : V → V) (hg : ∀ a b, le (g a) (g b) = le a b)
    (m : AList K V) : sortKV le (AList.mapVals g m) = (sortKV le m).map fun e => (e.1, g e.2) :=
  (sortBy_map (le := fun a b : K × V => le a.2 b.2) (fun e => (e.1, g e.2)) (fun _ _ => hg _ _) m).symm

theorem canonClass_congr {c c' : Class} (hw : wfClass c = true) (h : ClassEquiv c c') : canonClass c = canonClass c' := by
  obtain ⟨h1, h2, h3, h4⟩ := h
  have hf : sortKV fieldLe c.fields = sortKV fieldLe c'.fields :=
    sortBy_eq_of_perm (fieldLe_pre.on Prod.snd) (wfClass_fields_sep hw) h3
  have hm := sortKV_mapVals_congr methodLe_pre canonMethod (fun _ _ => rfl) h4
    (fun x hx _ _ => canonMethod_congr ((wfClass_methods hw).2 x hx).2.2) (wfClass_methods_sep hw)
  cases c; cases c'
  simp only [canonClass] at h1 h2 hf hm ⊢
  rw [h1, h2, hf, hm]

/-- **`canon` is a normal form for `ContentEq`** on well-formed mapping sets: the same content in any insertion order,
at every level, has the same canonical form (`b` is then well-formed too) -/
theorem canon_congr {a b : Mappings} (h : ContentEq a b) (ha : wf a = true) : canon a = canon b := by
  obtain ⟨h1, h2, h3⟩ := h
  have hc := sortKV_mapVals_congr classLe_pre canonClass (fun _ _ => rfl) h3
    (fun x hx _ _ => canonClass_congr ((wf_classes ha).2 x hx).2) (wf_classes_sep ha)
  cases a; cases b
  simp only [canon] at h1 h2 hc ⊢
  rw [h1, h2, hc]

theorem values_sortKV {K V : Type} (le : V → V → Bool) (m : AList K V) :
    (sortKV le m).values = sortBy le m.values := by
  unfold sortKV AList.values
  exact sortBy_map (le := fun a b : K × V => le a.2 b.2) (le' := le) Prod.snd (fun _ _ => rfl) m

theorem values_mapVals {K V W : Type} (g : V → W) (m : AList K V) : (AList.mapVals g m).values = m.values.map g := by
  simp [AList.mapVals, AList.values, List.map_map, Function.comp_def]

theorem mapVals_id {K V : Type} (m : AList K V) : AList.mapVals id m = m := List.map_id'' (fun _ => rfl) m

theorem sortBy_sortBy_map {α : Type} {le : α → α → Bool} (h : TotalPre le) (g : α → α) (hg : ∀ a b, le (g a) (g b) = le a b) (l : List α) :
    sortBy le (sortBy le (l.map g)) = (sortBy le l).map g := by
  rw [sortBy_of_pairwise _ (sortBy_pairwise h _)]
  exact (sortBy_map (le := le) (le' := le) g hg l).symm

theorem methodLines_canon (m : Method) : methodLines (canonMethod m) = methodLines m := by
  simp only [methodLines, canonMethod, values_sortKV]
  rw [sortBy_of_pairwise _ (sortBy_pairwise paramLe_pre _)]

theorem classLines_canon (c : Class) : classLines (canonClass c) = classLines c := by
  simp only [classLines, canonClass, values_sortKV, values_mapVals]
  rw [sortBy_of_pairwise _ (sortBy_pairwise fieldLe_pre _)]
  rw [sortBy_sortBy_map methodLe_pre canonMethod (fun _ _ => rfl)]
  rw [List.flatMap_map]
  simp only [methodLines_canon]

theorem writeLines_canon (m : Mappings) : writeLines (canon m) = writeLines m := by
  simp only [writeLines, canon, values_sortKV, values_mapVals]
  rw [sortBy_sortBy_map classLe_pre canonClass (fun _ _ => rfl)]
  rw [List.flatMap_map]
  simp only [classLines_canon]

theorem paramOk_iff {n : Nat} {p : Param} :
    paramOk n p = true ↔ p.index < USIZE_LIMIT ∧ namesOk validUnq n p.names = true := by
  simp only [paramOk, Bool.and_eq_true, decide_eq_true_eq]

theorem fieldOk_iff {n : Nat} {f : Field} :
    fieldOk n f = true ↔ cellOk f.desc = true ∧ namesOk validUnq n f.names = true := by
  simp only [fieldOk, Bool.and_eq_true]

theorem methodOk_iff {n : Nat} {m : Method} : methodOk n m = true ↔
    cellOk m.desc = true ∧ namesOk validMethod n m.names = true ∧ ∀ e ∈ m.params, paramOk n e.2 = true := by
  simp only [methodOk, Bool.and_eq_true, List.all_eq_true, and_assoc]

theorem classOk_iff {n : Nat} {c : Class} : classOk n c = true ↔
    namesOk validClass n c.names = true ∧ (∀ e ∈ c.fields, fieldOk n e.2 = true) ∧ ∀ e ∈ c.methods, methodOk n e.2 = true := by
  simp only [classOk, Bool.and_eq_true, List.all_eq_true, and_assoc]

theorem writable_iff {n : Nat} {m : Mappings} : writable n m = true ↔
    2 ≤ n ∧ m.ns.length = n ∧ (∀ s ∈ m.ns, s.isEmpty = false ∧ cellOk s = true) ∧ wf m = true ∧
      ∀ e ∈ m.classes, classOk n e.2 = true := by
  simp only [writable, Bool.and_eq_true, decide_eq_true_eq, beq_iff_eq, List.all_eq_true, Bool.not_eq_true', and_assoc]

theorem namesOk_some {valid : JStr → Bool} {n : Nat} {names : Names} (h : namesOk valid n names = true) {s : JStr}
    (hs : some s ∈ names) : s.isEmpty = false ∧ cellOk s = true ∧ valid s = true := by
  simp only [namesOk, Bool.and_eq_true, List.all_eq_true] at h
  simpa only [Bool.and_eq_true, Bool.not_eq_true', and_assoc] using h.2 (some s) hs

theorem namesOk_writable {valid : JStr → Bool} {n : Nat} {names : Names} (h : namesOk valid n names = true) :
    namesWritable names = true := by
  simp only [namesWritable, List.all_eq_true]
  rintro (_ | s) ho
  · rfl
  · exact (namesOk_some h ho).2.1

theorem writable_writeOk {n : Nat} {m : Mappings} (h : writable n m = true) : writeOk m = true := by
  obtain ⟨_, _, hns, _, hcl⟩ := writable_iff.mp h
  simp only [writeOk, List.all_eq_true, Bool.and_eq_true]
  refine ⟨fun s hs => (hns s hs).2, fun e he => ?_⟩
  obtain ⟨hn, hf, hm⟩ := classOk_iff.mp (hcl e he)
  refine ⟨⟨namesOk_writable hn, fun f hf' => ?_⟩, fun me hme => ?_⟩
  · obtain ⟨hd, hn⟩ := fieldOk_iff.mp (hf f hf')
    exact ⟨hd, namesOk_writable hn⟩
  · obtain ⟨hd, hn, hp⟩ := methodOk_iff.mp (hm me hme)
    exact ⟨⟨hd, namesOk_writable hn⟩, fun p hp' => namesOk_writable (paramOk_iff.mp (hp p hp')).2⟩

theorem all2B_sound {α β : Type} {r : α → β → Bool} {R : α → β → Prop} (h : ∀ a b, r a b = true → R a b) :
    ∀ {l : List α} {l' : List β}, all2B r l l' = true → All2 R l l'
  | [], [], _ => .nil
  | [], _ :: _, h' => by simp [all2B] at h'
  | _ :: _, [], h' => by simp [all2B] at h'
  | a :: as, b :: bs, h' => by
    simp only [all2B, Bool.and_eq_true] at h'
    exact .cons (h a b h'.1) (all2B_sound h h'.2)

theorem permRel_of_sorted {α : Type} {R : α → α → Prop} (le le' : α → α → Bool) {l l' : List α}
    (h : All2 R (sortBy le l) (sortBy le' l')) : PermRel R l l' :=
  ⟨_, _, (sortBy_perm le l).symm, h, sortBy_perm le' l'⟩

theorem perm_of_sorted_eq {α : Type} (le le' : α → α → Bool) {l l' : List α}
    (h : sortBy le l = sortBy le' l') : l.Perm l' :=
  (sortBy_perm le l).symm.trans (h ▸ sortBy_perm le' l')

theorem methodEqB_sound {a b : Method} (h : methodEqB a b = true) : MethodEquiv a b := by
  simp only [methodEqB, paramsEqB, Bool.and_eq_true, beq_iff_eq, decide_eq_true_eq] at h
  exact ⟨h.1.1.1, h.1.1.2, h.1.2, perm_of_sorted_eq _ _ h.2⟩

theorem classEqB_sound {a b : Class} (h : classEqB a b = true) : ClassEquiv a b := by
  simp only [classEqB, Bool.and_eq_true, beq_iff_eq, decide_eq_true_eq] at h
  refine ⟨h.1.1.1, h.1.1.2, perm_of_sorted_eq _ _ h.1.2, permRel_of_sorted _ _ (all2B_sound ?_ h.2)⟩
  intro x y hxy
  simp only [Bool.and_eq_true, beq_iff_eq] at hxy
  exact ⟨hxy.1, methodEqB_sound hxy.2⟩

theorem contentEqB_sound {a b : Mappings} (h : contentEqB a b = true) : ContentEq a b := by
  simp only [contentEqB, Bool.and_eq_true, beq_iff_eq] at h
  refine ⟨h.1.1, h.1.2, permRel_of_sorted _ _ (all2B_sound ?_ h.2)⟩
  intro x y hxy
  simp only [Bool.and_eq_true, beq_iff_eq] at hxy
  exact ⟨hxy.1, classEqB_sound hxy.2⟩

theorem all2_mapVals {K V : Type} {R : V → V → Prop} (g : V → V) (h : ∀ v, R v (g v)) :
    ∀ m : AList K V, All2 (fun x y : K × V => x.1 = y.1 ∧ R x.2 y.2) m (AList.mapVals g m)
  | [] => .nil
  | (_, v) :: rest => .cons ⟨rfl, h v⟩ (all2_mapVals g h rest)

theorem methodEquiv_canon (m : Method) : MethodEquiv m (canonMethod m) :=
  ⟨rfl, rfl, rfl, (sortBy_perm _ _).symm⟩

theorem classEquiv_canon (c : Class) : ClassEquiv c (canonClass c) :=
  ⟨rfl, rfl, (sortBy_perm _ _).symm,
    ⟨_, _, List.Perm.refl _, all2_mapVals canonMethod methodEquiv_canon c.methods, (sortBy_perm _ _).symm⟩⟩

theorem contentEq_canon (m : Mappings) : ContentEq m (canon m) :=
  ⟨rfl, rfl, ⟨_, _, List.Perm.refl _, all2_mapVals canonClass classEquiv_canon m.classes, (sortBy_perm _ _).symm⟩⟩

theorem All2.refl {α : Type} {R : α → α → Prop} (h : ∀ a, R a a) : ∀ l : List α, All2 R l l
  | [] => .nil
  | a :: l => .cons (h a) (All2.refl h l)

theorem ClassEquiv.refl (c : Class) : ClassEquiv c c :=
  ⟨rfl, rfl, .refl _, _, _, .refl _, All2.refl (fun _ => ⟨rfl, rfl, rfl, rfl, .refl _⟩) _, .refl _⟩

theorem contentEq_of_perm {m : Mappings} {cs : AList JStr Class} (h : m.classes.Perm cs) :
    ContentEq m { m with classes := cs } :=
  ⟨rfl, rfl, _, _, .refl _, All2.refl (fun _ => ⟨rfl, ClassEquiv.refl _⟩) _, h⟩

theorem write_canon (m : Mappings) : write (canon m) = write m := by
  unfold write
  rw [writeLines_canon]

theorem all_sortKV {K V : Type} (le : V → V → Bool) (p : K × V → Bool) (m : AList K V) : (sortKV le m).all p = m.all p :=
  (sortBy_perm _ m).all_eq

theorem all_mapVals {K V W : Type} (g : V → W) (p : K × W → Bool) (m : AList K V) :
    (AList.mapVals g m).all p = m.all fun e => p (e.1, g e.2) := by
  rw [AList.mapVals, List.all_map]; rfl

theorem writeOk_canon (m : Mappings) : writeOk (canon m) = writeOk m := by
  simp only [writeOk, canon, canonClass, canonMethod, all_sortKV, all_mapVals]

theorem write?_canon (m : Mappings) : write? (canon m) = write? m := by
  unfold write?
  rw [writeOk_canon, write_canon]

/-- a string the function `cell` of `tiny_v2.rs` refuses -/
def BadCell (s : JStr) : Prop := 9 ∈ s ∨ 10 ∈ s ∨ 13 ∈ s ∨ ∃ c ∈ s, isSurrogate c = true

/-- a row with a present name that is refused -/
def BadNames (names : Names) : Prop := ∃ s, some s ∈ names ∧ BadCell s

theorem cellOk_false_iff (s : JStr) : cellOk s = false ↔ BadCell s := by
  -- both sides say that some character of `s` is 9, 10, 13 or a surrogate
  have mem (n : Nat) : n ∈ s ↔ ∃ c ∈ s, c = n := by simp
  simp only [cellOk, BadCell, mem 9, mem 10, mem 13, ← exists_or, ← and_or_left, List.all_eq_false, Bool.and_eq_true,
    bne_iff_ne, ne_eq, Bool.not_eq_true', Classical.not_and_iff_not_or_not, Classical.not_not, Bool.not_eq_false,
    or_assoc]

theorem namesWritable_false_iff (names : Names) : namesWritable names = false ↔ BadNames names := by
  simp only [namesWritable, List.all_eq_false, BadNames, ← cellOk_false_iff]
  constructor
  · rintro ⟨_ | s, ho, h⟩
    · exact absurd rfl h
    · exact ⟨s, ho, (Bool.not_eq_true _).mp h⟩
  · rintro ⟨s, hs, h⟩
    exact ⟨some s, hs, (Bool.not_eq_true _).mpr h⟩

theorem write?_none_iff (m : Mappings) : write? m = none ↔ writeOk m = false := by
  unfold write?
  cases writeOk m <;> simp

theorem write?_of_writeOk {m : Mappings} (h : writeOk m = true) : write? m = some (write m) := by
  simp [write?, h]

theorem writeOk_false_iff (m : Mappings) : writeOk m = false ↔
    (∃ s ∈ m.ns, BadCell s) ∨
    ∃ e ∈ m.classes, BadNames e.2.names ∨
      (∃ f ∈ e.2.fields, BadCell f.2.desc ∨ BadNames f.2.names) ∨
      (∃ me ∈ e.2.methods, BadCell me.2.desc ∨ BadNames me.2.names ∨ ∃ p ∈ me.2.params, BadNames p.2.names) := by
  simp only [writeOk, Bool.and_eq_false_iff, List.all_eq_false, Bool.not_eq_true, cellOk_false_iff, namesWritable_false_iff,
    or_assoc]

/-! The lines `write` emits as the reader's `TLine`s: `cellsOf`, `docT`, `paramT`, `fieldT`, `methodT`, `classT` mirror
`namesCells`, `docLines`, `paramLines`, `fieldLines`, `methodLines`, `classLines` of the model. -/

def cellsOf (names : Names) : List JStr := names.map (·.getD [])

def docT (indent : Nat) : Option JStr → List TLine
  | none => []
  | some d => [{ indent := indent, first := C_, fields := [escape d] }]

def paramT (p : Param) : List TLine :=
  { indent := 2, first := P_, fields := natDigits p.index :: cellsOf p.names } :: docT 3 p.doc

def fieldT (f : Field) : List TLine :=
  { indent := 1, first := F_, fields := f.desc :: cellsOf f.names } :: docT 2 f.doc

def methodT (m : Method) : List TLine :=
  { indent := 1, first := M_, fields := m.desc :: cellsOf m.names } ::
    (docT 2 m.doc ++ (sortBy paramLe m.params.values).flatMap paramT)

def classT (c : Class) : List TLine :=
  { indent := 0, first := C_, fields := cellsOf c.names } ::
    (docT 1 c.doc ++ ((sortBy fieldLe c.fields.values).flatMap fieldT ++
      (sortBy methodLe c.methods.values).flatMap methodT))

/-- what `lines` + `TinyLine::new` make of a list of written lines -/
structure Parsed (ls : List (List Nat)) (ts : List TLine) : Prop where
  ok : ∀ l ∈ ls, LineOk l
  eq : ls.map tinyLine = ts

theorem Parsed.nil : Parsed [] [] := ⟨by simp, rfl⟩

theorem Parsed.append {a b : List (List Nat)} {x y : List TLine} (h1 : Parsed a x) (h2 : Parsed b y) :
    Parsed (a ++ b) (x ++ y) :=
  ⟨fun l hl => (List.mem_append.mp hl).elim (h1.ok l) (h2.ok l), by rw [List.map_append, h1.eq, h2.eq]⟩

theorem Parsed.flatMap {α : Type} (f : α → List (List Nat)) (g : α → List TLine) :
    ∀ (l : List α), (∀ a ∈ l, Parsed (f a) (g a)) → Parsed (l.flatMap f) (l.flatMap g)
  | [], _ => Parsed.nil
  | a :: l, h => by
    simp only [List.flatMap_cons]
    exact (h a List.mem_cons_self).append (Parsed.flatMap f g l (fun x hx => h x (List.mem_cons_of_mem _ hx)))

theorem Parsed.sorted {K V : Type} (le : V → V → Bool) (f : V → List (List Nat)) (g : V → List TLine) (m : AList K V)
    (h : ∀ e ∈ m, Parsed (f e.2) (g e.2)) : Parsed ((sortBy le m.values).flatMap f) ((sortBy le m.values).flatMap g) :=
  Parsed.flatMap f g _ fun v hv => by
    obtain ⟨e, he, rfl⟩ := List.mem_map.mp (mem_sortBy.mp hv)
    exact h e he

theorem cellOk_clean {s : JStr} (h : cellOk s = true) : CellClean s := by
  simp only [cellOk, List.all_eq_true, Bool.and_eq_true, bne_iff_ne, ne_eq] at h
  exact ⟨fun h' => (h 9 h').1.1.1 rfl, fun h' => (h 10 h').1.1.2 rfl, fun h' => (h 13 h').1.2 rfl⟩

theorem namesCells_eq (names : Names) : namesCells names = (cellsOf names).flatMap (9 :: ·) := by
  induction names with
  | nil => rfl
  | cons o r ih => simp only [namesCells, cellsOf, List.flatMap_cons, List.map_cons] at ih ⊢; rw [ih]

theorem namesOk_cells {valid : JStr → Bool} {n : Nat} {names : Names} (h : namesOk valid n names = true) :
    ∀ c ∈ cellsOf names, CellClean c := by
  intro c hc
  obtain ⟨_ | s, ho, rfl⟩ := List.mem_map.mp hc
  · decide
  · exact cellOk_clean (namesOk_some h ho).2.1

/-- a row of clean cells is a good line and is split back into its cells. The model writes each row as a literal prefix
followed by cells (`[9, 102, 9] ++ f.desc ++ namesCells f.names`), which is `mkLine` only after rewriting: `hl` takes that
equation, so that the first line of the conclusion is the model's own term. -/
theorem Parsed.rowOf (indent : Nat) (first : JStr) (cells : List JStr) (h1 : first ≠ []) (h2 : CellClean first)
    (h3 : ∀ c ∈ cells, CellClean c) {l : List Nat} (hl : l = mkLine indent first cells) {b : List (List Nat)}
    {y : List TLine} (h : Parsed b y) :
    Parsed (l :: b) ({ indent := indent, first := first, fields := cells } :: y) := by
  subst hl
  have hok : LineOk (mkLine indent first cells) :=
    ⟨not_mem_mkLine (by decide) h2.2.1 fun c hc => (h3 c hc).2.1,
      fun h => not_mem_mkLine (by decide) h2.2.2 (fun c hc => (h3 c hc).2.2) (List.mem_of_getLast? h)⟩
  exact ⟨List.forall_mem_cons.mpr ⟨hok, h.ok⟩,
    by rw [List.map_cons, tinyLine_mkLine indent first cells h1 h2.1 (fun c hc => (h3 c hc).1), h.eq]⟩

theorem docLines_parsed (indent : Nat) (doc : Option JStr) : Parsed (docLines indent doc) (docT indent doc) := by
  cases doc with
  | none => exact Parsed.nil
  | some d =>
    exact Parsed.rowOf indent C_ _ (by decide) (by decide) (List.forall_mem_singleton.mpr (escape_clean d))
      (by simp [mkLine, C_]) Parsed.nil

theorem paramLines_parsed {n : Nat} {p : Param} (h : paramOk n p = true) : Parsed (paramLines p) (paramT p) := by
  exact Parsed.rowOf 2 P_ _ (by decide) (by decide)
    (List.forall_mem_cons.mpr ⟨digits_clean _, namesOk_cells (paramOk_iff.mp h).2⟩)
    (by simp [mkLine, P_, namesCells_eq]) (docLines_parsed 3 p.doc)

theorem fieldLines_parsed {n : Nat} {f : Field} (h : fieldOk n f = true) : Parsed (fieldLines f) (fieldT f) := by
  obtain ⟨hd, hn⟩ := fieldOk_iff.mp h
  exact Parsed.rowOf 1 F_ _ (by decide) (by decide) (List.forall_mem_cons.mpr ⟨cellOk_clean hd, namesOk_cells hn⟩)
    (by simp [mkLine, F_, namesCells_eq]) (docLines_parsed 2 f.doc)

theorem methodLines_parsed {n : Nat} {m : Method} (h : methodOk n m = true) : Parsed (methodLines m) (methodT m) := by
  obtain ⟨hd, hn, hps⟩ := methodOk_iff.mp h
  exact Parsed.rowOf 1 M_ _ (by decide) (by decide) (List.forall_mem_cons.mpr ⟨cellOk_clean hd, namesOk_cells hn⟩)
    (by simp [mkLine, M_, namesCells_eq])
    ((docLines_parsed 2 m.doc).append (Parsed.sorted _ _ _ _ fun e he => paramLines_parsed (hps e he)))

theorem classLines_parsed {n : Nat} {c : Class} (h : classOk n c = true) : Parsed (classLines c) (classT c) := by
  obtain ⟨hn, hfs, hms⟩ := classOk_iff.mp h
  exact Parsed.rowOf 0 C_ _ (by decide) (by decide) (namesOk_cells hn) (by simp [mkLine, C_, namesCells_eq])
    ((docLines_parsed 1 c.doc).append
      ((Parsed.sorted _ _ _ _ fun e he => fieldLines_parsed (hfs e he)).append
        (Parsed.sorted _ _ _ _ fun e he => methodLines_parsed (hms e he))))

end Tiny
