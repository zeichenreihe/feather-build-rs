import FeatherModel.Model.NestDomain
import FeatherModel.Lemmas.AList

/-!
# Nests tables
`build` is the one naming recursion: `jarRemap` is `build` on the enclosing class joined with the inner name
(`jarRemap_eq_build`) and the table-based `mapName` is one more round of `build` (`mapName_eq_build`), so the two name
tables are equal (`jarTable_eq_mapTable`) and everything else is said about `build`. Its depth bound, the number of nests
plus one, suffices on a ranked table because the number of entries ranked at most like the current class drops at every
step (`List.countP_rank_lt`, `build_isSome_of_rank`); conversely the length of a computed name is a rank (`rank_of_mapTable`).
In front of that: `get` / `add` on a table keyed by class name. After it: the early-exit loops `readLines` and
`mapNestsGo` as `mapM` followed by `add`s (`List.loop_eq_mapM_foldl`), and one line of a table (`readLine_some`).
-/

namespace Nest

theorem get_cons (m : Nest) (ns : Nests) (c : JStr) :
    get (m :: ns) c = if m.className == c then some m else get ns c := by
  unfold get
  rw [List.find?_cons]
  cases m.className == c <;> rfl

theorem get_some {ns : Nests} {c : JStr} {n : Nest} (h : get ns c = some n) : n ∈ ns ∧ n.className = c :=
  ⟨List.mem_of_find?_eq_some h, by simpa using List.find?_some h⟩

theorem get_none {ns : Nests} {c : JStr} (h : get ns c = none) : ∀ n ∈ ns, n.className ≠ c := by
  unfold get at h
  intro n hn e
  have := List.find?_eq_none.mp h n hn
  simp [e] at this

theorem get_self_of_unique {ns : Nests} (hu : (ns.map (·.className)).Nodup) (n : Nest) (hn : n ∈ ns) :
    get ns n.className = some n := by
  have : (get ns n.className).isSome = true := List.find?_isSome.mpr ⟨n, hn, beq_self_eq_true _⟩
  obtain ⟨m, hm⟩ := Option.isSome_iff_exists.mp this
  exact hm.trans (congrArg some (List.eq_of_nodup_map hu (get_some hm).1 hn (get_some hm).2))

theorem get_add (l : Nests) (n : Nest) (c : JStr) :
    get (add l n) c = if n.className == c then some n else get l c := by
  induction l with
  | nil => exact get_cons n [] c
  | cons m rest ih =>
    rw [add]
    split
    · rename_i h0
      rw [get_cons, get_cons, eq_of_beq h0]
      cases n.className == c <;> rfl
    · rename_i h0
      rw [get_cons, get_cons, ih]
      cases hm : m.className == c
      · rfl
      · have : (n.className == c) = false := by
          rw [← eq_of_beq hm]
          exact beq_false_of_ne fun e => h0 (beq_iff_eq.mpr e.symm)
        rw [this]
        rfl

theorem add_mem (l : Nests) (n x : Nest) (h : x ∈ add l n) : x = n ∨ x ∈ l := by
  induction l with
  | nil => exact Or.inl (List.mem_singleton.mp h)
  | cons m rest ih =>
    rw [add] at h
    split at h
    · exact (List.mem_cons.mp h).imp_right (List.mem_cons_of_mem _)
    · rcases List.mem_cons.mp h with h | h
      · exact Or.inr (h ▸ List.mem_cons_self)
      · exact (ih h).imp_right (List.mem_cons_of_mem _)

theorem add_new (l : Nests) (n : Nest) (h : n.className ∉ l.map (·.className)) : add l n = l ++ [n] := by
  induction l with
  | nil => rfl
  | cons m rest ih =>
    rw [List.map_cons, List.mem_cons, not_or] at h
    rw [add, if_neg (fun e => h.1 (eq_of_beq e).symm), ih h.2]
    rfl

theorem add_keysUnique (l : Nests) (n : Nest) (h : (l.map (·.className)).Nodup) : ((add l n).map (·.className)).Nodup := by
  induction l with
  | nil => exact List.nodup_cons.mpr ⟨List.not_mem_nil, List.nodup_nil⟩
  | cons m rest ih =>
    rw [List.map_cons, List.nodup_cons] at h
    rw [add]
    split
    · rename_i hk
      rw [List.map_cons, List.nodup_cons, ← eq_of_beq hk]
      exact h
    · rename_i hk
      rw [List.map_cons, List.nodup_cons]
      refine ⟨?_, ih h.2⟩
      intro hm
      obtain ⟨x, hx, ex⟩ := List.mem_map.mp hm
      rcases add_mem rest n x hx with rfl | hx
      · exact hk (beq_iff_eq.mpr ex.symm)
      · exact h.1 (List.mem_map.mpr ⟨x, hx, ex⟩)

theorem foldl_add_keysUnique : ∀ (imgs acc : Nests), (acc.map (·.className)).Nodup →
    ((imgs.foldl add acc).map (·.className)).Nodup := by
  intro imgs
  induction imgs with
  | nil => intro acc h; exact h
  | cons x rest ih => intro acc h; exact ih (add acc x) (add_keysUnique acc x h)

theorem foldl_add_mem : ∀ (imgs acc : Nests) (x : Nest), x ∈ imgs.foldl add acc → x ∈ imgs ∨ x ∈ acc := by
  intro imgs
  induction imgs with
  | nil => intro acc x h; exact Or.inr h
  | cons y rest ih =>
    intro acc x h
    rcases ih (add acc y) x h with h | h
    · exact Or.inl (List.mem_cons_of_mem _ h)
    · rcases add_mem acc y x h with rfl | h
      · exact Or.inl List.mem_cons_self
      · exact Or.inr h

theorem foldl_add_get_isSome (c : JStr) : ∀ (imgs acc : Nests),
    (get (imgs.foldl add acc) c).isSome = ((get acc c).isSome || imgs.any (·.className == c)) := by
  intro imgs
  induction imgs with
  | nil => intro acc; simp
  | cons y rest ih =>
    intro acc
    rw [List.foldl_cons, ih, get_add, List.any_cons]
    cases y.className == c <;> simp

theorem foldl_add_get_mem (imgs : Nests) (x : Nest) (hx : x ∈ imgs) :
    ∃ o, get (imgs.foldl add []) x.className = some o ∧ o ∈ imgs ∧ o.className = x.className := by
  have : (get (imgs.foldl add []) x.className).isSome = true := by
    rw [foldl_add_get_isSome]
    exact Bool.or_eq_true_iff.mpr (Or.inr (List.any_eq_true.mpr ⟨x, hx, beq_self_eq_true _⟩))
  obtain ⟨o, ho⟩ := Option.isSome_iff_exists.mp this
  refine ⟨o, ho, ?_, (get_some ho).2⟩
  rcases foldl_add_mem imgs [] o (get_some ho).1 with h | h
  · exact h
  · cases h

theorem foldl_add_nodup : ∀ (imgs acc : Nests), ((acc ++ imgs).map (·.className)).Nodup → imgs.foldl add acc = acc ++ imgs := by
  intro imgs
  induction imgs with
  | nil => intro acc _; exact (List.append_nil acc).symm
  | cons y rest ih =>
    intro acc h
    rw [List.foldl_cons, add_new acc y (List.key_not_mem_of_nodup h), ih (acc ++ [y]) (by rwa [List.append_assoc]), List.append_assoc]
    rfl

theorem mapOpt_eq {α β : Type} (f : α → Option β) (l : List α) : mapOpt f l = l.mapM f := by
  induction l with
  | nil => rfl
  | cons a l ih =>
    simp only [List.mapM_option_cons, ← ih, Option.bind_eq_match, Option.map_eq_match]
    set_option smartUnfolding false in rfl

theorem mapOpt_length {α β : Type} {f : α → Option β} : ∀ {l : List α} {r : List β}, mapOpt f l = some r → r.length = l.length :=
  fun h => List.length_of_mapM (mapOpt_eq _ _ ▸ h)

theorem lookup_mapOpt {α : Type} {g : Nest → Option α} {v : Nest → α → JStr} : ∀ {l : Nests} {t : AList JStr JStr},
    mapOpt (fun n => (g n).map (fun a => (n.className, v n a))) l = some t →
    ∀ c, AList.lookup c t = (get l c).bind (fun n => (g n).map (v n)) := by
  intro l
  induction l with
  | nil => intro t h c; cases h; rfl
  | cons m rest ih =>
    intro t h c
    rw [mapOpt_eq, List.mapM_option_cons, ← mapOpt_eq] at h
    obtain ⟨kv, hkv, h⟩ := Option.bind_eq_some_iff.mp h
    obtain ⟨t', ht', rfl⟩ := Option.map_eq_some_iff.mp h
    obtain ⟨a, ha, rfl⟩ := Option.map_eq_some_iff.mp hkv
    rw [get_cons, AList.lookup]
    cases m.className == c
    · exact ih ht' c
    · simp [ha]

theorem build_succ (ns : Nests) (fuel : Nat) (c : JStr) :
    build ns (fuel + 1) c = match get ns c with
      | none => some c
      | some n => (build ns fuel n.enclClass).map (fun a => join a n.innerName) := by
  simp only [Option.map_eq_match]
  set_option smartUnfolding false in rfl

/-- `remap` of `nester_jar.rs` is `build_translation` of `nester_run.rs` applied to the enclosing class, joined with the
inner name: fuel by fuel, on every table (cyclic ones included) -/
theorem jarRemap_eq_build (ns : Nests) : ∀ (fuel : Nat) (n : Nest),
    jarRemap ns fuel n = (build ns fuel n.enclClass).map (fun a => join a n.innerName) := by
  intro fuel
  induction fuel with
  | zero => intro n; rfl
  | succ f ih =>
    intro n
    rw [jarRemap, build_succ]
    cases get ns n.enclClass with
    | none => rfl
    | some e =>
      simp only
      rw [ih e]
      cases build ns f e.enclClass <;> rfl

theorem jarTable_eq_mapTable (ns : Nests) : jarTable ns = mapTable ns :=
  (mapOpt_eq _ _).trans <| (List.mapM_option_congr fun n _ => by rw [jarRemap_eq_build, Option.map_map]; rfl).trans
    (mapOpt_eq _ _).symm

theorem build_mono_le (ns : Nests) : ∀ {f f' : Nat} {c r : JStr}, build ns f c = some r → f ≤ f' → build ns f' c = some r := by
  intro f
  induction f with
  | zero => intro f' c r h; cases h
  | succ f ih =>
    intro f' c r h hle
    cases f' with
    | zero => exact absurd hle (Nat.not_succ_le_zero f)
    | succ g =>
      rw [build_succ] at h ⊢
      cases hg : get ns c with
      | none => rw [hg] at h; exact h
      | some n =>
        rw [hg] at h
        obtain ⟨a, ha, rfl⟩ := Option.map_eq_some_iff.mp h
        simp only [ih ha (Nat.le_of_succ_le_succ hle), Option.map_some]

theorem build_none_of_closed (ns : Nests) (S : JStr → Prop)
    (hS : ∀ c, S c → ∃ n, get ns c = some n ∧ S n.enclClass) : ∀ (fuel : Nat) (c : JStr), S c → build ns fuel c = none := by
  intro fuel
  induction fuel with
  | zero => intro c _; rfl
  | succ f ih =>
    intro c hc
    obtain ⟨n, hn, hn'⟩ := hS c hc
    rw [build_succ, hn]
    show (build ns f n.enclClass).map _ = none
    rw [ih n.enclClass hn']
    rfl

theorem build_isSome_of_rank (ns : Nests) (rank : JStr → Nat) (hr : ∀ n ∈ ns, rank n.enclClass < rank n.className) :
    ∀ (fuel : Nat) (c : JStr), ns.countP (fun n => decide (rank n.className ≤ rank c)) < fuel →
      (build ns fuel c).isSome = true := by
  intro fuel
  induction fuel with
  | zero => intro c h; exact absurd h (Nat.not_lt_zero _)
  | succ f ih =>
    intro c h
    rw [build_succ]
    cases hg : get ns c with
    | none => rfl
    | some n =>
      obtain ⟨hn, rfl⟩ := get_some hg
      simp only [Option.isSome_map]
      exact ih n.enclClass (Nat.lt_of_lt_of_le (List.countP_rank_lt hn (hr n hn)) (Nat.le_of_lt_succ h))

/-- for the enclosing class of a table entry one unit of fuel less is enough -/
theorem build_isSome_encl (ns : Nests) (rank : JStr → Nat) (hr : ∀ n ∈ ns, rank n.enclClass < rank n.className)
    (n : Nest) (hn : n ∈ ns) : (build ns ns.length n.enclClass).isSome = true := by
  apply build_isSome_of_rank ns rank hr
  exact Nat.lt_of_lt_of_le (List.countP_rank_lt hn (hr n hn)) List.countP_le_length

theorem mapTable_isSome_iff (ns : Nests) :
    (mapTable ns).isSome = true ↔ ∀ n ∈ ns, (build ns (fuelFor ns) n.enclClass).isSome = true := by
  unfold mapTable
  simp only [mapOpt_eq, ← Option.ne_none_iff_isSome, ne_eq, List.mapM_eq_none_iff, Option.map_eq_none_iff, not_exists,
    not_and]

theorem mapTable_isSome_of_rank (ns : Nests) (rank : JStr → Nat) (hr : ∀ n ∈ ns, rank n.enclClass < rank n.className) :
    (mapTable ns).isSome = true :=
  (mapTable_isSome_iff ns).mpr fun n _ =>
    build_isSome_of_rank ns rank hr _ n.enclClass (Nat.lt_succ_of_le List.countP_le_length)

theorem mapName_eq_build {ns : Nests} (h : (mapTable ns).isSome = true) (c : JStr) :
    mapName ns c = build ns (fuelFor ns + 1) c := by
  obtain ⟨t, ht⟩ := Option.isSome_iff_exists.mp h
  rw [mapName, ht, Option.map_some, tableMap, lookup_mapOpt ht c, build_succ]
  cases hg : get ns c with
  | none => rfl
  | some n =>
    obtain ⟨a, ha⟩ := Option.isSome_iff_exists.mp ((mapTable_isSome_iff ns).mp h n (get_some hg).1)
    simp only [Option.bind_some, ha, Option.map_some]

/-- a table whose names can all be computed is acyclic: the length of the translated name is a rank -/
theorem rank_of_mapTable (ns : Nests) (hu : (ns.map (·.className)).Nodup) (h : (mapTable ns).isSome = true) :
    ∃ rank : JStr → Nat, ∀ n ∈ ns, rank n.enclClass < rank n.className := by
  refine ⟨fun c => match build ns (fuelFor ns + 1) c with | some r => r.length | none => 0, ?_⟩
  intro n hn
  obtain ⟨a, ha⟩ := Option.isSome_iff_exists.mp ((mapTable_isSome_iff ns).mp h n hn)
  simp only [build_mono_le ns ha (Nat.le_succ _), build_succ ns (fuelFor ns) n.className, get_self_of_unique hu n hn, ha,
    Option.map_some, join, List.length_append, List.length_cons]
  exact Nat.lt_add_of_pos_right (Nat.succ_pos _)

theorem readLines_eq (ls : List (List Nat)) (acc : Nests) :
    readLines ls acc = (ls.mapM readLine).map (·.foldl add acc) :=
  List.loop_eq_mapM_foldl readLine add readLines (fun _ => rfl) (fun l _ _ => by rw [readLines]; cases readLine l <;> rfl) ls acc

theorem mapNestsGo_eq (r : RemB) (ns acc : Nests) :
    mapNestsGo r ns acc = (ns.mapM (mapNest r)).map (·.foldl add acc) :=
  List.loop_eq_mapM_foldl (mapNest r) add (mapNestsGo r) (fun _ => rfl) (fun n _ _ => by rw [mapNestsGo]; cases mapNest r n <;> rfl) ns acc

theorem mapNests_some {ns out : Nests} {m : Mappings} (h : mapNests ns m = some out) :
    ∃ r imgs, remB m = some r ∧ ns.mapM (mapNest r) = some imgs ∧ out = imgs.foldl add [] := by
  unfold mapNests at h
  cases hr : remB m with
  | none => rw [hr] at h; cases h
  | some r =>
    simp only [hr, mapNestsGo_eq] at h
    obtain ⟨imgs, hi, e⟩ := Option.map_eq_some_iff.mp h
    exact ⟨r, imgs, rfl, hi, e.symm⟩

theorem readLine_some {line : List Nat} {n : Nest} (h : readLine line = some n) :
    (n.kind = kindOfInnerName n.innerName ∧ n.className ≠ [] ∧ n.enclClass ≠ [] ∧ n.innerName ≠ [] ∧
      validObjClassName n.className = true ∧ validObjClassName n.enclClass = true ∧
      validObjClassName n.innerName = true) ∧
    (∃ cn en mn md inn acc, splitOn TAB line = [cn, en, mn, md, inn, acc] ∧ n.className = cn ∧ n.enclClass = en ∧
      n.innerName = inn ∧ (n.enclMethod = none ↔ (mn = [] ∨ md = [])) ∧
      ∃ a, parseAccess acc = some a ∧ n.access = maskAccess a) := by
  unfold readLine at h
  split at h
  · rename_i cn en mn md inn acc hsp
    -- every `if … then none else …` in front of `= some n` becomes a conjunct
    simp only [Option.ite_none_left_eq_some, Bool.or_eq_true, List.isEmpty_iff, not_or, Bool.not_eq_true',
      Bool.not_eq_false] at h
    obtain ⟨⟨⟨h1, h2⟩, h3⟩, h4, h5, h⟩ := h
    generalize hm : (if mn = [] ∨ md = [] then some none else
      if validMethodName mn = true then some (some (mn, md)) else none) = mo at h
    cases mo with
    | none => cases h
    | some m =>
      simp only [Option.ite_none_left_eq_some, Bool.not_eq_false] at h
      generalize ha : parseAccess acc = ao at h
      cases ao with
      | none => cases h.2
      | some a =>
        obtain ⟨h6, h⟩ := h
        cases h
        refine ⟨⟨rfl, h1, h2, h3, h4, h5, h6⟩, cn, en, mn, md, inn, acc, hsp, rfl, rfl, rfl, ?_, a, ha, rfl⟩
        show m = none ↔ _
        by_cases hc : mn = [] ∨ md = []
        · rw [if_pos hc] at hm
          cases hm
          exact ⟨fun _ => hc, fun _ => rfl⟩
        · rw [if_neg hc] at hm
          split at hm <;> cases hm
          exact ⟨fun e => absurd e (Option.some_ne_none _), fun e => absurd e hc⟩
  · cases h

end Nest
