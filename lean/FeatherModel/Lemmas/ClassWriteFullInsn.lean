import FeatherModel.Lemmas.ClassWriteFullCond
import FeatherModel.Spec.ClassEncode
import FeatherModel.Lemmas.CodeSwitchDecode
import FeatherModel.Lemmas.FrameReadBackCode
import FeatherModel.Lemmas.ClassReadLayout
import FeatherModel.Lemmas.ClassWriteFullAttr
import FeatherModel.Lemmas.BootstrapWrite
import FeatherModel.Lemmas.ClassReadCodeFinal

/-!
# C02 (whole writer) — the instructions of `write_code`

Label renaming (`relabel` = `Code.resolve`), one instruction as C01's specification encodes it, the code array of a
method within the syntactic size bound as `Spec.encInsns`, the constant-pool operands (member references, handles,
loadable constants, `Dynamic` / `invokedynamic` with the bootstrap table), and the legality of the instruction list.
-/

namespace ClassWriteFull
open PoolWrite (Entry)
open FramePool (Good Le)
open ClassRead ClassRead.Spec

/-! ## `Code.resolve` is the relabelling the writer performs

`Code.resolve` (C01: label ids read back as instruction indices) replaces every label id by
`lookupLabel (labelIndex …) id`; the writer translates the same ids with `labOf … = (lookupLabel …).getD (n + 1)`.
Where `resolve` succeeds the two agree: the resolved code is the code with every label renamed by the writer's `lab`. -/

section

theorem bind_only {α β : Type} {o : Option α} {a : α} {F : α → Option β} {y : β} (ho : ∀ x, o = some x → x = a)
    (h : (o >>= F) = some y) : F a = some y := by
  obtain ⟨x, hx, h⟩ := Option.bind_eq_some_iff.mp h
  exact ho x hx ▸ h

theorem map_of_mapM' {α β : Type} {f : α → Option β} {g : α → β} (hp : ∀ x y, f x = some y → y = g x) (xs : List α)
    (ys : List β) (h : mapM' f xs = some ys) : ys = xs.map g := by
  rw [mapM'_eq] at h
  simpa using List.map_eq_of_mapM (g := id) h fun x _ => hp x

def vtMapL (f : Nat → Nat) : VType → VType
  | .uninit l => .uninit (f l)
  | v => v

def frMapL (f : Nat → Nat) : Frame → Frame
  | .same1 v => .same1 (vtMapL f v)
  | .append vs => .append (vs.map (vtMapL f))
  | .full l s => .full (l.map (vtMapL f)) (s.map (vtMapL f))
  | x => x

def tgMapL (f : Nat → Nat) : Target → Target
  | .localVar t tbl => .localVar t (tbl.map fun e => (f e.1, f e.2.1, e.2.2))
  | .offset t l => .offset t (f l)
  | .offsetArg t l i => .offsetArg t (f l) i
  | x => x

/-- the code with every label id renamed by `f`, the carriers erased -/
def relabel (f : Nat → Nat) (c : Code) : Code :=
  { c with
    insns := c.insns.map (fun e => ⟨none, e.frame.map (frMapL f), mapT f e.insn⟩),
    exceptions := c.exceptions.map (fun e => ⟨f e.start, f e.end_, f e.handler, e.catch_⟩),
    lastLabel := none,
    lines := c.lines.map (fun ls => ls.map fun ln => (f ln.1, ln.2)),
    locals := c.locals.map (fun ls => ls.map fun v => { v with start := f v.start, end_ := f v.end_ }),
    rvta := c.rvta.map (fun a => { a with target := tgMapL f a.target }),
    ritva := c.ritva.map (fun a => { a with target := tgMapL f a.target }) }

variable {m : List (Nat × Nat)} (n : Nat)

theorem lookup_only (id k : Nat) (h : lookupLabel m id = some k) : k = labOf m n id := by
  simp [labOf, h]

theorem lookup_bind {α : Type} {id : Nat} {F : Nat → Option α} {y : α} (h : (lookupLabel m id >>= F) = some y) :
    F (labOf m n id) = some y :=
  bind_only (lookup_only n id) h

theorem insn_resolve_eq (ri ri' : ClassRead.Insn) (h : ri.resolve m = some ri') : ri' = mapT (labOf m n) ri := by
  cases ri with
  | branch _ t | goto t | jsr t =>
    cases lookup_bind n h
    rfl
  | tableswitch d lo hi tbl =>
    have h := lookup_bind n h
    cases bind_only (map_of_mapM' (lookup_only n) tbl) h
    rfl
  | lookupswitch d pairs =>
    have h := lookup_bind n h
    cases bind_only (map_of_mapM' (g := fun kt : Int × Nat => (kt.1, labOf m n kt.2)) (fun x y hy => by
      cases lookup_bind n hy
      rfl) pairs) h
    rfl
  | simple _ | bipush _ | sipush _ | ldc _ | load _ _ | store _ _ | iinc _ _ | ret _ | field _ _ | invokevirtual _
  | invokespecial _ _ | invokestatic _ _ | invokeinterface _ | invokedynamic _ | new _ | newarray _ | anewarray _
  | checkcast _ | instanceof _ | multianewarray _ _ =>
    cases h; rfl

theorem vtype_resolve_eq (v v' : VType) (h : v.resolve m = some v') : v' = vtMapL (labOf m n) v := by
  cases v with
  | uninit l =>
    cases lookup_bind n h
    rfl
  | top | int | float | double | long | null | uninitThis | object _ => cases h; rfl

theorem frame_resolve_eq (f f' : Frame) (h : f.resolve m = some f') : f' = frMapL (labOf m n) f := by
  cases f with
  | same1 v =>
    cases bind_only (vtype_resolve_eq n v) h
    rfl
  | append vs =>
    cases bind_only (map_of_mapM' (vtype_resolve_eq n) vs) h
    rfl
  | full l s =>
    have h := bind_only (map_of_mapM' (vtype_resolve_eq n) l) h
    cases bind_only (map_of_mapM' (vtype_resolve_eq n) s) h
    rfl
  | same | chop _ => cases h; rfl

theorem target_resolve_eq (t t' : Target) (h : t.resolve m = some t') : t' = tgMapL (labOf m n) t := by
  cases t with
  | localVar tag tbl =>
    cases bind_only (map_of_mapM' (g := fun e : Nat × Nat × Nat => (labOf m n e.1, labOf m n e.2.1, e.2.2))
      (fun x y hy => by
        cases lookup_bind n (lookup_bind n hy)
        rfl) tbl) h
    rfl
  | offset _ l | offsetArg _ l _ =>
    cases lookup_bind n h
    rfl
  | typeParam _ _ | extends_ | implements _ | typeParamBound _ _ _ | field | ret | receiver | formalParam _ | throws _
  | exceptionParam _ => cases h; rfl

theorem anno_resolve_eq (a a' : TypeAnno) (h : a.resolve m = some a') :
    a' = { a with target := tgMapL (labOf m n) a.target } := by
  cases bind_only (target_resolve_eq n a.target) h
  rfl

theorem map_some_only {α : Type} {o : Option α} {a : α} (ho : ∀ x, o = some x → x = a) (y : Option α)
    (h : o.map some = some y) : y = some a := by
  obtain ⟨x, hx, rfl⟩ := Option.map_eq_some_iff.mp h
  rw [ho x hx]

theorem entry_resolve_eq (e e' : InsnEntry) (h : e.resolve m = some e') :
    e' = ⟨none, e.frame.map (frMapL (labOf m n)), mapT (labOf m n) e.insn⟩ := by
  have h := bind_only (insn_resolve_eq n e.insn) h
  obtain ⟨l, fr, i⟩ := e
  cases fr with
  | none => cases h; rfl
  | some f =>
    cases bind_only (map_some_only (frame_resolve_eq n f)) h
    rfl

/-- `resolveLines`, `resolveLocals` (`res`): an optional value is resolved inside the option -/
theorem opt_only {α : Type} {r : α → Option α} {g : α → α} (hr : ∀ x y, r x = some y → y = g x)
    {res : Option α → Option (Option α)} (h0 : res none = some none) (h1 : ∀ x, res (some x) = (r x).map some)
    (o o' : Option α) (h : res o = some o') : o' = o.map g := by
  cases o with
  | none => exact Option.some.inj (h.symm.trans h0)
  | some x => exact map_some_only (hr x) o' ((h1 x).symm.trans h)

theorem code_resolve_eq {c c' : Code} (h : c.resolve = some c') :
    c' = relabel (labOf (labelIndex c.insns c.lastLabel) c.insns.length) c := by
  generalize c.insns.length = n
  -- one step for each of the six traversals of `Code.resolve`
  have h := bind_only (map_of_mapM' (entry_resolve_eq n) c.insns) h
  generalize labelIndex c.insns c.lastLabel = m at h ⊢
  have h := bind_only (map_of_mapM'
    (g := fun e => (⟨labOf m n e.start, labOf m n e.end_, labOf m n e.handler, e.catch_⟩ : ExceptionEntry))
    (fun x y hy => by
      cases lookup_bind n (lookup_bind n (lookup_bind n hy))
      rfl) c.exceptions) h
  have h := bind_only (opt_only (res := resolveLines m)
    (map_of_mapM' (g := fun ln : Nat × Nat => (labOf m n ln.1, ln.2)) fun x y hy => by
      cases lookup_bind n hy
      rfl) rfl (fun _ => rfl) c.lines) h
  have h := bind_only (opt_only (res := resolveLocals m)
    (map_of_mapM' (g := fun v : Lv => { v with start := labOf m n v.start, end_ := labOf m n v.end_ }) fun x y hy => by
      cases lookup_bind n (lookup_bind n hy)
      rfl) rfl (fun _ => rfl) c.locals) h
  have h := bind_only (map_of_mapM' (anno_resolve_eq n) c.rvta) h
  cases bind_only (map_of_mapM' (anno_resolve_eq n) c.ritva) h
  rfl

end

/-! ## one instruction of `write_code` as C01's specification encodes it

`CodeWrite` names constants by pool index and labels by instruction index; C01's specification (`Spec.SInsn`) carries
the symbolic operand, the pool index used and the *form* chosen.  For an attempt in which no jump was widened
(`isWide = false`, every offset fits 16 bits) the final bytes of instruction `i` are `SInsn.encode` of `sinsnOf cp ri`:
the form is the writer's own choice (shortest: `xload_n` / `xload` / `wide xload`, `ldc` / `ldc_w` / `ldc2_w`,
`iinc` / `wide iinc`, `ret` / `wide ret`), switch padding is zero, the `count` of `invokeinterface` is
`get_arguments_size`. -/

section
open CodeWrite (encInsn resolveAt LabelsOk offs fitsI16 Unwritten Fin)
open FrameReadBack (posOf)

/-- what `putInsn` makes of a tree instruction whose labels are instruction indices and whose constant got the pool
index `cp` -/
def cw (cp : Nat) : ClassRead.Insn → Option CodeWrite.Insn
  | .simple op => some (.simple op)
  | .bipush v => some (.bipush v)
  | .sipush v => some (.sipush v)
  | .ldc c => some (.ldc cp (isTwoSlot c))
  | .load k i => some (.load k i)
  | .store k i => some (.store k i)
  | .iinc i v => some (.iinc i v)
  | .branch op t => (condOfOp op).map (fun c => .ifc c t)
  | .goto t => some (.goto t)
  | .jsr t => some (.jsr t)
  | .ret i => some (.ret i)
  | .tableswitch d lo hi tbl => some (.tableswitch d lo hi tbl)
  | .lookupswitch d ps => some (.lookupswitch d ps)
  | .field op _ => some (.cp op cp)
  | .invokevirtual _ => some (.cp 0xb6 cp)
  | .invokespecial _ _ => some (.cp 0xb7 cp)
  | .invokestatic _ _ => some (.cp 0xb8 cp)
  | .invokeinterface m => some (.invokeinterface cp m.desc)
  | .invokedynamic _ => some (.invokedynamic cp)
  | .new _ => some (.cp 0xbb cp)
  | .newarray a => some (.newarray a)
  | .anewarray _ => some (.cp 0xbd cp)
  | .checkcast _ => some (.cp 0xc0 cp)
  | .instanceof _ => some (.cp 0xc1 cp)
  | .multianewarray _ d => some (.multianewarray cp d)

/-- `xload_<n>` / `xload` / `wide xload` as `CodeWrite.encLocal` chooses -/
def localForm (i : Nat) : Form := if i < 4 then .short else if i ≤ 255 then .plain else .wide

/-- the form the writer chooses (no widened jumps): the case distinctions of `CodeWrite.encLdc`, `encLocal`, `encIinc`,
`encRet`, which `encInsn_sinsn` ties to it -/
def formOf (cp : Nat) : ClassRead.Insn → Form
  | .ldc c => if isTwoSlot c then .wide else if cp ≤ 255 then .short else .plain
  | .load _ i => localForm i
  | .store _ i => localForm i
  | .iinc i v => if i ≤ 255 ∧ -128 ≤ v ∧ v ≤ 127 then .plain else .wide
  | .ret i => if i ≤ 255 then .plain else .wide
  | _ => .plain

/-- switch padding bytes are zero; the `count` of `invokeinterface` is `get_arguments_size` -/
def padOf : ClassRead.Insn → Nat
  | .invokeinterface m => match CodeWrite.argsSize m.desc with | .ok c => c | .error _ => 0
  | _ => 0

/-- the layout of one instruction as `write_code` encodes it, given the pool index `cp` its operand got -/
def sinsnOf (cp : Nat) (ri : ClassRead.Insn) : SInsn := ⟨ri, formOf cp ri, cp, padOf ri⟩

theorem u16b_be16' (n : Nat) : CodeWrite.u16b n = be16 n := rfl
theorem i16b_be16 (v : Int) : CodeWrite.i16b v = be16 (ofI16 v) := rfl
theorem i32b_be32 (v : Int) : CodeWrite.i32b v = be32 (ofI32 v) := rfl

theorem condOfOp_isCond {op : Nat} {c : CodeWrite.Cond} (h : condOfOp op = some c) : isCondBranchOp op = true :=
  (condOfOp_spec h).2

theorem be32_mod (n : Nat) : be32 (n % 4294967296) = be32 n := by
  simp only [be32, List.cons.injEq, and_true]
  omega

theorem be32_ofI32_nat (n : Nat) : be32 (ofI32 (n : Int)) = be32 n := by
  rw [ofI32_natCast, be32_mod]

theorem relOff_eq {lp : Nat → Option Nat} {t tp : Nat} (h : lp t = some tp) (p : Nat) :
    relOff (posOf lp) p t = offs p tp := by
  simp [relOff, posOf, h, offs]

theorem finTable_eq {lp : Nat → Option Nat} {p : Nat} : ∀ (ts : List Nat) {b : Bytes}, CodeWrite.finTable lp p ts = some b →
    b = ts.flatMap (fun t => be32 (ofI32 (relOff (posOf lp) p t)))
  | [], b, h => by cases h; rfl
  | t :: ts, b, h => by
    obtain ⟨_, _, ha, hr, rfl⟩ := CodeWrite.finSeq_some h
    obtain ⟨tp, hl, rfl⟩ := Option.map_eq_some_iff.mp ha
    rw [finTable_eq ts hr, List.flatMap_cons, relOff_eq hl, i32b_be32]

theorem finPairs_eq {lp : Nat → Option Nat} {p : Nat} : ∀ (ps : List (Int × Nat)) {b : Bytes},
    CodeWrite.finPairs lp p ps = some b →
    b = ps.flatMap (fun kt => be32 (ofI32 kt.1) ++ be32 (ofI32 (relOff (posOf lp) p kt.2)))
  | [], b, h => by cases h; rfl
  | kt :: ps, b, h => by
    obtain ⟨_, _, ha, hr, rfl⟩ := CodeWrite.finSeq_some h
    obtain ⟨_, _, ⟨⟩, ha', rfl⟩ := CodeWrite.finSeq_some ha
    obtain ⟨tp, hl, rfl⟩ := Option.map_eq_some_iff.mp ha'
    rw [finPairs_eq ps hr, List.flatMap_cons, relOff_eq hl, i32b_be32, i32b_be32, List.append_assoc]

theorem not_long {isW : Bool} {b : Bool} (hw : isW = false) (hb : b = true) : ¬ (isW = true ∨ b = false) := by
  subst hw hb; simp

theorem _root_.CodeWrite.Fin.sinsn {ri : ClassRead.Insn} {cp : Nat} {i : CodeWrite.Insn} (hcw : cw cp ri = some i)
    {lp : Nat → Option Nat} {p : Nat} {fin : Bytes} (h : Fin false lp p i fin)
    (hfit : ∀ t tp, lp t = some tp → fitsI16 (offs p tp) = true) :
    fin = (sinsnOf cp ri).encode (posOf lp) p := by
  cases h with
  | long _ hl hw => exact absurd hw (not_long rfl (hfit _ _ hl))
  | tramp hl _ hw => exact absurd hw (not_long rfl (hfit _ _ hl))
  | @short i op t tp hs hl _ =>
    rw [← relOff_eq hl, i16b_be16]
    cases ri with
    | branch op' t' =>
      simp only [cw, Option.map_eq_some_iff] at hcw
      obtain ⟨c, hc, rfl⟩ := hcw
      cases hs
      rw [(condOfOp_spec hc).1]
      rfl
    | goto t' | jsr t' => cases hcw; cases hs; rfl
    | _ => cases hcw <;> cases hs
  | @table d lo hi tb dtp b _ _ hld hft =>
    cases ri with
    | branch op t => simp only [cw, Option.map_eq_some_iff, reduceCtorEq, and_false, exists_false] at hcw
    | tableswitch =>
      cases hcw
      rw [finTable_eq tb hft, ← relOff_eq hld, i32b_be32, i32b_be32, i32b_be32]
      refine Eq.trans ?_ (rfl : 0xaa :: List.replicate (padLen p) 0 ++ be32 (ofI32 (relOff (posOf lp) p d)) ++ be32 (ofI32 lo)
        ++ be32 (ofI32 hi) ++ tb.flatMap (fun t => be32 (ofI32 (relOff (posOf lp) p t))) = _)
      simp only [List.append_assoc]
      rfl
    | _ => cases hcw
  | @lookup d ps dtp b hld hft =>
    cases ri with
    | branch op t => simp only [cw, Option.map_eq_some_iff, reduceCtorEq, and_false, exists_false] at hcw
    | lookupswitch =>
      cases hcw
      rw [finPairs_eq ps hft, ← relOff_eq hld, i32b_be32, i32b_be32, be32_ofI32_nat]
      refine Eq.trans ?_ (rfl : 0xab :: List.replicate (padLen p) 0 ++ be32 (ofI32 (relOff (posOf lp) p d)) ++ be32 ps.length
        ++ ps.flatMap (fun kt => be32 (ofI32 kt.1) ++ be32 (ofI32 (relOff (posOf lp) p kt.2))) = _)
      simp only [List.append_assoc]
      rfl
    | _ => cases hcw
  | @plain i bs lbl k hnl henc =>
    cases ri with
    | ldc c =>
      cases hcw; cases henc
      simp only [CodeWrite.encLdc, sinsnOf, formOf]
      split
      · simp [SInsn.encode, u16b_be16']
      · split <;> simp [SInsn.encode, u16b_be16']
    | load kd ix | store kd ix =>
      cases hcw; cases henc
      simp only [CodeWrite.encLocal, sinsnOf, formOf, localForm]
      split
      · simp only [SInsn.encode]; congr 1; omega
      · split <;> simp [SInsn.encode, u16b_be16']
    | iinc ix v =>
      cases hcw; cases henc
      simp only [CodeWrite.encIinc, sinsnOf, formOf]
      split
      · simp [SInsn.encode, CodeWrite.i8b, ofI8]
      · simp [SInsn.encode, u16b_be16', i16b_be16]
    | ret ix =>
      cases hcw; cases henc
      simp only [CodeWrite.encRet, sinsnOf, formOf]
      split <;> simp [SInsn.encode, u16b_be16']
    | invokeinterface m =>
      cases hcw
      simp only [encInsn] at henc
      split at henc
      · cases henc
      · rename_i c hc
        cases henc
        simp [sinsnOf, SInsn.encode, padOf, hc, u16b_be16', formOf]
    | branch op t =>
      simp only [cw, Option.map_eq_some_iff] at hcw
      obtain ⟨c, hc, rfl⟩ := hcw
      cases hnl
    | goto | jsr | tableswitch | lookupswitch => cases hcw; cases hnl
    | _ => cases hcw; cases henc; rfl

/-- **one instruction**: in an attempt without widened jumps the final bytes of instruction `i = cw cp ri` at `p` are the
specification's encoding of `sinsnOf cp ri`, every offset computed from the final label table -/
theorem encInsn_sinsn {ri : ClassRead.Insn} {cp : Nat} {i : CodeWrite.Insn} (hcw : cw cp ri = some i)
    {lbl lp : Nat → Option Nat} {p k : Nat} {r : Bytes × List Unwritten} {fin : Bytes} (hok : LabelsOk lbl lp)
    (hfit : ∀ t tp, lp t = some tp → fitsI16 (offs p tp) = true)
    (henc : encInsn false lbl p k i = .ok r) (hres : resolveAt p lp r.2 r.1 = some fin) :
    fin = (sinsnOf cp ri).encode (posOf lp) p := by
  obtain ⟨F, hP, hF⟩ := CodeWrite.encInsn_fin hok henc p
  exact (hF fin (hP.fin hres)).sinsn hcw hfit

end

/-! ## the code array of a method of at most 32767 bytes is `Spec.encInsns` of the writer's layout

A syntactic bound on the size of the code (`maxSize`, the longest form of every instruction) of at most 32767 bytes
means: every offset fits 16 bits, the first attempt of `write_code` succeeds, no jump is widened and no conditional
branch is turned into an inverted-condition trampoline.  Then the code array is the specification's encoding of
`sinsnOf` of every instruction, and the position of instruction `k` is `codePos` of that layout. -/

section
open CodeWrite (encInsn resolveAt LabelsOk offs fitsI16 Unwritten Chunks chunkBytes chunkUnw lblUpTo St)
open FrameReadBack (posOf)

/-- the longest encoding `write_code` has for an instruction (`wide` forms, `goto_w`, trampoline, 3 padding bytes). The
statements of the whole-class half (`maxSizeR`, `RCodeOk.size`, `writeCode_enc`) are phrased with it; arm for arm it is
`CodeWrite.maxLen` (`maxSize_eq_maxLen`), with which `Chunks.Inv.size` bounds an attempt -/
def maxSize : CodeWrite.Insn → Nat
  | .simple _ => 1
  | .bipush _ => 2
  | .sipush _ => 3
  | .ldc _ _ => 3
  | .load _ _ => 4
  | .store _ _ => 4
  | .iinc _ _ => 6
  | .ret _ => 4
  | .ifc _ _ => 8
  | .goto _ => 5
  | .jsr _ => 5
  | .tableswitch _ _ _ tb => 16 + 4 * tb.length
  | .lookupswitch _ ps => 12 + 8 * ps.length
  | .cp _ _ => 3
  | .invokeinterface _ _ => 5
  | .newarray _ => 2
  | .multianewarray _ _ => 4
  | .invokedynamic _ => 5

theorem maxSize_eq_maxLen (i : CodeWrite.Insn) : maxSize i = CodeWrite.maxLen i := by cases i <;> rfl

theorem fits_of_le {a b : Nat} (ha : a ≤ 32767) (hb : b ≤ 32767) : fitsI16 (offs a b) = true := by
  rw [CodeWrite.fitsI16_iff]
  unfold offs
  omega

/-- **no widened jump**: with the syntactic size bound the first attempt is the successful one. Of the attempt (`CodeNoPanic`,
`CodePatch`): `s` is the state after the pass with `wide = []` and `cs` its chunks, one per instruction from instruction 0
at position 0 (`Chunks [] …`: every instruction was emitted in its narrow form); the bytes of the pass are those of the
chunks; there is one position per instruction; patching the unwritten labels of the chunks with the final label table
(`labelPos`) gives the code `w'`, of the same size, not empty, at most 32767 bytes; the result is `w'` with the positions of
the pass and no instruction marked wide. `writeCode_enc` reads the chunks and the patching with `chunks_fin`. -/
theorem writeCode_first (is : List CodeWrite.Insn) (hb : (is.map maxSize).sum ≤ 32767) (res : CodeWrite.Result)
    (h : CodeWrite.writeCode is = .ok res) :
    ∃ (s : St) (w' : Array Nat) (cs : List (Bytes × List Unwritten)),
      Chunks [] s.pos 0 0 is cs ∧ s.w.toList = chunkBytes cs ∧ s.pos.size = is.length ∧
      resolveAt 0 (CodeWrite.labelPos s.pos s.w.size) (chunkUnw cs) (chunkBytes cs) = some w'.toList ∧
      w'.size = s.w.size ∧ w'.size ≠ 0 ∧ s.w.size ≤ 32767 ∧ res = ⟨w'.toList, s.pos, []⟩ := by
  unfold CodeWrite.writeCode CodeWrite.write at h
  cases hs : CodeWrite.pass [] is St.init with
  | error e => rw [hs] at h; cases e <;> simp at h
  | ok s =>
    rw [hs] at h
    simp only [] at h
    obtain ⟨cs, hc, hw, hu, hsz, _⟩ := CodeWrite.pass_chunks [] is St.init s hs
    simp only [St.init, List.size_toArray, List.length_nil, Nat.zero_add, List.nil_append,
      List.toList_toArray] at hc hw hu hsz
    have hsz0 : s.pos.size = 0 + is.length := by omega
    obtain ⟨b1, b2, _⟩ := CodeWrite.chunks_inv hc hsz0
    rw [← List.map_congr_left fun i _ => maxSize_eq_maxLen i] at b1
    have hlen : s.w.size = (chunkBytes cs).length := by rw [← hw]; simp
    have hsmall : s.w.size ≤ 32767 := by omega
    cases hres : CodeWrite.resolve (CodeWrite.labelPos s.pos s.w.size) s.unw.toList s.w with
    | fail => rw [hres] at h; simp at h
    | retry idx =>
      -- a retry names an open narrow jump whose offset does not fit; here every offset fits
      obtain ⟨u, hu', -, -, tp, htp, hnf⟩ := CodeWrite.resolve_retry _ _ _ _ hres
      rw [hu] at hu'
      -- the opcode of an open jump lies in front of its reserved space, inside the attempt
      have ok := (b2 u hu').1
      have h1 := ok.op
      have h1' := ok.hi
      have h2 : tp ≤ s.w.size := by
        unfold CodeWrite.labelPos at htp
        split at htp
        · rename_i x hx
          cases htp
          have hlt : u.label < s.pos.size := (Array.getElem?_eq_some_iff.mp hx).1
          have := CodeWrite.chunks_pos_le hc hsz0 u.label _ (Nat.zero_le _) hx
          omega
        · split at htp
          · cases htp; exact Nat.mod_le _ _
          · cases htp
      rw [fits_of_le (by omega) (by omega)] at hnf
      cases hnf
    | done w =>
      rw [hres] at h
      simp only [] at h
      split at h
      · cases h
      · rename_i hsz'
        cases h
        have hd := CodeWrite.resolve_done _ _ _ _ hres
        rw [hu, hw] at hd
        have hl : w.toList.length = (chunkBytes cs).length := CodeWrite.resolveAt_length _ _ _ _ _ hd
        exact ⟨s, w, cs, hc, hw, hsz, hd, by simp at hl; omega, by omega, hsmall, rfl⟩

/-- `is` is what `putInsns` made of the tree instructions `rcs` (with the pool index each one got) -/
inductive CwAll : List (ClassRead.Insn × Nat) → List CodeWrite.Insn → Prop
  | nil : CwAll [] []
  | cons {ri : ClassRead.Insn} {cp : Nat} {i : CodeWrite.Insn} {rcs : List (ClassRead.Insn × Nat)} {is : List CodeWrite.Insn} :
      cw cp ri = some i → CwAll rcs is → CwAll ((ri, cp) :: rcs) (i :: is)

theorem CwAll.length {rcs : List (ClassRead.Insn × Nat)} {is : List CodeWrite.Insn} (h : CwAll rcs is) :
    rcs.length = is.length := by
  induction h with
  | nil => rfl
  | cons _ _ ih => simp [ih]

def sinsnsOf (rcs : List (ClassRead.Insn × Nat)) : List SInsn := rcs.map (fun x => sinsnOf x.2 x.1)

theorem sinsnsOf_length (rcs : List (ClassRead.Insn × Nat)) : (sinsnsOf rcs).length = rcs.length := by simp [sinsnsOf]

/-- **the code array**: for a method within the size bound the written code is `encInsns` of the writer's layout, and
the label table is `codePos` of that layout (label `k` = instruction `k`, label `n` = `code_length`) -/
theorem writeCode_enc {rcs : List (ClassRead.Insn × Nat)} {is : List CodeWrite.Insn} (hcw : CwAll rcs is)
    (hb : (is.map maxSize).sum ≤ 32767) (res : CodeWrite.Result) (h : CodeWrite.writeCode is = .ok res) :
    res.code = encInsns (posOf res.label) (sinsnsOf rcs) 0 ∧
    (∀ j, j ≤ rcs.length → res.label j = some (codePos (sinsnsOf rcs) j)) ∧
    (∀ j, rcs.length < j → res.label j = none) ∧
    codePos (sinsnsOf rcs) rcs.length = res.code.length ∧ 0 < res.code.length ∧ res.code.length ≤ 32767 := by
  have hle := CodeWrite.label_eq is res h
  obtain ⟨s, w', cs, hc, hw, hsz, hd, hsize, hne, hsmall, rfl⟩ := writeCode_first is hb res h
  have hlen := hcw.length
  simp only [Array.length_toList] at hle ⊢
  have hlab : (CodeWrite.Result.label ⟨w'.toList, s.pos, []⟩) = CodeWrite.labelPos s.pos s.w.size := by
    funext t
    simp only [CodeWrite.Result.label, Array.length_toList, hsize]
  have hbound : ∀ t x, CodeWrite.Result.label ⟨w'.toList, s.pos, []⟩ t = some x → x ≤ 32767 := by
    intro t x ht
    rw [hle] at ht
    split at ht
    · cases ht; omega
    · have := CodeWrite.chunks_pos_le hc (by omega) t x (Nat.zero_le _) ht
      have hcl : s.w.size = (chunkBytes cs).length := by rw [← hw]; simp
      omega
  rw [← hlab] at hd
  -- motive: a code of final forms without widened jumps, ending within 32767, is the specification's encoding of `sinsnOf`
  -- of every instruction (`Fin.sinsn`), and the recorded positions are the running sums of the encoded sizes
  obtain ⟨e1, e3⟩ := CodeWrite.chunks_fin (fun t x hx => hlab ▸ CodeWrite.labelPos_sub _ _ t x hx)
    (fun t x ht => by have := hbound t x ht; omega)
    (M := fun k p is rest => ∀ rcs, CwAll rcs is → p + rest.length ≤ 32767 →
      rest = encInsns (posOf (CodeWrite.Result.label ⟨w'.toList, s.pos, []⟩)) (sinsnsOf rcs) p ∧
        ∀ j, j < rcs.length → s.pos[k + j]? = some (endPos ((sinsnsOf rcs).take j) p))
    (fun _ _ rcs hcw _ => by cases hcw; exact ⟨rfl, nofun⟩)
    (fun {k p _ _ fin _} _ hk hf ih rcs hcw hsm => by
      cases hcw with
      | @cons ri cp _ rcs' _ hcw1 hcwr =>
      rw [List.length_append] at hsm
      have hfin := hf.sinsn hcw1 fun t tp ht => fits_of_le (by omega) (hbound t tp ht)
      have hsize : (sinsnOf cp ri).size p = fin.length := by rw [← SInsn.encode_length (posOf _) p, ← hfin]
      obtain ⟨rfl, hc3⟩ := ih rcs' hcwr (by omega)
      refine ⟨by simp only [sinsnsOf, List.map_cons, encInsns, hsize, hfin], fun j hj => ?_⟩
      cases j with
      | zero => simpa [endPos] using hk
      | succ j =>
        simp only [sinsnsOf, List.map_cons, List.take_succ_cons, endPos, hsize]
        rw [show k + (j + 1) = k + 1 + j by omega]
        exact hc3 j (by simp at hj; omega))
    hc hd rcs hcw (by simp; omega)
  simp only [Nat.zero_add] at e3
  have hcp : codePos (sinsnsOf rcs) rcs.length = w'.size := by
    rw [← sinsnsOf_length, codePos_length, ← encInsns_length (posOf (CodeWrite.Result.label ⟨w'.toList, s.pos, []⟩)), ← e1]
    simp
  refine ⟨e1, fun j hj => ?_, fun j hj => ?_, by omega, by omega, by omega⟩
  · rw [hle]
    by_cases hjn : j = rcs.length
    · rw [if_pos (hjn.trans hlen), hjn, hcp]
    · rw [if_neg (by omega), e3 j (by omega)]
      rfl
  · rw [hle, if_neg (by omega)]
    exact Array.getElem?_eq_none (by omega)

theorem flatMap_congr {α β : Type} {f g : α → List β} (xs : List α) (h : ∀ x ∈ xs, f x = g x) :
    xs.flatMap f = xs.flatMap g :=
  congrArg List.flatten (List.map_congr_left h)

theorem SInsn.encode_congr {pos pos' : Nat → Nat} (a : Nat) (si : SInsn)
    (h : ∀ t ∈ targetsOf si.insn, pos t = pos' t) : si.encode pos a = si.encode pos' a := by
  -- the encoding reads `pos` only through `relOff` of the targets
  have hr : ∀ t ∈ targetsOf si.insn, relOff pos a t = relOff pos' a t := fun t ht => by rw [relOff, relOff, h t ht]
  obtain ⟨insn, form, cp, pad⟩ := si
  cases insn with
  | branch _ t | goto t | jsr t =>
    cases form <;> simp only [SInsn.encode, hr t List.mem_cons_self]
  | tableswitch d lo hi tbl =>
    have ht := flatMap_congr (f := fun t => be32 (ofI32 (relOff pos a t))) (g := fun t => be32 (ofI32 (relOff pos' a t)))
      tbl fun t ht => by rw [hr t (List.mem_cons_of_mem _ ht)]
    simp only [SInsn.encode, ht, hr d List.mem_cons_self]
  | lookupswitch d pairs =>
    have ht := flatMap_congr (f := fun kt => be32 (ofI32 kt.1) ++ be32 (ofI32 (relOff pos a kt.2)))
      (g := fun kt => be32 (ofI32 kt.1) ++ be32 (ofI32 (relOff pos' a kt.2)))
      pairs fun kt hkt => by rw [hr kt.2 (List.mem_cons_of_mem _ (List.mem_map_of_mem hkt))]
    simp only [SInsn.encode, ht, hr d List.mem_cons_self]
  | _ => cases form <;> rfl

theorem encInsns_congr {pos pos' : Nat → Nat} : ∀ (xs : List SInsn) (a : Nat),
    (∀ si ∈ xs, ∀ t ∈ targetsOf si.insn, pos t = pos' t) → encInsns pos xs a = encInsns pos' xs a
  | [], _, _ => rfl
  | x :: xs, a, h => by
    simp only [encInsns]
    rw [SInsn.encode_congr a x (h x List.mem_cons_self),
      encInsns_congr xs _ (fun si hsi => h si (List.mem_cons_of_mem _ hsi))]

end

/-- index `i` holds a `Fieldref` (9) / `Methodref` (10) / `InterfaceMethodref` (11) for `r` -/
def RefAt (p : Pool) (i kind : Nat) (r : MemberRef) : Prop :=
  ∃ c nt, p.get i = some (if kind = 9 then .fieldRef c nt else if kind = 10 then .methodRef c nt else .ifaceMethodRef c nt) ∧
    ClsAt p c r.cls ∧ NatAt p nt r.name r.desc

theorem RefAt.mono {p q : Pool} (h : Le p q) {i kind : Nat} {r : MemberRef} : RefAt p i kind r → RefAt q i kind r
  | ⟨c, nt, a, b, d⟩ => ⟨c, nt, h _ _ a, b.mono h, d.mono h⟩

theorem putRef_spec {p p' : Pool} {kind : Nat} {r : MemberRef} {i : Nat} (hg : Good p)
    (h : putRef p kind r = .ok (i, p')) : Step p p' ∧ RefAt p' i kind r ∧ i < 65536 := by
  have h' := opt_eq_ok.mp h
  unfold PoolWrite.putRef at h'
  split at h'
  · cases h'
  · rename_i c p1 h1
    split at h'
    · cases h'
    · rename_i nt p2 h2
      obtain ⟨s1, a1, _⟩ := putClass_spec hg (opt_eq_ok.mpr h1)
      obtain ⟨s2, a2, _⟩ := putNameAndType_spec s1.good (opt_eq_ok.mpr h2)
      obtain ⟨s3, a3, b3⟩ := put_spec s2.good (opt_eq_ok.mpr h')
      exact ⟨(s1.trans s2).trans s3, ⟨c, nt, a3, a1.mono (s2.trans s3).le, a2.mono s3.le⟩, b3⟩

/-- names a member reference must have for the reader to accept it -/
def fieldRefOk (r : MemberRef) : Prop := validObjClassName r.cls = true ∧ validUnqualified r.name = true
def methodRefOk (r : MemberRef) : Prop := validClassName r.cls = true ∧ validMethodName r.name = true

theorem getFieldNameAndType_of {q : Pool} (hq : Good q) {i : Nat} {n d : JStr} (h : NatAt q i n d)
    (hv : validUnqualified n = true) : (rpool q).getFieldNameAndType i = .ok (n, d) := by
  simp [Pool.getFieldNameAndType, getNameAndType_of hq h, checked, hv, bind, Outcome.bind]

theorem getFieldRef_of {q : Pool} (hq : Good q) {i : Nat} {r : MemberRef} (h : RefAt q i 9 r) (hv : fieldRefOk r) :
    (rpool q).getFieldRef i = .ok r := by
  obtain ⟨c, nt, a, b, d⟩ := h
  simp only [if_true] at a
  simp [Pool.getFieldRef, rget_of_get hq.1 a, conv, getObjClass_of hq b hv.1, getFieldNameAndType_of hq d hv.2, bind,
    Outcome.bind]

theorem getMethodRef_of {q : Pool} (hq : Good q) {i : Nat} {r : MemberRef} (h : RefAt q i 10 r) (hv : methodRefOk r) :
    (rpool q).getMethodRef i = .ok r := by
  obtain ⟨c, nt, a, b, d⟩ := h
  simp only [show (10 : Nat) ≠ 9 by decide, if_false, if_true] at a
  simp [Pool.getMethodRef, rget_of_get hq.1 a, conv, getClass_of hq b hv.1, getMethodNameAndType_of hq d hv.2, bind,
    Outcome.bind]

theorem getInterfaceMethodRef_of {q : Pool} (hq : Good q) {i : Nat} {r : MemberRef} (h : RefAt q i 11 r)
    (hv : methodRefOk r) : (rpool q).getInterfaceMethodRef i = .ok r := by
  obtain ⟨c, nt, a, b, d⟩ := h
  simp only [show (11 : Nat) ≠ 9 by decide, show (11 : Nat) ≠ 10 by decide, if_false] at a
  simp [Pool.getInterfaceMethodRef, rget_of_get hq.1 a, conv, getClass_of hq b hv.1, getMethodNameAndType_of hq d hv.2,
    bind, Outcome.bind]

theorem getMethodRefOrInterface_of {q : Pool} (hq : Good q) {i : Nat} {r : MemberRef} {itf : Bool}
    (h : RefAt q i (if itf then 11 else 10) r) (hv : methodRefOk r) :
    (rpool q).getMethodRefOrInterface i = .ok (r, itf) := by
  obtain ⟨c, nt, a, b, d⟩ := h
  cases itf with
  | true | false =>
    simp [Pool.getMethodRefOrInterface, rget_of_get hq.1 a, conv, getClass_of hq b hv.1, getMethodNameAndType_of hq d hv.2,
      bind, Outcome.bind]

/-- a method handle of the tree the reader accepts again: reference kind 1..9, the `bool` only on `InvokeStatic` /
`InvokeSpecial`, names valid for the kind of reference -/
def handleOk (h : ClassRead.Handle) : Prop :=
  1 ≤ h.kind ∧ h.kind ≤ 9 ∧ ((h.kind ≠ 6 ∧ h.kind ≠ 7) → h.itf = false) ∧
    (if h.kind ≤ 4 then fieldRefOk h.ref else methodRefOk h.ref)

def HandleAt (p : Pool) (i : Nat) (h : ClassRead.Handle) : Prop :=
  ∃ ri, p.get i = some (.methodHandle h.kind ri) ∧ RefAt p ri (handleOf h).refKind h.ref

theorem HandleAt.mono {p q : Pool} (hl : Le p q) {i : Nat} {h : ClassRead.Handle} : HandleAt p i h → HandleAt q i h
  | ⟨ri, a, b⟩ => ⟨ri, hl _ _ a, b.mono hl⟩

theorem putHandle_spec {p p' : Pool} {h : ClassRead.Handle} {i : Nat} (hg : Good p)
    (hp : putHandle p h = .ok (i, p')) : Step p p' ∧ HandleAt p' i h ∧ i < 65536 := by
  have h' := opt_eq_ok.mp hp
  unfold BootstrapWrite.putHandle at h'
  split at h'
  · cases h'
  · rename_i ri p1 h1
    obtain ⟨s1, a1, _⟩ := putRef_spec (r := h.ref) (kind := (handleOf h).refKind) hg (opt_eq_ok.mpr h1)
    obtain ⟨s2, a2, b2⟩ := put_spec s1.good (opt_eq_ok.mpr h')
    exact ⟨s1.trans s2, ⟨ri, a2, a1.mono s2.le⟩, b2⟩

theorem getMethodHandle_of {q : Pool} (hq : Good q) {i : Nat} {h : ClassRead.Handle} (ha : HandleAt q i h)
    (hv : handleOk h) : (rpool q).getMethodHandle i = .ok h := by
  obtain ⟨ri, a, b⟩ := ha
  obtain ⟨h1, h9, hitf, hn⟩ := hv
  obtain ⟨kind, ref, itf⟩ := h
  simp only [handleOf] at b
  simp only at h1 h9 hitf hn a
  unfold Pool.getMethodHandle
  rw [rget_of_get hq.1 a]
  -- the reader asks for the kind of reference `handleOf` chose: by the reference kind, and for 6 and 7 by the `bool`
  have hk : (kind = 1 ∨ kind = 2 ∨ kind = 3 ∨ kind = 4) ∨ (kind = 5 ∨ kind = 8) ∨ (kind = 6 ∨ kind = 7) ∨ kind = 9 := by
    omega
  rcases hk with hk | hk | hk | rfl
  · rcases hk with rfl | rfl | rfl | rfl <;>
    · cases hitf (by decide)
      simp [conv, getFieldRef_of hq b hn, bind, Outcome.bind]
  · rcases hk with rfl | rfl <;>
    · cases hitf (by decide)
      simp [conv, getMethodRef_of hq b hn, bind, Outcome.bind]
  · have b' : RefAt q ri (if itf then 11 else 10) ref := by
      rcases hk with rfl | rfl <;> cases itf <;> exact b
    rcases hk with rfl | rfl <;> simp [conv, getMethodRefOrInterface_of hq b' hn, bind, Outcome.bind]
  · cases hitf (by decide)
    simp [conv, getInterfaceMethodRef_of hq b hn, bind, Outcome.bind]

/-- loadable constants without bootstrap arguments: everything but `Dynamic` (those: `loadableOk2`) -/
def loadableOk : Loadable → Prop
  | .cls c => validClassName c = true
  | .handle h => handleOk h
  | .dyn .. => False
  | _ => True

def LoadableAt (p : Pool) (i : Nat) : Loadable → Prop
  | .int v => p.get i = some (.int v)
  | .float b => p.get i = some (.float b)
  | .long v => p.get i = some (.long v)
  | .double b => p.get i = some (.double b)
  | .cls c => ClsAt p i c
  | .str s => StrAt p i s
  | .handle h => HandleAt p i h
  | .mtype d => ∃ u, p.get i = some (.methodType u) ∧ Utf8At p u d
  | .dyn .. => False

theorem LoadableAt.mono {p q : Pool} (h : Le p q) {i : Nat} {c : Loadable} (a : LoadableAt p i c) : LoadableAt q i c := by
  cases c with
  | int _ | float _ | long _ | double _ => exact h _ _ a
  | cls _ | str _ | handle _ =>
    simp only [LoadableAt] at a ⊢
    exact a.mono h
  | mtype _ =>
    obtain ⟨u, x, y⟩ := a
    exact ⟨u, h _ _ x, y.mono h⟩
  | dyn _ _ _ _ => cases a

/-- the constants that add no bootstrap row: `put_loadable` hands the rows through -/
theorem rows_kept {x : Except Fail (Nat × Pool)} {bs bs' : List Bsm} {i : Nat} {p' : Pool}
    (h : (match x with | .ok (i, p) => .ok (i, p, bs) | .error e => .error e : Except Fail (Nat × Pool × List Bsm)) =
      .ok (i, p', bs')) : x = .ok (i, p') ∧ bs' = bs := by
  cases x with
  | error e => cases h
  | ok v => cases h; exact ⟨rfl, rfl⟩

theorem putLoadable_spec {p p' : Pool} {bs bs' : List Bsm} {c : Loadable} {i : Nat} (hg : Good p) (hok : loadableOk c)
    (h : putLoadable p bs c = .ok (i, p', bs')) : bs' = bs ∧ Step p p' ∧ LoadableAt p' i c ∧ i < 65536 := by
  cases c
  case dyn => cases hok
  all_goals
    rw [putLoadable] at h
    obtain ⟨h1, rfl⟩ := rows_kept h
    refine ⟨rfl, ?_⟩
  case cls => exact putClass_spec hg h1
  case str => exact putString_spec hg h1
  case handle => exact putHandle_spec hg h1
  case mtype => exact putWrap_spec .methodType hg h1
  all_goals exact put_spec hg h1

theorem getLoadableFuel_succ (rp : ClassRead.Pool) (bsms : Option (List ClassRead.Bsm)) (fuel i : Nat) :
    rp.getLoadableFuel bsms (fuel + 1) i = (do
      match ← rp.get i with
      | .int v => Outcome.ok (.int v)
      | .float v => Outcome.ok (.float v)
      | .long v => Outcome.ok (.long v)
      | .double v => Outcome.ok (.double v)
      | .cls _ => do let c ← rp.getClass i; pure (.cls c)
      | .str n => do let s ← rp.getUtf8 n; pure (.str s)
      | .methodHandle _ _ => do let h ← rp.getMethodHandle i; pure (.handle h)
      | .methodType d => do let s ← rp.getUtf8 d; pure (.mtype s)
      | .dynamic b nt => do
        let (name, desc) ← rp.getFieldNameAndType nt
        let m ← Pool.bsmAt bsms b
        let args ← Pool.mapArgs (rp.getLoadableFuel bsms fuel) m.args
        pure (.dyn name desc m.handle args)
      | _ => Outcome.err) := by
  rw [Pool.getLoadableFuel]
  rfl

theorem getLoadableFuel_base {q : Pool} (hq : Good q) (bsms : Option (List ClassRead.Bsm)) (fuel : Nat) {i : Nat}
    {c : Loadable} (h : LoadableAt q i c) (hok : loadableOk c) : (rpool q).getLoadableFuel bsms (fuel + 1) i = .ok c := by
  rw [getLoadableFuel_succ]
  cases c with
  | dyn n d hd args => cases hok
  | int v | float v | long v | double v => simp [rget_of_get hq.1 h, conv, bind, Outcome.bind]
  | cls c =>
    have hc := getClass_of hq h hok
    obtain ⟨u, a, b⟩ := h
    simp [rget_of_get hq.1 a, conv, hc, bind, Outcome.bind]
  | handle hd =>
    have hc := getMethodHandle_of hq h hok
    obtain ⟨ri, a, b⟩ := h
    simp [rget_of_get hq.1 a, conv, hc, bind, Outcome.bind]
  | str c | mtype c =>
    obtain ⟨u, a, b⟩ := h
    simp [rget_of_get hq.1 a, conv, getUtf8_of hq b, bind, Outcome.bind]

theorem getLoadable_of {q : Pool} (hq : Good q) (bsms : Option (List ClassRead.Bsm)) {i : Nat} {c : Loadable}
    (h : LoadableAt q i c) (hok : loadableOk c) : (rpool q).getLoadable bsms i = .ok c :=
  getLoadableFuel_base hq bsms _ h hok

/-! ## `Dynamic` constants, `invokedynamic` and the bootstrap-method table

`put_bootstrap_method` collects `(handle, argument indices)` rows while the members are written; the row index goes into
the `Dynamic` / `InvokeDynamic` pool entry, the handles enter the pool only when the `BootstrapMethods` attribute is
written.  `bsTable bs` is the table the reader gets from that attribute; the rows only ever grow at the end (`BsExt`),
so an index handed out keeps its row in the final table. -/

/-- the handle of a row as the reader resolves it -/
def rdHandle (h : BootstrapWrite.Handle) : ClassRead.Handle :=
  ⟨h.kind, ⟨h.cls, h.name, h.desc⟩, decide ((h.kind = 6 ∨ h.kind = 7) ∧ h.refKind = 11)⟩

theorem rdHandle_handleOf {h : ClassRead.Handle} (hok : handleOk h) : rdHandle (handleOf h) = h := by
  obtain ⟨kind, ⟨cls, name, desc⟩, itf⟩ := h
  obtain ⟨h1, h9, hitf, _⟩ := hok
  simp only at h1 h9 hitf
  simp only [rdHandle, handleOf]
  congr 1
  by_cases h67 : kind = 6 ∨ kind = 7
  · have h4 : ¬ kind ≤ 4 := by omega
    have h9' : ¬ kind = 9 := by omega
    cases itf <;> simp [h67, h4, h9']
  · have := hitf (by omega)
    subst this
    simp [h67]

def rdBsm (b : Bsm) : ClassRead.Bsm := ⟨rdHandle b.handle, b.args⟩

/-- the bootstrap table the reader has: `none` without a `BootstrapMethods` attribute (written only when a row exists) -/
def bsTable (bs : List Bsm) : Option (List ClassRead.Bsm) := if bs.isEmpty then none else some (bs.map rdBsm)

def BsExt (bs bs' : List Bsm) : Prop := ∃ r, bs' = bs ++ r

theorem BsExt.refl (bs : List Bsm) : BsExt bs bs := ⟨[], by simp⟩
theorem BsExt.trans {a b c : List Bsm} : BsExt a b → BsExt b c → BsExt a c
  | ⟨r, hr⟩, ⟨s, hs⟩ => ⟨r ++ s, by rw [hs, hr, List.append_assoc]⟩
theorem BsExt.get {bs bs' : List Bsm} (h : BsExt bs bs') {i : Nat} {b : Bsm} (hi : bs[i]? = some b) : bs'[i]? = some b := by
  obtain ⟨r, rfl⟩ := h
  have hlt : i < bs.length := (List.getElem?_eq_some_iff.mp hi).1
  rw [List.getElem?_append_left hlt]
  exact hi

/-- rows the reader accepts: at most 65536 of them, handles of the tree (`handleOk`), argument indices in `u16` -/
structure BsOk (bs : List Bsm) : Prop where
  len : bs.length ≤ 65536
  handles : ∀ b ∈ bs, ∃ h : ClassRead.Handle, handleOk h ∧ b.handle = handleOf h
  args : ∀ b ∈ bs, ∀ a ∈ b.args, a < 65536

theorem bsOk_nil : BsOk [] := ⟨by simp, by simp, by simp⟩

theorem bput_spec {bs bs' : List Bsm} {b : Bsm} {i : Nat} (hok : BsOk bs) (hh : ∃ h, handleOk h ∧ b.handle = handleOf h)
    (ha : ∀ a ∈ b.args, a < 65536) (h : BootstrapWrite.put bs b = some (i, bs')) :
    BsExt bs bs' ∧ BsOk bs' ∧ bs'[i]? = some b ∧ i < 65536 := by
  have hg := BootstrapWrite.put_get h
  have hr := BootstrapWrite.put_range hok.len h
  unfold BootstrapWrite.put at h
  split at h
  · cases h
    exact ⟨BsExt.refl _, hok, hg, by omega⟩
  · split at h
    · cases h
    · cases h
      refine ⟨⟨[b], rfl⟩, ⟨hr.2, ?_, ?_⟩, hg, by omega⟩
      · intro x hx
        rcases List.mem_append.mp hx with hx | hx
        · exact hok.handles x hx
        · simp at hx; subst hx; exact hh
      · intro x hx
        rcases List.mem_append.mp hx with hx | hx
        · exact hok.args x hx
        · simp at hx; subst hx; exact ha

theorem bsTable_get {bs : List Bsm} {i : Nat} {b : Bsm} (h : bs[i]? = some b) :
    Pool.bsmAt (bsTable bs) i = .ok (rdBsm b) := by
  have hne : bs.isEmpty = false := by
    cases bs with
    | nil => simp at h
    | cons _ _ => rfl
  simp [bsTable, hne, Pool.bsmAt, h, Outcome.ofOption]

/-! ### loadable constants, `Dynamic` included

The names ending in `2` (`loadableOk2`, `LoadableAt2`, `putLoadable_spec2`, `getLoadableFuel_of2`, `Sound2`, …) are the
versions with `Dynamic` constants and therefore with the bootstrap table `bs` beside the pool; the names without suffix are
the constants without bootstrap arguments (`ldepth c = 0`), for which the pool alone is enough; `loadable_base` says that
on those the two versions agree. -/

mutual
/-- nesting of `Dynamic` constants through bootstrap arguments -/
def ldepth : Loadable → Nat
  | .dyn _ _ _ args => ldepths args + 1
  | .int _ => 0 | .float _ => 0 | .long _ => 0 | .double _ => 0 | .cls _ => 0 | .str _ => 0 | .handle _ => 0 | .mtype _ => 0
def ldepths : List Loadable → Nat
  | [] => 0
  | a :: as => max (ldepth a) (ldepths as)
end

mutual
/-- names the reader validates inside a loadable constant -/
def loadableOk2 : Loadable → Prop
  | .cls c => validClassName c = true
  | .handle h => handleOk h
  | .dyn name _ h args => validUnqualified name = true ∧ handleOk h ∧ loadablesOk2 args
  | .int _ => True | .float _ => True | .long _ => True | .double _ => True | .str _ => True | .mtype _ => True
def loadablesOk2 : List Loadable → Prop
  | [] => True
  | a :: as => loadableOk2 a ∧ loadablesOk2 as
end

mutual
/-- what pool index `i` holds for a loadable constant, given the bootstrap rows so far -/
def LoadableAt2 (p : Pool) (bs : List Bsm) : Nat → Loadable → Prop
  | i, .dyn name desc h args => ∃ b nt as, p.get i = some (.dynamic b nt) ∧ NatAt p nt name desc ∧
      bs[b]? = some ⟨handleOf h, as⟩ ∧ LoadablesAt2 p bs as args
  | i, .int v => LoadableAt p i (.int v)
  | i, .float v => LoadableAt p i (.float v)
  | i, .long v => LoadableAt p i (.long v)
  | i, .double v => LoadableAt p i (.double v)
  | i, .cls c => LoadableAt p i (.cls c)
  | i, .str s => LoadableAt p i (.str s)
  | i, .handle h => LoadableAt p i (.handle h)
  | i, .mtype d => LoadableAt p i (.mtype d)
def LoadablesAt2 (p : Pool) (bs : List Bsm) : List Nat → List Loadable → Prop
  | [], [] => True
  | a :: as, c :: cs => LoadableAt2 p bs a c ∧ LoadablesAt2 p bs as cs
  | [], _ :: _ => False
  | _ :: _, [] => False
end

mutual
theorem LoadableAt2.mono {p q : Pool} {bs bs' : List Bsm} (hl : Le p q) (hb : BsExt bs bs') :
    ∀ {i : Nat} (c : Loadable), LoadableAt2 p bs i c → LoadableAt2 q bs' i c
  | i, c, ha => by
    cases c with
    | dyn name desc h args =>
      simp only [LoadableAt2] at ha ⊢
      obtain ⟨b, nt, as, h1, h2, h3, h4⟩ := ha
      exact ⟨b, nt, as, hl _ _ h1, h2.mono hl, hb.get h3, LoadablesAt2.mono hl hb as args h4⟩
    | _ => simp only [LoadableAt2] at ha ⊢; exact ha.mono hl
theorem LoadablesAt2.mono {p q : Pool} {bs bs' : List Bsm} (hl : Le p q) (hb : BsExt bs bs') :
    ∀ (as : List Nat) (cs : List Loadable), LoadablesAt2 p bs as cs → LoadablesAt2 q bs' as cs
  | [], [], _ => by simp only [LoadablesAt2]
  | a :: as, c :: cs, ha => by
    simp only [LoadablesAt2] at ha ⊢
    exact ⟨LoadableAt2.mono hl hb c ha.1, LoadablesAt2.mono hl hb as cs ha.2⟩
  | [], _ :: _, ha => by simp only [LoadablesAt2] at ha
  | _ :: _, [], ha => by simp only [LoadablesAt2] at ha
end

theorem loadable_base {c : Loadable} (hd : ldepth c = 0) : (loadableOk2 c ↔ loadableOk c) ∧
    ∀ p bs i, (LoadableAt2 p bs i c ↔ LoadableAt p i c) := by
  cases c with
  | dyn n d h args => simp [ldepth] at hd
  | _ => exact ⟨by simp [loadableOk2, loadableOk], fun _ _ _ => by simp [LoadableAt2]⟩

mutual
/-- **`put_loadable`**, `Dynamic` constants included: the returned index holds the constant, new bootstrap rows are
appended, every row stays acceptable -/
theorem putLoadable_spec2 : ∀ (c : Loadable) {p p' : Pool} {bs bs' : List Bsm} {i : Nat}, Good p → BsOk bs → loadableOk2 c →
    putLoadable p bs c = .ok (i, p', bs') →
    Step p p' ∧ BsExt bs bs' ∧ BsOk bs' ∧ LoadableAt2 p' bs' i c ∧ i < 65536
  | c, p, p', bs, bs', i, hg, hb, hok, hp => by
    cases c with
    | dyn name desc h args =>
      simp only [loadableOk2] at hok
      rw [putLoadable] at hp
      split at hp
      · cases hp
      · rename_i nt p1 h1
        split at hp
        · cases hp
        · rename_i as p2 bs2 h2
          split at hp
          · cases hp
          · rename_i b bs3 h3
            split at hp
            · cases hp
            · rename_i i' p3 h4
              have := Except.ok.inj hp
              simp only [Prod.mk.injEq] at this
              obtain ⟨rfl, rfl, rfl⟩ := this
              obtain ⟨s1, a1, _⟩ := putNameAndType_spec hg h1
              obtain ⟨s2, e2, o2, a2, hlt2⟩ := putLoadables_spec2 args s1.good hb hok.2.2 h2
              obtain ⟨e3, o3, g3, hb3⟩ := bput_spec (b := ⟨handleOf h, as⟩) o2 ⟨h, hok.2.1, rfl⟩ hlt2 h3
              obtain ⟨s4, a4, hi4⟩ := put_spec s2.good h4
              refine ⟨s1.trans (s2.trans s4), e2.trans e3, o3, ?_, hi4⟩
              simp only [LoadableAt2]
              exact ⟨b, nt, as, a4, a1.mono (s2.trans s4).le, g3, LoadablesAt2.mono s4.le e3 as args a2⟩
    | _ =>
      obtain ⟨rfl, s, a, hi⟩ := putLoadable_spec hg ((loadable_base rfl).1.mp hok) hp
      exact ⟨s, BsExt.refl _, hb, ((loadable_base rfl).2 _ _ _).mpr a, hi⟩
theorem putLoadables_spec2 : ∀ (cs : List Loadable) {p p' : Pool} {bs bs' : List Bsm} {is : List Nat}, Good p → BsOk bs →
    loadablesOk2 cs → putLoadables p bs cs = .ok (is, p', bs') →
    Step p p' ∧ BsExt bs bs' ∧ BsOk bs' ∧ LoadablesAt2 p' bs' is cs ∧ ∀ i ∈ is, i < 65536
  | [], p, p', bs, bs', is, hg, hb, _, hp => by
    rw [putLoadables] at hp
    have := Except.ok.inj hp
    simp only [Prod.mk.injEq] at this
    obtain ⟨rfl, rfl, rfl⟩ := this
    exact ⟨Step.refl hg, BsExt.refl _, hb, by simp only [LoadablesAt2], by simp⟩
  | c :: cs, p, p', bs, bs', is, hg, hb, hok, hp => by
    simp only [loadablesOk2] at hok
    rw [putLoadables] at hp
    split at hp
    · cases hp
    · rename_i i p1 bs1 h1
      split at hp
      · cases hp
      · rename_i is' p2 bs2 h2
        have := Except.ok.inj hp
        simp only [Prod.mk.injEq] at this
        obtain ⟨rfl, rfl, rfl⟩ := this
        obtain ⟨s1, e1, o1, a1, hi1⟩ := putLoadable_spec2 c hg hb hok.1 h1
        obtain ⟨s2, e2, o2, a2, hi2⟩ := putLoadables_spec2 cs s1.good o1 hok.2 h2
        refine ⟨s1.trans s2, e1.trans e2, o2, ?_, ?_⟩
        · simp only [LoadablesAt2]
          exact ⟨LoadableAt2.mono s2.le e2 c a1, a2⟩
        · intro x hx
          rcases List.mem_cons.mp hx with rfl | hx
          · exact hi1
          · exact hi2 x hx
end

mutual
/-- **`get_loadable`** with enough depth budget resolves a written index to the constant it was put for, bootstrap
arguments included -/
theorem getLoadableFuel_of2 {q : Pool} {bs : List Bsm} (hq : Good q) : ∀ (c : Loadable) {i : Nat} (fuel : Nat),
    LoadableAt2 q bs i c → loadableOk2 c → ldepth c < fuel → (rpool q).getLoadableFuel (bsTable bs) fuel i = .ok c
  -- no alternative for `fuel = 0`: `match` refutes `ldepth c < 0` itself
  | c, i, fuel + 1, ha, hok, hd => by
    cases c with
    | dyn name desc h args =>
      simp only [LoadableAt2] at ha
      simp only [loadableOk2] at hok
      simp only [ldepth] at hd
      obtain ⟨b, nt, as, h1, h2, h3, h4⟩ := ha
      rw [getLoadableFuel_succ]
      have hargs := mapArgs_of2 hq args as fuel h4 hok.2.2 (by omega)
      simp [rget_of_get hq.1 h1, conv, getFieldNameAndType_of hq h2 hok.1, bsTable_get h3, rdBsm, rdHandle_handleOf hok.2.1,
        hargs, bind, Outcome.bind]
    | _ => exact getLoadableFuel_base hq _ fuel (((loadable_base rfl).2 _ _ _).mp ha) ((loadable_base rfl).1.mp hok)
theorem mapArgs_of2 {q : Pool} {bs : List Bsm} (hq : Good q) : ∀ (cs : List Loadable) (as : List Nat) (fuel : Nat),
    LoadablesAt2 q bs as cs → loadablesOk2 cs → ldepths cs < fuel →
    Pool.mapArgs ((rpool q).getLoadableFuel (bsTable bs) fuel) as = .ok cs
  | [], [], _, _, _, _ => rfl
  | c :: cs, a :: as, fuel, ha, hok, hd => by
    simp only [LoadablesAt2] at ha
    simp only [loadablesOk2] at hok
    simp only [ldepths] at hd
    have h1 := getLoadableFuel_of2 hq c fuel ha.1 hok.1 (by omega)
    have h2 := mapArgs_of2 hq cs as fuel ha.2 hok.2 (by omega)
    simp [Pool.mapArgs, h1, h2, bind, Outcome.bind]
  | [], _ :: _, _, ha, _, _ => by simp only [LoadablesAt2] at ha
  | _ :: _, [], _, ha, _, _ => by simp only [LoadablesAt2] at ha
end

def IndyAt (p : Pool) (bs : List Bsm) (i : Nat) (d : ClassRead.InvokeDynamic) : Prop :=
  ∃ b nt as, p.get i = some (.invokeDynamic b nt) ∧ NatAt p nt d.name d.desc ∧ bs[b]? = some ⟨handleOf d.handle, as⟩ ∧
    LoadablesAt2 p bs as d.args

theorem IndyAt.mono {p q : Pool} {bs bs' : List Bsm} (hl : Le p q) (hb : BsExt bs bs') {i : Nat} {d : ClassRead.InvokeDynamic} :
    IndyAt p bs i d → IndyAt q bs' i d
  | ⟨b, nt, as, h1, h2, h3, h4⟩ => ⟨b, nt, as, hl _ _ h1, h2.mono hl, hb.get h3, LoadablesAt2.mono hl hb as d.args h4⟩

/-- an `invokedynamic` call site the reader accepts: a valid method name, a handle of the tree, bootstrap arguments within
the reader's `MAX_BOOTSTRAP_ARGUMENT_DEPTH = 16`: the arguments of the call site are resolved at depth 1, so `Dynamic`
constants may nest at most 15 deep inside them (`ldepths d.args < 16`) -/
def indyOk (d : ClassRead.InvokeDynamic) : Prop :=
  validMethodName d.name = true ∧ handleOk d.handle ∧ loadablesOk2 d.args ∧ ldepths d.args < 16

theorem putInvokeDynamic_spec {p p' : Pool} {bs bs' : List Bsm} {d : ClassRead.InvokeDynamic} {i : Nat} (hg : Good p)
    (hb : BsOk bs) (hok : indyOk d) (h : putInvokeDynamic p bs d = .ok (i, p', bs')) :
    Step p p' ∧ BsExt bs bs' ∧ BsOk bs' ∧ IndyAt p' bs' i d ∧ i < 65536 := by
  obtain ⟨⟨nt, p1⟩, h1, h⟩ := Except.bind_eq_ok.mp h
  obtain ⟨⟨as, p2, bs2⟩, h2, h⟩ := Except.bind_eq_ok.mp h
  obtain ⟨⟨b, bs3⟩, h3, h⟩ := Except.bind_eq_ok.mp h
  obtain ⟨⟨i', p3⟩, h4, h⟩ := Except.bind_eq_ok.mp h
  have := Except.ok.inj h
  simp only [Prod.mk.injEq] at this
  obtain ⟨rfl, rfl, rfl⟩ := this
  obtain ⟨s1, a1, _⟩ := putNameAndType_spec hg h1
  obtain ⟨s2, e2, o2, a2, hlt2⟩ := putLoadables_spec2 d.args s1.good hb hok.2.2.1 h2
  obtain ⟨e3, o3, g3, hb3⟩ := bput_spec (b := ⟨handleOf d.handle, as⟩) o2 ⟨d.handle, hok.2.1, rfl⟩ hlt2 (opt_eq_ok.mp h3)
  obtain ⟨s4, a4, hi4⟩ := put_spec s2.good h4
  exact ⟨s1.trans (s2.trans s4), e2.trans e3, o3,
    ⟨b, nt, as, a4, a1.mono (s2.trans s4).le, g3, LoadablesAt2.mono s4.le e3 as d.args a2⟩, hi4⟩

theorem getInvokeDynamic_of {q : Pool} {bs : List Bsm} (hq : Good q) {i : Nat} {d : ClassRead.InvokeDynamic}
    (ha : IndyAt q bs i d) (hok : indyOk d) : (rpool q).getInvokeDynamic (bsTable bs) i = .ok d := by
  obtain ⟨b, nt, as, h1, h2, h3, h4⟩ := ha
  have hargs := mapArgs_of2 hq d.args as 16 h4 hok.2.2.1 hok.2.2.2
  obtain ⟨name, desc, handle, args⟩ := d
  simp only at h2 h3 h4 hargs hok
  simp [Pool.getInvokeDynamic, rget_of_get hq.1 h1, conv, getMethodNameAndType_of hq h2 hok.1, bsTable_get h3, rdBsm,
    rdHandle_handleOf hok.2.1, hargs, bind, Outcome.bind]

/-- `P` holds of the reader's pool table and bootstrap table of everything the writer can still reach: a later pool,
more bootstrap rows -/
def Sound2 (p : Pool) (bs : List Bsm) (P : ClassRead.Pool → Option (List ClassRead.Bsm) → Prop) : Prop :=
  ∀ q bs', Ext p q → BsExt bs bs' → P (rpool q) (bsTable bs')

theorem Sound2.mono {p p' : Pool} {bs bs' : List Bsm} {P : ClassRead.Pool → Option (List ClassRead.Bsm) → Prop}
    (h : Sound2 p bs P) (l : Le p p') (e : BsExt bs bs') : Sound2 p' bs' P :=
  fun q bs'' hq hb => h q bs'' (hq.of_le l) (e.trans hb)

theorem Sound2.of_all {p : Pool} {bs : List Bsm} {P : ClassRead.Pool → Option (List ClassRead.Bsm) → Prop}
    (h : Sound p (fun rp => ∀ bsms, P rp bsms)) : Sound2 p bs P := fun q bs' hq _ => h q hq (bsTable bs')

/-- operands of an instruction of the proved fragment that do not depend on the pool or on positions: the ranges of
duke's tree types, valid names where the reader validates them, `Dynamic` constants nested within the reader's depth
limit for bootstrap arguments.  `ldepth c < 17`: the reader resolves the constant of `ldc` at depth 0 and refuses a depth
above `MAX_BOOTSTRAP_ARGUMENT_DEPTH = 16`; the deepest bootstrap argument of `c` sits at depth `ldepth c`.  The switch
bounds 16384 and 8192 are those of `Spec.SInsn.Legal` (what a code array of at most 65535 bytes can hold). -/
def insnOk : ClassRead.Insn → Prop
  | .simple op => isSimpleOp op = true
  | .bipush v => inI8 v
  | .sipush v => inI16 v
  | .ldc c => loadableOk2 c ∧ ldepth c < 17
  | .load k i => k < 5 ∧ i < 65536
  | .store k i => k < 5 ∧ i < 65536
  | .iinc i v => i < 65536 ∧ inI16 v
  | .branch _ _ => True
  | .goto _ => True
  | .jsr _ => True
  | .ret i => i < 65536
  | .tableswitch _ lo hi tbl => inI32 lo ∧ inI32 hi ∧ lo ≤ hi ∧ (tbl.length : Int) = hi - lo + 1 ∧ tbl.length < 16384
  | .lookupswitch _ pairs => (∀ kt ∈ pairs, inI32 kt.1) ∧ pairs.length < 8192
  | .field op r => 0xb2 ≤ op ∧ op ≤ 0xb5 ∧ fieldRefOk r
  | .invokevirtual m => methodRefOk m
  | .invokespecial m _ => methodRefOk m
  | .invokestatic m _ => methodRefOk m
  | .invokeinterface m => methodRefOk m
  | .invokedynamic d => indyOk d
  | .new c => validClassName c = true
  | .newarray a => 4 ≤ a ∧ a ≤ 11
  | .anewarray c => validClassName c = true
  | .checkcast c => validClassName c = true
  | .instanceof c => validClassName c = true
  | .multianewarray c d => validClassName c = true ∧ d < 256

theorem insnOk_mapT (f : Nat → Nat) (ri : ClassRead.Insn) : insnOk (mapT f ri) ↔ insnOk ri := by
  cases ri with
  | lookupswitch d pairs =>
    simp only [mapT, insnOk, List.length_map]
    constructor
    · intro ⟨h1, h2⟩
      exact ⟨fun kt hkt => h1 (kt.1, f kt.2) (List.mem_map.mpr ⟨kt, hkt, rfl⟩), h2⟩
    · intro ⟨h1, h2⟩
      refine ⟨fun kt hkt => ?_, h2⟩
      obtain ⟨x, hx, rfl⟩ := List.mem_map.mp hkt
      exact h1 x hx
  | tableswitch d lo hi tbl => simp [mapT, insnOk]
  | _ => simp [mapT, insnOk]

/-- what the pool index of an instruction must resolve to: the pool clause of `Spec.SInsn.Legal`, in its shape (for
`invokedynamic` the resolved value is named first there) -/
def poolPart (rp : ClassRead.Pool) (bsms : Option (List ClassRead.Bsm)) (cp : Nat) : ClassRead.Insn → Prop
  | .ldc k => rp.getLoadable bsms cp = .ok k
  | .field _ r => rp.getFieldRef cp = .ok r
  | .invokevirtual m => rp.getMethodRef cp = .ok m
  | .invokespecial m itf => rp.getMethodRefOrInterface cp = .ok (m, itf)
  | .invokestatic m itf => rp.getMethodRefOrInterface cp = .ok (m, itf)
  | .invokeinterface m => rp.getInterfaceMethodRef cp = .ok m
  | .invokedynamic d => ∃ d', rp.getInvokeDynamic bsms cp = .ok d' ∧ d' = d
  | .new c => rp.getClass cp = .ok c
  | .anewarray c => rp.getClass cp = .ok c
  | .checkcast c => rp.getClass cp = .ok c
  | .instanceof c => rp.getClass cp = .ok c
  | .multianewarray c _ => rp.getClass cp = .ok c
  | _ => True

theorem argsSize_lt {d : JStr} {c : Nat} (h : CodeWrite.argsSize d = .ok c) : c < 256 := by
  unfold CodeWrite.argsSize at h
  split at h
  · rename_i rest
    exact loop (rest.length + 1) rest 1 (by omega) h
  · cases h
where
  /-- the loop returns the size so far or fails, and fails rather than let it pass 255 -/
  loop (fuel : Nat) (cs : List Nat) (size : Nat) {c : Nat} (hs : size ≤ 255)
      (h : CodeWrite.argsLoop fuel cs size = .ok c) : c < 256 := by
    fun_induction CodeWrite.argsLoop fuel cs size with
    | case3 =>
      cases h
      omega
    | case5 | case9 | case11 =>
      rename_i ih
      exact ih (by omega) h
    | _ => cases h

/-- **legality of the writer's layout of one instruction**: operands in range, pool index resolving to the operand,
targets inside the method and every offset within 16 bits -/
theorem sinsn_legal {rp : ClassRead.Pool} {bsms : Option (List ClassRead.Bsm)} {n : Nat} {pos : Nat → Nat} {a cp : Nat}
    {ri : ClassRead.Insn} (hok : insnOk ri) (hop : ∀ op t, ri = .branch op t → isCondBranchOp op = true)
    (hcp : cp < 65536) (hpool : poolPart rp bsms cp ri)
    (ht : ∀ t ∈ targetsOf ri, t < n ∧ inI16 (relOff pos a t)) : (sinsnOf cp ri).Legal rp bsms n pos a := by
  cases ri with
  | simple _ | bipush _ | sipush _ | newarray _ => exact hok
  | ldc c =>
    simp only [poolPart] at hpool
    by_cases h2 : isTwoSlot c = true
    · simp only [sinsnOf, formOf, h2, if_true, SInsn.Legal]
      exact ⟨hcp, hpool⟩
    · by_cases h3 : cp ≤ 255
      · simp only [sinsnOf, formOf, h2, h3, if_true, SInsn.Legal]
        exact ⟨by omega, hpool⟩
      · simp only [sinsnOf, formOf, h2, h3, if_false, SInsn.Legal]
        exact ⟨hcp, hpool⟩
  | load k i | store k i =>
    simp only [insnOk] at hok
    by_cases h2 : i < 4
    · simp only [sinsnOf, formOf, localForm, h2, if_true, SInsn.Legal]
      exact ⟨hok.1, trivial⟩
    · by_cases h3 : i ≤ 255
      · simp only [sinsnOf, formOf, localForm, h2, h3, if_true, if_false, SInsn.Legal]
        exact ⟨hok.1, by omega⟩
      · simp only [sinsnOf, formOf, localForm, h2, h3, if_false, SInsn.Legal]
        exact hok
  | iinc i v =>
    simp only [insnOk] at hok
    by_cases h2 : i ≤ 255 ∧ -128 ≤ v ∧ v ≤ 127
    · simp only [sinsnOf, formOf, h2, and_self, if_true, SInsn.Legal]
      exact ⟨by omega, ⟨h2.2.1, by omega⟩⟩
    · simp only [sinsnOf, formOf, h2, if_false, SInsn.Legal]
      exact hok
  | branch op t =>
    have := ht t (by simp [targetsOf])
    exact ⟨hop op t rfl, this.1, this.2⟩
  | goto t | jsr t => exact ht t (by simp [targetsOf])
  | ret i =>
    simp only [insnOk] at hok
    by_cases h2 : i ≤ 255
    · simp only [sinsnOf, formOf, h2, if_true, SInsn.Legal]
      omega
    · simp only [sinsnOf, formOf, h2, if_false, SInsn.Legal]
      exact hok
  | tableswitch d lo hi tbl =>
    simp only [insnOk] at hok
    obtain ⟨h1, h2, h3, h4, h5⟩ := hok
    exact ⟨(ht d (by simp [targetsOf])).1, fun t htm => (ht t (by simp [targetsOf, htm])).1, h1, h2, h3, h4, h5,
      by simp [sinsnOf, padOf]⟩
  | lookupswitch d pairs =>
    simp only [insnOk] at hok
    refine ⟨(ht d (by simp [targetsOf])).1, fun kt hkt => ⟨(ht kt.2 ?_).1, hok.1 kt hkt⟩, hok.2, by simp [sinsnOf, padOf]⟩
    simp only [targetsOf, List.mem_cons, List.mem_map]
    exact Or.inr ⟨kt, hkt, rfl⟩
  | field op r => exact ⟨hok.1, hok.2.1, hcp, hpool⟩
  | invokeinterface m =>
    refine ⟨hcp, hpool, ?_⟩
    simp only [sinsnOf, padOf]
    split
    · rename_i c hc; exact argsSize_lt hc
    · omega
  | multianewarray c d => exact ⟨hcp, hpool, hok.2⟩
  | invokevirtual _ | invokespecial _ _ | invokestatic _ _ | invokedynamic _ | new _ | anewarray _ | checkcast _
  | instanceof _ => exact ⟨hcp, hpool⟩

/-- an instruction with one pool operand: the put, then the instruction around the index it returned -/
theorem put_then {x : Except Fail (Nat × Pool)} {mk : Nat → CodeWrite.Insn} {bs bs' : List Bsm} {i : CodeWrite.Insn}
    {p' : Pool} (h : (do let (cp, p) ← x; pure (mk cp, p, bs) : Except Fail (CodeWrite.Insn × Pool × List Bsm)) =
      .ok (i, p', bs')) : ∃ cp, x = .ok (cp, p') ∧ i = mk cp ∧ bs' = bs := by
  obtain ⟨⟨cp, p1⟩, h1, h2⟩ := Except.bind_eq_ok.mp h
  cases Except.ok.inj h2
  exact ⟨cp, h1, rfl, rfl⟩

/-- **the pool puts of one instruction**: `putInsn` yields `cw cp` of the instruction with its labels renamed, the pool
index resolves to the operand in every later pool with every later bootstrap table, bootstrap rows are only appended -/
theorem putInsn_spec {lab : Nat → Nat} {p p' : Pool} {bs bs' : List Bsm} {ri : ClassRead.Insn} {i : CodeWrite.Insn}
    (hg : Good p) (hb : BsOk bs) (hok : insnOk ri) (h : putInsn lab p bs ri = .ok (i, p', bs')) :
    (Step p p' ∧ BsExt bs bs' ∧ BsOk bs') ∧ ∃ cp, cw cp (mapT lab ri) = some i ∧ cp < 65536 ∧
      (∀ op t, ri = .branch op t → isCondBranchOp op = true) ∧
      Sound2 p' bs' (fun rp bsms => poolPart rp bsms cp (mapT lab ri)) := by
  have same := And.intro (Step.refl hg) (And.intro (BsExt.refl bs) hb)
  cases ri with
  | branch op t =>
    simp only [putInsn] at h
    split at h
    · cases h
    · rename_i c hc
      cases h
      refine ⟨same, 0, by simp [cw, mapT, hc], by omega, ?_, fun _ _ _ _ => trivial⟩
      intro op' t' he
      cases he
      exact condOfOp_isCond hc
  | ldc c =>
    obtain ⟨⟨cp, p1, bs1⟩, h1, h2⟩ := Except.bind_eq_ok.mp h
    cases Except.ok.inj h2
    obtain ⟨s, e, o, a, b⟩ := putLoadable_spec2 c hg hb hok.1 h1
    exact ⟨⟨s, e, o⟩, cp, rfl, b, nofun,
      fun q bs'' hq hbs => getLoadableFuel_of2 hq.good c 17 (LoadableAt2.mono hq.le hbs c a) hok.1 hok.2⟩
  | invokedynamic d =>
    obtain ⟨⟨cp, p1, bs1⟩, h1, h2⟩ := Except.bind_eq_ok.mp h
    cases Except.ok.inj h2
    obtain ⟨s, e, o, a, b⟩ := putInvokeDynamic_spec hg hb hok h1
    exact ⟨⟨s, e, o⟩, cp, rfl, b, nofun,
      fun q bs'' hq hbs => ⟨d, getInvokeDynamic_of hq.good (a.mono hq.le hbs) hok, rfl⟩⟩
  | field op r =>
    obtain ⟨cp, h1, rfl, rfl⟩ := put_then h
    obtain ⟨s, a, b⟩ := putRef_spec hg h1
    exact ⟨⟨s, same.2⟩, cp, rfl, b, nofun, fun q _ hq _ => getFieldRef_of hq.good (a.mono hq.le) hok.2.2⟩
  | invokevirtual m =>
    obtain ⟨cp, h1, rfl, rfl⟩ := put_then h
    obtain ⟨s, a, b⟩ := putRef_spec hg h1
    exact ⟨⟨s, same.2⟩, cp, rfl, b, nofun, fun q _ hq _ => getMethodRef_of hq.good (a.mono hq.le) hok⟩
  | invokespecial m itf | invokestatic m itf =>
    obtain ⟨cp, h1, rfl, rfl⟩ := put_then h
    obtain ⟨s, a, b⟩ := putRef_spec hg h1
    exact ⟨⟨s, same.2⟩, cp, rfl, b, nofun, fun q _ hq _ => getMethodRefOrInterface_of hq.good (a.mono hq.le) hok⟩
  | invokeinterface m =>
    obtain ⟨cp, h1, rfl, rfl⟩ := put_then (mk := fun cp => .invokeinterface cp m.desc) h
    obtain ⟨s, a, b⟩ := putRef_spec hg h1
    exact ⟨⟨s, same.2⟩, cp, rfl, b, nofun, fun q _ hq _ => getInterfaceMethodRef_of hq.good (a.mono hq.le) hok⟩
  | new c | anewarray c | checkcast c | instanceof c =>
    obtain ⟨cp, h1, rfl, rfl⟩ := put_then h
    obtain ⟨s, a, b⟩ := putClass_spec hg h1
    exact ⟨⟨s, same.2⟩, cp, rfl, b, nofun, fun q _ hq _ => getClass_of hq.good (a.mono hq.le) hok⟩
  | multianewarray c d =>
    obtain ⟨cp, h1, rfl, rfl⟩ := put_then (mk := fun cp => .multianewarray cp d) h
    obtain ⟨s, a, b⟩ := putClass_spec hg h1
    exact ⟨⟨s, same.2⟩, cp, rfl, b, nofun, fun q _ hq _ => getClass_of hq.good (a.mono hq.le) hok.1⟩
  -- no pool operand: pool and rows are as before, any index will do
  | _ =>
    cases h
    exact ⟨same, 0, rfl, by omega, nofun, fun _ _ _ _ => trivial⟩

/-- the syntactic size bound of a tree instruction: the longest encoding the writer has for it. `cw 0`: the size does
not depend on the pool index (`cw_maxSize`) -/
def maxSizeR (ri : ClassRead.Insn) : Nat :=
  match cw 0 ri with
  | some i => maxSize i
  | none => 0

theorem cw_maxSize {cp : Nat} {ri : ClassRead.Insn} {i : CodeWrite.Insn} (h : cw cp ri = some i) : maxSize i = maxSizeR ri := by
  cases ri with
  | branch op t =>
    simp only [cw, Option.map_eq_some_iff] at h
    obtain ⟨c, hc, rfl⟩ := h
    simp [maxSizeR, cw, hc, maxSize]
  | _ => cases h; rfl

theorem maxSizeR_mapT (f : Nat → Nat) (ri : ClassRead.Insn) : maxSizeR (mapT f ri) = maxSizeR ri := by
  cases ri with
  | branch op t => simp only [mapT, maxSizeR, cw]; cases condOfOp op <;> rfl
  | tableswitch d lo hi tbl => simp [mapT, maxSizeR, cw, maxSize]
  | lookupswitch d ps => simp [mapT, maxSizeR, cw, maxSize]
  | _ => rfl

theorem CwAll.sizes {rcs : List (ClassRead.Insn × Nat)} {is : List CodeWrite.Insn} (h : CwAll rcs is) :
    (is.map maxSize).sum = (rcs.map fun x => maxSizeR x.1).sum := by
  induction h with
  | nil => rfl
  | cons h1 _ ih => simp [ih, cw_maxSize h1]

theorem putInsns_spec {lab : Nat → Nat} : ∀ (es : List InsnEntry) {p p' : Pool} {bs bs' : List Bsm} {is : List CodeWrite.Insn},
    Good p → BsOk bs → (∀ e ∈ es, insnOk e.insn) → putInsns lab p bs es = .ok (is, p', bs') →
    (Step p p' ∧ BsExt bs bs' ∧ BsOk bs') ∧ ∃ rcs : List (ClassRead.Insn × Nat), rcs.map (·.1) = es.map (fun e => mapT lab e.insn) ∧
      CwAll rcs is ∧ (∀ x ∈ rcs, x.2 < 65536) ∧
      (∀ e ∈ es, ∀ op t, e.insn = .branch op t → isCondBranchOp op = true) ∧
      ∀ x ∈ rcs, Sound2 p' bs' (fun rp bsms => poolPart rp bsms x.2 x.1)
  | [], p, p', bs, bs', is, hg, hb, _, h => by
    have := Except.ok.inj h
    simp only [Prod.mk.injEq] at this
    obtain ⟨rfl, rfl, rfl⟩ := this
    exact ⟨⟨Step.refl hg, BsExt.refl _, hb⟩, [], rfl, CwAll.nil, by simp, by simp, by simp⟩
  | e :: es, p, p', bs, bs', is, hg, hb, hok, h => by
    obtain ⟨⟨i, p1, bs1⟩, h1, h⟩ := Except.bind_eq_ok.mp h
    obtain ⟨⟨is', p2, bs2⟩, h2, h⟩ := Except.bind_eq_ok.mp h
    have := Except.ok.inj h
    simp only [Prod.mk.injEq] at this
    obtain ⟨rfl, rfl, rfl⟩ := this
    obtain ⟨⟨s1, e1, o1⟩, cp, hcw, hcp, hbr, hsd⟩ := putInsn_spec hg hb (hok e List.mem_cons_self) h1
    obtain ⟨⟨s2, e2, o2⟩, rcs, hm, hall, hcps, hbrs, hsds⟩ := putInsns_spec es s1.good o1
      (fun x hx => hok x (List.mem_cons_of_mem _ hx)) h2
    refine ⟨⟨s1.trans s2, e1.trans e2, o2⟩, (mapT lab e.insn, cp) :: rcs, by simp [hm], CwAll.cons hcw hall, ?_, ?_, ?_⟩
    · intro x hx
      rcases List.mem_cons.mp hx with rfl | hx
      · exact hcp
      · exact hcps x hx
    · intro x hx
      rcases List.mem_cons.mp hx with rfl | hx
      · exact hbr
      · exact hbrs x hx
    · intro x hx
      rcases List.mem_cons.mp hx with rfl | hx
      · exact hsd.mono s2.le e2
      · exact hsds x hx

theorem sinsnsOf_getElem (rcs : List (ClassRead.Insn × Nat)) (i : Nat) (h : i < (sinsnsOf rcs).length) :
    (sinsnsOf rcs)[i] = sinsnOf (rcs[i]'(by simpa [sinsnsOf] using h)).2 (rcs[i]'(by simpa [sinsnsOf] using h)).1 := by
  simp [sinsnsOf]

theorem inI16_relOff {pos : Nat → Nat} {a t : Nat} (ha : a ≤ 32767) (ht : pos t ≤ 32767) : inI16 (relOff pos a t) := by
  unfold inI16 relOff
  omega

/-- the code array's layout is legal: every instruction by `sinsn_legal`, offsets within 16 bits because the code is at
most 32767 bytes long -/
theorem code_legal {rp : ClassRead.Pool} {bsms : Option (List ClassRead.Bsm)} {rcs : List (ClassRead.Insn × Nat)}
    (hpos : 0 < codePos (sinsnsOf rcs) rcs.length) (hsmall : codePos (sinsnsOf rcs) rcs.length ≤ 32767)
    (hok : ∀ x ∈ rcs, insnOk x.1 ∧ (∀ op t, x.1 = .branch op t → isCondBranchOp op = true) ∧ x.2 < 65536 ∧
      poolPart rp bsms x.2 x.1 ∧ ∀ t ∈ targetsOf x.1, t < rcs.length) :
    CodeLegal rp bsms (sinsnsOf rcs) := by
  have hlen := sinsnsOf_length rcs
  refine ⟨?_, by rw [hlen]; omega, ?_⟩
  · rw [hlen]
    cases rcs with
    | nil => simp [sinsnsOf, codePos, endPos] at hpos
    | cons _ _ => simp
  · intro i hi
    rw [sinsnsOf_getElem rcs i hi]
    have hi' : i < rcs.length := by omega
    obtain ⟨h1, h2, h3, h4, h5⟩ := hok rcs[i] (List.getElem_mem hi')
    have hposi : codePos (sinsnsOf rcs) i ≤ 32767 := by
      have := codePos_le_end (sinsnsOf rcs) i (by omega)
      rw [hlen] at this
      omega
    refine sinsn_legal h1 h2 h3 h4 (fun t ht => ⟨by rw [hlen]; exact h5 t ht, inI16_relOff hposi ?_⟩)
    have := codePos_le_end (sinsnsOf rcs) t (by have := h5 t ht; omega)
    rw [hlen] at this
    omega

end ClassWriteFull
