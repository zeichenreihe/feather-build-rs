import FeatherModel.Lemmas.Sort

/-!
# The orders of the sort keys are core Lean's `compare`
The model's Boolean `≤`s (`natLe`, `lexLe`, `optLe`, `pairLe` of `Model/Tiny.lean`: Rust's derived `Ord`) are `compare a b != .gt` for core
Lean's `compare` on `Nat`, strings, options, name rows and lexicographic pairs (`lexOrd`), by one equation each. Totality, transitivity and
antisymmetry then come from core's instances `Std.TransOrd`, `Std.LawfulEqOrd` (`Init/Data/Order/Ord.lean`, whose lemma names are used here).
-/

namespace Tiny
open Std (TransOrd LawfulEqOrd OrientedOrd OrientedCmp TransCmp LawfulEqCmp)

attribute [local instance] lexOrd

structure TotalOrd {α : Type} (le : α → α → Bool) : Prop extends TotalPre le where
  antisymm : ∀ a b, le a b = true → le b a = true → a = b

def ordLe {α : Type} [Ord α] (a b : α) : Bool := compare a b != .gt

theorem ordLe_iff {α : Type} [Ord α] {a b : α} : ordLe a b = true ↔ (compare a b).isLE := by
  rw [Ordering.isLE_eq_not_beq_gt]; rfl

theorem TotalOrd.of_ord {α : Type} [Ord α] [TransOrd α] [LawfulEqOrd α] : TotalOrd (ordLe (α := α)) where
  total a b := by
    simp only [ordLe_iff]
    cases h : compare a b with
    | gt => exact .inr (by rw [OrientedCmp.lt_of_gt h]; rfl)
    | _ => exact .inl rfl
  trans a b c := by simp only [ordLe_iff]; exact TransCmp.isLE_trans
  antisymm a b := by
    simp only [ordLe_iff]
    exact fun h1 h2 => LawfulEqCmp.eq_of_compare (OrientedCmp.isLE_antisymm h1 h2)

theorem natLe_eq : natLe = ordLe := by
  funext a b
  simp only [natLe, ordLe, ← Nat.not_lt, ← Nat.compare_eq_gt]
  cases compare a b <;> rfl

theorem optLe_eq {α : Type} [Ord α] : optLe (ordLe (α := α)) = ordLe := by
  funext a b
  cases a <;> cases b <;> rfl

theorem ordLe_pair {α β : Type} [Ord α] [Ord β] (a b : α × β) :
    ordLe a b = ((compare a.1 b.1).then (compare a.2 b.2) != .gt) := rfl

theorem pairLe_eq {α β : Type} [Ord α] [Ord β] [OrientedOrd α] : pairLe (ordLe (α := α)) (ordLe (α := β)) = ordLe := by
  funext a b
  rw [ordLe_pair, pairLe, ordLe, ordLe, ordLe, OrientedOrd.eq_swap (a := b.1)]
  cases compare a.1 b.1 <;> rfl

theorem lexLe_eq {α : Type} [Ord α] [OrientedOrd α] : lexLe (ordLe (α := α)) = ordLe := by
  funext a b
  induction a generalizing b with
  | nil => cases b <;> rfl
  | cons x xs ih =>
    cases b with
    | nil => rfl
    | cons y ys =>
      simp only [lexLe, ih]
      simp only [ordLe, List.compare_cons_cons, OrientedOrd.eq_swap (a := y)]
      cases compare x y <;> rfl

theorem strLe_eq : strLe = ordLe := by rw [strLe, natLe_eq, lexLe_eq]
theorem namesLe_eq : namesLe = ordLe := by rw [namesLe, strLe_eq, optLe_eq, lexLe_eq]

theorem namesLe_ord : TotalOrd namesLe := namesLe_eq ▸ .of_ord
theorem descNamesLe_ord : TotalOrd (pairLe strLe namesLe) := by rw [strLe_eq, namesLe_eq, pairLe_eq]; exact .of_ord
theorem indexNamesLe_ord : TotalOrd (pairLe natLe namesLe) := by rw [natLe_eq, namesLe_eq, pairLe_eq]; exact .of_ord

end Tiny
