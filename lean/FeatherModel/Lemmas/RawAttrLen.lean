import FeatherModel.Lemmas.RawLen

/-! C20: when is the `attribute_length` an attribute variant writes the length of the rest of the attribute?
A syntactic classification of variant layouts (`attrLenShape`, decidable, evaluated on the translated tables by `decide`)
and its soundness for every value (`attrFramed_of_shape`). -/

namespace RawLayout

/-- what every JVMS reader relies on: after `attribute_name_index` (u2) comes a u4 that is the number of bytes that
follow in this attribute -/
def attrFramed (b : Bytes) : Bool :=
  match takeBE .u16 b with
  | some (_, r) =>
    (match takeBE .u32 r with
     | some (n, body) => n == body.length
     | none => false)
  | none => false

/-- total width of fields that are all fixed-width numbers without constants after them -/
def fixedLen : List Field → Option Nat
  | [] => some 0
  | f :: fds =>
    match f.kind, f.post, fixedLen fds with
    | .field (.prim p) _, [], some n => some (p.bytes + n)
    | _, _, _ => none

/-- the first field is the (unwritten) name index; `some (name, post, rest)` = its name, the constants after it and the
other fields -/
def attrHead (b : Body) : Option (Nat × List Const × List Field) :=
  match b.pre, b.fields with
  | [], f0 :: rest =>
    (match f0.kind with
     | .nowrite _ _ => some (f0.name, f0.post, rest)
     | _ => none)
  | _, _ => none

/-- `const attribute_length: u32 = this._len() - 6` right after the name index.  The width in front of an expression
(here 32, in `shapeU16Table` 64) is the Rust type its arithmetic is done in, as the translator types it: `u32` for
`this._len()`, `usize` for `.len()` -/
def shapeThisLen (b : Body) : Bool :=
  match attrHead b with
  | some (_, [c], _) => c.p == .u32 && c.e == ⟨32, .sub .thisLen (.lit 6)⟩
  | _ => false

/-- `const attribute_length: u32 = n` followed by fixed-width fields of total width `n` -/
def shapeLit (b : Body) : Bool :=
  match attrHead b with
  | some (_, [c], rest) =>
    (match c.e.e with
     | .lit n => c.p == .u32 && n < 4294967296 && fixedLen rest == some n
     | _ => false)
  | _ => false

/-- `const attribute_length: u32 = 2 + 2 * x.len()` followed by exactly `x: Vec<u16> [u16]` -/
def shapeU16Table (b : Body) : Bool :=
  match attrHead b with
  | some (n0, [c], [fx]) =>
    c.p == .u32 && c.e == ⟨64, .add (.lit 2) (.mul (.lit 2) (.lenOf fx.name))⟩ && n0 != fx.name &&
      fx.kind == .field (.vecCnt .u16 (.prim .u16)) false && fx.post == []
  | _ => false

/-- no constant: the u32 count of a single `Vec<u8> [u32]` is the attribute length -/
def shapeBytes (b : Body) : Bool :=
  match attrHead b with
  | some (_, [], [fx]) => fx.kind == .field (.vecCnt .u32 (.prim .u8)) false && fx.post == []
  | _ => false

def attrLenShape (v : Variant) : Bool :=
  shapeThisLen v.body || shapeLit v.body || shapeU16Table v.body || shapeBytes v.body

theorem attrFramed_of (t x : Nat) (r : Bytes) (ht : t < 65536) (hx : x < 4294967296) (hr : x = r.length) :
    attrFramed (be .u16 t ++ (be .u32 x ++ r)) = true := by
  subst hr
  simp [attrFramed, takeBE_be .u16 t _ (by simpa [Prim.bound] using ht),
    takeBE_be .u32 r.length r (by simpa [Prim.bound] using hx)]

theorem fixedLen_length (env : Env) (tl : Option Nat) (ctx : List (Nat × Val)) : ∀ (fds : List Field) (vs : List Val)
    (n : Nat) (b : Bytes), fixedLen fds = some n → writeFields env tl ctx fds vs = some b → b.length = n := by
  intro fds
  induction fds with
  | nil =>
    intro vs n b hf hw
    cases vs with
    | nil => simp [writeFields] at hw; simp [fixedLen] at hf; subst hw; subst hf; rfl
    | cons _ _ => simp [writeFields] at hw
  | cons f fds ih =>
    intro vs n b hf hw
    simp only [fixedLen] at hf
    split at hf
    · rename_i p sp m hk hp hm
      simp at hf; subst hf
      obtain ⟨x, vs', c, r, rfl, hc, hr, rfl⟩ := writeFields_prim_cons env tl ctx f p sp hk fds vs b hw
      rw [hp] at hc; cases hc
      simp [be_length, ih vs' m r hm hr]
    · cases hf

theorem attr_decompose (env : Env) (tl : Option Nat) (body : Body) (fs : List Val) (n0 : Nat) (post : List Const)
    (rest : List Field) (a w : Bytes) (hh : attrHead body = some (n0, post, rest))
    (ha : writeConsts tl (mkCtx body.fields fs) body.pre = some a)
    (hw : writeFields env tl (mkCtx body.fields fs) body.fields fs = some w) :
    ∃ x vs c r, fs = .num x :: vs ∧ a = [] ∧ mkCtx body.fields fs = (n0, .num x) :: mkCtx rest vs ∧
      writeConsts tl (mkCtx body.fields fs) post = some c ∧
      writeFields env tl (mkCtx body.fields fs) rest vs = some r ∧ w = c ++ r := by
  simp only [attrHead] at hh
  split at hh
  · rename_i f0 rest' hpre hfs
    split at hh
    · rename_i p e hk
      simp at hh
      obtain ⟨rfl, rfl, rfl⟩ := hh
      rw [hpre] at ha
      simp only [writeConsts, Option.some.injEq] at ha
      cases fs with
      | nil => rw [hfs] at hw; simp [writeFields] at hw
      | cons v0 vs =>
        generalize hctx : mkCtx body.fields (v0 :: vs) = ctx at hw ⊢
        rw [hfs] at hw hctx
        simp only [writeFields_cons, hk, Option.bind_eq_some_iff, Option.map_eq_some_iff] at hw
        obtain ⟨a0, ha0, c, hc, r, hr, rfl⟩ := hw
        cases v0 with
        | num x =>
          simp at ha0; subst ha0
          exact ⟨x, vs, c, r, rfl, ha.symm, by rw [← hctx]; rfl, hc, hr, by simp⟩
        | list _ | node _ _ => simp at ha0
    · cases hh
  · cases hh

theorem writeAll_prim_length (env : Env) (p : Prim) : ∀ (xs : List Val) (w : Bytes),
    writeAll env (.prim p) xs = some w → w.length = p.bytes * xs.length := by
  intro xs
  induction xs with
  | nil => intro w h; simp [writeAll] at h; subst h; simp
  | cons x xs ih =>
    intro w h
    simp only [writeAll_cons, Option.bind_eq_some_iff, Option.map_eq_some_iff] at h
    obtain ⟨a, ha, r, hr, rfl⟩ := h
    have := len_eq_write_length env (.prim p) x a ha
    cases x with
    | num n => simp [this, lenV, ih r hr, Nat.mul_add]; omega
    | list _ | node _ _ => simp [writeV] at ha

theorem writeFields_single_vec (env : Env) (tl : Option Nat) (ctx : List (Nat × Val)) (fx : Field) (c p : Prim)
    (hk : fx.kind = .field (.vecCnt c (.prim p)) false) (hpost : fx.post = []) (vs : List Val) (r : Bytes)
    (hr : writeFields env tl ctx [fx] vs = some r) :
    ∃ xs wa, vs = [.list xs] ∧ writeAll env (.prim p) xs = some wa ∧ r = be c (xs.length % c.bound) ++ wa := by
  cases vs with
  | nil => simp [writeFields] at hr
  | cons vx vs' =>
    cases vs' with
    | cons _ _ => simp [writeFields] at hr
    | nil =>
      rw [writeFields_cons] at hr
      simp only [hk, hpost, writeConsts, writeFields, Option.bind_eq_some_iff, Option.map_eq_some_iff] at hr
      obtain ⟨a, ha, _, hc, _, hn, rfl⟩ := hr
      cases hc; cases hn
      cases vx with
      | num _ | node _ _ => simp [writeV] at ha
      | list xs =>
        simp only [writeV_vecCnt, Option.map_eq_some_iff] at ha
        obtain ⟨wa, hwa, rfl⟩ := ha
        exact ⟨xs, wa, rfl, hwa, by simp⟩

/-- **soundness of the classification**: a variant of a u16-tagged enum whose layout has one of the four shapes writes,
for every value whose `_len()` fits `u32`, a u4 after the tag that is exactly the number of bytes that follow -/
theorem attrFramed_of_shape {env : Env} {id k nm tn : Nat} {variants : List Variant} {fb : Bool} {v : Variant}
    {fs : List Val} {b : Bytes} (h1 : env.defs[id]? = some (.enum nm tn .u16 variants fb)) (h2 : variants[k]? = some v)
    (hs : attrLenShape v = true) (hw : writeV env (.ref id) (.node k fs) = some b)
    (hl : lenV env (.ref id) (.node k fs) < 4294967296) : attrFramed b = true := by
  have hL := len_eq_write_length env _ _ b hw
  simp only [writeV_enum h1 h2, writeBody, Option.bind_eq_some_iff, Option.map_eq_some_iff] at hw
  obtain ⟨t, ht, _, ⟨a, ha, w, hwf, rfl⟩, rfl⟩ := hw
  have htl : thisLen env id k fs = some (lenV env (.ref id) (.node k fs)) := by simp [thisLen, len32, hl]
  rw [htl] at ha hwf
  generalize hLdef : lenV env (.ref id) (.node k fs) = L at *
  have htb : t % Prim.u16.bound < 65536 := Nat.mod_lt _ (by simp [Prim.bound])
  simp only [attrLenShape, Bool.or_eq_true] at hs
  rcases hs with ((hs | hs) | hs) | hs
  · simp only [shapeThisLen] at hs
    split at hs
    · rename_i n0 c rest hh
      simp only [Bool.and_eq_true, beq_iff_eq] at hs
      obtain ⟨hp, he⟩ := hs
      obtain ⟨x, vs, cb, r, rfl, rfl, hctx, hc, hr, rfl⟩ := attr_decompose env _ v.body fs n0 [c] rest a w hh ha hwf
      simp only [writeConsts, he, evalW] at hc
      split at hc
      · rename_i n e' hn he'
        simp at he'; subst he'
        simp at hc; subst hc
        simp only [checkedSub] at hn
        split at hn
        · rename_i h6
          simp at hn; subst hn
          simp [be_length, Prim.bytes, hp] at hL
          rw [hp]
          simp only [List.nil_append]
          exact attrFramed_of _ _ r htb (by simp [Prim.bound]; omega) (by simp [Prim.bound]; omega)
        · cases hn
      · cases hc
    · cases hs
  · simp only [shapeLit] at hs
    split at hs
    · rename_i n0 c rest hh
      split at hs
      · rename_i n hce
        simp only [Bool.and_eq_true, beq_iff_eq, decide_eq_true_eq] at hs
        obtain ⟨⟨hp, hn⟩, hfl⟩ := hs
        obtain ⟨x, vs, cb, r, rfl, rfl, hctx, hc, hr, rfl⟩ := attr_decompose env _ v.body fs n0 [c] rest a w hh ha hwf
        simp only [writeConsts, hce, evalW] at hc
        simp at hc; subst hc
        have hrl := fixedLen_length env _ _ rest vs n r hfl hr
        rw [hp]
        simp only [List.nil_append]
        exact attrFramed_of _ _ r htb (by simp [Prim.bound]; omega) (by simp [Prim.bound, hrl]; omega)
      · cases hs
    · cases hs
  · simp only [shapeU16Table] at hs
    split at hs
    · rename_i n0 c fx hh
      simp only [Bool.and_eq_true, beq_iff_eq, bne_iff_ne, ne_eq] at hs
      obtain ⟨⟨⟨⟨hp, he⟩, hne⟩, hk⟩, hpost⟩ := hs
      obtain ⟨x, vs, cb, r, rfl, rfl, hctx, hc, hr, rfl⟩ := attr_decompose env _ v.body fs n0 [c] [fx] a w hh ha hwf
      obtain ⟨xs, wa, rfl, hwa, rfl⟩ := writeFields_single_vec env _ _ fx .u16 .u16 hk hpost vs r hr
      have hxl := writeAll_prim_length env .u16 xs wa hwa
      simp only [writeConsts, he, evalW, hctx, mkCtx, lookup, hne, if_false, if_true] at hc
      simp [be_length, Prim.bytes, hxl] at hL
      have hm1 : 2 * xs.length < 2 ^ 64 := by omega
      have hm2 : 2 + 2 * xs.length < 2 ^ 64 := by omega
      simp [checkedMul, checkedAdd, hm1, hm2] at hc
      subst hc
      rw [hp]
      simp only [List.nil_append]
      exact attrFramed_of _ _ _ htb (by simp [Prim.bound]; omega)
        (by simp [Prim.bound, be_length, Prim.bytes, hxl]; omega)
    · cases hs
  · simp only [shapeBytes] at hs
    split at hs
    · rename_i n0 fx hh
      simp only [Bool.and_eq_true, beq_iff_eq] at hs
      obtain ⟨hk, hpost⟩ := hs
      obtain ⟨x, vs, cb, r, rfl, rfl, hctx, hc, hr, rfl⟩ := attr_decompose env _ v.body fs n0 [] [fx] a w hh ha hwf
      simp only [writeConsts, Option.some.injEq] at hc; subst hc
      obtain ⟨xs, wa, rfl, hwa, rfl⟩ := writeFields_single_vec env _ _ fx .u32 .u8 hk hpost vs r hr
      have hxl := writeAll_prim_length env .u8 xs wa hwa
      simp [be_length, Prim.bytes, hxl] at hL
      simp only [List.nil_append]
      have hm : xs.length % Prim.u32.bound = xs.length := Nat.mod_eq_of_lt (by simp [Prim.bound]; omega)
      rw [hm]
      exact attrFramed_of _ _ _ htb (by omega) (by simp [hxl, Prim.bytes])
    · cases hs

end RawLayout
