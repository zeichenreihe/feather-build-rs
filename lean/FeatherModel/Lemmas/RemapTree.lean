import FeatherModel.Model.RemapSpec
import FeatherModel.Lemmas.DescriptorParse
import FeatherModel.Lemmas.OptionList
import FeatherModel.Lemmas.Ladder
import FeatherModel.Lemmas.AList

/-!
# Lemmas for C07: the traversal of `remap.rs` acts on the independent traversal `refs*` as `applyRef`, pointwise, and
keeps the shape `erase*`; the entry names and the entry loop of `dukebox::remap::remap`

The specification side reads the class of an enum constant's type off the descriptor text (`classOfDesc`: between the
leading `L` and the trailing `;`); `remap.rs` asks duke's descriptor parser (`objectClassOf`, model of
`FieldDescriptorSlice::parse` from C18). Both are the JVMS production `ObjectType: L ClassName ;` (`classOfDesc_eq`).
-/

namespace RemapTree

theorem objectClassOf_iff (t k : JStr) :
    objectClassOf t = some k ↔ DescriptorGrammar.ClassName k ∧ t = Descriptor.cL :: k ++ [Descriptor.SEMI] := by
  have h1 : objectClassOf t = some k ↔ Descriptor.parseField t = some (.obj k) := by
    unfold objectClassOf
    cases h : Descriptor.parseField t with
    | none => simp
    | some ty => cases ty <;> simp
  rw [h1, Descriptor.parseField_iff, Descriptor.FieldTy_iff_flat]
  rfl

theorem classOfDesc_iff (t k : JStr) :
    classOfDesc t = some k ↔ DescriptorGrammar.ClassName k ∧ t = Descriptor.cL :: k ++ [Descriptor.SEMI] := by
  cases t with
  | nil => simp [classOfDesc]
  | cons c rest =>
    simp only [classOfDesc, L_, SEMI, Descriptor.cL, Descriptor.SEMI]
    constructor
    · intro h
      by_cases hc : (c == 76 && rest.getLast? == some 59 && Descriptor.validObj rest.dropLast) = true
      · simp only [hc, ↓reduceIte] at h
        simp only [Bool.and_eq_true, beq_iff_eq] at hc
        obtain ⟨⟨rfl, hc2⟩, hc3⟩ := hc
        obtain ⟨ys, rfl⟩ := List.getLast?_eq_some_iff.mp hc2
        rw [List.dropLast_concat] at h hc3
        cases h
        exact ⟨(Descriptor.validObj_iff _).1 hc3, rfl⟩
      · simp [hc] at h
    · rintro ⟨hk, ht⟩
      simp only [List.cons_append, List.cons.injEq] at ht
      obtain ⟨rfl, rfl⟩ := ht
      have hv := (Descriptor.validObj_iff k).2 hk
      simp [hv]

theorem classOfDesc_eq (t : JStr) : classOfDesc t = objectClassOf t := by
  apply Option.ext
  intro k
  rw [classOfDesc_iff, objectClassOf_iff]

/-- concatenation of two possibly failed lists -/
def oapp {β : Type} : Option (List β) → Option (List β) → Option (List β)
  | some x, some y => some (x ++ y)
  | _, _ => none

@[simp] theorem oapp_none_left {β : Type} (b : Option (List β)) : oapp none b = none := by cases b <;> rfl
@[simp] theorem oapp_none_right {β : Type} (a : Option (List β)) : oapp a none = none := by cases a <;> rfl
@[simp] theorem oapp_some {β : Type} (x y : List β) : oapp (some x) (some y) = some (x ++ y) := rfl

theorem omapM_eq {α β : Type} (f : α → Option β) (xs : List α) : omapM f xs = xs.mapM f := by
  induction xs with
  | nil => rfl
  | cons x xs ih =>
    simp only [List.mapM_option_cons, ← ih, Option.bind_eq_match, Option.map_eq_match]
    set_option smartUnfolding false in rfl

@[simp] theorem omapM_nil {α β : Type} (f : α → Option β) : omapM f [] = some [] := rfl

theorem omapM_cons {α β : Type} (f : α → Option β) (x : α) (xs : List α) :
    omapM f (x :: xs) = oapp ((f x).map fun y => [y]) (omapM f xs) := by
  simp only [omapM]
  cases f x <;> cases omapM f xs <;> simp

theorem omapM_append {α β : Type} (f : α → Option β) (xs ys : List α) :
    omapM f (xs ++ ys) = oapp (omapM f xs) (omapM f ys) := by
  rw [omapM_eq, omapM_eq, omapM_eq, List.mapM_append]
  cases xs.mapM f <;> cases ys.mapM f <;> rfl

@[simp] theorem omapM_singleton {α β : Type} (f : α → Option β) (x : α) :
    omapM f [x] = (f x).map fun y => [y] := by
  simp only [omapM]; cases f x <;> rfl

/-! ## The traversal, node by node

`Asks g l Q o`: the computation `o` puts exactly the references `l` to the remapper `g`, in order. It fails exactly when
one of the answers fails, and otherwise `Q answers result`. `Asks.bind` and `Asks.map` follow the `?` chain of an impl,
appending the references asked (a head reference `a :: l` is `[a] ++ l`: `.bind (l1 := [_])`).

For a node type, `Remaps g rf er rm`: `rm` puts the references `rf x` of the node `x`, and returns a node whose
references are the answers and whose shape `er` is that of `x` (`View`). It is closed under lists and options
(`Remaps.list`, `.opt`, `.names`) and is the two facts the property theorems state, together (`Asks.view_iff`). Each
`…_remaps` lemma below walks the impl of one node type once: the references, where they are a sum of more than two
parts, are first bracketed to the right, the way the chain appends them. -/

inductive Asks (g : Ref → Option Ref) {β : Type} (l : List Ref) (Q : List Ref → β → Prop) : Option β → Prop
  | fail : omapM g l = none → Asks g l Q none
  | ok {l' y} : omapM g l = some l' → Q l' y → Asks g l Q (some y)

def View {α γ : Type} (rf : α → List Ref) (er : α → γ) (x : α) (l : List Ref) (y : α) : Prop :=
  l = rf y ∧ er y = er x

def Remaps {α γ : Type} (g : Ref → Option Ref) (rf : α → List Ref) (er : α → γ) (rm : α → Option α) : Prop :=
  ∀ x, Asks g (rf x) (View rf er x) (rm x)

/-- `ladder t` is `refine t` with the `match … | none => none | some x => …` chain of the goal read as the chain of
`Option.bind` and `Option.map` it is (`Lemmas/Ladder.lean`; the model function, if recursive, is unfolded first) -/
macro "ladder " t:term : tactic => `(tactic| (set_option smartUnfolding false in refine $t))

section
variable {g : Ref → Option Ref} {α β γ : Type}

theorem Asks.bind {l1 l2 : List Ref} {o1 : Option α} {k : α → Option β} {Q1 : List Ref → α → Prop}
    {Q : List Ref → β → Prop} (h1 : Asks g l1 Q1 o1)
    (h2 : ∀ l1' y1, Q1 l1' y1 → Asks g l2 (fun l2' y => Q (l1' ++ l2') y) (k y1)) :
    Asks g (l1 ++ l2) Q (o1.bind k) := by
  cases h1 with
  | fail h => exact .fail (by rw [omapM_append, h, oapp_none_left])
  | ok h q =>
    have h2 := h2 _ _ q
    rw [Option.bind_some]
    generalize k _ = o2 at h2 ⊢
    cases h2 with
    | fail h' => exact .fail (by rw [omapM_append, h', oapp_none_right])
    | ok h' q' => exact .ok (by rw [omapM_append, h, h', oapp_some]) q'

theorem Asks.map {l : List Ref} {o1 : Option α} {C : α → β} {Q1 : List Ref → α → Prop} {Q : List Ref → β → Prop}
    (h1 : Asks g l Q1 o1) (h2 : ∀ l' y1, Q1 l' y1 → Q l' (C y1)) : Asks g l Q (o1.map C) := by
  cases h1 with
  | fail h => exact .fail h
  | ok h q => exact .ok h (h2 _ _ q)

theorem Asks.view_iff {rf : α → List Ref} {er : α → γ} {x : α} {o : Option α} :
    Asks g (rf x) (View rf er x) o ↔ o.map rf = omapM g (rf x) ∧ ∀ y, o = some y → er y = er x := by
  constructor
  · intro h
    cases h with
    | fail h => exact ⟨h.symm, fun _ h => nomatch h⟩
    | ok h q => exact ⟨(h.trans (congrArg some q.1)).symm, fun _ e => Option.some.inj e ▸ q.2⟩
  · intro ⟨h1, h2⟩
    cases o with
    | none => exact .fail h1.symm
    | some y => exact .ok h1.symm ⟨rfl, h2 y rfl⟩

variable {rm : α → Option α} {rf : α → List Ref} {er : α → γ}

theorem Remaps.list (h : Remaps g rf er rm) : Remaps g (·.flatMap rf) (·.map er) (omapM rm) := by
  intro xs
  induction xs with
  | nil => exact .ok rfl ⟨rfl, rfl⟩
  | cons x xs ih =>
    rw [omapM_eq, List.mapM_option_cons, ← omapM_eq]
    exact .bind (h x) fun _ _ q => .map ih fun _ _ q' => ⟨by simp [q.1, q'.1], by simp [q.2, q'.2]⟩

theorem Remaps.opt (h : Remaps g rf er rm) : Remaps g (refsOpt rf) (·.map er) (ooptM rm)
  | none => .ok rfl ⟨rfl, rfl⟩
  | some a => by ladder .map (h a) fun _ _ q => ⟨q.1, congrArg some q.2⟩

theorem Remaps.ref {c : α → Ref} (b : γ) (hc : ∀ a, g (c a) = (rm a).map c) :
    Remaps g (fun a => [c a]) (fun _ => b) rm := by
  refine fun a => (Asks.view_iff (rf := fun a => [c a])).2 ⟨?_, fun _ _ => rfl⟩
  rw [omapM_singleton, hc, Option.map_map]
  rfl

theorem Remaps.names {c : α → Ref} {b : γ} (h : Remaps g (fun a => [c a]) (fun _ => b) rm) :
    Remaps g (·.map c) (·.map fun _ => b) (omapM rm) := by
  simp only [List.map_eq_flatMap (f := c)]
  exact h.list

end

section
variable (r : Remapper) (o : JStr)

theorem cls_remaps : Remaps (applyRef r o) (fun n => [.cls n]) (fun _ => ([] : JStr)) r.mapClass :=
  .ref [] fun _ => rfl

theorem clsAny_remaps : Remaps (applyRef r o) (fun n => [.clsAny n]) (fun _ => ([] : JStr)) (mapClassAny r) :=
  .ref [] fun _ => rfl

theorem desc_remaps : Remaps (applyRef r o) (fun d => [.desc d]) (fun _ => ([] : JStr)) r.mapDesc :=
  .ref [] fun _ => rfl

theorem dynDesc_remaps : Remaps (applyRef r o) (fun d => [.dynDesc d]) (fun _ => ([] : JStr)) r.mapDesc :=
  .ref [] fun _ => rfl

theorem fieldRef_remaps : Remaps (applyRef r o) (fun f => [.fieldRef f]) (fun _ => noRef) (mapFieldRef r) :=
  .ref noRef fun _ => rfl

theorem methodRef_remaps : Remaps (applyRef r o) (fun m => [.methodRef m]) (fun _ => noRef) (mapMethodRef r) :=
  .ref noRef fun _ => rfl

mutual
  theorem annotation_remaps : Remaps (applyRef r o) refsAnnotation eraseAnnotation (remapAnnotation r)
    | .mk t ps => by
      rw [remapAnnotation]
      ladder .bind (l1 := [_]) (desc_remaps r o t) fun _ _ _ =>
        .map (pairs_remaps ps) fun _ _ _ => ?_
      simp_all [View, refsAnnotation, eraseAnnotation]
  termination_by structural x => x
  theorem pairs_remaps : Remaps (applyRef r o) refsPairs erasePairs (remapPairs r)
    | [] => .ok rfl ⟨rfl, rfl⟩
    | p :: ps => by
      rw [remapPairs]
      ladder .bind (pair_remaps p) fun _ _ _ =>
        .map (pairs_remaps ps) fun _ _ _ => ?_
      simp_all [View, refsPairs, erasePairs]
  termination_by structural x => x
  theorem pair_remaps : Remaps (applyRef r o) refsPair erasePair (remapPair r)
    | .mk n v => by
      rw [remapPair]
      ladder .map (elementValue_remaps v) fun _ _ _ => ?_
      simp_all [View, refsPair, erasePair]
  termination_by structural x => x
  theorem elementValue_remaps : Remaps (applyRef r o) refsElementValue eraseElementValue (remapElementValue r)
    | .object _ => .ok rfl ⟨rfl, rfl⟩
    | .enum t c => by
      -- one reference, answered from two calls of the remapper
      refine Asks.view_iff.2 ⟨?_, fun w h => ?_⟩
      · simp only [refsElementValue, omapM_singleton, remapElementValue, applyRef, classOfDesc_eq, mapEnumConstName,
          fieldNameOk, validFieldName]
        cases h1 : objectClassOf t with
        | none => cases r.mapDesc t <;> simp [refsElementValue]
        | some k =>
          by_cases h2 : Descriptor.validUnqualified c = true
          · simp only [h2, ↓reduceIte]
            cases h3 : r.mapField k c t with
            | none => cases r.mapDesc t <;> simp
            | some p => cases r.mapDesc t <;> simp [refsElementValue]
          · simp only [Bool.not_eq_true] at h2
            simp only [h2, Bool.false_eq_true, ↓reduceIte]
            cases r.mapDesc t <;> simp [refsElementValue]
      · rw [remapElementValue] at h
        cases h1 : mapEnumConstName r t c <;> cases h2 : r.mapDesc t <;> simp only [h1, h2] at h <;> cases h
        rfl
    | .cls d => by
      rw [remapElementValue]
      ladder .map (desc_remaps r o d) fun _ _ q => ⟨q.1, rfl⟩
    | .ann a => by
      rw [remapElementValue]
      ladder .map (annotation_remaps a) fun _ _ _ => ?_
      simp_all [View, refsElementValue, eraseElementValue]
    | .array vs => by
      rw [remapElementValue]
      ladder .map (elementValues_remaps vs) fun _ _ _ => ?_
      simp_all [View, refsElementValue, eraseElementValue]
  termination_by structural x => x
  theorem elementValues_remaps : Remaps (applyRef r o) refsElementValues eraseElementValues (remapElementValues r)
    | [] => .ok rfl ⟨rfl, rfl⟩
    | v :: vs => by
      rw [remapElementValues]
      ladder .bind (elementValue_remaps v) fun _ _ _ =>
        .map (elementValues_remaps vs) fun _ _ _ => ?_
      simp_all [View, refsElementValues, eraseElementValues]
  termination_by structural x => x
end

theorem pairs_ok : ∀ ps : List Pair,
    (remapPairs r ps).map refsPairs = omapM (applyRef r o) (refsPairs ps) :=
  fun ps => (Asks.view_iff.1 (pairs_remaps r o ps)).1

theorem pair_ok : ∀ p : Pair,
    (remapPair r p).map refsPair = omapM (applyRef r o) (refsPair p) :=
  fun p => (Asks.view_iff.1 (pair_remaps r o p)).1

theorem elementValues_ok : ∀ vs : List ElementValue,
    (remapElementValues r vs).map refsElementValues = omapM (applyRef r o) (refsElementValues vs) :=
  fun vs => (Asks.view_iff.1 (elementValues_remaps r o vs)).1

theorem typeAnnotation_remaps : Remaps (applyRef r o) refsTypeAnnotation eraseTypeAnnotation (remapTypeAnnotation r) := by
  intro t
  ladder .map (annotation_remaps r o _) fun _ _ _ => ?_
  simp_all [View, refsTypeAnnotation, eraseTypeAnnotation]

theorem handle_remaps : Remaps (applyRef r o) refsHandle eraseHandle (remapHandle r)
  | .field _ f => (fieldRef_remaps r o f).map fun _ _ q => ⟨q.1, rfl⟩
  | .method _ m => (methodRef_remaps r o m).map fun _ _ q => ⟨q.1, rfl⟩

mutual
  theorem loadable_remaps : Remaps (applyRef r o) refsLoadable eraseLoadable (remapLoadable r)
    | .const _ => .ok rfl ⟨rfl, rfl⟩
    | .cls n => (clsAny_remaps r o n).map fun _ _ q => ⟨q.1, rfl⟩
    | .handle h => (handle_remaps r o h).map fun _ _ q => ⟨q.1, congrArg Loadable.handle q.2⟩
    | .methodType d => (desc_remaps r o d).map fun _ _ q => ⟨q.1, rfl⟩
    | .dynamic c => (constDyn_remaps c).map fun _ _ q => ⟨q.1, congrArg Loadable.dynamic q.2⟩
  termination_by structural x => x
  theorem constDyn_remaps : Remaps (applyRef r o) refsConstDyn eraseConstDyn (remapConstDyn r)
    | .mk n d h args => by
      rw [remapConstDyn]
      ladder .bind (l1 := [_]) (dynDesc_remaps r o d) fun _ _ _ =>
        .bind (handle_remaps r o h) fun _ _ _ =>
        .map (loadables_remaps args) fun _ _ _ => ?_
      simp_all [View, refsConstDyn, eraseConstDyn]
  termination_by structural x => x
  theorem loadables_remaps : Remaps (applyRef r o) refsLoadables eraseLoadables (remapLoadables r)
    | [] => .ok rfl ⟨rfl, rfl⟩
    | l :: ls => by
      rw [remapLoadables]
      ladder .bind (loadable_remaps l) fun _ _ _ =>
        .map (loadables_remaps ls) fun _ _ _ => ?_
      simp_all [View, refsLoadables, eraseLoadables]
  termination_by structural x => x
end

theorem constDyn_ok : ∀ c : ConstDyn,
    (remapConstDyn r c).map refsConstDyn = omapM (applyRef r o) (refsConstDyn c) :=
  fun c => (Asks.view_iff.1 (constDyn_remaps r o c)).1

theorem vtype_remaps : Remaps (applyRef r o) refsVType eraseVType (remapVType r)
  | .plain _ => .ok rfl ⟨rfl, rfl⟩
  | .object n => (clsAny_remaps r o n).map fun _ _ q => ⟨q.1, rfl⟩

theorem frame_remaps : Remaps (applyRef r o) refsFrame eraseFrame (remapFrame r)
  | .plain _ => .ok rfl ⟨rfl, rfl⟩
  | .same1 s => (vtype_remaps r o s).map fun _ _ q => ⟨q.1, congrArg Frame.same1 q.2⟩
  | .append ls => ((vtype_remaps r o).list ls).map fun _ _ q => ⟨q.1, congrArg Frame.append q.2⟩
  | .full ls ss => by
    ladder .bind ((vtype_remaps r o).list ls) fun _ _ _ =>
      .map ((vtype_remaps r o).list ss) fun _ _ _ => ?_
    simp_all [View, refsFrame, eraseFrame]

theorem insn_remaps : Remaps (applyRef r o) refsInsn eraseInsn (remapInsn r)
  | .plain _ => .ok rfl ⟨rfl, rfl⟩
  | .ldc l => (loadable_remaps r o l).map fun _ _ q => ⟨q.1, congrArg Insn.ldc q.2⟩
  | .field op f => (fieldRef_remaps r o f).map fun _ _ q => ⟨q.1, rfl⟩
  | .method op m => (methodRef_remaps r o m).map fun _ _ q => ⟨q.1, rfl⟩
  | .indy n d h args => by
    ladder .bind (l1 := [_]) (dynDesc_remaps r o d) fun _ _ _ =>
      .bind (handle_remaps r o h) fun _ _ _ =>
      .map (loadables_remaps r o args) fun _ _ _ => ?_
    simp_all [View, refsInsn, eraseInsn]
  | .cls op n => (clsAny_remaps r o n).map fun _ _ q => ⟨q.1, rfl⟩

theorem insnEntry_remaps : Remaps (applyRef r o) refsInsnEntry eraseInsnEntry (remapInsnEntry r) := by
  intro e
  ladder .bind ((frame_remaps r o).opt _) fun _ _ _ =>
    .map (insn_remaps r o _) fun _ _ _ => ?_
  simp_all [View, refsInsnEntry, eraseInsnEntry]

theorem exc_remaps : Remaps (applyRef r o) refsExc eraseExc (remapExc r) := by
  intro e
  ladder .map ((clsAny_remaps r o).opt _) fun _ _ _ => ?_
  simp_all [View, refsExc, eraseExc]

theorem lv_remaps : Remaps (applyRef r o) refsLv eraseLv (remapLv r) := by
  intro l
  ladder .map ((desc_remaps r o).opt _) fun _ _ _ => ?_
  simp_all [View, refsLv, eraseLv]

theorem code_remaps : Remaps (applyRef r o) refsCode eraseCode (remapCode r) := by
  intro c
  simp only [refsCode, List.append_assoc]
  ladder .bind ((insnEntry_remaps r o).list _) fun _ _ _ =>
    .bind ((exc_remaps r o).list _) fun _ _ _ =>
    .bind ((lv_remaps r o).list.opt _) fun _ _ _ =>
    .bind ((typeAnnotation_remaps r o).list _) fun _ _ _ =>
    .map ((typeAnnotation_remaps r o).list _) fun _ _ _ => ?_
  simp_all [View, refsCode, eraseCode]

/-- a declared member `c name desc` of the class: one question, the answer a pair -/
theorem decl_remaps {c : JStr → JStr → Ref} {rm : JStr → JStr → Option (JStr × JStr)}
    (hc : ∀ n d, applyRef r o (c n d) = (rm n d).map fun p => c p.1 p.2) (n d : JStr) :
    Asks (applyRef r o) [c n d] (View (fun p => [c p.1 p.2]) (fun _ => ()) (n, d)) (rm n d) :=
  Remaps.ref (rm := fun p => rm p.1 p.2) () (fun _ => hc _ _) (n, d)

theorem field_remaps : Remaps (applyRef r o) refsField eraseField (remapField r o) := by
  intro f
  simp only [refsField, List.append_assoc]
  ladder .bind (l1 := [_]) (decl_remaps r o (c := .fieldDecl) (fun _ _ => rfl) _ _) fun _ (n, d) _ =>
    .bind ((annotation_remaps r o).list _) fun _ _ _ =>
    .bind ((annotation_remaps r o).list _) fun _ _ _ =>
    .bind ((typeAnnotation_remaps r o).list _) fun _ _ _ =>
    .map ((typeAnnotation_remaps r o).list _) fun _ _ _ => ?_
  simp_all [View, refsField, eraseField]

theorem method_remaps : Remaps (applyRef r o) refsMethod eraseMethod (remapMethod r o) := by
  intro m
  simp only [refsMethod, List.append_assoc]
  ladder .bind (l1 := [_]) (decl_remaps r o (c := .methodDecl) (fun _ _ => rfl) _ _) fun _ (n, d) _ =>
    .bind ((code_remaps r o).opt _) fun _ _ _ =>
    .bind ((clsAny_remaps r o).names.opt _) fun _ _ _ =>
    .bind ((annotation_remaps r o).list _) fun _ _ _ =>
    .bind ((annotation_remaps r o).list _) fun _ _ _ =>
    .bind ((typeAnnotation_remaps r o).list _) fun _ _ _ =>
    .bind ((typeAnnotation_remaps r o).list _) fun _ _ _ =>
    .map ((elementValue_remaps r o).opt _) fun _ _ _ => ?_
  simp_all [View, refsMethod, eraseMethod]

theorem innerClass_remaps : Remaps (applyRef r o) refsInnerClass eraseInnerClass (remapInnerClass r) := by
  intro i
  ladder .bind (l1 := [_]) (clsAny_remaps r o _) fun _ _ _ =>
    .map ((clsAny_remaps r o).opt _) fun _ _ _ => ?_
  simp_all [View, refsInnerClass, eraseInnerClass, Function.comp_def]

theorem enclosing_remaps : Remaps (applyRef r o) refsEnclosing eraseEnclosing (remapEnclosing r)
  | ⟨c, some (n, d)⟩ => by ladder .map (methodRef_remaps r o ⟨c, n, d⟩) fun _ _ q => ⟨q.1, rfl⟩
  | ⟨c, none⟩ => by ladder .map (clsAny_remaps r o c) fun _ _ q => ⟨q.1, rfl⟩

theorem recordDecl_ans (n d : JStr) :
    applyRef r o (.recordDecl n d) = (mapRecordDecl r o n d).map fun p => .recordDecl p.1 p.2 := by
  cases h : Descriptor.validUnqualified n <;>
    simp [applyRef, mapRecordDecl, fieldNameOk, validFieldName, h, Function.comp_def]

theorem recordComponent_remaps :
    Remaps (applyRef r o) refsRecordComponent eraseRecordComponent (remapRecordComponent r o) := by
  intro c
  simp only [refsRecordComponent, List.append_assoc]
  ladder .bind (l1 := [_]) (decl_remaps r o (recordDecl_ans r o) _ _) fun _ (n, d) _ =>
    .bind ((annotation_remaps r o).list _) fun _ _ _ =>
    .bind ((annotation_remaps r o).list _) fun _ _ _ =>
    .bind ((typeAnnotation_remaps r o).list _) fun _ _ _ =>
    .map ((typeAnnotation_remaps r o).list _) fun _ _ _ => ?_
  simp_all [View, refsRecordComponent, eraseRecordComponent]

theorem moduleProvides_remaps : Remaps (applyRef r o) refsModuleProvides eraseModuleProvides (remapModuleProvides r) := by
  intro p
  ladder .bind (l1 := [_]) (clsAny_remaps r o _) fun _ _ _ =>
    .map ((clsAny_remaps r o).names _) fun _ _ _ => ?_
  simp_all [View, refsModuleProvides, eraseModuleProvides]

theorem module_remaps : Remaps (applyRef r o) refsModule eraseModule (remapModule r) := by
  intro m
  ladder .bind ((clsAny_remaps r o).names _) fun _ _ _ =>
    .map ((moduleProvides_remaps r o).list _) fun _ _ _ => ?_
  simp_all [View, refsModule, eraseModule]

end

/-- **the traversal of `remap.rs`, exactly**: it puts the references of the class to the remapper, position by
position; the class it returns has the answers for references and the shape of the class it was given -/
theorem class_remaps (r : Remapper) (c : ClassFile) :
    Asks (applyRef r c.name) (refsClass c) (View refsClass eraseClass c) (remapClass r c) := by
  simp only [refsClass, List.append_assoc]
  ladder .bind (l1 := [_]) (cls_remaps r c.name _) fun _ _ _ =>
    .bind ((cls_remaps r c.name).opt _) fun _ _ _ =>
    .bind ((cls_remaps r c.name).names _) fun _ _ _ =>
    .bind ((field_remaps r c.name).list _) fun _ _ _ =>
    .bind ((method_remaps r c.name).list _) fun _ _ _ =>
    .bind ((innerClass_remaps r c.name).list.opt _) fun _ _ _ =>
    .bind ((enclosing_remaps r c.name).opt _) fun _ _ _ =>
    .bind ((annotation_remaps r c.name).list _) fun _ _ _ =>
    .bind ((annotation_remaps r c.name).list _) fun _ _ _ =>
    .bind ((typeAnnotation_remaps r c.name).list _) fun _ _ _ =>
    .bind ((typeAnnotation_remaps r c.name).list _) fun _ _ _ =>
    .bind ((module_remaps r c.name).opt _) fun _ _ _ =>
    .bind ((clsAny_remaps r c.name).opt _) fun _ _ _ =>
    .bind ((clsAny_remaps r c.name).opt _) fun _ _ _ =>
    .bind ((clsAny_remaps r c.name).names.opt _) fun _ _ _ =>
    .bind ((clsAny_remaps r c.name).names.opt _) fun _ _ _ =>
    .map ((recordComponent_remaps r c.name).list _) fun _ _ _ => ?_
  simp_all [View, refsClass, eraseClass]

/-- the name is the first reference `remapClass` puts to the remapper -/
theorem remapClass_name {r : Remapper} {c c' : ClassFile} (h : remapClass r c = some c') :
    r.mapClass c.name = some c'.name := by
  have hr := (Asks.view_iff.1 (class_remaps r c)).1
  simp only [h, refsClass, omapM, applyRef, Option.map_some] at hr
  cases hn : r.mapClass c.name <;> simp only [hn, Option.map_none, Option.map_some] at hr
  · cases hr
  · split at hr <;> cases hr
    rfl

theorem stripDotClass_append (n : JStr) : stripDotClass (n ++ dotClass) = some n := by
  have h : dotClass.isSuffixOf (n ++ dotClass) = true := by
    rw [List.isSuffixOf_iff_suffix]; exact List.suffix_append n dotClass
  simp [stripDotClass, h]

theorem stripDotClass_some {name cn : JStr} (h : stripDotClass name = some cn) : name = cn ++ dotClass := by
  unfold stripDotClass at h
  split at h
  · rename_i hs
    obtain ⟨t, rfl⟩ := List.isSuffixOf_iff_suffix.mp hs
    rw [List.take_left' (by rw [List.length_append, Nat.add_sub_cancel])] at h
    rw [Option.some.inj h]
  · cases h

theorem remapJarLoop_fold (r : Remapper) (es : List (JStr × Entry)) (acc : Jar) :
    remapJarLoop r es acc =
      (omapM (remapEntry r) es).map (fun es' => es'.foldl (fun a ne => AList.insert ne.1 ne.2 a) acc) := by
  rw [omapM_eq]
  exact List.loop_eq_mapM_foldl (remapEntry r) (fun a ne => AList.insert ne.1 ne.2 a) (remapJarLoop r) (fun _ => rfl)
    (fun ne l acc => by rw [remapJarLoop]; cases remapEntry r ne <;> rfl) es acc

end RemapTree
