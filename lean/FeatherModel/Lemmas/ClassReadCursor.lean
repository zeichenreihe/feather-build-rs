import FeatherModel.Spec.ClassEncode
import FeatherModel.Lemmas.Bytes

/-! Running a reader step by step (`bind_ok`: each successful action is named by the fact that makes it succeed); the
big-endian readers invert the big-endian writers; `readVec` over a concatenation of encodings; the header of an attribute;
the label table (`Labels.add` / `addAll`: the table after a sequence of requests; labels are never renumbered, the
requested offsets are labelled, well-formedness is kept however many labels are asked for); the cursor primitives of the
code reader on encoded operands. -/

namespace ClassRead
open Outcome Spec

theorem bind_ok {α β : Type} {x : Outcome α} {v : α} {k : α → Outcome β} {out : Outcome β} (hx : x = ok v) (h : k v = out) :
    x >>= k = out := by
  rw [hx]; exact h

theorem bind_err {α β : Type} {x : Outcome α} {k : α → Outcome β} (hx : x = err) : x >>= k = err := by
  rw [hx]; rfl

theorem bind_eq_ok {α β : Type} {x : Outcome α} {k : α → Outcome β} {w : β} (h : x >>= k = ok w) : ∃ v, x = ok v ∧ k v = ok w := by
  cases x with
  | ok v => exact ⟨v, rfl, h⟩
  | err => cases h
  | crash s => cases h

theorem bind_bind {α β γ : Type} (x : Outcome α) (f : α → Outcome β) (g : β → Outcome γ) :
    x >>= f >>= g = x >>= fun a => f a >>= g := by
  cases x <;> rfl

theorem bind_ite {α β : Type} {x : Outcome α} {c : Prop} [Decidable c] {v : α} {k : α → Outcome β} {out : Outcome β}
    (hx : x = if c then ok v else err) (h : (if c then k v else err) = out) : x >>= k = out := by
  rw [hx, ← h]; split <;> rfl

theorem ite_iff {α : Type} {c c' : Prop} [Decidable c] [Decidable c'] (h : c ↔ c') (x y : α) :
    (if c then x else y) = if c' then x else y := by
  simp only [h]

theorem u8_cons (x : Nat) (s : Bytes) : u8 (x :: s) = ok (x, s) := rfl

theorem u8_be8 (n : Nat) (h : n < 256) (r : Bytes) : u8 (be8 n ++ r) = ok (n, r) :=
  congrArg (fun v => ok (v, r)) (Nat.mod_eq_of_lt h)

theorem u16_be16 (n : Nat) (h : n < 65536) (r : Bytes) : u16 (be16 n ++ r) = ok (n, r) :=
  congrArg (fun v => ok (v, r)) (Be.val16 n h)

theorem u32_be32 (n : Nat) (h : n < 4294967296) (r : Bytes) : u32 (be32 n ++ r) = ok (n, r) :=
  congrArg (fun v => ok (v, r)) (Be.val32 n h)

theorem u64_be64 (n : Nat) (h : n < 18446744073709551616) (r : Bytes) : u64 (be64 n ++ r) = ok (n, r) := by
  rw [be64, List.append_assoc]
  exact bind_ok (u32_be32 _ (Nat.div_lt_of_lt_mul h) _) (bind_ok (u32_be32 _ (Nat.mod_lt _ (by decide)) _)
    (congrArg (fun v => ok (v, r)) (Nat.div_add_mod' n 4294967296)))

theorem toI8_ofI8 (v : Int) (h : -128 ≤ v ∧ v < 128) : toI8 (ofI8 v) = v := Be.signed_emod 128 v h.1 h.2

theorem toI16_ofI16 (v : Int) (h : -32768 ≤ v ∧ v < 32768) : toI16 (ofI16 v) = v := Be.signed_emod 32768 v h.1 h.2

theorem toI32_ofI32 (v : Int) (h : -2147483648 ≤ v ∧ v < 2147483648) : toI32 (ofI32 v) = v :=
  Be.signed_emod 2147483648 v h.1 h.2

theorem toI64_ofI64 (v : Int) (h : -9223372036854775808 ≤ v ∧ v < 9223372036854775808) : toI64 (ofI64 v) = v :=
  Be.signed_emod 9223372036854775808 v h.1 h.2

theorem ofI8_lt (v : Int) : ofI8 v < 256 := by unfold ofI8; omega
theorem ofI16_lt (v : Int) : ofI16 v < 65536 := by unfold ofI16; omega
theorem ofI32_lt (v : Int) : ofI32 v < 4294967296 := by unfold ofI32; omega
theorem ofI64_lt (v : Int) : ofI64 v < 18446744073709551616 := by unfold ofI64; omega

theorem i8_be (v : Int) (h : -128 ≤ v ∧ v < 128) (r : Bytes) : i8 (be8 (ofI8 v) ++ r) = ok (v, r) := by
  simp [i8, u8_be8 _ (ofI8_lt v), toI8_ofI8 v h]

theorem i16_be (v : Int) (h : -32768 ≤ v ∧ v < 32768) (r : Bytes) : i16 (be16 (ofI16 v) ++ r) = ok (v, r) := by
  simp [i16, u16_be16 _ (ofI16_lt v), toI16_ofI16 v h]

theorem i32_be (v : Int) (h : -2147483648 ≤ v ∧ v < 2147483648) (r : Bytes) : i32 (be32 (ofI32 v) ++ r) = ok (v, r) := by
  simp [i32, u32_be32 _ (ofI32_lt v), toI32_ofI32 v h]

theorem i64_be (v : Int) (h : -9223372036854775808 ≤ v ∧ v < 9223372036854775808) (r : Bytes) :
    i64 (be64 (ofI64 v) ++ r) = ok (v, r) := by
  simp [i64, u64_be64 _ (ofI64_lt v), toI64_ofI64 v h]

theorem lengthGe_iff (s : Bytes) (n : Nat) : lengthGe s n = decide (n ≤ s.length) := by
  induction s generalizing n with
  | nil => cases n <;> simp [lengthGe]
  | cons a r ih => cases n <;> simp [lengthGe, ih]

theorem takeN_append (b r : Bytes) : takeN b.length (b ++ r) = ok (b, r) := by
  simp [takeN, lengthGe_iff]

theorem be16_length (n : Nat) : (be16 n).length = 2 := rfl
theorem be32_length (n : Nat) : (be32 n).length = 4 := rfl

theorem readVec_flatMap {α β : Type} (elem : Rd α) (enc : β → Bytes) (val : β → α) (xs : List β)
    (h : ∀ x ∈ xs, ∀ r, elem (enc x ++ r) = ok (val x, r)) (r : Bytes) :
    readVec elem xs.length (xs.flatMap enc ++ r) = ok (xs.map val, r) := by
  induction xs with
  | nil => simp [readVec]
  | cons x xs ih =>
    have hx := h x (by simp)
    have ih' := ih (fun y hy => h y (by simp [hy]))
    simp [readVec, List.flatMap_cons, List.append_assoc, hx, ih']

theorem readVec16_flatMap {α β : Type} (elem : Rd α) (enc : β → Bytes) (val : β → α) (xs : List β)
    (hlen : xs.length < 65536)
    (h : ∀ x ∈ xs, ∀ r, elem (enc x ++ r) = ok (val x, r)) (r : Bytes) :
    readVec16 elem (be16 xs.length ++ xs.flatMap enc ++ r) = ok (xs.map val, r) := by
  rw [List.append_assoc]; exact bind_ok (u16_be16 _ hlen _) (readVec_flatMap elem enc val xs h r)

theorem length_flatMap_const {α : Type} (f : α → Bytes) (k : Nat) (xs : List α) (h : ∀ x ∈ xs, (f x).length = k) :
    (xs.flatMap f).length = k * xs.length := by
  induction xs with
  | nil => simp
  | cons x xs ih =>
    rw [List.flatMap_cons, List.length_append, h x List.mem_cons_self, ih (fun y hy => h y (List.mem_cons_of_mem x hy)),
      List.length_cons, Nat.mul_succ, Nat.add_comm]

/-- a count (at most two bytes) followed by fewer than 65536 elements of a fixed small size fits an `attribute_length` -/
theorem length_counted_lt {α : Type} (f : α → Bytes) (k : Nat) (pre : Bytes) (xs : List α) (hpre : pre.length ≤ 2)
    (hn : xs.length < 65536) (hk : k ≤ 65535) (h : ∀ x ∈ xs, (f x).length = k) :
    (pre ++ xs.flatMap f).length < 4294967296 := by
  have := Nat.mul_le_mul hk (Nat.le_of_lt_succ hn)
  rw [List.length_append, length_flatMap_const f k xs h]; omega

theorem attrHeader_bind {β : Type} {p : Pool} {k : JStr → Nat × Bytes → Outcome β} {nc : Nat} {name : JStr} {body r : Bytes}
    {out : Outcome β} (hnc : nc < 65536) (hname : p.getUtf8 nc = ok name) (hlen : body.length < 4294967296)
    (h : k name (body.length, body ++ r) = out) :
    (do let x ← u16 (attrFrame nc body ++ r); let name ← p.getUtf8 x.1; let y ← u32 x.2; k name y) = out := by
  simp only [attrFrame, List.append_assoc]
  exact bind_ok (u16_be16 nc hnc _) (bind_ok hname (bind_ok (u32_be32 _ hlen _) h))

theorem insertIfEmpty_of_none {α : Type} {cur : Option α} (h : cur = none) (v : α) : insertIfEmpty cur v = ok (some v) := by
  rw [h]; rfl

namespace Labels

/-- invariant of the table: one slot per offset `0..=code_length`, ids below the counter, no id used twice -/
structure WF (l : Labels) : Prop where
  size : l.tbl.size = l.codeLength + 1
  lt : ∀ pc id, l.get pc = some id → id < l.count
  inj : ∀ p q id, l.get p = some id → l.get q = some id → p = q

/-- `l'` extends `l`: same code length, every label of `l` keeps its id -/
def Le (l l' : Labels) : Prop :=
  l.codeLength = l'.codeLength ∧ ∀ pc id, l.get pc = some id → l'.get pc = some id

theorem Le.refl (l : Labels) : Le l l := ⟨rfl, fun _ _ h => h⟩

theorem Le.trans {a b c : Labels} (h1 : Le a b) (h2 : Le b c) : Le a c :=
  ⟨h1.1.trans h2.1, fun pc id h => h2.2 pc id (h1.2 pc id h)⟩

theorem get_new (n pc : Nat) : (Labels.new n).get pc = none := by
  simp only [Labels.new, Labels.get, Array.getElem?_replicate]
  -- no slot of the fresh table holds `some (some _)`
  split
  · next heq => split at heq <;> cases heq
  · rfl

theorem wf_new (n : Nat) : WF (Labels.new n) := by
  refine ⟨by simp [Labels.new], ?_, ?_⟩
  · intro pc id h; simp [get_new] at h
  · intro p q id h; simp [get_new] at h

theorem lt_size_of_get {l : Labels} {pc id : Nat} (h : l.get pc = some id) : pc < l.tbl.size := by
  unfold Labels.get at h
  split at h
  · exact (Array.getElem?_eq_some_iff.mp ‹_›).1
  · cases h

theorem get_set (l : Labels) (pc : Nat) (v : Nat) (q : Nat) (hpc : pc < l.tbl.size) (c : Nat) :
    ({ l with tbl := l.tbl.setIfInBounds pc (some v), count := c } : Labels).get q
      = if pc = q then some v else l.get q := by
  simp only [Labels.get, Array.getElem?_setIfInBounds]
  by_cases h : pc = q
  · subst h; simp [hpc]
  · simp [h]

/-- The table after a label for `pc` has been requested: `get_or_add_unchecked` without the id it returns.  Which table a
reader leaves behind is a function of the offsets it asks for, in order (`addAll`); what it costs in ids (`WF`) is a
property of that function alone (`wf_addAll`). -/
def add (l : Labels) (pc : Nat) : Labels :=
  match l.get pc with
  | some _ => l
  | none => { l with tbl := l.tbl.setIfInBounds pc (some (l.count % 65536)), count := l.count + 1 }

def addAll (l : Labels) (pcs : List Nat) : Labels := pcs.foldl add l

theorem addAll_append (l : Labels) (a b : List Nat) : l.addAll (a ++ b) = (l.addAll a).addAll b := List.foldl_append

/-- a table for `cl` bytes of code: one slot per offset `0..=cl` -/
def Sz (cl : Nat) (l : Labels) : Prop := l.codeLength = cl ∧ l.tbl.size = cl + 1

theorem WF.sz {l : Labels} (h : WF l) : Sz l.codeLength l := ⟨rfl, h.size⟩

theorem sz_new (n : Nat) : Sz n (Labels.new n) := ⟨rfl, by simp [Labels.new]⟩

theorem Sz.le_of_isSome {cl : Nat} {l : Labels} (h : Sz cl l) {pc : Nat} (hs : (l.get pc).isSome = true) : pc ≤ cl := by
  obtain ⟨id, hg⟩ := Option.isSome_iff_exists.mp hs
  have := lt_size_of_get hg
  rw [h.2] at this
  exact Nat.le_of_lt_succ this

theorem Sz.lt_size {cl : Nat} {l : Labels} (h : Sz cl l) {pc : Nat} (hpc : pc ≤ cl) : pc < l.tbl.size := by
  rw [h.2]; exact Nat.lt_succ_of_le hpc

theorem get_bound {l : Labels} (hwf : WF l) {pc id : Nat} (h : l.get pc = some id) : pc ≤ l.codeLength :=
  hwf.sz.le_of_isSome (Option.isSome_of_eq_some h)

theorem Sz.add {cl : Nat} {l : Labels} (h : Sz cl l) (pc : Nat) : Sz cl (l.add pc) := by
  unfold Labels.add; split
  · exact h
  · exact ⟨h.1, by simp [h.2]⟩

theorem Sz.addAll {cl : Nat} {l : Labels} (h : Sz cl l) (pcs : List Nat) : Sz cl (l.addAll pcs) := by
  induction pcs generalizing l with
  | nil => exact h
  | cons pc pcs ih => exact ih (h.add pc)

theorem le_add (l : Labels) (pc : Nat) : Le l (l.add pc) := by
  unfold Labels.add; split
  · exact Le.refl l
  · next hg =>
    refine ⟨rfl, fun q id h => ?_⟩
    have hne : pc ≠ q := fun e => by rw [e, h] at hg; cases hg
    simpa [Labels.get, Array.getElem?_setIfInBounds, hne] using h

theorem le_addAll (l : Labels) (pcs : List Nat) : Le l (l.addAll pcs) := by
  induction pcs generalizing l with
  | nil => exact Le.refl l
  | cons pc pcs ih => exact (le_add l pc).trans (ih _)

theorem count_add_le (l : Labels) (pc : Nat) : (l.add pc).count ≤ l.count + 1 := by
  unfold Labels.add; split
  · exact Nat.le_succ _
  · exact Nat.le_refl _

theorem addUnchecked_eq {cl : Nat} {l : Labels} (h : Sz cl l) {pc : Nat} (hpc : pc ≤ cl) :
    ∃ id, l.addUnchecked pc = ok (id, l.add pc) ∧ (l.add pc).get pc = some id := by
  unfold addUnchecked Labels.add
  cases hg : l.get pc with
  | some id => exact ⟨id, rfl, hg⟩
  | none => exact ⟨_, rfl, by rw [get_set l pc _ pc (h.lt_size hpc), if_pos rfl]⟩

theorem create_eq {l : Labels} {pc : Nat} (hpc : pc < l.codeLength) : l.create pc = ok (l.add pc) := by
  rw [create, if_neg (Nat.not_le_of_lt hpc)]
  unfold addUnchecked Labels.add
  cases l.get pc <;> rfl

theorem getOrCreate_eq {cl : Nat} {l : Labels} (h : Sz cl l) {pc : Nat} (hpc : pc < cl) :
    ∃ id, l.getOrCreate pc = ok (id, l.add pc) ∧ (l.add pc).get pc = some id := by
  rw [getOrCreate, if_neg (by rw [h.1]; omega)]; exact addUnchecked_eq h (Nat.le_of_lt hpc)

theorem getOrCreateExcl_eq {cl : Nat} {l : Labels} (h : Sz cl l) {pc : Nat} (hpc : pc ≤ cl) :
    ∃ id, l.getOrCreateExcl pc = ok (id, l.add pc) ∧ (l.add pc).get pc = some id := by
  rw [getOrCreateExcl, if_neg (by rw [h.1]; omega)]; exact addUnchecked_eq h hpc

theorem wf_add {l : Labels} (hwf : WF l) {pc : Nat} (hpc : pc ≤ l.codeLength) (hcnt : l.get pc = none → l.count < 65536) :
    WF (l.add pc) := by
  have hpc := hwf.sz.lt_size hpc
  unfold Labels.add
  cases hg : l.get pc with
  | some id => exact hwf
  | none =>
    simp only [Nat.mod_eq_of_lt (hcnt hg)]
    refine ⟨by simp [hwf.size], ?_, ?_⟩
    · intro q id h
      rw [get_set l pc l.count q hpc] at h
      split at h
      · cases h; exact Nat.lt_succ_self _
      · exact Nat.lt_succ_of_lt (hwf.lt q id h)
    · intro p q id hp hq
      rw [get_set l pc l.count _ hpc] at hp hq
      split at hp <;> split at hq
      · omega
      · cases hp; exact absurd (hwf.lt q _ hq) (Nat.lt_irrefl _)
      · cases hq; exact absurd (hwf.lt p _ hp) (Nat.lt_irrefl _)
      · exact hwf.inj p q id hp hq

theorem get_addAll {cl : Nat} {l : Labels} (h : Sz cl l) (pcs : List Nat) (hb : ∀ pc ∈ pcs, pc ≤ cl) :
    ∀ pc ∈ pcs, ((l.addAll pcs).get pc).isSome = true := by
  induction pcs generalizing l with
  | nil => exact fun _ h => (List.not_mem_nil h).elim
  | cons q pcs ih =>
    intro pc hpc
    rcases List.mem_cons.mp hpc with rfl | hpc
    · obtain ⟨id, _, hg⟩ := addUnchecked_eq h (hb pc (.head _))
      exact (congrArg Option.isSome ((le_addAll (l.add pc) pcs).2 _ _ hg)).trans rfl
    · exact ih (h.add q) (fun x hx => hb x (.tail _ hx)) pc hpc

/-- the counter counts the filled slots (`max_id` is bumped only when a new key is inserted), so it never leaves the id
space of a `u16` however many labels are asked for -/
def Tight (l : Labels) : Prop := l.count = l.tbl.countP Option.isSome

theorem tight_new (n : Nat) : Tight (Labels.new n) := by
  simp [Tight, Labels.new, Array.countP_replicate]

theorem get_none_iff {l : Labels} {pc : Nat} (h : pc < l.tbl.size) : l.get pc = none ↔ l.tbl[pc] = none := by
  unfold Labels.get
  rw [Array.getElem?_eq_getElem h]
  cases l.tbl[pc] <;> simp

theorem Tight.add {l : Labels} (h : Tight l) {pc : Nat} (hpc : pc < l.tbl.size) : Tight (l.add pc) := by
  unfold Labels.add
  cases hg : l.get pc with
  | some id => exact h
  | none =>
    simp only [Tight, Array.setIfInBounds, hpc, dite_true, Array.countP_set, (get_none_iff hpc).mp hg, Option.isSome_none,
      Bool.false_eq_true, if_false, Nat.sub_zero, Option.isSome_some, if_true]
    rw [h]

theorem Tight.count_lt {l : Labels} (h : Tight l) {pc : Nat} (hpc : pc < l.tbl.size) (hg : l.get pc = none) :
    l.count < l.tbl.size := by
  refine h ▸ Nat.lt_of_le_of_ne Array.countP_le_size fun e => ?_
  have := Array.countP_eq_size.mp e _ (Array.getElem_mem hpc)
  rw [(get_none_iff hpc).mp hg] at this
  cases this

theorem wf_addAll {l : Labels} (hwf : l.WF) (ht : Tight l) (h16 : l.codeLength ≤ 65535) (pcs : List Nat)
    (hb : ∀ pc ∈ pcs, pc ≤ l.codeLength) : (l.addAll pcs).WF := by
  induction pcs generalizing l with
  | nil => exact hwf
  | cons pc pcs ih =>
    have hpc := hwf.sz.lt_size (hb pc (.head _))
    have hcl : (l.add pc).codeLength = l.codeLength := (le_add l pc).1.symm
    exact ih (wf_add hwf (hb pc (.head _)) fun hg => by have := ht.count_lt hpc hg; have := hwf.size; omega) (ht.add hpc) (hcl.symm ▸ h16)
      fun q hq => hcl.symm ▸ hb q (.tail _ hq)

/-- `wf_addAll` on a table not known to be `Tight`: room for the ids is counted in advance, one per request (`readFrames_ok`) -/
theorem wf_addAll_room {l : Labels} (hwf : l.WF) (pcs : List Nat) (hb : ∀ pc ∈ pcs, pc ≤ l.codeLength)
    (hcnt : l.count + pcs.length < 65536) : (l.addAll pcs).WF ∧ (l.addAll pcs).count ≤ l.count + pcs.length := by
  induction pcs generalizing l with
  | nil => exact ⟨hwf, Nat.le_refl _⟩
  | cons pc pcs ih =>
    simp only [List.length_cons] at hcnt ⊢
    have hc := count_add_le l pc
    have hcl : (l.add pc).codeLength = l.codeLength := (le_add l pc).1.symm
    obtain ⟨h1, h2⟩ := ih (wf_add hwf (hb pc (.head _)) fun _ => by omega)
      (fun q hq => hcl.symm ▸ hb q (.tail _ hq)) (by omega)
    exact ⟨h1, Nat.le_trans h2 (by omega)⟩

end Labels

theorem cU8_cons (a b : Nat) (r : Bytes) : cU8 (a, b :: r) = ok (b, (a + 1, r)) := by
  simp [cU8, u8]

theorem cU16_be (a n : Nat) (h : n < 65536) (r : Bytes) : cU16 (a, be16 n ++ r) = ok (n, (a + 2, r)) := by
  simp [cU16, u16_be16 n h]

theorem cI8_of (a : Nat) (v : Int) (h : inI8 v) (r : Bytes) : cI8 (a, ofI8 v :: r) = ok (v, (a + 1, r)) := by
  have := i8_be v h r
  simp only [be8, Nat.mod_eq_of_lt (ofI8_lt v), List.singleton_append] at this
  simp [cI8, this]

theorem cI16_of (a : Nat) (v : Int) (h : inI16 v) (r : Bytes) : cI16 (a, be16 (ofI16 v) ++ r) = ok (v, (a + 2, r)) := by
  simp [cI16, i16_be v h r]

theorem cI32_of (a : Nat) (v : Int) (h : inI32 v) (r : Bytes) : cI32 (a, be32 (ofI32 v) ++ r) = ok (v, (a + 4, r)) := by
  simp [cI32, i32_be v h r]

theorem ofI32_natCast (n : Nat) : ofI32 (n : Int) = n % 4294967296 := by unfold ofI32; omega

theorem cI32_natCast (c n : Nat) (hn : n < 2147483648) (r : Bytes) : cI32 (c, be32 n ++ r) = ok ((n : Int), (c + 4, r)) := by
  have := cI32_of c (n : Int) (by unfold inI32; omega) r
  rwa [ofI32_natCast, Nat.mod_eq_of_lt (by omega)] at this

theorem branchTarget_rel (pos : Nat → Nat) (a t : Nat) (ht : pos t ≤ 65535) :
    branchTarget a (relOff pos a t) = ok (pos t) := by
  unfold branchTarget relOff
  have h1 : ¬ ((a : Int) + ((pos t : Int) - (a : Int)) < 0) := by omega
  have h2 : ¬ ((a : Int) + ((pos t : Int) - (a : Int)) > 65535) := by omega
  simp only [h1, h2, decide_false, Bool.or_self, Bool.false_eq_true, if_false]
  congr 1; omega

theorem cBranch16_rel (pos : Nat → Nat) (a c t : Nat) (h : inI16 (relOff pos a t)) (ht : pos t ≤ 65535) (r : Bytes) :
    cBranch16 a (c, be16 (ofI16 (relOff pos a t)) ++ r) = ok (pos t, (c + 2, r)) := by
  simp [cBranch16, cI16_of c _ h r, branchTarget_rel pos a t ht]

theorem inI32_rel (pos : Nat → Nat) (a t : Nat) (ha : a ≤ 65535) (ht : pos t ≤ 65535) : inI32 (relOff pos a t) := by
  unfold inI32 relOff; omega

theorem cBranch32_rel (pos : Nat → Nat) (a c t : Nat) (ha : a ≤ 65535) (ht : pos t ≤ 65535) (r : Bytes) :
    cBranch32 a (c, be32 (ofI32 (relOff pos a t)) ++ r) = ok (pos t, (c + 4, r)) := by
  simp [cBranch32, cI32_of c _ (inI32_rel pos a t ha ht) r, branchTarget_rel pos a t ht]

/-- alignment after the opcode byte at offset `a`: exactly `padLen a` bytes are consumed, whatever their value `pad` -/
theorem cAlign_pad (a pad : Nat) (r : Bytes) :
    cAlign (a + 1, List.replicate (padLen a) pad ++ r) = ok (a + 1 + padLen a, r) := by
  have h4 : a % 4 < 4 := Nat.mod_lt _ (by decide)
  simp only [cAlign, padLen, Nat.add_mod a 1 4]
  generalize a % 4 = m at h4 ⊢
  match m, h4 with
  | 0, _ | 1, _ | 2, _ => simp [cU8_cons]
  | 3, _ => rfl

theorem cSkip_append (n a : Nat) (b r : Bytes) (h : b.length = n) : cSkip n (a, b ++ r) = ok (a + n, r) := by
  subst h
  simp [cSkip, lengthGe_iff]

end ClassRead
