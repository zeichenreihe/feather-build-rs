import FeatherModel.Lemmas.ArmsDefs
import FeatherModel.Lemmas.ArmsFinite
import FeatherModel.Lemmas.JStrLit

/-!
# The generated reader tables against the JVMS tables (no model involved): `arms_are_jvms`

For every opcode byte 0..255: the Rust reader has a (non-bailing) arm exactly for the opcodes of JVMS §6.5; the arm builds
the constructor named like the mnemonic of the instruction's general form, reads as many operand bytes as the JVMS says,
treats exactly the branch instructions as branches, and the first loop skips the same number of bytes.

Each generated table is walked once together with `opcodes` (`allRows`), so a row is handed its opcode's line of the JVMS
table; on the reader side this is the only place where the mnemonics are compared with the names of the Rust constructors.
-/

namespace Arms

open JvmsTables

/-- the row `rArm` / `rWideArm` read past the end of their tables (kind 5: no arm) -/
abbrev noRow : Nat × Nat × List Nat × Nat := (5, 0, [], 0)

/-- a row of `p2Dense` against the line `o?` of `opcodes` and the entry `f?` of `forms` for the same opcode -/
def jvmsCheck (op : Nat) (e : Nat × Nat × List Nat × Nat) (o? : Option (Nat × JStr × Operands))
    (f? : Option (Nat × Option Nat)) : Bool :=
  let a := rArmOf e op
  let os := o?.map (·.2.2)
  let base := (f?.map (·.1)).getD op
  decide (a = .bail) == o?.isNone &&
    a.operandClass == jvmsOperandClass os &&
    (decide (a = .wide) || decide ((a.ctor?.map fun c => squash (ctorName c)) =
      (if base = op then o?.map (·.2.1) else mnemonic? base).map squash)) &&
    (decide (a = .wide) || decide (a.ctor? = none) || decide (a.operandBytes? = jvmsOperandBytes os)) &&
    decide (a.implicitIndex? = f?.bind (·.2)) &&
    decide (a = .wide) == (op == Gen.ReaderArms.wideOpcode)

/-- a row of `p2WideDense` against the line `o?` of `opcodes`: an arm exactly for the opcodes of `wideForms`, building the
constructor named like the opcode and reading the bytes the wide format has -/
def jvmsWideCheck (w : Nat) (e : Nat × Nat × List Nat × Nat) (o? : Option (Nat × JStr × Operands)) (_ : Option Unit) : Bool :=
  let a := rArmOf e w
  decide ((a.ctor?.map fun c => (squash (ctorName c), a.operandBytes?)) =
    (wideForms.lookup w).map fun n => (((o?.map (·.2.1)).map squash).getD [], some n))

theorem jvms_p1_all :
    allRows (fun _ t o? (_ : Option Unit) => t == jvmsP1Class (o?.map (·.2.2))) 0 Gen.ReaderArms.p1Dense opcodes [] = true := by decide +kernel
/-- the test `t < 16` is that of `p1WideSkip?` -/
theorem jvms_p1w_all :
    allFrom (fun w t => (if t < 16 then some t else none) == wideForms.lookup w) Gen.ReaderArms.p1WideDense = true := by
  decide +kernel
theorem forms_sorted : sortedFrom 0 forms = true := by decide +kernel
theorem jvms_p2_all : allRows jvmsCheck 0 Gen.ReaderArms.p2Dense opcodes forms = true := by
  delta jvmsCheck ctorName mnemonic?
  simp only [← Tab.get?_ofList 8 Gen.ReaderArms.ctorNames, ← Tab.get?_ofList 8 opcodes]
  simp -index only [opcodes, jstr_ofList]
  decide +kernel
theorem jvms_p2w_all : allRows jvmsWideCheck 0 Gen.ReaderArms.p2WideDense opcodes [] = true := by decide +kernel

theorem p1Dense_length : Gen.ReaderArms.p1Dense.length = 256 := by decide +kernel
theorem p1WideDense_length : Gen.ReaderArms.p1WideDense.length = 256 := by decide +kernel
theorem p2Dense_length : Gen.ReaderArms.p2Dense.length = 256 := by decide +kernel
theorem p2WideDense_length : Gen.ReaderArms.p2WideDense.length = 256 := by decide +kernel

theorem wideOpcode_eq : Gen.ReaderArms.wideOpcode = 0xc4 := by decide

theorem RArm.ctor?_of_ne {a : RArm} (hw : a ≠ .wide) (hb : a ≠ .bail) : ∃ c, a.ctor? = some c := by
  cases a with
  | straight c _ _ => exact ⟨c, rfl⟩
  | localN c _ => exact ⟨c, rfl⟩
  | switch c _ => exact ⟨c, rfl⟩
  | wide => exact absurd rfl hw
  | bail => exact absurd rfl hb

theorem jvms_p2 (op : Nat) (hop : op < 256) :
    jvmsCheck op (Gen.ReaderArms.p2Dense.getD op noRow) opcodes[op]? (forms.lookup op) = true :=
  allRows_getD noRow p2Dense_length forms_sorted jvms_p2_all op hop

theorem rArm_wide_iff (op : Nat) (hop : op < 256) : rArm op = .wide ↔ op = Gen.ReaderArms.wideOpcode := by
  have h := jvms_p2 op hop
  have e : rArmOf (Gen.ReaderArms.p2Dense.getD op noRow) op = rArm op := rfl
  simp only [jvmsCheck, e, Bool.and_eq_true, beq_iff_eq] at h
  rw [← decide_eq_decide, h.2]
  rfl

theorem arms_are_jvms (op : Nat) (hop : op < 256) :
    -- an arm that builds an instruction exactly for the opcodes of JVMS §6.5 (0..201); everything else is an error
    (rArm op = .bail ↔ mnemonic? op = none) ∧
    -- plain operands / 16-bit branch / 32-bit branch / tableswitch / lookupswitch / wide as in the JVMS
    (rArm op).operandClass = jvmsOperandClass (operands? op) ∧
    -- the constructor is named like the mnemonic of the general form
    (rArm op ≠ .wide → ((rArm op).ctor?.map fun c => squash (ctorName c)) = (mnemonic? (baseOf op)).map squash) ∧
    -- as many operand bytes as the JVMS says (fixed-length instructions)
    (∀ c, (rArm op).ctor? = some c → (rArm op).operandBytes? = jvmsOperandBytes (operands? op)) ∧
    -- `<t>load_<n>` / `<t>store_<n>` carry the index `<n>`
    (rArm op).implicitIndex? = implicitIndex? op ∧
    -- the first loop puts the opcode in the class the JVMS operand layout demands
    p1Class op = jvmsP1Class (operands? op) ∧
    -- the `wide` sub-matches of both loops: exactly the opcodes and formats of JVMS *wide*
    p1WideSkip? op = wideForms.lookup op ∧
    ((rWideArm op).ctor?.map fun c => (squash (ctorName c), (rWideArm op).operandBytes?)) =
      (wideForms.lookup op).map fun n => (((mnemonic? op).map squash).getD [], some n) := by
  have h1 := allRows_getD 21 p1Dense_length rfl jvms_p1_all op hop
  have h1w := allFrom_getD 21 p1WideDense_length jvms_p1w_all op hop
  have h2 := jvms_p2 op hop
  have h2w := allRows_getD noRow p2WideDense_length rfl jvms_p2w_all op hop
  have hm : (opcodes[op]?).map (·.2.1) = mnemonic? op := rfl
  have ho : (opcodes[op]?).map (·.2.2) = operands? op := rfl
  have hb0 : ((forms.lookup op).map (·.1)).getD op = baseOf op := rfl
  have hi0 : (forms.lookup op).bind (·.2) = implicitIndex? op := rfl
  have hbase : (if baseOf op = op then mnemonic? op else mnemonic? (baseOf op)) = mnemonic? (baseOf op) := by
    split
    · rename_i hb; rw [hb]
    · rfl
  have e : rArmOf (Gen.ReaderArms.p2Dense.getD op noRow) op = rArm op := rfl
  have ew : rArmOf (Gen.ReaderArms.p2WideDense.getD op noRow) op = rWideArm op := rfl
  simp only [jvmsCheck, e, hm, ho, hb0, hi0, hbase, Bool.and_eq_true, Bool.or_eq_true, beq_iff_eq, decide_eq_true_eq] at h2
  simp only [jvmsWideCheck, ew, hm, decide_eq_true_eq] at h2w
  obtain ⟨⟨⟨⟨⟨hb, hcl⟩, hn⟩, hbytes⟩, hidx⟩, -⟩ := h2
  refine ⟨?_, hcl, ?_, ?_, hidx, by simpa [p1Class, ho] using h1, by simpa [p1WideSkip?] using h1w, h2w⟩
  · rw [← hm, Option.map_eq_none_iff, ← Option.isNone_iff_eq_none, ← hb]; simp
  · intro hnw; exact hn.resolve_left hnw
  · intro c hc
    rcases hbytes with (hw | hnone) | hb2
    · rw [hw] at hc; cases hc
    · rw [hnone] at hc; cases hc
    · exact hb2

end Arms
