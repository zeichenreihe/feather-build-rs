import FeatherModel.Lemmas.MavenBfs

/-! Mediation (C19): the result of `clean_up_dependencies` + `into_breadth_first` read off the level trace; the verdicts
of the trace are one left-to-right pass; the `set.remove` closure of the code (a set that starts with every id of the forest
and shrinks) and the "first seen" predicate of the specification (a set that starts empty and grows) give the same
trace; first occurrence in level order wins; no duplicate ids. The facts about the trace go by its own recursion,
`considered_step` with `considered_induct`. -/

namespace Maven
open Tree (sizeList)

variable {α σ τ : Type}

/-- the state after one pass over plain data -/
def stateAfter (f : σ → α → Bool × σ) : σ → List α → σ
  | s, [] => s
  | s, a :: as => stateAfter f (f s a).2 as

theorem keptOf_nil : keptOf ([] : List (α × Bool)) = [] := rfl

theorem keptOf_append (a b : List (α × Bool)) : keptOf (a ++ b) = keptOf a ++ keptOf b := by
  simp [keptOf]

theorem verdicts_eq_verdictsL (f : σ → α → Bool × σ) (s : σ) (ts : List (Tree α)) :
    verdicts f s ts = verdictsL f s (ts.map Tree.data) := by
  induction ts generalizing s with
  | nil => rfl
  | cons t ts ih => simp [verdicts, verdictsL, ih]

theorem verdictsL_map_fst (f : σ → α → Bool × σ) (s : σ) (l : List α) : (verdictsL f s l).map Prod.fst = l := by
  induction l generalizing s with
  | nil => rfl
  | cons a as ih => simp [verdictsL, ih]

theorem verdicts_map_fst (f : σ → α → Bool × σ) (s : σ) (ts : List (Tree α)) :
    (verdicts f s ts).map Prod.fst = ts.map Tree.data := by
  rw [verdicts_eq_verdictsL, verdictsL_map_fst]

theorem verdictsL_append (f : σ → α → Bool × σ) (s : σ) (a b : List α) :
    verdictsL f s (a ++ b) = verdictsL f s a ++ verdictsL f (stateAfter f s a) b := by
  induction a generalizing s with
  | nil => rfl
  | cons x xs ih => simp [verdictsL, stateAfter, ih]

theorem verdictsL_split (f : σ → α → Bool × σ) : ∀ (s : σ) (l : List α) {pre : List (α × Bool)} {x : α × Bool}
    {post : List (α × Bool)}, verdictsL f s l = pre ++ x :: post → x.2 = (f (stateAfter f s (pre.map Prod.fst)) x.1).1 := by
  intro s l pre
  induction pre generalizing s l with
  | nil =>
    intro x post h
    cases l with
    | nil => cases h
    | cons a as => cases h; rfl
  | cons y pre ih =>
    intro x post h
    cases l with
    | nil => cases h
    | cons a as =>
      injection h with h1 h2
      rw [← h1]
      exact ih _ as h2

theorem stateAfter_append (f : σ → α → Bool × σ) (s : σ) (a b : List α) :
    stateAfter f s (a ++ b) = stateAfter f (stateAfter f s a) b := by
  induction a generalizing s with
  | nil => rfl
  | cons x xs ih => simp [stateAfter, ih]

theorem filterS_state (f : σ → α → Bool × σ) (s : σ) (ts : List (Tree α)) :
    (filterS f s ts).1 = stateAfter f s (ts.map Tree.data) := by
  induction ts generalizing s with
  | nil => rfl
  | cons t ts ih => simp [filterS, stateAfter, ih]

theorem filterS_kept (f : σ → α → Bool × σ) (s : σ) (ts : List (Tree α)) :
    (filterS f s ts).2.map Tree.data = keptOf (verdicts f s ts) := by
  induction ts generalizing s with
  | nil => rfl
  | cons t ts ih =>
    cases h : (f s t.data).1 <;> simpa [filterS, verdicts, keptOf, h] using ih (f s t.data).2

theorem considered_nil (f : σ → α → Bool × σ) (s : σ) : considered f s [] = [] := by
  simp [considered, levels, filterS, verdicts, levelsFrom.eq_1]

theorem levelsFrom_flatten (f : σ → α → Bool × σ) (s : σ) (level : List (Tree α)) :
    (levelsFrom f s level).flatten = considered f s (level.flatMap Tree.children) := by
  cases level with
  | nil => rw [levelsFrom.eq_1, List.flatMap_nil, considered_nil]; rfl
  | cons t ts => rw [levelsFrom.eq_2]; rfl

theorem considered_step (f : σ → α → Bool × σ) (s : σ) (forest : List (Tree α)) :
    considered f s forest =
      verdicts f s forest ++ considered f (filterS f s forest).1 ((filterS f s forest).2.flatMap Tree.children) := by
  rw [← levelsFrom_flatten]; rfl

theorem considered_induct (f : σ → α → Bool × σ) {motive : σ → List (Tree α) → Prop} (nil : ∀ s, motive s [])
    (step : ∀ s forest, motive (filterS f s forest).1 ((filterS f s forest).2.flatMap Tree.children) → motive s forest)
    (s : σ) (forest : List (Tree α)) : motive s forest := by
  refine step s forest ?_
  generalize (filterS f s forest).1 = s', (filterS f s forest).2 = level
  induction s', level using levelsFrom.induct f with
  | case1 s => exact nil s
  | case2 s t ts _ _ ih => exact step _ _ ih

theorem levelRun_kept (f : σ → α → Bool × σ) (s : σ) (level : List (Tree α)) :
    (levelRun f s level).map Prod.fst =
      level.map Tree.data ++ keptOf (considered f s (level.flatMap Tree.children)) := by
  induction s, level using levelsFrom.induct f with
  | case1 s => rw [levelRun.eq_1, List.flatMap_nil, considered_nil]; rfl
  | case2 s t ts _ _ ih =>
    obtain ⟨h1, h2, h3⟩ := processLevel_eq f s (t :: ts)
    rw [levelRun.eq_2, List.map_append, h3, h1, h2, considered_step, keptOf_append, ih, filterS_kept]

theorem bfs_bfsRetain (f : σ → α → Bool × σ) (s : σ) (forest : List (Tree α)) :
    bfs (bfsRetain f s forest) = keptOf (considered f s forest) := by
  unfold bfsRetain
  rw [considered_step, bfs_rebuild, queueRun_eq_levelRun, levelRun_kept, keptOf_append, filterS_kept]

theorem considered_pass (f : σ → α → Bool × σ) (s : σ) (forest : List (Tree α)) :
    considered f s forest = verdictsL f s ((considered f s forest).map Prod.fst) := by
  induction s, forest using considered_induct f with
  | nil s => rw [considered_nil]; rfl
  | step s forest ih =>
    rw [considered_step, List.map_append, verdictsL_append, verdicts_eq_verdictsL, verdictsL_map_fst, ← filterS_state,
      ← ih]

mutual
def Tree.nodes : Tree α → List α
  | .node d cs => d :: nodesList cs
def nodesList : List (Tree α) → List α
  | [] => []
  | t :: ts => Tree.nodes t ++ nodesList ts
end

theorem nodes_eq (t : Tree α) : t.nodes = t.data :: nodesList t.children := by
  cases t; simp [Tree.nodes, Tree.data, Tree.children]

theorem nodesList_append (a b : List (Tree α)) : nodesList (a ++ b) = nodesList a ++ nodesList b := by
  induction a with
  | nil => rfl
  | cons t ts ih => simp [nodesList, ih]

theorem bfs_perm (q : List (Tree α)) : (bfs q).Perm (nodesList q) := by
  induction q using bfs.induct with
  | case1 => rw [bfs.eq_1]; exact .nil
  | case2 t ts ih =>
    rw [nodesList_append] at ih
    rw [bfs.eq_2, nodesList, nodes_eq]
    exact (ih.trans List.perm_append_comm).cons _

theorem mem_nodesList {ts : List (Tree α)} {a : α} : a ∈ nodesList ts ↔ ∃ t ∈ ts, a ∈ t.nodes := by
  induction ts with
  | nil => simp [nodesList]
  | cons t ts ih => simp [nodesList, ih]

theorem mem_nodesList_data {ts : List (Tree α)} {t : Tree α} (h : t ∈ ts) : t.data ∈ nodesList ts :=
  mem_nodesList.2 ⟨t, h, nodes_eq t ▸ List.mem_cons_self⟩

theorem mem_nodesList_kept (f : σ → α → Bool × σ) (s : σ) {ts : List (Tree α)} {a : α}
    (h : a ∈ nodesList ((filterS f s ts).2.flatMap Tree.children)) : a ∈ nodesList ts := by
  obtain ⟨c, hc, hac⟩ := mem_nodesList.1 h
  obtain ⟨t, ht, hct⟩ := List.mem_flatMap.1 hc
  exact mem_nodesList.2
    ⟨t, (filterS_sublist f s ts).subset ht, nodes_eq t ▸ List.mem_cons_of_mem _ (mem_nodesList.2 ⟨c, hct, hac⟩)⟩

theorem verdicts_mem (f : σ → α → Bool × σ) (s : σ) {ts : List (Tree α)} {x : α × Bool} (hx : x ∈ verdicts f s ts) :
    x.1 ∈ nodesList ts := by
  obtain ⟨c, hc, hcd⟩ := List.mem_map.1 (verdicts_map_fst f s ts ▸ List.mem_map_of_mem (f := Prod.fst) hx)
  exact hcd ▸ mem_nodesList_data hc

theorem considered_mem (f : σ → α → Bool × σ) (s : σ) (forest : List (Tree α)) :
    ∀ x ∈ considered f s forest, x.1 ∈ nodesList forest := by
  induction s, forest using considered_induct f with
  | nil s => rw [considered_nil]; nofun
  | step s forest ih =>
    intro x hx
    rw [considered_step, List.mem_append] at hx
    exact hx.elim (verdicts_mem f s) fun hx => mem_nodesList_kept f s (ih x hx)

theorem mem_allNodes {forest : List (Tree α)} {a : α} (h : a ∈ nodesList forest) :
    a ∈ forest.flatMap (fun t => bfs [t]) := by
  obtain ⟨t, ht, hat⟩ := mem_nodesList.1 h
  exact List.mem_flatMap.2 ⟨t, ht, (bfs_perm [t]).mem_iff.2 (mem_nodesList.2 ⟨t, List.mem_singleton_self t, hat⟩)⟩

section tracks
variable {ι : Type} [DecidableEq ι] (idOf : α → ι)

/-- `f` keeps a node iff its id is available in the state (`has`), and makes that id unavailable: the shape of the
`set.remove` closure of `clean_up_dependencies` (`has` = is still in the set) and of "first seen" (`has` = not seen yet) -/
def Tracks (f : σ → α → Bool × σ) (has : σ → ι → Bool) : Prop :=
  ∀ s a, (f s a).1 = has s (idOf a) ∧ ∀ i, has (f s a).2 i = (has s i && !(i == idOf a))

theorem tracks_removeFirst : Tracks idOf (removeFirst idOf) (fun rem i => rem.contains i) := by
  refine fun rem a => ⟨rfl, fun i => ?_⟩
  by_cases e : i = idOf a <;> simp [removeFirst, List.contains_eq_mem, List.mem_filter, e]

theorem tracks_firstSeen : Tracks idOf (firstSeen idOf) (fun seen i => !seen.contains i) := by
  refine fun seen a => ⟨rfl, fun i => ?_⟩
  simp only [firstSeen, List.contains_cons, Bool.not_or, Bool.and_comm]

variable {idOf} {f : σ → α → Bool × σ} {has : σ → ι → Bool} (h : Tracks idOf f has)
include h

theorem Tracks.stateAfter (s : σ) (pre : List α) (i : ι) :
    has (stateAfter f s pre) i = (has s i && !(pre.map idOf).contains i) := by
  induction pre generalizing s with
  | nil => simp [Maven.stateAfter]
  | cons a as ih => simp only [Maven.stateAfter, ih, (h s a).2, List.map_cons, List.contains_cons, Bool.not_or, Bool.and_assoc]

theorem Tracks.kept_nodup (s : σ) (l : List α) :
    ((keptOf (verdictsL f s l)).map idOf).Nodup ∧ ∀ i ∈ (keptOf (verdictsL f s l)).map idOf, has s i = true := by
  induction l generalizing s with
  | nil => simp [verdictsL, keptOf]
  | cons a as ih =>
    obtain ⟨h1, h2⟩ := ih (f s a).2
    have h2' : ∀ i ∈ (keptOf (verdictsL f (f s a).2 as)).map idOf, has s i = true ∧ i ≠ idOf a := fun i hi => by
      simpa [(h s a).2] using h2 i hi
    simp only [verdictsL, keptOf, List.filter_cons]
    cases hc : (f s a).1 with
    | true =>
      simp only [if_true, List.map_cons, List.nodup_cons, List.mem_cons]
      refine ⟨⟨fun hm => (h2' _ hm).2 rfl, h1⟩, ?_⟩
      rintro i (hi | hi)
      · rw [hi, ← (h s a).1, hc]
      · exact (h2' i hi).1
    | false => exact ⟨h1, fun i hi => (h2' i hi).1⟩

end tracks

/- Two stateful predicates that give the same verdict on every node of the forest (`P`), from states related by `R` to
states related by `R`, produce the same trace: the order in which nodes are considered depends on the verdicts only. -/
section sim
variable (f : σ → α → Bool × σ) (g : τ → α → Bool × τ) (R : σ → τ → Prop) (P : α → Prop)
variable (hstep : ∀ s t a, R s t → P a → (f s a).1 = (g t a).1 ∧ R (f s a).2 (g t a).2)
include hstep

theorem filterS_sim : ∀ (ts : List (Tree α)) (s : σ) (t : τ), R s t → (∀ x ∈ ts, P x.data) →
    (filterS f s ts).2 = (filterS g t ts).2 ∧ R (filterS f s ts).1 (filterS g t ts).1 ∧
      verdicts f s ts = verdicts g t ts := by
  intro ts
  induction ts with
  | nil => intro s t hR _; exact ⟨rfl, hR, rfl⟩
  | cons x xs ih =>
    intro s t hR hP
    obtain ⟨h1, h2⟩ := hstep s t x.data hR (hP x (by simp))
    obtain ⟨i1, i2, i3⟩ := ih (f s x.data).2 (g t x.data).2 h2 (fun y hy => hP y (by simp [hy]))
    simp only [filterS, verdicts, h1, i1, i3]
    exact ⟨trivial, i2, trivial⟩

theorem considered_sim (forest : List (Tree α)) (s : σ) : ∀ (t : τ), R s t → (∀ a ∈ nodesList forest, P a) →
    considered f s forest = considered g t forest := by
  induction s, forest using considered_induct f with
  | nil s => intro t _ _; rw [considered_nil, considered_nil]
  | step s forest ih =>
    intro t hR hP
    obtain ⟨i1, i2, i3⟩ := filterS_sim f g R P hstep forest s t hR fun y hy => hP _ (mem_nodesList_data hy)
    rw [considered_step f, considered_step g, i3, ← i1]
    exact congrArg _ (ih _ i2 fun a ha => hP a (mem_nodesList_kept f s ha))

end sim

section ids
variable {ι : Type} [DecidableEq ι] (idOf : α → ι)

/-- one pass of the `set.remove` closure: a node is kept iff its id is (still) in the set and no earlier node of the pass
has the same id -/
theorem removeFirst_pass (rem : List ι) (pre : List α) (x : α) (post : List α) :
    verdictsL (removeFirst idOf) rem (pre ++ x :: post) =
      verdictsL (removeFirst idOf) rem pre ++
        (x, rem.contains (idOf x) && !(pre.map idOf).contains (idOf x)) ::
          verdictsL (removeFirst idOf) (stateAfter (removeFirst idOf) rem (pre ++ [x])) post := by
  rw [verdictsL_append]
  simp only [verdictsL, stateAfter_append, stateAfter]
  congr 2
  exact congrArg (Prod.mk x) ((tracks_removeFirst idOf _ x).1.trans ((tracks_removeFirst idOf).stateAfter rem pre _))

/-- the shrinking set of the code, started with every id of the forest, and the growing set of ids seen agree on the ids
of the forest all the way -/
theorem removeFirst_firstSeen (forest : List (Tree α)) :
    considered (removeFirst idOf) ((forest.flatMap (fun t => bfs [t])).map idOf) forest =
      considered (firstSeen idOf) [] forest := by
  let all : List ι := (forest.flatMap (fun t => bfs [t])).map idOf
  apply considered_sim (removeFirst idOf) (firstSeen idOf)
    (fun rem seen => ∀ i ∈ all, rem.contains i = !seen.contains i) (fun a => idOf a ∈ all)
  · intro rem seen a hR hP
    obtain ⟨r1, r2⟩ := tracks_removeFirst idOf rem a
    obtain ⟨s1, s2⟩ := tracks_firstSeen idOf seen a
    exact ⟨r1.trans ((hR _ hP).trans s1.symm),
      fun i hi => (r2 i).trans ((congrArg (· && !(i == idOf a)) (hR i hi)).trans (s2 i).symm)⟩
  · intro i hi
    have hi' : i ∈ List.map idOf (List.flatMap (fun t => bfs [t]) forest) := hi
    simp [hi']
  · intro a ha
    exact List.mem_map_of_mem (mem_allNodes ha)

theorem firstSeen_first (l : List α) (pre : List (α × Bool)) (x : α × Bool) (post : List (α × Bool))
    (h : verdictsL (firstSeen idOf) [] l = pre ++ x :: post) :
    x.2 = true ↔ ∀ y ∈ pre, idOf y.1 ≠ idOf x.1 := by
  have hx : x.2 = !((pre.map Prod.fst).map idOf).contains (idOf x.1) :=
    (verdictsL_split _ _ _ h).trans ((tracks_firstSeen idOf _ x.1).1.trans
      (((tracks_firstSeen idOf).stateAfter [] _ _).trans (Bool.true_and _)))
  rw [hx]
  simp only [Bool.not_eq_eq_eq_not, Bool.not_true, List.contains_eq_mem, decide_eq_false_iff_not, List.mem_map,
    not_exists, not_and]
  exact ⟨fun hh y hy e => hh y.1 ⟨y, hy, rfl⟩ e, fun hh a ⟨y, hy, e1⟩ e => hh y hy (e1 ▸ e)⟩

end ids

end Maven
