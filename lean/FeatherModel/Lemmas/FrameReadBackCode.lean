import FeatherModel.Lemmas.ClassReadFramesSM
import FeatherModel.Lemmas.FramePositions

/-!
# The written `StackMapTable`, read by C01's *reader model* (`ClassRead.readFrames`)

Two steps:

1. what the writer model emits for frames attached to instructions is, byte for byte, the encoding C01's specification
   (`ClassRead.Spec.encFrames`, written from JVMS §4.7.4 for the reader proof) assigns to the layout `sFrames` — the
   frames with the instruction index they describe, the compact / extended choice `offset_delta ≤ 63`, the pool index
   of every `Object` type;
2. that layout is legal (`framesLegal`), so C01's lemma `readFrames_ok` applies: the reader model reads the frames
   back, each attached to the label of the offset of its instruction, `Uninitialized` types carrying the label of the
   offset of their `new` instruction.

The last part instantiates this with the label table, the positions and the collected frames of a successful
`CodeWrite.writeCode`.
-/

/-! the reader's item for an item of the tree, labels left as they are (`FrameReadBack.readVType` renames them to the
reader's): what the layout of an item denotes, in the terms of the whole-class writer -/

namespace ClassWriteFull

def rdVType : FrameWrite.VType → ClassRead.VType
  | .top => .top | .int => .int | .float => .float | .double => .double | .long => .long | .null => .null
  | .uninitThis => .uninitThis
  | .object c => .object c
  | .uninit l => .uninit l

def rdFrame : FrameWrite.Frame → ClassRead.Frame
  | .same => .same
  | .same1 v => .same1 (rdVType v)
  | .chop k => .chop k
  | .append vs => .append (vs.map rdVType)
  | .full ls ss => .full (ls.map rdVType) (ss.map rdVType)

end ClassWriteFull

namespace FrameReadBack
open FrameWrite FrameDenote FramePool
open CodeWrite (Fail u16b Insn Result writeCode)
open PoolWrite (Pool)
open ClassRead (be16)
open ClassRead.Spec (SVType SFrameKind SFrame encFrames frameDelta framesLegal)

/-- the writer's label table as a total function (labels without offset are never looked at) -/
def posOf (lp : Nat → Option Nat) (t : Nat) : Nat := (lp t).getD 0

theorem posOf_some {lp : Nat → Option Nat} {t x : Nat} (h : lp t = some x) : posOf lp t = x := by
  simp only [posOf, h, Option.getD_some]

theorem u16b_be16 (n : Nat) : u16b n = be16 n := rfl

def sVType (lp : Nat → Option Nat) (p : Pool) : VType → Option (SVType × Pool)
  | .top => some (.top, p)
  | .int => some (.int, p)
  | .float => some (.float, p)
  | .double => some (.double, p)
  | .long => some (.long, p)
  | .null => some (.null, p)
  | .uninitThis => some (.uninitThis, p)
  | .object c =>
    match PoolWrite.putClass p c with
    | none => none
    | some (i, p') => some (.object i c, p')
  | .uninit l =>
    match lp l with
    | none => none
    | some _ => some (.uninit l, p)

def sVTypes (lp : Nat → Option Nat) : Pool → List VType → Option (List SVType × Pool)
  | p, [] => some ([], p)
  | p, v :: vs =>
    match sVType lp p v with
    | none => none
    | some (s, p1) =>
      match sVTypes lp p1 vs with
      | none => none
      | some (ss, p2) => some (s :: ss, p2)

def sKind (lp : Nat → Option Nat) (p : Pool) : Frame → Option (SFrameKind × Pool)
  | .same => some (.same, p)
  | .same1 v =>
    match sVType lp p v with
    | none => none
    | some (s, p1) => some (.same1 s, p1)
  | .chop k => some (.chop k, p)
  | .append ls =>
    match sVTypes lp p ls with
    | none => none
    | some (ss, p1) => some (.append ss, p1)
  | .full ls st =>
    match sVTypes lp p ls with
    | none => none
    | some (sl, p1) =>
      match sVTypes lp p1 st with
      | none => none
      | some (ss, p2) => some (.full sl ss, p2)

/-- frames `(instruction index, frame)`; `prev` = index of the instruction of the previous frame -/
def sFrames (lp : Nat → Option Nat) : Pool → Option Nat → List (Nat × Frame) → Option (List SFrame × Pool)
  | p, _, [] => some ([], p)
  | p, prev, (k, f) :: rest =>
    match sKind lp p f with
    | none => none
    | some (sk, p1) =>
      match sFrames lp p1 (some k) rest with
      | none => none
      | some (sfs, p2) =>
        some (⟨k, !decide (frameDelta (prev.map (posOf lp)) (posOf lp k) ≤ 63), sk⟩ :: sfs, p2)

/-- the writer's input for frames attached to instruction indices: `(opcode_pos, frame)` -/
def atPositions (lp : Nat → Option Nat) (ifs : List (Nat × Frame)) : List (Nat × Frame) :=
  ifs.map (fun x => (posOf lp x.1, x.2))

theorem writeVType_enc {lp : Nat → Option Nat} {p p' : Pool} {v : VType} {b : Bytes}
    (h : writeVType lp p v = .ok (b, p')) :
    ∃ s, sVType lp p v = some (s, p') ∧ b = s.encode (posOf lp) := by
  revert h
  fun_cases writeVType lp p v <;> intro h <;> cases h
  iterate 7 exact ⟨_, rfl, rfl⟩
  · rename_i c i hp
    exact ⟨.object i c, by simp only [sVType, hp], rfl⟩
  · rename_i l o ho
    exact ⟨.uninit l, by simp only [sVType, ho], by simp only [SVType.encode, posOf_some ho, u16b_be16]⟩

theorem writeVTypes_enc {lp : Nat → Option Nat} (p : Pool) (vs : List VType) : ∀ {p' : Pool} {b : Bytes},
    writeVTypes lp p vs = .ok (b, p') →
    ∃ ss, sVTypes lp p vs = some (ss, p') ∧ b = ss.flatMap (SVType.encode (posOf lp)) ∧ ss.length = vs.length := by
  fun_induction writeVTypes lp p vs <;> intro p' b h <;> cases h
  · exact ⟨[], rfl, rfl, rfl⟩
  · rename_i _ _ h1 _ _ h2 ih
    obtain ⟨s, hs, rfl⟩ := writeVType_enc h1
    obtain ⟨ss, hss, rfl, hl⟩ := ih h2
    exact ⟨s :: ss, by simp only [sVTypes, hs, hss], rfl, by simp only [List.length_cons, hl]⟩

theorem writeVTypes16_enc {lp : Nat → Option Nat} {vs : List VType} {p p' : Pool} {b : Bytes}
    (h : writeVTypes16 lp p vs = .ok (b, p')) :
    ∃ ss, sVTypes lp p vs = some (ss, p') ∧ b = be16 ss.length ++ ss.flatMap (SVType.encode (posOf lp)) := by
  revert h
  fun_cases writeVTypes16 lp p vs <;> intro h <;> cases h
  obtain ⟨ss, hss, rfl, hl⟩ := writeVTypes_enc p vs ‹_›
  exact ⟨ss, hss, by rw [hl, u16b_be16]⟩

theorem writeFrame_enc {lp : Nat → Option Nat} {p p' : Pool} {d : Nat} {f : Frame} {b : Bytes}
    (h : writeFrame lp p d f = .ok (b, p')) (k : Nat) (prev : Option Nat)
    (hd : frameDelta prev (posOf lp k) = d) :
    ∃ sk, sKind lp p f = some (sk, p') ∧
      b = (SFrame.mk k (!decide (d ≤ 63)) sk).encode (posOf lp) prev := by
  revert h
  fun_cases writeFrame lp p d f <;> intro h <;> cases h
  · rename_i h63
    exact ⟨.same, rfl, by simp [SFrame.encode, hd, h63]⟩
  · rename_i h63
    exact ⟨.same, rfl, by simp [SFrame.encode, hd, h63, u16b_be16]⟩
  · rename_i v _ h1
    obtain ⟨s, hs, rfl⟩ := writeVType_enc h1
    refine ⟨.same1 s, by simp only [sKind, hs], ?_⟩
    by_cases h63 : d ≤ 63
    · simp [SFrame.encode, hd, h63]
    · simp [SFrame.encode, hd, h63, u16b_be16]
  · rename_i c _
    exact ⟨.chop c, rfl, by simp [SFrame.encode, hd, u16b_be16]⟩
  · rename_i ls _ _ h1
    obtain ⟨ss, hss, rfl, hl⟩ := writeVTypes_enc p ls h1
    exact ⟨.append ss, by simp only [sKind, hss], by simp [SFrame.encode, hd, hl, u16b_be16]⟩
  · rename_i ls st _ p1 h1 _ h2
    obtain ⟨sl, hsl, rfl⟩ := writeVTypes16_enc h1
    obtain ⟨ss, hss, rfl⟩ := writeVTypes16_enc h2
    exact ⟨.full sl ss, by simp only [sKind, hsl, hss], by simp [SFrame.encode, hd, u16b_be16, List.append_assoc]⟩

theorem offsetDelta_eq {prev : Option Nat} {o d : Nat} (h : offsetDelta prev o = .ok d) : d = frameDelta prev o := by
  cases prev with
  | none => cases h; rfl
  | some q =>
    simp only [offsetDelta] at h
    split at h <;> cases h
    rfl

theorem writeFrames_enc {lp : Nat → Option Nat} : ∀ (ifs : List (Nat × Frame)) {p p' : Pool} (prev : Option Nat) {b : Bytes},
    writeFrames lp p (prev.map (posOf lp)) (atPositions lp ifs) = .ok (b, p') →
    ∃ sfs, sFrames lp p prev ifs = some (sfs, p') ∧ b = encFrames (posOf lp) (prev.map (posOf lp)) sfs ∧
      sfs.length = ifs.length
  | [], p, p', prev, b, h => by
    cases h
    exact ⟨[], rfl, rfl, rfl⟩
  | (k, f) :: rest, p, p', prev, b, h => by
    simp only [atPositions, List.map_cons, writeFrames] at h
    split at h
    · cases h
    · rename_i d hd
      split at h
      · cases h
      · rename_i b1 p1 h1
        split at h
        · cases h
        · rename_i bs p2 h2
          cases h
          obtain ⟨sk, hsk, hb1⟩ := writeFrame_enc h1 k (prev.map (posOf lp)) (offsetDelta_eq hd).symm
          obtain ⟨sfs, hsfs, hbs, hl⟩ := writeFrames_enc rest (some k) h2
          exact ⟨⟨k, !decide (d ≤ 63), sk⟩ :: sfs, by simp only [sFrames, hsk, hsfs, offsetDelta_eq hd],
            by simp only [encFrames, hb1, hbs, Option.map_some], by simp only [List.length_cons, hl]⟩

theorem written_frameOk {lp : Nat → Option Nat} {ifs : List (Nat × Frame)} {p p' : Pool} {prev : Option Nat} {b : Bytes}
    (h : writeFrames lp p prev (atPositions lp ifs) = .ok (b, p')) : ∀ x ∈ ifs, frameOk lp x.2 = true := by
  simpa only [atPositions, List.forall_mem_map] using List.all_eq_true.mp (writeFrames_ok_imp _ h)

/-! ## step 2: the layout is the tree's, and legal for the reader

Each layout item is the tree's item up to the pool index: the same label demand, the same item for the reader. From a
good pool the pool only grows, and the item is legal for every reader pool that resolves the class entries of a pool the
result grows into (`Reading`): one walk per function, read here with `PoolAgrees` and by the whole-class writer with the
table of every pool still reachable. -/

/-- instruction indices increase strictly and their positions are increasing `u16`s -/
def IdxIncr (lp : Nat → Option Nat) : Option Nat → List (Nat × Frame) → Prop
  | _, [] => True
  | prev, (k, _) :: rest =>
    (match prev with | none => True | some q => q < k ∧ posOf lp q < posOf lp k) ∧ posOf lp k ≤ 65535 ∧
      IdxIncr lp (some k) rest

theorem idxIncr_incr {lp : Nat → Option Nat} : ∀ (ifs : List (Nat × Frame)) (prev : Option Nat),
    IdxIncr lp prev ifs → Incr (prev.map (posOf lp)) (atPositions lp ifs)
  | [], _, _ => trivial
  | (k, f) :: rest, prev, ⟨a, b, c⟩ => by
    simp only [atPositions, List.map_cons, Incr]
    refine ⟨?_, b, idxIncr_incr rest (some k) c⟩
    cases prev with
    | none => trivial
    | some q => exact a.2

def uninitCount : List VType → Nat
  | [] => 0
  | .uninit _ :: vs => uninitCount vs + 1
  | _ :: vs => uninitCount vs

/-- labels the reader looks up or creates for one frame: the frame's own offset and one per `Uninitialized` type -/
def labelDemand : Frame → Nat
  | .same1 v => uninitCount [v] + 1
  | .append ls => uninitCount ls + 1
  | .full ls st => uninitCount ls + uninitCount st + 1
  | _ => 1

/-- the reader's frame for a frame of the tree: the same item, `Uninitialized` carrying the reader's label of the
offset of the writer's label -/
def readVType (lf : ClassRead.Labels) (lp : Nat → Option Nat) : VType → ClassRead.VType
  | .top => .top | .int => .int | .float => .float | .double => .double | .long => .long | .null => .null
  | .uninitThis => .uninitThis
  | .object c => .object c
  | .uninit l => .uninit (ClassRead.labOf lf (posOf lp) l)

def readFrameOf (lf : ClassRead.Labels) (lp : Nat → Option Nat) : Frame → ClassRead.Frame
  | .same => .same
  | .same1 v => .same1 (readVType lf lp v)
  | .chop k => .chop k
  | .append ls => .append (ls.map (readVType lf lp))
  | .full ls st => .full (ls.map (readVType lf lp)) (st.map (readVType lf lp))

/-- the reader's pool resolves a class index wherever the writer's pool holds that class (what reading the written
pool gives; class names valid) -/
def PoolAgrees (p : Pool) (rp : ClassRead.Pool) : Prop :=
  ∀ c i, clsAt p c i = true → rp.getClass i = .ok c

/-- the labels of `Uninitialized` types are instructions (`new` instructions in a valid class), not the end of the code -/
def uninitBelow (n : Nat) : List VType → Prop
  | [] => True
  | .uninit l :: vs => l < n ∧ uninitBelow n vs
  | _ :: vs => uninitBelow n vs

def frameUninitBelow (n : Nat) : Frame → Prop
  | .same1 v => uninitBelow n [v]
  | .append ls => uninitBelow n ls
  | .full ls st => uninitBelow n ls ∧ uninitBelow n st
  | _ => True

theorem uninitCount_cons (v : VType) (vs : List VType) : uninitCount (v :: vs) = uninitCount [v] + uninitCount vs := by
  cases v <;> simp only [uninitCount] <;> omega

theorem uninitBelow_cons {n : Nat} (v : VType) (vs : List VType) :
    uninitBelow n (v :: vs) ↔ uninitBelow n [v] ∧ uninitBelow n vs := by
  cases v <;> simp [uninitBelow]

/-- what the walk over the shadow writer needs to conclude that its layout is legal for the reader pool `rp`: `rp` resolves
the class entries of a pool `q` that the writer's pool grows into, for the names the side condition admits; `S` / `F` are
the side conditions on a verification type / a frame. The two readers: every `rp` with `PoolAgrees q rp`
(`Reading.agrees`), and the table of a pool `q` still reachable (`ClassWriteFull.reading_ext`) -/
structure Reading (rp : ClassRead.Pool) (n : Nat) (q : Pool) (S : VType → Prop) (F : Frame → Prop) : Prop where
  cls : ∀ {c i}, clsAt q c i = true → S (.object c) → rp.getClass i = .ok c
  uninit : ∀ {l}, S (.uninit l) → l < n
  same1 : ∀ {v}, F (.same1 v) → S v
  append : ∀ {ls}, F (.append ls) → ∀ v ∈ ls, S v
  full : ∀ {ls ss}, F (.full ls ss) → (∀ v ∈ ls, S v) ∧ ∀ v ∈ ss, S v

theorem uninitBelow_mem {n : Nat} : ∀ {vs : List VType}, uninitBelow n vs → ∀ v ∈ vs, uninitBelow n [v]
  | v :: vs, h, w, hw => by
    obtain ⟨h1, h2⟩ := (uninitBelow_cons v vs).mp h
    rcases List.mem_cons.mp hw with rfl | hw
    · exact h1
    · exact uninitBelow_mem h2 w hw

theorem Reading.agrees {q : Pool} {rp : ClassRead.Pool} (ha : PoolAgrees q rp) (n : Nat) :
    Reading rp n q (uninitBelow n [·]) (frameUninitBelow n) :=
  ⟨fun hc _ => ha _ _ hc, And.left, id, uninitBelow_mem, And.imp uninitBelow_mem uninitBelow_mem⟩

section
open ClassWriteFull (rdVType rdFrame)
variable {lp : Nat → Option Nat}

theorem sVType_spec {v : VType} {p p' : Pool} {s : SVType} (h : sVType lp p v = some (s, p')) :
    (s.labelRefs = uninitCount [v] ∧ s.fact = rdVType v ∧ ∀ lf, s.raw lf (posOf lp) = readVType lf lp v) ∧
      (Good p → Grows p p' ∧ ∀ {rp n q S F}, Reading rp n q S F → Le p' q → S v → s.Legal rp n) := by
  revert h
  fun_cases sVType lp p v <;> intro h <;> cases h <;> refine ⟨⟨rfl, rfl, fun _ => rfl⟩, fun hg => ?_⟩
  iterate 7 exact ⟨.refl hg, fun _ _ _ => trivial⟩
  · rename_i c i hp
    obtain ⟨g, hc, hi⟩ := putClass_good hg hp
    exact ⟨g, fun R hq hs => ⟨by omega, R.cls (clsAt_le hq hc) hs⟩⟩
  · exact ⟨.refl hg, fun R _ hs => R.uninit hs⟩

theorem sVTypes_spec (p : Pool) (vs : List VType) : ∀ {p' : Pool} {ss : List SVType},
    sVTypes lp p vs = some (ss, p') →
    (ss.length = vs.length ∧ (ss.map SVType.labelRefs).sum = uninitCount vs ∧ ss.map SVType.fact = vs.map rdVType ∧
      ∀ lf, ss.map (SVType.raw lf (posOf lp)) = vs.map (readVType lf lp)) ∧
      (Good p → Grows p p' ∧ ∀ {rp n q S F}, Reading rp n q S F → Le p' q → (∀ v ∈ vs, S v) → ∀ s ∈ ss, s.Legal rp n) := by
  fun_induction sVTypes lp p vs <;> intro p' ss h <;> cases h
  · exact ⟨⟨rfl, rfl, rfl, fun _ => rfl⟩, fun hg => ⟨.refl hg, fun _ _ _ => nofun⟩⟩
  · rename_i v vs _ _ h1 _ _ h2 ih
    obtain ⟨⟨d, f1, e⟩, l1⟩ := sVType_spec h1
    obtain ⟨⟨a, b, f2, c⟩, l2⟩ := ih h2
    refine ⟨⟨by simp only [List.length_cons, a],
      by simp only [List.map_cons, List.sum_cons, b, d, uninitCount_cons v vs], by simp only [List.map_cons, f1, f2],
      fun lf => by simp only [List.map_cons, e, c]⟩, fun hg => ?_⟩
    obtain ⟨g1, l1⟩ := l1 hg
    obtain ⟨g2, l2⟩ := l2 g1.good
    exact ⟨g1.trans g2, fun R hq hs => List.forall_mem_cons.mpr
      ⟨l1 R (g2.le.trans hq) (hs v List.mem_cons_self), l2 R hq fun w hw => hs w (List.mem_cons_of_mem _ hw)⟩⟩

theorem sVTypes_length (vs : List VType) {p p' : Pool} {ss : List SVType}
    (h : sVTypes lp p vs = some (ss, p')) : ss.length = vs.length := (sVTypes_spec p vs h).1.1

theorem sKind_spec {f : Frame} {p p' : Pool} {sk : SFrameKind}
    (h : sKind lp p f = some (sk, p')) :
    (sk.labelRefs + 1 = labelDemand f ∧ sk.fact = rdFrame f ∧ ∀ lf, sk.raw lf (posOf lp) = readFrameOf lf lp f) ∧
      (Good p → Grows p p' ∧ ∀ {rp n q S F}, Reading rp n q S F → Le p' q → frameOk lp f = true → F f → sk.Legal rp n) := by
  revert h
  fun_cases sKind lp p f <;> intro h <;> cases h
  · exact ⟨⟨rfl, rfl, fun _ => rfl⟩, fun hg => ⟨.refl hg, fun _ _ _ _ => trivial⟩⟩
  · obtain ⟨⟨a, f1, b⟩, l⟩ := sVType_spec ‹_›
    exact ⟨⟨by simp only [SFrameKind.labelRefs, labelDemand, a], by simp only [SFrameKind.fact, rdFrame, f1],
      fun lf => by simp only [SFrameKind.raw, readFrameOf, b]⟩,
      fun hg => ⟨(l hg).1, fun R hq _ hf => (l hg).2 R hq (R.same1 hf)⟩⟩
  · exact ⟨⟨rfl, rfl, fun _ => rfl⟩, fun hg => ⟨.refl hg, fun _ _ hok _ => (of_decide_eq_true hok : _ ∧ _)⟩⟩
  · obtain ⟨⟨hl, a, f1, b⟩, l⟩ := sVTypes_spec _ _ ‹_›
    refine ⟨⟨by simp only [SFrameKind.labelRefs, labelDemand, a], by simp only [SFrameKind.fact, rdFrame, f1],
      fun lf => by simp only [SFrameKind.raw, readFrameOf, b]⟩, fun hg => ⟨(l hg).1, fun R hq hok hf => ?_⟩⟩
    simp only [frameOk, Bool.and_eq_true, decide_eq_true_eq] at hok
    exact ⟨by omega, by omega, (l hg).2 R hq (R.append hf)⟩
  · rename_i h1 _ h2
    obtain ⟨⟨hl1, a1, f1, b1⟩, l1⟩ := sVTypes_spec _ _ h1
    obtain ⟨⟨hl2, a2, f2, b2⟩, l2⟩ := sVTypes_spec _ _ h2
    refine ⟨⟨by simp only [SFrameKind.labelRefs, labelDemand, a1, a2], by simp only [SFrameKind.fact, rdFrame, f1, f2],
      fun lf => by simp only [SFrameKind.raw, readFrameOf, b1, b2]⟩, fun hg => ?_⟩
    obtain ⟨g1, l1⟩ := l1 hg
    obtain ⟨g2, l2⟩ := l2 g1.good
    refine ⟨g1.trans g2, fun R hq hok hf => ?_⟩
    simp only [frameOk, Bool.and_eq_true, decide_eq_true_eq] at hok
    exact ⟨by omega, by omega, l1 R (g2.le.trans hq) (R.full hf).1, l2 R hq (R.full hf).2⟩

theorem sFrames_spec (p : Pool) (prev : Option Nat) (ifs : List (Nat × Frame)) :
    ∀ {p' : Pool} {sfs : List SFrame}, sFrames lp p prev ifs = some (sfs, p') →
    ((sfs.map (fun f => f.kind.labelRefs + 1)).sum = (ifs.map (fun x => labelDemand x.2)).sum ∧
      sfs.map (fun f => (f.at_, f.kind.fact)) = ifs.map (fun x => (x.1, rdFrame x.2)) ∧
      ∀ lf, sfs.map (fun f => (ClassRead.labOf lf (posOf lp) f.at_, f.kind.raw lf (posOf lp))) =
        ifs.map (fun x => (ClassRead.labOf lf (posOf lp) x.1, readFrameOf lf lp x.2))) ∧
      (Good p → Grows p p' ∧ ∀ {rp n q S F}, Reading rp n q S F → Le p' q → IdxIncr lp prev ifs →
        (∀ x ∈ ifs, x.1 < n ∧ frameOk lp x.2 = true ∧ F x.2) → framesLegal rp n (posOf lp) prev sfs) := by
  fun_induction sFrames lp p prev ifs <;> intro p' sfs h <;> cases h
  · exact ⟨⟨rfl, rfl, fun _ => rfl⟩, fun hg => ⟨.refl hg, fun _ _ _ _ => trivial⟩⟩
  · rename_i prev k f rest _ _ hsk _ _ hsfs ih
    obtain ⟨⟨a, f1, b⟩, l1⟩ := sKind_spec hsk
    obtain ⟨⟨c, f2, d⟩, l2⟩ := ih hsfs
    refine ⟨⟨by simp only [List.map_cons, List.sum_cons, a, c], by simp only [List.map_cons, f1, f2],
      fun lf => by simp only [List.map_cons, b, d]⟩, fun hg => ?_⟩
    obtain ⟨g1, l1⟩ := l1 hg
    obtain ⟨g2, l2⟩ := l2 g1.good
    refine ⟨g1.trans g2, fun R hq ⟨hprev, _, hrest⟩ hall => ?_⟩
    obtain ⟨⟨hn, hok, hu⟩, hall⟩ := List.forall_mem_cons.mp hall
    refine ⟨hn, ?_, l1 R (g2.le.trans hq) hok hu, fun hext => by simpa using hext, l2 R hq hrest hall⟩
    cases prev with
    | none => trivial
    | some i => exact hprev.1

end

theorem sFrames_refs {lp : Nat → Option Nat} (ifs : List (Nat × Frame)) {p p' : Pool} {sfs : List SFrame}
    (prev : Option Nat) (h : sFrames lp p prev ifs = some (sfs, p')) :
    (sfs.map (fun f => f.kind.labelRefs + 1)).sum = (ifs.map (fun x => labelDemand x.2)).sum :=
  (sFrames_spec p prev ifs h).1.1

/-- **Read-back by the reader model.** Frames attached to instruction indices `ifs` (strictly increasing, `< n`, at
increasing `u16` positions), written by the writer model from a good pool: for every reader pool that resolves the
written class indices, every well-formed reader label table `l` for a code array of `cl` bytes with room for the new
labels, `ClassRead.readFrames` reads the written entries (whatever follows them) back to exactly these frames — frame
`j` attached to the reader's label of the offset of its instruction, `Uninitialized` types carrying the reader's label of
the offset of their label — and consumes exactly the written bytes. -/
theorem readFrames_written {lp : Nat → Option Nat} (ifs : List (Nat × Frame)) {p p' : Pool} (hg : Good p) {bs : Bytes}
    (hw : writeFrames lp p none (atPositions lp ifs) = .ok (bs, p'))
    (n cl : Nat) (hp : ClassRead.PosMono (posOf lp) n cl)
    (hinc : IdxIncr lp none ifs) (hn : ∀ x ∈ ifs, x.1 < n) (hu : ∀ x ∈ ifs, frameUninitBelow n x.2)
    (rp : ClassRead.Pool) (ha : PoolAgrees p' rp)
    (l : ClassRead.Labels) (hwf : l.WF) (hcl : l.codeLength = cl)
    (hroom : l.count + (ifs.map (fun x => labelDemand x.2)).sum < 65536) (r : Bytes) :
    ∃ v l', ClassRead.readFrames rp ifs.length true 0 l (bs ++ r) = .ok (v, l', r) ∧ l'.WF ∧ ClassRead.Labels.Le l l' ∧
      ∀ lf, ClassRead.Labels.Le l' lf →
        v = ifs.map (fun x => (ClassRead.labOf lf (posOf lp) x.1, readFrameOf lf lp x.2)) := by
  obtain ⟨sfs, hs, hb, hl⟩ := writeFrames_enc ifs none hw
  obtain ⟨⟨hrefs, -, hraw⟩, hleg⟩ := sFrames_spec p none ifs hs
  obtain ⟨v, l', h1, h2, h3, _, _, h6⟩ := ClassRead.readFrames_ok rp (posOf lp) n cl hp.toPosOk hp.mono sfs none
    ((hleg hg).2 (.agrees ha n) (Le.refl _) hinc fun x hx => ⟨hn x hx, written_frameOk hw x hx, hu x hx⟩) l r hwf hcl
    (hrefs ▸ hroom)
  refine ⟨v, l', ?_, h2, h3, fun lf hlf => ?_⟩
  · simpa [hb, hl, ClassRead.prevOff] using h1
  · rw [h6 lf hlf]
    exact hraw lf

/-- `collect` with the instruction index instead of the position -/
def collectIdx : Nat → List Nat → List (Option Frame) → List (Nat × Frame)
  | k, _ :: ps, some f :: fs => (k, f) :: collectIdx (k + 1) ps fs
  | k, _ :: ps, none :: fs => collectIdx (k + 1) ps fs
  | _, _, _ => []

theorem collectIdx_eq (ps : List Nat) (fs : List (Option Frame)) (k : Nat) :
    collectIdx k ps fs = collect (List.range' k ps.length) fs := by
  induction ps generalizing k fs with
  | nil => cases fs <;> rfl
  | cons p ps ih =>
    rw [List.length_cons, List.range'_succ]
    rcases fs with _ | ⟨_ | f, fs⟩ <;> simp only [collectIdx, collect, ih]

theorem atPositions_collect (lp : Nat → Option Nat) (ks : List Nat) (fs : List (Option Frame)) :
    atPositions lp (collect ks fs) = collect (ks.map (posOf lp)) fs := by
  induction ks generalizing fs with
  | nil => cases fs <;> rfl
  | cons k ks ih => rcases fs with _ | ⟨_ | f, fs⟩ <;> simp only [List.map_cons, List.map_nil, collect, atPositions, ← ih]

theorem collectIdx_bound (ps : List Nat) (fs : List (Option Frame)) (k : Nat) :
    ∀ x ∈ collectIdx k ps fs, k ≤ x.1 ∧ x.1 < k + ps.length ∧ fs[x.1 - k]? = some (some x.2) := by
  rintro ⟨i, f⟩ hx
  rw [collectIdx_eq] at hx
  obtain ⟨j, hj, hf⟩ := (mem_collect_iff _ fs i f).mp hx
  obtain ⟨hlt, rfl⟩ := List.getElem?_eq_some_iff.mp hj
  rw [List.length_range'] at hlt
  rw [List.getElem_range', Nat.one_mul, Nat.add_sub_cancel_left]
  exact ⟨Nat.le_add_right k j, Nat.add_lt_add_left hlt k, hf⟩

theorem collectIdx_incr (lp : Nat → Option Nat) (n : Nat)
    (hmono : ∀ a b, a < b → b ≤ n → posOf lp a < posOf lp b) (hsmall : posOf lp n ≤ 65535)
    (ps : List Nat) (fs : List (Option Frame)) (k : Nat) : ∀ (prev : Option Nat),
      k + ps.length ≤ n → (match prev with | none => True | some q => q < k) →
      IdxIncr lp prev (collectIdx k ps fs) := by
  fun_induction collectIdx k ps fs <;> intro prev hk hprev
  · rename_i k q ps f fs ih
    rw [List.length_cons] at hk
    refine ⟨?_, by have := hmono k n (by omega) (Nat.le_refl _); omega, ih (some k) (by omega) (Nat.lt_succ_self k)⟩
    cases prev with
    | none => trivial
    | some i => exact ⟨hprev, hmono i k hprev (by omega)⟩
  · rename_i k q ps fs ih
    rw [List.length_cons] at hk
    refine ih prev (by omega) ?_
    cases prev with
    | none => trivial
    | some i => exact Nat.lt_succ_of_lt hprev
  · trivial

theorem collectIdx_zero (lp : Nat → Option Nat) (n : Nat)
    (hmono : ∀ a b, a < b → b ≤ n → posOf lp a < posOf lp b) (hsmall : posOf lp n ≤ 65535)
    (ps : List Nat) (fs : List (Option Frame)) (hn : ps.length = n) :
    IdxIncr lp none (collectIdx 0 ps fs) ∧ ∀ x ∈ collectIdx 0 ps fs, x.1 < n ∧ fs[x.1]? = some (some x.2) :=
  ⟨collectIdx_incr lp n hmono hsmall ps fs 0 none (by omega) trivial, fun x hx => by
    obtain ⟨_, h2, h3⟩ := collectIdx_bound ps fs 0 x hx
    exact ⟨by omega, h3⟩⟩

theorem posOf_pos (res : Result) {j v : Nat} (h : res.pos[j]? = some v) : posOf res.label j = v := by
  simp only [posOf, Result.label, CodeWrite.labelPos, h, Option.getD_some]

theorem framesOf_atPositions (res : Result) (fs : List (Option Frame)) :
    framesOf res fs = atPositions res.label (collectIdx 0 res.pos.toList fs) := by
  rw [collectIdx_eq, atPositions_collect, framesOf]
  congr 1
  refine List.ext_getElem (by simp) fun j h1 h2 => ?_
  simp [posOf_pos res (Array.getElem?_toList ▸ List.getElem?_eq_getElem h1)]

theorem result_posMono (is : List Insn) (res : Result) (hres : writeCode is = .ok res) :
    ClassRead.PosMono (posOf res.label) is.length res.code.length := by
  have ok := CodeWrite.writeCode_ok is res hres
  have hend : posOf res.label is.length = res.code.length :=
    posOf_some (by rw [CodeWrite.label_eq is res hres, if_pos rfl])
  have hmono : ∀ a b, a < b → b ≤ is.length → posOf res.label a < posOf res.label b := by
    intro a b hab hb
    have ha : a < res.pos.toList.length := by rw [Array.length_toList, ok.size]; omega
    rw [posOf_pos res (Array.getElem?_toList ▸ List.getElem?_eq_getElem ha)]
    by_cases h : b < is.length
    · have hb' : b < res.pos.toList.length := by rw [Array.length_toList, ok.size]; exact h
      rw [posOf_pos res (Array.getElem?_toList ▸ List.getElem?_eq_getElem hb')]
      exact List.pairwise_iff_getElem.mp ok.sorted a b ha hb' hab
    · rw [show b = is.length by omega, hend]
      exact ok.lt _ (List.getElem_mem ha)
  refine ⟨⟨fun t ht => hend ▸ hmono t _ ht (Nat.le_refl _), fun t ht => ?_, ok.length.2⟩, hmono⟩
  rcases Nat.eq_or_lt_of_le ht with rfl | h
  · exact Nat.le_of_eq hend
  · exact hend ▸ Nat.le_of_lt (hmono t _ h (Nat.le_refl _))

end FrameReadBack
