import FeatherModel.Model.RawLayout
import FeatherModel.Lemmas.Bytes

/-! C20: induction principle for `Val`, the big-endian codec, the recursive steps of `_write` as equations, and `_len()` is
the number of bytes `_write` produces (every layout, every value). -/

namespace RawLayout

/-- structural induction over the nested inductive `Val` -/
theorem Val.ind {P : Val → Prop} (hnum : ∀ n, P (.num n))
    (hlist : ∀ vs, (∀ v ∈ vs, P v) → P (.list vs))
    (hnode : ∀ k fs, (∀ v ∈ fs, P v) → P (.node k fs)) : ∀ v, P v := by
  intro v
  refine Val.rec (motive_1 := P) (motive_2 := fun l => ∀ v ∈ l, P v) hnum hlist hnode ?_ ?_ v
  · intro v hv; cases hv
  · intro h t ih1 ih2 v hv
    cases hv with
    | head => exact ih1
    | tail _ hm => exact ih2 v hm

theorem Val.beqList_iff (as : List Val) (ih : ∀ a ∈ as, ∀ b, Val.beq a b = true ↔ a = b) :
    ∀ bs, Val.beqList as bs = true ↔ as = bs := by
  induction as with
  | nil => intro bs; cases bs <;> simp [Val.beqList]
  | cons a as iha =>
    intro bs
    cases bs with
    | nil => simp [Val.beqList]
    | cons b bs =>
      simp [Val.beqList, ih a (by simp) b, iha (fun x hx => ih x (by simp [hx])) bs]

theorem Val.beq_iff : ∀ a b, Val.beq a b = true ↔ a = b := by
  intro a
  induction a using Val.ind with
  | hnum n => intro b; cases b <;> simp [Val.beq]
  | hlist vs ih => intro b; cases b <;> simp [Val.beq, Val.beqList_iff vs ih]
  | hnode k fs ih => intro b; cases b <;> simp [Val.beq, Val.beqList_iff fs ih]

instance : DecidableEq Val := fun a b => decidable_of_iff _ (Val.beq_iff a b)

theorem be_length (p : Prim) (n : Nat) : (be p n).length = p.bytes := by
  cases p <;> rfl

theorem takeBE_be (p : Prim) (n : Nat) (r : Bytes) (h : n < p.bound) : takeBE p (be p n ++ r) = some (n, r) := by
  cases p with
  | u8 => exact congrArg (fun v => some (v, r)) (Nat.mod_eq_of_lt h)
  | u16 => exact congrArg (fun v => some (v, r)) (Be.val16 n h)
  | u32 => exact congrArg (fun v => some (v, r)) (Be.val32' n h)

theorem be_takeBE (p : Prim) (bs r : Bytes) (n : Nat) (hb : ∀ x ∈ bs, x < 256) (h : takeBE p bs = some (n, r)) :
    n < p.bound ∧ be p n ++ r = bs := by
  cases p with
  | u8 =>
    match bs, h with
    | a :: r', h =>
      simp [takeBE] at h
      obtain ⟨rfl, rfl⟩ := h
      have := hb a (by simp)
      simp [be, Prim.bound]; omega
  | u16 =>
    match bs, h with
    | a :: b :: r', h =>
      simp [takeBE] at h
      obtain ⟨rfl, rfl⟩ := h
      have := hb a (by simp); have := hb b (by simp)
      simp [be, Prim.bound]; omega
  | u32 =>
    match bs, h with
    | a :: b :: c :: d :: r', h =>
      simp [takeBE] at h
      obtain ⟨rfl, rfl⟩ := h
      have := hb a (by simp); have := hb b (by simp); have := hb c (by simp); have := hb d (by simp)
      simp [be, Prim.bound]; omega

theorem takeBE_suffix (p : Prim) (bs r : Bytes) (n : Nat) (h : takeBE p bs = some (n, r)) :
    ∃ pre, bs = pre ++ r ∧ pre.length = p.bytes := by
  cases p with
  | u8 =>
    match bs, h with
    | a :: r', h => simp [takeBE] at h; exact ⟨[a], by simp [h.2], rfl⟩
  | u16 =>
    match bs, h with
    | a :: b :: r', h => simp [takeBE] at h; exact ⟨[a, b], by simp [h.2], rfl⟩
  | u32 =>
    match bs, h with
    | a :: b :: c :: d :: r', h => simp [takeBE] at h; exact ⟨[a, b, c, d], by simp [h.2], rfl⟩

theorem be_bytes (p : Prim) (n : Nat) : ∀ x ∈ be p n, x < 256 := by
  cases p <;> simp [be] <;> omega

/-! The writer's recursive steps as equations in `Option.bind` / `Option.map`: read from left to right they build an output,
rewritten in a hypothesis `… = some b` (with `Option.bind_eq_some_iff`, `Option.map_eq_some_iff`) they take it apart. -/

theorem writeConsts_cons (tl : Option Nat) (ctx : List (Nat × Val)) (c : Const) (cs : List Const) :
    writeConsts tl ctx (c :: cs) =
      (evalW c.e.bits tl ctx c.e.e).bind fun n => (writeConsts tl ctx cs).map (be c.p (n % c.p.bound) ++ ·) := by
  simp only [writeConsts]
  cases evalW c.e.bits tl ctx c.e.e <;> cases writeConsts tl ctx cs <;> rfl

theorem writeAll_cons (env : Env) (el : Ty) (v : Val) (vs : List Val) :
    writeAll env el (v :: vs) = (writeV env el v).bind fun a => (writeAll env el vs).map (a ++ ·) := by
  simp only [writeAll]
  cases writeV env el v <;> cases writeAll env el vs <;> rfl

theorem writeFields_cons (env : Env) (tl : Option Nat) (ctx : List (Nat × Val)) (f : Field) (fds : List Field) (v : Val)
    (vs : List Val) : writeFields env tl ctx (f :: fds) (v :: vs) =
      (match f.kind with
        | .field ty _ => writeV env ty v
        | .nowrite _ _ => (match v with | .num _ => some [] | _ => none)).bind fun a =>
      (writeConsts tl ctx f.post).bind fun c => (writeFields env tl ctx fds vs).map fun r => a ++ (c ++ r) := by
  simp only [writeFields]
  generalize f.kind = k
  cases k with
  | field ty sp =>
    dsimp only; cases writeV env ty v <;> cases writeConsts tl ctx f.post <;> cases writeFields env tl ctx fds vs <;> rfl
  | nowrite p e => dsimp only; cases v <;> cases writeConsts tl ctx f.post <;> cases writeFields env tl ctx fds vs <;> rfl

theorem writeFields_prim_cons (env : Env) (tl : Option Nat) (ctx : List (Nat × Val)) (f : Field) (p : Prim) (sp : Bool)
    (hk : f.kind = .field (.prim p) sp) (fds : List Field) (fs : List Val) (w : Bytes)
    (hw : writeFields env tl ctx (f :: fds) fs = some w) :
    ∃ n vs c r, fs = .num n :: vs ∧ writeConsts tl ctx f.post = some c ∧ writeFields env tl ctx fds vs = some r ∧
      w = be p n ++ (c ++ r) := by
  cases fs with
  | nil => simp [writeFields] at hw
  | cons v vs =>
    simp only [writeFields_cons, hk, Option.bind_eq_some_iff, Option.map_eq_some_iff] at hw
    obtain ⟨a, ha, c, hc, r, hr, rfl⟩ := hw
    cases v with
    | num n =>
      simp only [writeV] at ha
      split at ha
      · cases ha; exact ⟨n, vs, c, r, rfl, hc, hr, rfl⟩
      · cases ha
    | list _ | node _ _ => simp [writeV] at ha

theorem writeV_vecCnt (env : Env) (c : Prim) (el : Ty) (vs : List Val) :
    writeV env (.vecCnt c el) (.list vs) = (writeAll env el vs).map (be c (vs.length % c.bound) ++ ·) := by
  simp only [writeV]
  cases writeAll env el vs <;> rfl

/-- `this._len()` as `_write` of node `k` of definition `id` hands it to the expressions of its constants and tag -/
abbrev thisLen (env : Env) (id k : Nat) (fs : List Val) : Option Nat := len32 (lenV env (.ref id) (.node k fs))

/-- `_write` of the constants and fields of a body, the counterpart of `readBody`: both arms of `writeV` on a node end in it -/
def writeBody (env : Env) (id k : Nat) (body : Body) (fs : List Val) : Option Bytes :=
  (writeConsts (thisLen env id k fs) (mkCtx body.fields fs) body.pre).bind fun a =>
    (writeFields env (thisLen env id k fs) (mkCtx body.fields fs) body.fields fs).map (a ++ ·)

theorem writeV_struct {env : Env} {id nm : Nat} {body : Body} (hd : env.defs[id]? = some (.struct nm body)) (k : Nat)
    (fs : List Val) : writeV env (.ref id) (.node k fs) = if k = 0 then writeBody env id k body fs else none := by
  simp only [writeV, hd, writeBody]
  split
  · cases writeConsts (thisLen env id k fs) (mkCtx body.fields fs) body.pre <;>
      cases writeFields env (thisLen env id k fs) (mkCtx body.fields fs) body.fields fs <;> rfl
  · rfl

theorem writeV_enum {env : Env} {id k nm tn : Nat} {tagTy : Prim} {variants : List Variant} {fb : Bool} {v : Variant}
    (hd : env.defs[id]? = some (.enum nm tn tagTy variants fb)) (hv : variants[k]? = some v) (fs : List Val) :
    writeV env (.ref id) (.node k fs) =
      (evalW v.tagWrite.bits (thisLen env id k fs) (mkCtx v.body.fields fs) v.tagWrite.e).bind fun t =>
        (writeBody env id k v.body fs).map (be tagTy (t % tagTy.bound) ++ ·) := by
  simp only [writeV, hd, hv, writeBody]
  cases evalW v.tagWrite.bits (thisLen env id k fs) (mkCtx v.body.fields fs) v.tagWrite.e <;>
    cases writeConsts (thisLen env id k fs) (mkCtx v.body.fields fs) v.body.pre <;>
    cases writeFields env (thisLen env id k fs) (mkCtx v.body.fields fs) v.body.fields fs <;> rfl

theorem writeConsts_length (tl : Option Nat) (ctx : List (Nat × Val)) :
    ∀ (cs : List Const) (b : Bytes), writeConsts tl ctx cs = some b → b.length = constsLen cs := by
  intro cs
  induction cs with
  | nil => intro b h; simp [writeConsts] at h; subst h; rfl
  | cons c cs ih =>
    intro b h
    simp only [writeConsts_cons, Option.bind_eq_some_iff, Option.map_eq_some_iff] at h
    obtain ⟨n, _, r, hr, rfl⟩ := h
    simp [constsLen, be_length, ih r hr]

theorem writeAll_length (env : Env) (el : Ty) :
    ∀ (vs : List Val), (∀ v ∈ vs, ∀ ty b, writeV env ty v = some b → b.length = lenV env ty v) → ∀ b, writeAll env el vs = some b → b.length = lenAll env el vs := by
  intro vs
  induction vs with
  | nil => intro _ b h; simp [writeAll] at h; subst h; rfl
  | cons v vs ih =>
    intro hall b h
    simp only [writeAll_cons, Option.bind_eq_some_iff, Option.map_eq_some_iff] at h
    obtain ⟨a, ha, r, hr, rfl⟩ := h
    simp [lenAll, hall v (by simp) el a ha, ih (fun w hw => hall w (by simp [hw])) r hr]

theorem writeFields_length (env : Env) (tl : Option Nat) (ctx : List (Nat × Val)) :
    ∀ (fds : List Field) (vs : List Val), (∀ v ∈ vs, ∀ ty b, writeV env ty v = some b → b.length = lenV env ty v) →
      ∀ b, writeFields env tl ctx fds vs = some b → b.length = lenFields env fds vs := by
  intro fds
  induction fds with
  | nil =>
    intro vs _ b h
    cases vs with
    | nil => simp [writeFields] at h; subst h; rfl
    | cons v vs => simp [writeFields] at h
  | cons f fds ih =>
    intro vs hall b h
    cases vs with
    | nil => simp [writeFields] at h
    | cons v vs =>
      simp only [writeFields_cons, Option.bind_eq_some_iff, Option.map_eq_some_iff] at h
      obtain ⟨a, ha, c, hc, r, hr, rfl⟩ := h
      have h2 := writeConsts_length tl ctx f.post c hc
      have h3 := ih vs (fun w hw => hall w (by simp [hw])) r hr
      simp only [lenFields, List.length_append, h2, h3]
      cases hk : f.kind with
      | field ty sp => rw [hk] at ha; simp [hall v (by simp) ty a ha]
      | nowrite p e =>
        rw [hk] at ha
        cases v <;> simp at ha
        subst ha; simp

theorem len_eq_write_length (env : Env) (ty : Ty) (v : Val) (b : Bytes) (h : writeV env ty v = some b) :
    b.length = lenV env ty v := by
  revert ty b
  induction v using Val.ind with
  | hnum n =>
    intro ty b h
    cases ty <;> simp [writeV] at h
    obtain ⟨_, rfl⟩ := h
    simp [lenV, be_length]
  | hlist vs ih =>
    intro ty b h
    cases ty with
    | prim _ | ref _ => simp [writeV] at h
    | vecCnt c el =>
      simp only [writeV_vecCnt, Option.map_eq_some_iff] at h
      obtain ⟨r, hr, rfl⟩ := h
      simp [lenV, be_length, writeAll_length env el vs ih r hr]
    | vecLen _ el | vecSlots _ _ el =>
      simp only [writeV] at h
      simp [lenV, writeAll_length env el vs ih b h]
  | hnode k fs ih =>
    intro ty b h
    cases ty with
    | prim _ | vecCnt _ _ | vecLen _ _ | vecSlots _ _ _ => simp [writeV] at h
    | ref id =>
      have hbody : ∀ body b, writeBody env id k body fs = some b →
          b.length = constsLen body.pre + lenFields env body.fields fs := by
        intro body b hb
        simp only [writeBody, Option.bind_eq_some_iff, Option.map_eq_some_iff] at hb
        obtain ⟨a, ha, r, hr, rfl⟩ := hb
        simp [writeConsts_length _ _ _ a ha, writeFields_length env _ _ _ fs ih r hr]
      cases hd : env.defs[id]? with
      | none => simp [writeV, hd] at h
      | some d =>
        cases d with
        | struct nm body =>
          rw [writeV_struct hd] at h
          split at h
          · simp [lenV, hd, hbody body b h]
          · cases h
        | enum nm tn tagTy variants fb =>
          cases hv : variants[k]? with
          | none => simp [writeV, hd, hv] at h
          | some var =>
            simp only [writeV_enum hd hv, Option.bind_eq_some_iff, Option.map_eq_some_iff] at h
            obtain ⟨t, _, r, hr, rfl⟩ := h
            simp [lenV, hd, hv, be_length, hbody var.body r hr]

end RawLayout
