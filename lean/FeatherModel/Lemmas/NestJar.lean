import FeatherModel.Lemmas.NestTable

/-!
# `nest_jar`: the filter closure against its state-free specification, the produced jar as a run of
`IndexMap::insert`s, the synthesised attributes
-/

namespace Nest

/-- the state reached after the closure ran over `older` (most recent first) agrees with the specification -/
structure StateOk (names : List JStr) (older : List Nest) (st : FState) : Prop where
  present : ∀ c, st.inJar.contains c = presentRev names older c
  inJarEq : st.inJar = names ++ st.created

section step
variable {names : List JStr} {mm : AList JStr (List (JStr × JStr))} {older : List Nest} {st : FState}

theorem filterStep_eq (h : StateOk names older st) (n : Nest) :
    filterStep mm st n =
      { inJar := st.inJar ++
          if presentRev names older n.className && !presentRev names older n.enclClass then [n.enclClass] else [],
        created := st.created ++
          if presentRev names older n.className && !presentRev names older n.enclClass then [n.enclClass] else [],
        kept := st.kept ++ if presentRev names older n.className && kindRule mm n then [n] else [] } := by
  rw [← h.present, ← h.present]
  unfold filterStep synthEncl
  cases h1 : st.inJar.contains n.className
  · simp only [Bool.false_and, Bool.false_eq_true, if_false, List.append_nil]
  · cases h2 : st.inJar.contains n.enclClass
    · -- a class that is not counted as present was not synthesised before
      have hnc : st.created.contains n.enclClass = false := by
        rw [h.inJarEq, List.contains_append, Bool.or_eq_false_iff] at h2
        exact h2.2
      cases kindRule mm n <;>
        simp only [hnc, Bool.true_and, Bool.not_false, Bool.false_eq_true, if_false, if_true, List.append_nil]
    · cases kindRule mm n <;>
        simp only [Bool.and_true, Bool.and_false, Bool.not_true, Bool.false_eq_true, if_false, if_true, List.append_nil]

theorem stateOk_step (h : StateOk names older st) (n : Nest) : StateOk names (n :: older) (filterStep mm st n) := by
  rw [filterStep_eq h]
  refine ⟨fun c => ?_, by rw [h.inJarEq, List.append_assoc]⟩
  rw [List.contains_append, h.present, presentRev]
  cases hp : presentRev names older n.className
  · simp only [Bool.false_and, Bool.false_eq_true, if_false, List.contains_nil, Bool.and_false]
  · cases he : presentRev names older n.enclClass
    · simp only [Bool.not_false, if_true, List.contains_cons, List.contains_nil, Bool.or_false, Bool.and_true]
    · simp only [Bool.and_false, Bool.not_true, Bool.false_eq_true, if_false, List.contains_nil, Bool.or_false, Bool.and_true]
      cases hc : c == n.enclClass
      · rw [Bool.or_false]
      · rw [eq_of_beq hc, he]
        rfl

end step

theorem foldl_filterStep_spec (names : List JStr) (mm : AList JStr (List (JStr × JStr))) :
    ∀ (todo : Nests) (older : List Nest) (st : FState), StateOk names older st →
      (todo.foldl (filterStep mm) st).kept = st.kept ++ keptSpecGo names mm older todo ∧
      (todo.foldl (filterStep mm) st).created = st.created ++ createdSpecGo names older todo ∧
      StateOk names (todo.reverse ++ older) (todo.foldl (filterStep mm) st) := by
  intro todo
  induction todo with
  | nil => intro older st h; exact ⟨(List.append_nil _).symm, (List.append_nil _).symm, h⟩
  | cons n rest ih =>
    intro older st h
    obtain ⟨h1, h2, h3⟩ := ih (n :: older) (filterStep mm st n) (stateOk_step h n)
    have e := filterStep_eq (mm := mm) h n
    rw [congrArg FState.kept e, List.append_assoc] at h1
    rw [congrArg FState.created e, List.append_assoc] at h2
    rw [List.reverse_cons, List.append_assoc]
    exact ⟨h1, h2, h3⟩

theorem filterRun_spec (jar : Jar) (ns : Nests) :
    (filterRun jar ns).kept = keptSpec jar ns ∧ (filterRun jar ns).created = createdSpec jar ns ∧
    StateOk (jarNames jar) ns.reverse (filterRun jar ns) := by
  have := foldl_filterStep_spec (jarNames jar) (methodsMap (classesOf jar)) ns [] ⟨jarNames jar, [], []⟩
    ⟨fun _ => rfl, (List.append_nil _).symm⟩
  rwa [List.append_nil] at this

section spec
variable (names : List JStr) (mm : AList JStr (List (JStr × JStr)))

theorem presentRev_mono (m : Nest) (older : List Nest) (c : JStr)
    (h : presentRev names older c = true) : presentRev names (m :: older) c = true := by
  rw [presentRev, h, Bool.true_or]

theorem presentRev_mono_append (older : List Nest) (c : JStr) (h : presentRev names older c = true) :
    ∀ l : List Nest, presentRev names (l ++ older) c = true := by
  intro l
  induction l with
  | nil => exact h
  | cons m rest ih => exact presentRev_mono names m (rest ++ older) c ih

theorem presentRev_eq_contains (older : List Nest) (c : JStr)
    (h : names.contains c = true ∨ ∀ m ∈ older, m.enclClass ≠ c) : presentRev names older c = names.contains c := by
  induction older with
  | nil => rfl
  | cons m rest ih =>
    rw [presentRev, ih (h.imp_right fun h x hx => h x (List.mem_cons_of_mem _ hx))]
    rcases h with h | h
    · rw [h, Bool.true_or]
    · rw [beq_false_of_ne (h m List.mem_cons_self).symm, Bool.false_and, Bool.or_false]

theorem keptSpecGo_eq_filter : ∀ (todo : Nests) (older : List Nest),
    (∀ n ∈ todo, names.contains n.className = true ∨ ∀ m ∈ older ++ todo, m.enclClass ≠ n.className) →
      keptSpecGo names mm older todo = todo.filter (fun n => names.contains n.className && kindRule mm n) := by
  intro todo
  induction todo with
  | nil => intro older _; rfl
  | cons n rest ih =>
    intro older h
    rw [keptSpecGo, presentRev_eq_contains names older _
        ((h n List.mem_cons_self).imp_right fun g m hm => g m (List.mem_append_left _ hm)),
      List.filter_cons, ih (n :: older) fun x hx =>
        (h x (List.mem_cons_of_mem _ hx)).imp_right fun g m hm => g m (List.perm_middle.mem_iff.mpr hm)]
    split <;> rfl

theorem createdSpecGo_mem : ∀ (todo : Nests) (older : List Nest) (c : JStr),
    c ∈ createdSpecGo names older todo →
    presentRev names older c = false ∧ ∃ n ∈ todo, n.enclClass = c := by
  intro todo
  induction todo with
  | nil => intro older c h; cases h
  | cons n rest ih =>
    intro older c h
    rw [createdSpecGo, List.mem_append] at h
    rcases h with h | h
    · split at h
      · rename_i hcond
        rw [Bool.and_eq_true, Bool.not_eq_true'] at hcond
        cases List.mem_singleton.mp h
        exact ⟨hcond.2, n, List.mem_cons_self, rfl⟩
      · cases h
    · obtain ⟨hp, m, hm, e⟩ := ih (n :: older) c h
      refine ⟨Bool.eq_false_iff.mpr fun hpo => ?_, m, List.mem_cons_of_mem _ hm, e⟩
      exact Bool.false_ne_true (hp ▸ presentRev_mono names n older c hpo)

theorem keptSpecGo_mem : ∀ (todo : Nests) (older : List Nest) (n : Nest),
    n ∈ keptSpecGo names mm older todo →
    n ∈ todo ∧ kindRule mm n = true ∧ presentRev names (todo.reverse ++ older) n.className = true ∧
      presentRev names (todo.reverse ++ older) n.enclClass = true := by
  intro todo
  induction todo with
  | nil => intro older n h; cases h
  | cons x rest ih =>
    intro older n h
    rw [keptSpecGo, List.mem_append] at h
    rw [List.reverse_cons, List.append_assoc, List.singleton_append]
    rcases h with h | h
    · split at h
      · rename_i hc
        rw [Bool.and_eq_true] at hc
        cases List.mem_singleton.mp h
        refine ⟨List.mem_cons_self, hc.2, ?_, ?_⟩
        · exact presentRev_mono_append names _ _ (presentRev_mono names x older _ hc.1) _
        · apply presentRev_mono_append
          simp only [presentRev, hc.1, beq_self_eq_true, Bool.and_self, Bool.or_true]
      · cases h
    · obtain ⟨h1, h2, h3, h4⟩ := ih (x :: older) n h
      exact ⟨List.mem_cons_of_mem _ h1, h2, h3, h4⟩

end spec

theorem present_final (jar : Jar) (ns : Nests) (c : JStr) :
    presentRev (jarNames jar) ns.reverse c = true ↔ c ∈ jarNames jar ∨ c ∈ createdSpec jar ns := by
  obtain ⟨_, h2, h3⟩ := filterRun_spec jar ns
  rw [← h3.present, ← h2, h3.inJarEq, List.contains_iff_mem, List.mem_append]

section insert
variable {K V : Type} [BEq K] [LawfulBEq K]

/-- `for (k, v) in es { out.insert(k, v) }` -/
def insertAll (es out : AList K V) : AList K V := es.foldl (fun o e => AList.insert e.1 e.2 o) out

theorem lookup_insertAll_eq (k : K) (es out : AList K V) :
    AList.lookup k (insertAll es out) = ((es.reverse.find? fun e => e.1 == k).map Prod.snd).or (AList.lookup k out) :=
  AList.lookup_foldl_insert Prod.fst Prod.snd k es out

theorem lookup_insertAll {k : K} {v : V} (es out : AList K V) (hv : ∀ e ∈ es, e.1 = k → e.2 = v)
    (h : (∃ e ∈ es, e.1 = k) ∨ AList.lookup k out = some v) : AList.lookup k (insertAll es out) = some v := by
  rw [lookup_insertAll_eq]
  cases hf : es.reverse.find? fun e => e.1 == k with
  | some e => exact congrArg some (hv e (List.mem_reverse.mp (List.mem_of_find?_eq_some hf)) (eq_of_beq (List.find?_some (p := fun e : K × V => e.1 == k) hf)))
  | none =>
    exact h.resolve_left fun ⟨e, he, ek⟩ => by simpa [ek] using List.find?_eq_none.mp hf e (List.mem_reverse.mpr he)

theorem lookup_insertAll_other (k : K) (es out : AList K V) (h : ∀ e ∈ es, e.1 ≠ k) :
    AList.lookup k (insertAll es out) = AList.lookup k out := by
  rw [lookup_insertAll_eq, List.find?_eq_none.mpr fun e he => by simpa using h e (List.mem_reverse.mp he)]
  rfl

end insert

/-- the entry emitted for a synthesised enclosing class -/
def createdEntry (remap : Bool) (this : Nests) (f : JStr → JStr) (version : Nat) (name : JStr) : Option (JStr × Entry) :=
  (emitClass remap this f (newClass version name)).map fun c =>
    (if remap then remapEntryName f (name ++ DOT_CLASS) else name ++ DOT_CLASS, .cls c)

def sourceEntry (remap : Bool) (this : Nests) (f : JStr → JStr) : JStr × Entry → Option (JStr × Entry)
  | (name, .cls c) => (emitClass remap this f c).map fun c' => (if remap then remapEntryName f name else name, .cls c')
  | (name, .dir) => some (name, .dir)
  | (name, .other) => some (name, .other)

theorem emitCreated_eq (remap : Bool) (this : Nests) (f : JStr → JStr) (v : Nat) (names : List JStr) (out : Jar) :
    emitCreated remap this f v names out = (names.mapM (createdEntry remap this f v)).map (insertAll · out) :=
  List.loop_eq_mapM_foldl (createdEntry remap this f v) (fun o e => AList.insert e.1 e.2 o) (emitCreated remap this f v) (fun _ => rfl)
    (fun name _ _ => by rw [emitCreated, createdEntry]; cases emitClass remap this f (newClass v name) <;> rfl) names out

theorem emitSource_eq (remap : Bool) (this : Nests) (f : JStr → JStr) (jar out : Jar) :
    emitSource remap this f jar out = (jar.mapM (sourceEntry remap this f)).map (insertAll · out) := by
  refine List.loop_eq_mapM_foldl (sourceEntry remap this f) (fun o e => AList.insert e.1 e.2 o) (emitSource remap this f) (fun _ => rfl)
    (fun e _ _ => ?_) jar out
  obtain ⟨name, _ | _ | c⟩ := e
  · rfl
  · rfl
  · rw [emitSource, sourceEntry]
    cases emitClass remap this f c <;> rfl

theorem nestJar_eq_ok {remap : Bool} {jar : Jar} {ns : Nests} {out : Jar} : nestJar remap jar ns = .ok out ↔
    ∃ v table es1 es2, minVersion (classesOf jar) = some v ∧ jarTable (filterRun jar ns).kept = some table ∧
      (filterRun jar ns).created.mapM (createdEntry remap (filterRun jar ns).kept (tableMap table) v) = some es1 ∧
      jar.mapM (sourceEntry remap (filterRun jar ns).kept (tableMap table)) = some es2 ∧
      out = insertAll es2 (insertAll es1 []) := by
  unfold nestJar
  simp only [emitCreated_eq, emitSource_eq]
  constructor
  · intro h
    split at h
    · cases h
    · rename_i v hv
      split at h
      · cases h
      · rename_i table ht
        split at h
        · cases h
        · rename_i out1 h1
          split at h
          · cases h
          · rename_i out2 h2
            cases h
            obtain ⟨es1, g1, rfl⟩ := Option.map_eq_some_iff.mp h1
            obtain ⟨es2, g2, rfl⟩ := Option.map_eq_some_iff.mp h2
            exact ⟨v, table, es1, es2, hv, ht, g1, g2, rfl⟩
  · rintro ⟨v, table, es1, es2, hv, ht, h1, h2, rfl⟩
    simp only [hv, ht, h1, h2, Option.map_some]

theorem nestJar_table_err (r : Bool) (jar : Jar) (ns : Nests)
    (ht : jarTable (filterRun jar ns).kept = none) : nestJar r jar ns = .error "e" := by
  unfold nestJar
  cases minVersion (classesOf jar) with
  | none => rfl
  | some v => simp only [ht]

theorem createdEntry_false (this : Nests) (f : JStr → JStr) (v : Nat) (name : JStr) :
    createdEntry false this f v name = some (name ++ DOT_CLASS, .cls (addAttrs this (newClass v name))) := rfl

theorem sourceEntry_false (this : Nests) (f : JStr → JStr) (e : JStr × Entry) :
    sourceEntry false this f e = some (e.1, emitEntry this e.2) := by
  obtain ⟨name, _ | _ | c⟩ := e <;> rfl

theorem nestJar_false_eq {jar : Jar} {ns : Nests} {out : Jar} (h : nestJar false jar ns = .ok out) :
    ∃ v, minVersion (classesOf jar) = some v ∧
      out = insertAll (jar.map fun e => (e.1, emitEntry (filterRun jar ns).kept e.2))
        (insertAll ((filterRun jar ns).created.map fun name =>
          (name ++ DOT_CLASS, Entry.cls (addAttrs (filterRun jar ns).kept (newClass v name)))) []) := by
  obtain ⟨v, table, es1, es2, hv, _, h1, h2, rfl⟩ := nestJar_eq_ok.mp h
  rw [List.mapM_of_forall fun _ _ => createdEntry_false _ _ v _] at h1
  rw [List.mapM_of_forall fun _ _ => sourceEntry_false _ _ _] at h2
  cases h1
  cases h2
  exact ⟨v, hv, rfl⟩

theorem addAttrs_none (this : Nests) (c : JClass) (h : get this c.name = none) : addAttrs this c = c := by
  unfold addAttrs
  rw [h]

theorem addAttrs_some (this : Nests) (c : JClass) (n : Nest) (h : get this c.name = some n) :
    addAttrs this c =
      { c with
        innerClasses := some (c.innerClasses.getD [] ++ [innerClassOf n]),
        enclosingMethod :=
          if n.kind = .anonymous ∨ n.kind = .local then some { cls := n.enclClass, method := n.enclMethod }
          else c.enclosingMethod } := by
  unfold addAttrs
  rw [h]
  simp only
  split <;> rfl

theorem addAttrs_name (this : Nests) (c : JClass) : (addAttrs this c).name = c.name := by
  cases h : get this c.name with
  | none => rw [addAttrs_none this c h]
  | some n => rw [addAttrs_some this c n h]

theorem remapEntryName_class (f : JStr → JStr) (c : JStr) : remapEntryName f (c ++ DOT_CLASS) = f c ++ DOT_CLASS := by
  unfold remapEntryName stripSuffix
  rw [if_pos (List.isSuffixOf_iff_suffix.mpr (List.suffix_append c DOT_CLASS)), List.length_append, Nat.add_sub_cancel,
    List.take_left' rfl]

theorem remapClass_eq (f : JStr → JStr) (c : JClass) :
    remapClass f c =
      (mapOpt (fun (m : JStr × JStr) => (MapDesc.mapDesc f m.2).map (fun d => (m.1, d))) c.methods).bind fun ms =>
      (mapMOpt (fun ics => mapOpt (remapInner f) ics) c.innerClasses).bind fun ics =>
      (mapMOpt (remapEncl f) c.enclosingMethod).map fun em =>
        { c with name := f c.name, super := c.super.map f, interfaces := c.interfaces.map f, methods := ms,
                 innerClasses := ics, enclosingMethod := em } := by
  simp only [Option.bind_eq_match, Option.map_eq_match]
  set_option smartUnfolding false in rfl

theorem emitClass_true_name (this : Nests) (f : JStr → JStr) (c c' : JClass) (h : emitClass true this f c = some c') :
    c'.name = f c.name := by
  have h : remapClass f (addAttrs this c) = some c' := h
  simp only [remapClass_eq, Option.bind_eq_some_iff, Option.map_eq_some_iff] at h
  obtain ⟨_, _, _, _, _, _, rfl⟩ := h
  exact congrArg f (addAttrs_name this c)

theorem createdEntry_remap_view {this : Nests} {f : JStr → JStr} {v : Nat} {name : JStr} {e : JStr × Entry}
    (h : createdEntry true this f v name = some e) : nameView e = createdView f name := by
  obtain ⟨c, hc, rfl⟩ := Option.map_eq_some_iff.mp h
  simp only [nameView, createdView, if_true, remapEntryName_class, emitClass_true_name this f _ c hc, newClass]

theorem sourceEntry_remap_view {this : Nests} {f : JStr → JStr} {e e' : JStr × Entry}
    (h : sourceEntry true this f e = some e') : nameView e' = renamedView f e := by
  obtain ⟨name, _ | _ | c⟩ := e
  · cases h; rfl
  · cases h; rfl
  · obtain ⟨c', hc, rfl⟩ := Option.map_eq_some_iff.mp h
    simp only [nameView, renamedView, if_true, emitClass_true_name this f c c' hc]

/-- `plain`: neither name starts with `[`, so `map_class_any` takes its class-name branch -/
theorem remapInner_plain (f : JStr → JStr) (n : Nest) (h1 : n.className.head? ≠ some LBRACK)
    (h2 : n.enclClass.head? ≠ some LBRACK) : remapInner f (innerClassOf n) = some (renamedInnerClass f n) := by
  unfold remapInner innerClassOf renamedInnerClass mapClassAny
  simp only [h1, if_false]
  by_cases hk : n.kind = .inner
  · simp [hk, h2, innerClassOf]
  · simp [hk, innerClassOf]

theorem remapEncl_plain (f : JStr → JStr) (n : Nest) (h2 : n.enclClass.head? ≠ some LBRACK) :
    remapEncl f { cls := n.enclClass, method := n.enclMethod } = renamedEnclMethod f n := by
  unfold remapEncl renamedEnclMethod mapClassAny
  cases hm : n.enclMethod with
  | none => simp [h2]
  | some m => obtain ⟨mn, md⟩ := m; simp [h2]

end Nest
