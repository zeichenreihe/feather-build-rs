import FeatherModel.Lemmas.ClassWriteFullAnno

/-!
# C02 (whole writer) — the attributes every owner has

A record component has exactly the attributes every owner has (`Signature`, the four annotation attributes, the unknown
ones).  So `SRecordAttr` / `RecordComponent` serve as the common view: the blocks `sigAttr`, `annoBlocks`, `unknownAttrs` are
specified once, for the owner `ownShared` (record-component attributes, legal for a given owner kind and list of known
names), and a `View` carries them to a field, a method, the class; a record component runs on `ownShared` itself, as a
field with the names `recordAttrNames` (`SRecordAttr.legalFor_field`).
-/

namespace ClassWriteFull
open FramePool (Good Le)
open ClassRead ClassRead.Spec

def SRecordAttr.frame (a : SRecordAttr) : Bytes := attrFrame a.raw.1 a.raw.2

/-- `SRecordAttr.Legal` with the owner kind and the known names as parameters (there: `.field`, `recordAttrNames`) -/
def SRecordAttr.LegalFor (own : Owner) (names : List JStr) (p : ClassRead.Pool) : SRecordAttr → Prop
  | .signature nc cp sig => nc < 65536 ∧ p.getUtf8 nc = .ok sSignature ∧ cp < 65536 ∧ p.getUtf8 cp = .ok sig
  | .annotations nc visible as => annosLegal p nc visible as
  | .typeAnnotations nc visible as => typeAnnosLegal p own nc visible as
  | .unknown nc name b => nc < 65536 ∧ p.getUtf8 nc = .ok name ∧ name ∉ names ∧ b.length < 4294967296

theorem SRecordAttr.legalFor_field {p : ClassRead.Pool} {a : SRecordAttr} :
    SRecordAttr.LegalFor .field recordAttrNames p a ↔ a.Legal p := by
  cases a <;> exact Iff.rfl

def ownShared (own : Owner) (names : List JStr) : Own SRecordAttr RecordComponent :=
  ⟨SRecordAttr.frame, fun q a => Sound q (SRecordAttr.LegalFor own names · a), fun hl h => h.mono hl, SRecordAttr.apply⟩

variable {own : Owner} {names : List JStr}

theorem sblocks_signature (s : Option JStr) :
    WBlocks (ownShared own names) [sigAttr s] (fun c => c.signature = none) (fun c => { c with signature := s }) :=
  (WBlocks.cons (wblock_fix2 (O := ownShared own names) (At := Utf8At) putUtf8_spec
      SRecordAttr.signature (fun _ _ _ => rfl) (fun q nc cp v _ hn a hc ac q' hq => ⟨hn, a.read hq, hc, ac.read hq⟩)
      (fun v hf st nc cp hst => by simp [ownShared, SRecordAttr.apply, hst, hf]) (fun hf c hc => by rw [hf, ← hc]))
    (WBlocks.nil _)).weaken fun _ h => ⟨h, trivial⟩

theorem sblock_annos (v : Bool) {as : List Annotation} (hok : AnnosOk as) :
    WBlock (ownShared own names) (annosAttr (if v then sRVA else sRIA) as) (fun _ => True)
      (fun c => if v then { c with rva := c.rva ++ as } else { c with ria := c.ria ++ as }) := by
  have := wblock_list (O := ownShared own names) (name := if v then sRVA else sRIA) writeAnnotation_row (.annotations · v)
    (fun as c => if v then { c with rva := c.rva ++ as } else { c with ria := c.ria ++ as }) hok (fun _ _ => rfl)
    (fun _ _ _ h => h) (pre := fun _ => True) (fun _ _ _ _ => by cases v <;> rfl) (fun _ => by cases v <;> simp)
  rwa [List.map_id] at this

theorem sblock_typeAnnos {wt : Target → Except Fail Bytes} (hwt : ∀ {t b}, wt t = .ok b → b = encTarget t)
    (v : Bool) {as : List TypeAnno} (hok : TypeAnnosOk own as) :
    WBlock (ownShared own names) (typeAnnosAttr wt (if v then sRVTA else sRITA) as) (fun _ => True)
      (fun c => if v then { c with rvta := c.rvta ++ as } else { c with rita := c.rita ++ as }) := by
  have := wblock_list (O := ownShared own names) (name := if v then sRVTA else sRITA) (typeAnno_row hwt) (.typeAnnotations · v)
    (fun as c => if v then { c with rvta := c.rvta ++ as } else { c with rita := c.rita ++ as }) hok (fun _ _ => rfl)
    (fun _ _ _ h => h) (pre := fun _ => True) (fun _ _ _ _ => by cases v <;> rfl) (fun _ => by cases v <;> simp)
  rwa [List.map_id] at this

theorem sblocks_annos {wt : Target → Except Fail Bytes} (hwt : ∀ {t b}, wt t = .ok b → b = encTarget t)
    {rva ria : List Annotation} {rvta rita : List TypeAnno} (hva : AnnosOk rva) (hia : AnnosOk ria)
    (hvta : TypeAnnosOk own rvta) (hita : TypeAnnosOk own rita) :
    WBlocks (ownShared own names) (annoBlocks wt rva ria rvta rita) (fun _ => True)
      (fun c => { c with rva := c.rva ++ rva, ria := c.ria ++ ria, rvta := c.rvta ++ rvta, rita := c.rita ++ rita }) :=
  (WBlocks.cons (sblock_annos true hva) (WBlocks.cons (sblock_annos false hia) (WBlocks.cons (sblock_typeAnnos hwt true hvta)
    (WBlocks.cons (sblock_typeAnnos hwt false hita) (WBlocks.nil _))))).weaken fun _ _ => ⟨trivial, trivial, trivial, trivial, trivial⟩

theorem sblocks_unknown {as : List Attr} (hok : ∀ a ∈ as, a.name ∉ names) :
    WBlocks (ownShared own names) (unknownAttrs as) (fun _ => True) (fun c => { c with attrs := c.attrs ++ as }) :=
  wblocks_unknown (O := ownShared own names) names SRecordAttr.unknown (fun l c => { c with attrs := c.attrs ++ l }) hok
    (fun _ _ _ => rfl) (fun _ _ _ _ h => h) (fun _ _ _ _ => rfl) (fun _ => by simp) (fun _ _ _ => by simp)

/-- how an owner holds the shared attributes: its constructors for them (`embed`) and the shared part of its facts
(`get`; `set st r` puts `r` in its place); framing, soundness and `apply` go through.  `apply` is stated from `set st r`,
not from `st` with `r = get st`: an owner's `set` ignores the `name` and `desc` of `r` (the class has no descriptor), so
`get (set st r) = r` fails and the fold over a list of attributes could not be continued from the state after one step -/
structure View {A σ : Type} (O : Own A σ) (own : Owner) (names : List JStr) where
  embed : SRecordAttr → A
  get : σ → RecordComponent
  set : σ → RecordComponent → σ
  set_get : ∀ st, set st (get st) = st
  frame : ∀ a, O.frame (embed a) = SRecordAttr.frame a
  sound : ∀ q a, Sound q (SRecordAttr.LegalFor own names · a) → O.sound q (embed a)
  apply : ∀ st r a, O.apply (set st r) (embed a) = (SRecordAttr.apply r a).map (set st)

variable {A σ : Type} {O : Own A σ}

theorem View.applyAll (V : View O own names) (st : σ) (as : List SRecordAttr) (r : RecordComponent) :
    applyAll O.apply (V.set st r) (as.map V.embed) = (applyAll SRecordAttr.apply r as).map (V.set st) := by
  induction as generalizing r with
  | nil => rfl
  | cons a as ih =>
    simp only [List.map_cons, ClassRead.Spec.applyAll, V.apply]
    cases SRecordAttr.apply r a with
    | none => rfl
    | some r' => exact ih r'

theorem WBlocks.embed (V : View O own names) {ws : List AttrW} {pre : RecordComponent → Prop}
    {upd : RecordComponent → RecordComponent} (b : WBlocks (ownShared own names) ws pre upd) :
    WBlocks O ws (fun st => pre (V.get st)) (fun st => V.set st (upd (V.get st))) := by
  intro p p' bs hg h
  obtain ⟨s, as, rfl, hs, hf⟩ := b p p' bs hg h
  refine ⟨s, as.map V.embed, ?_, ?_, fun st hst => ?_⟩
  · simp [List.map_map, Function.comp_def, V.frame, ownShared]
  · intro a ha
    obtain ⟨x, hx, rfl⟩ := List.mem_map.mp ha
    exact V.sound _ _ (hs x hx)
  · rw [← V.set_get st, V.applyAll, show applyAll SRecordAttr.apply _ as = _ from hf _ hst, V.set_get]
    rfl

end ClassWriteFull
