import FeatherModel.Lemmas.AList
import FeatherModel.Model.Remapper

/-!
# The remapper tables: `lastMatch`, `upsert` / `tableOf`, injectivity and the round trip through a table and its
inverse, `pairsOf`, and what `remapper_b` puts into its per-class tables
-/

namespace Remapper
variable {K V W : Type}

theorem lastMatch_eq {α : Type} (p : α → Bool) (l : List α) : lastMatch p l = l.reverse.find? p := by
  rw [← List.findRev?_eq_find?_reverse]
  induction l with
  | nil => rfl
  | cons a rest ih =>
    rw [lastMatch, List.findRev?, ih]
    cases List.findRev? p rest <;> rfl

theorem lastMatch_some {α : Type} {p : α → Bool} {l : List α} {a : α} (h : lastMatch p l = some a) :
    a ∈ l ∧ p a = true := by
  rw [lastMatch_eq] at h
  exact ⟨List.mem_reverse.mp (List.mem_of_find?_eq_some h), List.find?_some h⟩

theorem lastMatch_none {α : Type} {p : α → Bool} {l : List α} (h : lastMatch p l = none) :
    ∀ a ∈ l, p a = false := by
  rw [lastMatch_eq, List.find?_eq_none] at h
  exact fun a ha => Bool.eq_false_iff.mpr (h a (List.mem_reverse.mpr ha))

theorem lastMatch_transfer {α : Type} {p q : α → Bool} {l : List α} {a : α}
    (h : lastMatch p l = some a) (hq : q a = true) (hqp : ∀ e ∈ l, q e = true → p e = true) :
    lastMatch q l = some a := by
  rw [lastMatch_eq, List.find?_eq_some_iff_append] at h ⊢
  obtain ⟨_, as, bs, e, hn⟩ := h
  refine ⟨hq, as, bs, e, fun x hx => ?_⟩
  have hp := hn x hx
  cases hqx : q x with
  | false => rfl
  | true =>
    rw [hqp x (List.mem_reverse.mp (e ▸ List.mem_append_left _ hx)) hqx] at hp
    cases hp

theorem lastMatch_map {α β : Type} (f : α → β) (p : β → Bool) (l : List α) :
    lastMatch p (l.map f) = (lastMatch (fun a => p (f a)) l).map f := by
  rw [lastMatch_eq, lastMatch_eq, ← List.map_reverse, List.find?_map]
  rfl

/-- with unique keys, the last row picked by a predicate that recognises the key `c` is the row of `c`: the predicate may
be replaced by `·.1 == c`, and a list with unique keys answers the same from either end -/
theorem lastMatch_key [BEq K] [LawfulBEq K] {s : AList K V} {c : K} {p : K × V → Bool}
    (hp : ∀ e ∈ s, p e = true ↔ e.1 = c) (hnd : s.keys.Nodup) :
    lastMatch p s = (AList.lookup c s).map fun v => (c, v) := by
  have hq : ∀ e ∈ s.reverse, p e = (e.1 == c) := fun e he =>
    Bool.eq_iff_iff.mpr ((hp e (List.mem_reverse.mp he)).trans beq_iff_eq.symm)
  rw [lastMatch_eq, ← List.head?_filter, List.filter_congr hq, List.head?_filter,
    AList.lookup_perm (List.reverse_perm s).symm hnd, AList.lookup_eq_find?, Option.map_map]
  cases h : s.reverse.find? fun e => e.1 == c with
  | none => rfl
  | some e =>
    have he : e.1 = c := eq_of_beq (List.find?_some (p := fun e : K × V => e.1 == c) h)
    exact congrArg some (Prod.ext he rfl)

theorem upsert_eq_insert [BEq K] : (upsert : K → V → AList K V → AList K V) = AList.insert := by
  set_option smartUnfolding false in rfl

theorem lookup_tableOf [BEq K] [LawfulBEq K] (k : K) (rows : List (K × V)) :
    AList.lookup k (tableOf rows) = lastPair rows k := by
  rw [tableOf, upsert_eq_insert, AList.lookup_foldl_insert Prod.fst Prod.snd, lastPair, lastMatch_eq]
  cases rows.reverse.find? fun x => x.1 == k <;> rfl

theorem lastPair_some [BEq K] [LawfulBEq K] {rows : List (K × V)} {k : K} {v : V} (h : lastPair rows k = some v) :
    (k, v) ∈ rows := by
  unfold lastPair at h
  split at h
  · rename_i p hp
    simp only [Option.some.injEq] at h; subst h
    obtain ⟨h1, h2⟩ := lastMatch_some hp
    have : p.1 = k := by simpa using h2
    subst this
    exact h1
  · simp at h

theorem lastPair_none [BEq K] [LawfulBEq K] {rows : List (K × V)} {k : K} (h : lastPair rows k = none) :
    ∀ p ∈ rows, p.1 ≠ k := by
  unfold lastPair at h
  split at h
  · simp at h
  · rename_i hp
    intro p hm he
    have := lastMatch_none hp p hm
    simp [he] at this

theorem lastPair_map [BEq K] (g : V → W) (rows : List (K × V)) (k : K) :
    lastPair (rows.map fun e => (e.1, g e.2)) k = (lastPair rows k).map g := by
  simp only [lastPair, lastMatch_map]
  cases lastMatch (fun p : K × V => p.1 == k) rows <;> rfl

theorem upsert_map [BEq K] (g : V → W) (k : K) (v : V) (t : AList K V) :
    (upsert k v t).map (fun e => (e.1, g e.2)) = upsert k (g v) (t.map fun e => (e.1, g e.2)) := by
  induction t with
  | nil => rfl
  | cons e rest ih =>
    rw [upsert, apply_ite (List.map _), List.map_cons, List.map_cons, ih]
    rfl

theorem tableOf_map [BEq K] (g : V → W) (rows : List (K × V)) :
    (tableOf rows).map (fun e => (e.1, g e.2)) = tableOf (rows.map fun e => (e.1, g e.2)) := by
  rw [tableOf, tableOf, List.foldl_map]
  exact (List.foldl_hom _ fun acc p => (upsert_map g p.1 p.2 acc).symm).symm

theorem lastPair_filterMap {α : Type} [BEq K] (key : α → Option K) (val : α → V) (l : List α) (k : K) :
    lastPair (l.filterMap fun a => (key a).map (·, val a)) k = (lastMatch (fun a => key a == some k) l).map val := by
  rw [lastPair, lastMatch_eq, lastMatch_eq, ← List.filterMap_reverse, List.find?_filterMap]
  have : (fun a => ((key a).map (·, val a)).any fun p => p.1 == k) = fun a => key a == some k := by
    funext a
    cases key a <;> rfl
  rw [this]
  cases h : l.reverse.find? fun a => key a == some k with
  | none => rfl
  | some a =>
    have := List.find?_some h
    cases hk : key a with
    | none => rw [hk] at this; cases this
    | some k' => simp only [Option.bind_some, hk, Option.map_some]

theorem injOn_spec [BEq K] [LawfulBEq K] {pairs : List (K × K)} {img c : K} (h : injOn pairs img c = true) :
    ∀ p ∈ pairs, p.2 = img → p.1 = c := by
  intro p hp he
  unfold injOn at h
  have := List.all_eq_true.mp h p hp
  simpa [he] using this

/-- mapped or not: if `c` is the only source of its image `img` (the last pair's answer, `c` itself when unmapped), the
inverse table leads back from `img` to `c` -/
theorem roundtrip_getD [BEq K] [LawfulBEq K] (pairs : List (K × K)) (c : K) {img : K}
    (himg : (lastPair pairs c).getD c = img) (h : injOn pairs img c = true) :
    (lastPair (pairs.map Prod.swap) img).getD img = c := by
  cases hb : lastPair (pairs.map Prod.swap) img with
  | some x =>
    obtain ⟨q, hq, hqe⟩ := List.mem_map.mp (lastPair_some hb)
    simp only [Prod.swap, Prod.mk.injEq] at hqe
    rw [Option.getD_some, ← hqe.2, injOn_spec h q hq hqe.1]
  | none =>
    rw [Option.getD_none]
    cases hf : lastPair pairs c with
    | none => rw [hf] at himg; exact himg.symm
    | some v =>
      rw [hf] at himg
      subst himg
      have := lastPair_none hb (Prod.swap (c, v)) (List.mem_map.mpr ⟨_, lastPair_some hf, rfl⟩)
      simp [Prod.swap] at this

/-- the same for a key that *is* in the table (used for member tables) -/
theorem roundtrip_lookup [BEq K] [LawfulBEq K] (rows : List (K × K)) (k k' : K)
    (hl : AList.lookup k (tableOf rows) = some k') (h : injOn rows k' k = true) :
    AList.lookup k' (tableOf (rows.map Prod.swap)) = some k := by
  rw [lookup_tableOf] at hl ⊢
  have := roundtrip_getD rows k (by rw [hl]; rfl) h
  cases hb : lastPair (rows.map Prod.swap) k' with
  | some x => rw [hb] at this; exact congrArg some this
  | none =>
    have := lastPair_none hb (Prod.swap (k, k')) (List.mem_map.mpr ⟨_, lastPair_some hl, rfl⟩)
    simp [Prod.swap] at this

theorem mapClass_eq_getD (t : ATable) (c : JStr) : mapClass t c = (mapClassFail t c).getD c := by
  unfold mapClass
  cases mapClassFail t c <;> rfl

theorem mem_pairsOf {α : Type} {names : α → Names} {src dst : Nat} {rows : List α} {p : JStr × JStr} :
    p ∈ pairsOf names src dst rows ↔
      ∃ e ∈ rows, nameAt (names e) src = some p.1 ∧ nameAt (names e) dst = some p.2 := by
  unfold pairsOf
  simp only [List.mem_filterMap]
  constructor
  · rintro ⟨e, he, h⟩
    refine ⟨e, he, ?_⟩
    split at h
    · rename_i f t hf ht
      simp only [Option.some.injEq] at h; subst h
      exact ⟨hf, ht⟩
    · simp at h
  · rintro ⟨e, he, h1, h2⟩
    exact ⟨e, he, by simp [h1, h2]⟩

theorem pairsOf_swap {α : Type} (names : α → Names) (src dst : Nat) (rows : List α) :
    pairsOf names dst src rows = (pairsOf names src dst rows).map Prod.swap := by
  unfold pairsOf
  rw [List.map_filterMap]
  congr 1; funext e
  cases nameAt (names e) src <;> cases nameAt (names e) dst <;> rfl

theorem classPairs_swap (m : Mappings) (x y : Nat) : classPairs m y x = (classPairs m x y).map Prod.swap :=
  pairsOf_swap _ x y m.classes

/-- the name `remapper_b` files a class row under: its `s`-name, if the row also has a `d`-name -/
def usedName (s d : Nat) (e : JStr × Class) : Option JStr :=
  if (nameAt e.2.names d).isSome then nameAt e.2.names s else none

/-- the table entry `remapper_b` builds from one class row. Where a member table cannot be built the whole construction
fails (`rowOk`, `classRows_eq`); the entry then has an empty table in its place. -/
def bclassOf (ts td : ATable) (s d : Nat) (c : Class) : BClass where
  name := (nameAt c.names d).getD []
  fields := tableOf ((memberRows ts td s d (fieldMembers c)).getD [])
  methods := tableOf ((memberRows ts td s d (methodMembers c)).getD [])

/-- a row `remapper_b` does not stumble over: skipped, or both member tables can be built -/
def rowOk (ts td : ATable) (s d : Nat) (e : JStr × Class) : Bool :=
  (usedName s d e).isNone ||
    (memberRows ts td s d (fieldMembers e.2)).isSome && (memberRows ts td s d (methodMembers e.2)).isSome

theorem classRows_eq (ts td : ATable) (s d : Nat) : ∀ cls : List (JStr × Class),
    classRows ts td s d cls =
      if cls.all (rowOk ts td s d) then some (cls.filterMap fun e => (usedName s d e).map (·, bclassOf ts td s d e.2))
      else none
  | [] => rfl
  | (_, c) :: rest => by
    rw [classRows, classRows_eq ts td s d rest, List.all_cons, List.filterMap_cons, rowOk, usedName, bclassOf]
    cases nameAt c.names s with
    | none => cases nameAt c.names d <;> rfl
    | some nf =>
      cases nameAt c.names d with
      | none => rfl
      | some nt =>
        cases memberRows ts td s d (fieldMembers c) with
        | none => rfl
        | some fr => cases memberRows ts td s d (methodMembers c) <;> cases rest.all (rowOk ts td s d) <;> rfl

theorem entries_names (ts td : ATable) (s d : Nat) (cls : List (JStr × Class)) :
    (cls.filterMap fun e => (usedName s d e).map (·, bclassOf ts td s d e.2)).map (fun e => (e.1, e.2.name)) =
      pairsOf (fun e : JStr × Class => e.2.names) s d cls := by
  rw [List.map_filterMap, pairsOf]
  congr 1
  funext e
  unfold usedName bclassOf
  cases nameAt e.2.names s <;> cases nameAt e.2.names d <;> rfl

theorem usedName_beq (s d : Nat) (o : JStr) (e : JStr × Class) : (usedName s d e == some o) = rowFor s d o e := by
  unfold usedName rowFor
  cases (nameAt e.2.names d).isSome <;> simp

theorem memberRows_swap (ts td : ATable) (s d : Nat) (mems : List (JStr × Names)) :
    memberRows td ts d s mems = (memberRows ts td s d mems).map (List.map Prod.swap) := by
  induction mems with
  | nil => rfl
  | cons e rest ih =>
    obtain ⟨desc, names⟩ := e
    simp only [memberRows]
    cases h1 : nameAt names s <;> cases h2 : nameAt names d <;> simp only [ih]
    cases h3 : mapDescWith ts desc <;> cases h4 : mapDescWith td desc <;> simp only [Option.map_none]
    cases memberRows ts td s d rest <;> simp [Prod.swap]

theorem remapperB_some {m : Mappings} {s d : Nat} {r : BTable} (h : remapperB m s d = some r) :
    (s < m.ns.length ∧ d < m.ns.length) ∧ m.classes.all (rowOk (aTable m 0 s) (aTable m 0 d) s d) = true ∧
      r = tableOf (m.classes.filterMap fun e => (usedName s d e).map (·, bclassOf (aTable m 0 s) (aTable m 0 d) s d e.2)) := by
  rw [remapperB, classRows_eq] at h
  split at h
  · rename_i hb
    by_cases hall : m.classes.all (rowOk (aTable m 0 s) (aTable m 0 d) s d) = true
    · rw [if_pos hall] at h
      cases h
      exact ⟨hb, hall, rfl⟩
    · rw [if_neg hall] at h
      cases h
  · cases h

theorem remapperB_lookup {m : Mappings} {s d : Nat} {r : BTable} (h : remapperB m s d = some r) (o : JStr) :
    AList.lookup o r = (selectedRow m s d o).map (bclassOf (aTable m 0 s) (aTable m 0 d) s d) := by
  obtain ⟨_, _, rfl⟩ := remapperB_some h
  rw [lookup_tableOf, lastPair_filterMap (usedName s d) fun e => bclassOf _ _ s d e.2,
    funext (usedName_beq s d o), selectedRow]
  cases lastMatch (rowFor s d o) m.classes <;> rfl

theorem selectedRow_some {m : Mappings} {s d : Nat} {o : JStr} {row : Class} (h : selectedRow m s d o = some row) :
    ∃ k n, lastMatch (rowFor s d o) m.classes = some (k, row) ∧ nameAt row.names s = some o ∧
      nameAt row.names d = some n := by
  unfold selectedRow at h
  split at h
  · rename_i e he
    cases h
    have hp := (lastMatch_some he).2
    simp only [rowFor, Bool.and_eq_true, beq_iff_eq] at hp
    obtain ⟨n, hn⟩ := Option.isSome_iff_exists.mp hp.2
    exact ⟨e.1, n, he, hp.1, hn⟩
  · cases h

theorem remapperB_rowOk {m : Mappings} {s d : Nat} {r : BTable} (h : remapperB m s d = some r) {o : JStr} {row : Class}
    (hrow : selectedRow m s d o = some row) :
    (memberRows (aTable m 0 s) (aTable m 0 d) s d (fieldMembers row)).isSome ∧
      (memberRows (aTable m 0 s) (aTable m 0 d) s d (methodMembers row)).isSome := by
  obtain ⟨k, n, he, hs, hd⟩ := selectedRow_some hrow
  simpa [rowOk, usedName, hs, hd] using List.all_eq_true.mp (remapperB_some h).2.1 _ (lastMatch_some he).1

/-- the way back selects the same row, when `o` is the only source of its image: every row with that image has the
source `o` -/
theorem selectedRow_back {m : Mappings} {x y : Nat} {o : JStr} {row : Class} (ts td : ATable)
    (hrow : selectedRow m x y o = some row) (hc : injOn (classPairs m x y) (bclassOf ts td x y row).name o = true) :
    selectedRow m y x (bclassOf ts td x y row).name = some row := by
  obtain ⟨k, n, he, hx, hy⟩ := selectedRow_some hrow
  have hname : (bclassOf ts td x y row).name = n := by rw [bclassOf, hy]; rfl
  rw [hname] at hc ⊢
  rw [selectedRow, lastMatch_transfer he (by simp [rowFor, hx, hy])]
  intro e' he' hq
  simp only [rowFor, Bool.and_eq_true, beq_iff_eq] at hq ⊢
  obtain ⟨x', hx'⟩ := Option.isSome_iff_exists.mp hq.2
  have hx'o : x' = o := injOn_spec hc (x', n) (mem_pairsOf.mpr ⟨e', he', hx', hq.1⟩) rfl
  exact ⟨hx'o ▸ hx', by rw [hq.1]; rfl⟩

theorem remapperB_bounds {m : Mappings} {s d : Nat} {r : BTable} (h : remapperB m s d = some r) :
    s < m.ns.length ∧ d < m.ns.length :=
  (remapperB_some h).1

theorem lookup_classTable (r : BTable) (c : JStr) :
    AList.lookup c (classTable r) = (AList.lookup c r).map (·.name) :=
  AList.lookup_mapVals BClass.name r c

theorem mapClass_of_lookup {r : BTable} {o : JStr} {cls : BClass} (ho : AList.lookup o r = some cls) :
    mapClass (classTable r) o = cls.name := by
  rw [mapClass, mapClassFail, lookup_classTable, ho]
  rfl

theorem classTable_eq {m : Mappings} {s d : Nat} {r : BTable} (h : remapperB m s d = some r) :
    classTable r = aTable m s d := by
  obtain ⟨_, _, rfl⟩ := remapperB_some h
  rw [classTable, tableOf_map BClass.name, entries_names]
  rfl

end Remapper
