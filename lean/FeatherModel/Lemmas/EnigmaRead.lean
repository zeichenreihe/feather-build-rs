import FeatherModel.Lemmas.EnigmaPlacement
import FeatherModel.Lemmas.Machine

/-!
# C12: the reader's stack machine on the blocks of a written class and on the pre-order text of a class tree
`Settle d s s0`: the state `s` has loops open that are at least `d` deep, and ending the ones deeper than `d` gives `s0`.
`Runs n els a b`: from a state that settles to `a`, the state in front of the block `els`, running the block gives a state
that settles to `b`, the state after it. Blocks compose (`Runs.append`); the block of an entry at any of the four levels
is its line, its `COMMENT` lines and a body one level deeper (`Runs.entry`).
-/

namespace Enigma

theorem isRun : IsRun step fun s ls => run ls s :=
  ⟨fun _ => rfl, fun s l ls => by simp only [run]; cases step s l <;> rfl⟩

theorem run_append (a b : List ELine) : ∀ s : St, run (a ++ b) s = (run a s).bind (run b) :=
  fun s => isRun.append a s b

theorem run_cons (l : ELine) (ls : List ELine) (s : St) : run (l :: ls) s = (step s l).bind (run ls) :=
  isRun.cons s l ls

theorem unwindTo_of_le {d : Nat} {s : St} (h : s.depth ≤ d) : unwindTo d s = some s := by
  rw [unwindTo, if_pos h]

theorem unwindTo_param {d : Nat} {s : St} (h1 : d < s.depth) (h2 : s.stack.length + 1 ≤ d) :
    unwindTo d s = some { s with mem := closeParam s.mem } := by
  rw [unwindTo, if_neg (Nat.not_le_of_lt h1), if_pos h2]

theorem unwindTo_pop {d : Nat} {s : St} (h1 : d < s.depth) (h2 : d ≤ s.stack.length) :
    unwindTo d s = match popFrames d (closeMem s).stack (closeMem s).classes with
      | none => none
      | some (st, cs) => some ⟨cs, st, .idle⟩ := by
  rw [unwindTo, if_neg (Nat.not_le_of_lt h1), if_neg (Nat.not_le_of_lt (Nat.lt_succ_of_le h2))]
  rfl

theorem popFrames_short {t : Nat} {st : List Frame} (cs : AList JStr Class) (h : st.length ≤ t) :
    popFrames t st cs = some (st, cs) := by
  cases st with
  | nil => rfl
  | cons fr rest => rw [popFrames]; exact if_neg (Nat.not_lt_of_le h)

theorem popFrames_spec {d' : Nat} {st : List Frame} {cs : AList JStr Class} {st1 : List Frame} {cs1 : AList JStr Class}
    (h : popFrames d' st cs = some (st1, cs1)) :
    (d' ≤ st.length → st1.length = d') ∧ ∀ d ≤ d', popFrames d st cs = popFrames d st1 cs1 := by
  induction st generalizing cs with
  | nil =>
    obtain ⟨rfl, rfl⟩ := Prod.mk.inj (Option.some.inj h)
    exact ⟨fun ht => (Nat.le_zero.mp ht).symm, fun _ _ => rfl⟩
  | cons fr rest ih =>
    rw [popFrames] at h
    split at h
    · rename_i hlt
      cases hi : AList.insertNew fr.key fr.cls cs with
      | none => rw [hi] at h; exact absurd h (by simp)
      | some cs' =>
        rw [hi] at h
        refine ⟨fun _ => (ih h).1 (Nat.le_of_lt_succ hlt), fun d hdd => ?_⟩
        rw [popFrames, if_pos (Nat.lt_of_le_of_lt hdd hlt), hi]
        exact (ih h).2 d hdd
    · rename_i hlt
      obtain ⟨rfl, rfl⟩ := Prod.mk.inj (Option.some.inj h)
      exact ⟨fun ht => Nat.le_antisymm (Nat.le_of_not_lt hlt) ht, fun _ _ => rfl⟩

theorem closeParam_idem (m : Mem) : closeParam (closeParam m) = closeParam m := by
  cases m with
  | idle => rfl
  | field k f => rfl
  | method k m p => cases p <;> rfl

theorem closeMem_stack_length (s : St) : (closeMem s).stack.length = s.stack.length := by
  obtain ⟨cs, st, mem⟩ := s
  cases st <;> rcases mem with _ | _ | ⟨_, _, _ | _⟩ <;> rfl

theorem mem_depth_two {m : Mem} (h : 2 ≤ m.depth) : ∃ k me p, m = .method k me (some p) := by
  cases m with
  | idle => exact absurd h (by decide)
  | field k f => exact absurd h (by simp [Mem.depth])
  | method k me p =>
    cases p with
    | none => exact absurd h (by simp [Mem.depth])
    | some p => exact ⟨k, me, p, rfl⟩

theorem Mem.depth_le (m : Mem) : m.depth ≤ 2 := by
  rcases m with _ | _ | ⟨_, _, _ | _⟩ <;> simp [Mem.depth]

theorem unwindTo_unwindTo {d d' : Nat} {s s1 : St} (hdd : d ≤ d') (h : unwindTo d' s = some s1) :
    unwindTo d s1 = unwindTo d s := by
  by_cases hA : s.depth ≤ d'
  · rw [unwindTo_of_le hA] at h
    rw [← Option.some.inj h]
  have hA' : d' < s.depth := Nat.lt_of_not_le hA
  have hds : d < s.depth := Nat.lt_of_le_of_lt hdd hA'
  by_cases hB : s.stack.length + 1 ≤ d'
  · -- only a parameter loop was ended
    rw [unwindTo_param hA' hB] at h
    obtain rfl := Option.some.inj h
    obtain ⟨k, me, p, hmem⟩ := mem_depth_two (m := s.mem) (by rw [St.depth] at hA'; omega)
    have hd1 : ({ s with mem := closeParam s.mem } : St).depth = s.stack.length + 1 := by rw [hmem]; rfl
    by_cases hdl : s.stack.length + 1 ≤ d
    · rw [unwindTo_of_le (by rw [hd1]; exact hdl), unwindTo_param hds hdl]
    · have hdl' : d < s.stack.length + 1 := Nat.lt_of_not_le hdl
      rw [unwindTo_pop (s := { s with mem := closeParam s.mem }) (by rw [hd1]; exact hdl') (Nat.le_of_lt_succ hdl'),
        unwindTo_pop hds (Nat.le_of_lt_succ hdl')]
      simp only [closeMem, closeParam_idem]
  · -- member loops and `CLASS` loops were ended
    have hlen : d' ≤ s.stack.length := Nat.le_of_lt_succ (Nat.lt_of_not_le hB)
    rw [unwindTo_pop hA' hlen] at h
    cases hp : popFrames d' (closeMem s).stack (closeMem s).classes with
    | none => rw [hp] at h; exact absurd h (by simp)
    | some r =>
      obtain ⟨st1, cs1⟩ := r
      rw [hp] at h
      obtain rfl := Option.some.inj h
      have hl1 : st1.length = d' := (popFrames_spec hp).1 (by rw [closeMem_stack_length]; exact hlen)
      have hd1 : (⟨cs1, st1, .idle⟩ : St).depth = d' := hl1
      by_cases hdl : d' ≤ d
      · rw [unwindTo_of_le (by rw [hd1]; exact hdl), Nat.le_antisymm hdd hdl, unwindTo_pop hA' hlen, hp]
      · rw [unwindTo_pop (by rw [hd1]; exact Nat.lt_of_not_le hdl) (hl1 ▸ hdd), unwindTo_pop hds (Nat.le_trans hdd hlen),
          (popFrames_spec hp).2 d hdd]
        cases st1 <;> rfl

/-- `s` has loops open at least `d` deep, and ending those deeper than `d` gives `s0` -/
def Settle (d : Nat) (s s0 : St) : Prop := d ≤ s.depth ∧ unwindTo d s = some s0

theorem Settle.of_depth {s : St} {d : Nat} (h : s.depth = d) : Settle d s s :=
  ⟨Nat.le_of_eq h.symm, unwindTo_of_le (Nat.le_of_eq h)⟩

theorem Settle.trans {d d' : Nat} {s s1 s0 : St} (hdd : d ≤ d') (h1 : Settle d' s s1) (h2 : Settle d s1 s0) :
    Settle d s s0 :=
  ⟨Nat.le_trans hdd h1.1, (unwindTo_unwindTo hdd h1.2).symm.trans h2.2⟩

theorem step_of_settle {d : Nat} {s s0 : St} {l : ELine} (h : Settle d s s0) (hl : l.idents = d) :
    step s l = handle s0 l := by
  subst hl
  rw [step, if_neg (Nat.not_lt_of_le h.1), h.2]

theorem settle_param (cs : AList JStr Class) (st : List Frame) (k : MemberKey) (m : Method) (p : Nat × Param) :
    Settle (st.length + 1) ⟨cs, st, .method k m (some p)⟩ ⟨cs, st, .method k { m with params := m.params ++ [p] } none⟩ :=
  ⟨Nat.le_succ _, unwindTo_param (Nat.lt_succ_self _) (Nat.le_refl _)⟩

theorem settle_mem (cs : AList JStr Class) (fr : Frame) (rest : List Frame) (mem : Mem) (h : mem.depth = 1) :
    Settle (rest.length + 1) ⟨cs, fr :: rest, mem⟩ (closeMem ⟨cs, fr :: rest, mem⟩) := by
  have hd : (⟨cs, fr :: rest, mem⟩ : St).depth = rest.length + 1 + 1 := by rw [St.depth, h]; rfl
  refine ⟨by rw [hd]; exact Nat.le_succ _, ?_⟩
  rw [unwindTo_pop (d := rest.length + 1) (s := ⟨cs, fr :: rest, mem⟩) (by rw [hd]; exact Nat.lt_succ_self _) (Nat.le_refl _),
    popFrames_short (t := rest.length + 1) _ (Nat.le_of_eq (closeMem_stack_length ⟨cs, fr :: rest, mem⟩))]
  cases mem with
  | idle => exact absurd h (by decide)
  | field k f => rfl
  | method k m p => cases p <;> rfl

theorem settle_field (cs : AList JStr Class) (fr : Frame) (rest : List Frame) (k : MemberKey) (f : Field) :
    Settle (rest.length + 1) ⟨cs, fr :: rest, .field k f⟩
      ⟨cs, { fr with cls := { fr.cls with fields := fr.cls.fields ++ [(k, f)] } } :: rest, .idle⟩ :=
  settle_mem cs fr rest (.field k f) rfl

theorem settle_method (cs : AList JStr Class) (fr : Frame) (rest : List Frame) (k : MemberKey) (m : Method) :
    Settle (rest.length + 1) ⟨cs, fr :: rest, .method k m none⟩
      ⟨cs, { fr with cls := { fr.cls with methods := fr.cls.methods ++ [(k, m)] } } :: rest, .idle⟩ :=
  settle_mem cs fr rest (.method k m none) rfl

theorem settle_class (cs : AList JStr Class) (fr : Frame) (st : List Frame) (h : AList.contains fr.key cs = false) :
    Settle st.length ⟨cs, fr :: st, .idle⟩ ⟨cs ++ [(fr.key, fr.cls)], st, .idle⟩ := by
  refine ⟨Nat.le_succ _, ?_⟩
  rw [unwindTo_pop (s := ⟨cs, fr :: st, .idle⟩) (Nat.lt_succ_self _) (Nat.le_succ _)]
  simp only [closeMem, closeParam, popFrames, Nat.lt_succ_self, if_true, AList.insertNew_new _ _ _ h,
    popFrames_short _ (Nat.le_refl _)]

/-- the `COMMENT` block of a javadoc, read into the empty slot of a family of states that differ in one javadoc slot,
all at depth `n`, where `COMMENT` lines go into that slot -/
theorem run_commentEL (mk : Option JStr → St) (n : Nat) (hdepth : ∀ doc, (mk doc).depth = n)
    (hh : ∀ doc l, l.first = kwCOMMENT → handle (mk doc) l = some (mk (insertComment doc l)))
    (d : Option JStr) (h : docOk d = true) : run (commentEL n d) (mk none) = some (mk d) := by
  have gen : ∀ (ls : List ELine) (doc : Option JStr), (∀ l ∈ ls, l.idents = n ∧ l.first = kwCOMMENT) →
      run ls (mk doc) = some (mk (ls.foldl insertComment doc)) := by
    intro ls
    induction ls with
    | nil => exact fun _ _ => rfl
    | cons l ls ih =>
      intro doc h
      obtain ⟨h1, h2⟩ := h l List.mem_cons_self
      rw [run_cons, step_of_settle (Settle.of_depth (hdepth doc)) h1, hh doc l h2]
      exact ih _ (fun x hx => h x (List.mem_cons_of_mem _ hx))
  rw [gen _ none (commentEL_block n d), foldl_commentEL n d h]

/-- the block `els` at depth `n`: from any state that settles to `a`, running it gives a state that settles to `b` -/
def Runs (n : Nat) (els : List ELine) (a b : St) : Prop :=
  ∀ s, Settle n s a → ∃ s', run els s = some s' ∧ Settle n s' b

theorem Runs.nil {n : Nat} {a : St} : Runs n [] a a := fun s hs => ⟨s, rfl, hs⟩

theorem Runs.append {n : Nat} {x y : List ELine} {a b c : St} (h1 : Runs n x a b) (h2 : Runs n y b c) :
    Runs n (x ++ y) a c := fun s hs => by
  obtain ⟨s1, r1, hs1⟩ := h1 s hs
  obtain ⟨s2, r2, hs2⟩ := h2 s1 hs1
  exact ⟨s2, by rw [run_append, r1, Option.bind_some, r2], hs2⟩

/-- an entry at depth `n`: its line, read in `a`, opens a loop one deeper (`mk none`; the states `mk doc` differ in the
javadoc slot that `COMMENT` lines fill); the body runs inside the loop and leaves `c`; ending the loop gives `b` -/
theorem Runs.entry {n : Nat} (mk : Option JStr → St) (hdepth : ∀ doc, (mk doc).depth = n + 1)
    (hh : ∀ doc l, l.first = kwCOMMENT → handle (mk doc) l = some (mk (insertComment doc l)))
    {a b c : St} {kw : JStr} {toks : List JStr} (hhd : handle a ⟨n, kw, toks⟩ = some (mk none)) {d : Option JStr}
    (hd : docOk d = true) {body : List ELine} (hb : Runs (n + 1) body (mk d) c) (hc : Settle n c b) :
    Runs n (⟨n, kw, toks⟩ :: commentEL (n + 1) d ++ body) a b := fun s hs => by
  obtain ⟨s', hr, hs'⟩ := hb (mk d) (Settle.of_depth (hdepth d))
  refine ⟨s', ?_, Settle.trans (Nat.le_succ n) hs' hc⟩
  rw [List.cons_append, run_cons, step_of_settle hs rfl, hhd, Option.bind_some, run_append,
    run_commentEL mk (n + 1) hdepth hh d hd, Option.bind_some, hr]

/-- an entry without body (`paramEL` and `fieldEL` end the entry with the `COMMENT` lines, not with `++ []`) -/
theorem Runs.leaf {n : Nat} (mk : Option JStr → St) (hdepth : ∀ doc, (mk doc).depth = n + 1)
    (hh : ∀ doc l, l.first = kwCOMMENT → handle (mk doc) l = some (mk (insertComment doc l)))
    {a b : St} {kw : JStr} {toks : List JStr} (hhd : handle a ⟨n, kw, toks⟩ = some (mk none)) {d : Option JStr}
    (hd : docOk d = true) (hc : Settle n (mk d) b) : Runs n (⟨n, kw, toks⟩ :: commentEL (n + 1) d) a b :=
  List.append_nil (_ :: commentEL (n + 1) d) ▸ Runs.entry mk hdepth hh hhd hd Runs.nil hc

theorem run_params (cs : AList JStr Class) (st : List Frame) (k : MemberKey) (ps : List (Nat × Param)) :
    ∀ m : Method, (∀ e ∈ ps, paramOk e = true) → ((m.params ++ ps).map Prod.fst).Nodup →
      Runs (st.length + 1) (paramEL (st.length + 1) ps) ⟨cs, st, .method k m none⟩
        ⟨cs, st, .method k { m with params := m.params ++ ps } none⟩ := by
  induction ps with
  | nil => exact fun m _ _ => by simpa [paramEL] using Runs.nil
  | cons e rest ih =>
    obtain ⟨i, p⟩ := e
    intro m hok hnd
    obtain ⟨d, hn, hi, hlt, hdoc, _, hv⟩ := paramOk_spec (hok (i, p) List.mem_cons_self)
    simp only at hn hi hlt hdoc
    subst hi
    have hd : dstOf p.names = some d := by rw [hn, dstOf_pair]
    rw [List.append_cons]
    simp only [paramEL, hd, Option.getD_some]
    exact Runs.append (Runs.leaf (fun doc => ⟨cs, st, .method k m (some (p.index, { p with doc := doc }))⟩) (fun _ => rfl)
      (by rintro doc (⟨_, _, _⟩ : ELine) rfl; rfl)
      (by simp [handle, parseUsize_natToDec p.index hlt, hv, contains_of_nodup_append hnd, hn]) hdoc
      (settle_param cs st k m (p.index, p)))
      (ih { m with params := m.params ++ [(p.index, p)] } (fun e he => hok e (List.mem_cons_of_mem _ he))
        (by rw [List.append_assoc]; exact hnd))

theorem memberArgs_ok (name desc : JStr) (dst : Option JStr) (h : ∀ d, dst = some d → isModifier desc = false) :
    memberArgs (name :: dst.toList ++ [desc]) = some (name, dst, desc) := by
  cases dst with
  | none => rfl
  | some d => simp [memberArgs, h d rfl]

theorem run_fields (cs : AList JStr Class) (rest : List Frame) (fs : List (MemberKey × Field)) :
    ∀ fr : Frame, (∀ e ∈ fs, fieldOk e = true) → ((fr.cls.fields ++ fs).map Prod.fst).Nodup →
      Runs (rest.length + 1) (fieldEL (rest.length + 1) fs) ⟨cs, fr :: rest, .idle⟩
        ⟨cs, { fr with cls := { fr.cls with fields := fr.cls.fields ++ fs } } :: rest, .idle⟩ := by
  induction fs with
  | nil => exact fun fr _ _ => by simpa [fieldEL] using Runs.nil
  | cons e more ih =>
    obtain ⟨⟨name, desc⟩, f⟩ := e
    intro fr hok hnd
    obtain ⟨dst, hn, hde, _, hdoc, _, hv, hdst⟩ := fieldOk_spec (hok ((name, desc), f) List.mem_cons_self)
    simp only at hn hde hdoc hv hdst
    have hd : dstOf f.names = dst := by rw [hn, dstOf_pair]
    have hvd : optAll validUnq dst = true := optAll_of fun x hx => (hdst x hx).2.1
    have hkw : ¬ kwFIELD = kwCLASS := by decide
    rw [List.append_cons]
    simp only [fieldEL, hd]
    exact Runs.append (Runs.leaf (fun doc => ⟨cs, fr :: rest, .field (name, desc) { f with doc := doc }⟩) (fun _ => rfl)
      (by rintro doc (⟨_, _, _⟩ : ELine) rfl; rfl)
      (by simp only [handle, hkw, if_false, if_true, memberArgs_ok name desc dst (fun x hx => (hdst x hx).2.2), hv, hvd,
        contains_of_nodup_append hnd, Bool.and_self, Bool.not_false, hn, hde]) hdoc
      (settle_field cs fr rest (name, desc) f))
      (ih { fr with cls := { fr.cls with fields := fr.cls.fields ++ [((name, desc), f)] } }
        (fun e he => hok e (List.mem_cons_of_mem _ he)) (by rw [List.append_assoc]; exact hnd))

theorem canonMethod_eq {name desc : JStr} {m : Method} {dst : Option JStr} (hn : m.names = [some name, dst])
    (hde : m.desc = desc) :
    ({ desc := desc, names := [some name, methodDst m], doc := m.doc, params := isort paramLe m.params } : Method) =
      canonMethod m := by
  rw [canonMethod, methodDst, hn, dstOf_pair, ← hde]
  cases dst with
  | none => rfl
  | some d => by_cases hd : d = kwINIT <;> simp [hd]

theorem run_methods (cs : AList JStr Class) (rest : List Frame) (ms : List (MemberKey × Method)) :
    ∀ fr : Frame, (∀ e ∈ ms, methodOk e = true) → ((fr.cls.methods ++ ms).map Prod.fst).Nodup →
      Runs (rest.length + 1) (methodEL (rest.length + 1) ms) ⟨cs, fr :: rest, .idle⟩
        ⟨cs, { fr with cls := { fr.cls with methods := fr.cls.methods ++ ms.map fun e => (e.1, canonMethod e.2) } } :: rest, .idle⟩ := by
  induction ms with
  | nil => exact fun fr _ _ => by simpa [methodEL] using Runs.nil
  | cons e more ih =>
    obtain ⟨⟨name, desc⟩, m⟩ := e
    intro fr hok hnd
    have hm := hok ((name, desc), m) List.mem_cons_self
    obtain ⟨dst, hn, hde, _, hdoc, _, hv, _, hps, hpnd⟩ := methodOk_spec hm
    have hdst := fun x (hx : methodDst m = some x) => methodOk_dst hm hx
    simp only at hn hde hdoc hv hdst hps hpnd
    have hvd : optAll validMethodName (methodDst m) = true := optAll_of fun x hx => (hdst x hx).2.1
    have hp := run_params cs (fr :: rest) (name, desc) (isort paramLe m.params)
      { desc := desc, names := [some name, methodDst m], doc := m.doc, params := [] } (mem_isort_all hps)
      (isort_keys_nodup paramLe hpnd)
    simp only [List.nil_append, canonMethod_eq hn hde] at hp
    have hkw : ¬ kwMETHOD = kwCLASS ∧ ¬ kwMETHOD = kwFIELD := by decide
    rw [List.map_cons, List.append_cons]
    simp only [methodEL]
    exact Runs.append (Runs.entry
      (fun doc => ⟨cs, fr :: rest, .method (name, desc) ⟨desc, [some name, methodDst m], doc, []⟩ none⟩) (fun _ => rfl)
      (by rintro doc (⟨_, _, _⟩ : ELine) rfl; rfl)
      (by simp only [handle, hkw, if_false, if_true, memberArgs_ok name desc _ (fun x hx => (hdst x hx).2.2), hv, hvd,
        contains_of_nodup_append hnd, Bool.and_self, Bool.not_false]) hdoc hp
      (settle_method cs fr rest (name, desc) (canonMethod m)))
      (ih { fr with cls := { fr.cls with methods := fr.cls.methods ++ [((name, desc), canonMethod m)] } }
        (fun e he => hok e (List.mem_cons_of_mem _ he)) (by simpa [List.append_assoc] using hnd))

/-- `parent` of `parse_class` for the innermost open class -/
def ctxOf : List Frame → Option (JStr × JStr)
  | [] => none
  | fr :: _ => some (fr.key, fr.pdst)

theorem handle_class (cs : AList JStr Class) (st : List Frame) (l : ELine) (h : l.first = kwCLASS) :
    handle ⟨cs, st, .idle⟩ l = (openClass (ctxOf st) l).map fun fr => ⟨cs, fr :: st, .idle⟩ := by
  cases st with
  | nil | cons fr rest =>
    simp only [handle, h, if_true, ctxOf]
    cases openClass _ l <;> rfl

/-- the class `key` is written in the right place below the open classes `st` -/
def Link (classes : AList JStr Class) : List Frame → JStr → Prop
  | [], key => parentInSet classes key = none
  | fr :: _, key => parentInSet classes key = some fr.key ∧
      ∃ pc, AList.lookup fr.key classes = some pc ∧ fr.pdst = fileNameOf fr.key pc

theorem classArgs_ok (src : JStr) (dst : Option JStr) (h : ∀ d, dst = some d → isModifier d = false) :
    classArgs (src :: dst.toList) = some (src, dst) := by
  cases dst with
  | none => rfl
  | some d => simp [classArgs, h d rfl]

/-- prefix stripping on write, prefix re-attachment on read: the reader rebuilds the full names -/
theorem openClass_link (classes : AList JStr Class) (st : List Frame) (key : JStr) (c : Class)
    (hok : classOk classes (key, c) = true) (hl : Link classes st key) :
    openClass (ctxOf st) ⟨st.length, kwCLASS,
        shortName (st.length != 0) key :: ((dstOf c.names).map (shortName (st.length != 0))).toList⟩ =
      some ⟨key, fileNameOf key c, { names := c.names, doc := none, fields := [], methods := [] }⟩ := by
  obtain ⟨dst, hn, _, _, hv, hdo, _⟩ := classOk_spec hok
  simp only at hn hv hdo
  rw [fileNameOf, hn, dstOf_pair]
  unfold openClass
  cases st with
  | nil =>
    have hmod : ∀ d, dst = some d → isModifier d = false := fun d hdd => (classDstOk_spec (hdd ▸ hdo)).2.2.1 hl
    have hvd : optAll validObjClass dst = true := optAll_of fun d hdd => (classDstOk_spec (hdd ▸ hdo)).2.1
    have e1 : shortName (([] : List Frame).length != 0) = id := by
      funext x; simp [shortName]
    simp only [e1, Option.map_id, ctxOf, id, classArgs_ok key dst hmod, hv, hvd, Bool.and_self, if_true]
  | cons fr rest =>
    obtain ⟨hp, pc, hpc, hpd⟩ := hl
    obtain ⟨inner, hsk, _⟩ := parentInSet_some hp
    have hkey : key = fr.key ++ DOLLAR :: inner := (InnerNames.split_some hsk).1
    have e1 : ((fr :: rest).length != 0) = true := by simp
    have e2 : shortName true key = inner := by simp [shortName, hsk]
    rw [e1, e2, ctxOf]
    cases dst with
    | none =>
      simp only [Option.map_none, Option.toList_none, classArgs, ← hkey, hv, optAll, Bool.and_self, if_true, Option.getD_none]
    | some d =>
      obtain ⟨_, hvd, _, hnest⟩ := classDstOk_spec hdo
      obtain ⟨pc', di, hpc', hsd, hmod⟩ := hnest fr.key hp
      obtain rfl : pc' = pc := Option.some.inj (hpc' ▸ hpc)
      have hdeq : d = fr.pdst ++ DOLLAR :: di := by rw [hpd]; exact (InnerNames.split_some hsd).1
      have e3 : shortName true d = di := by simp [shortName, hsd]
      simp only [Option.map_some, Option.toList_some, e3, classArgs, hmod, Bool.false_eq_true, if_false, ← hkey, ← hdeq, hv,
        optAll, hvd, Bool.and_self, if_true, Option.getD_some]

/-- an entry as the reader returns it: members in the writer's sort order, `<init>` targets dropped (`canonClass`) -/
def canonE (e : JStr × Class) : JStr × Class := (e.1, canonClass e.2)

/-- reading the text of one tree, below the open classes `st`, adds the classes of the tree in post-order -/
def TreeRun (classes : AList JStr Class) (fuel : Nat) : Prop :=
  ∀ key c, (key, c) ∈ classes → ∀ (cs : AList JStr Class) (st : List Frame) (s : St),
    Link classes st key → Settle st.length s ⟨cs, st, .idle⟩ →
    (cs.map Prod.fst ++ (postRaw classes fuel key c).map Prod.fst).Nodup →
    ∃ s', run (treeEL classes fuel key c st.length) s = some s' ∧
      Settle st.length s' ⟨cs ++ (postRaw classes fuel key c).map canonE, st, .idle⟩

theorem canonE_fst (l : List (JStr × Class)) : (l.map canonE).map Prod.fst = l.map Prod.fst := by
  simp [canonE, Function.comp_def]

theorem run_forest (classes : AList JStr Class) (fuel : Nat) (H : TreeRun classes fuel) (st : List Frame)
    (nodes : List (JStr × Class)) : (∀ e ∈ nodes, e ∈ classes ∧ Link classes st e.1) → ∀ (cs : AList JStr Class),
    (cs.map Prod.fst ++ (nodes.flatMap fun e => postRaw classes fuel e.1 e.2).map Prod.fst).Nodup →
    Runs st.length (nodes.flatMap fun e => treeEL classes fuel e.1 e.2 st.length) ⟨cs, st, .idle⟩
      ⟨cs ++ (nodes.flatMap fun e => postRaw classes fuel e.1 e.2).map canonE, st, .idle⟩ := by
  induction nodes with
  | nil => exact fun _ cs _ => by simpa using Runs.nil
  | cons e nodes ih =>
    intro hn cs hnd
    obtain ⟨hin, hl⟩ := hn e List.mem_cons_self
    rw [List.flatMap_cons, List.map_append, ← List.append_assoc] at hnd
    rw [List.flatMap_cons, List.flatMap_cons, List.map_append, ← List.append_assoc]
    exact Runs.append (fun s hs => H e.1 e.2 hin cs st s hl hs (List.nodup_append.mp hnd).1)
      (ih (fun x hx => hn x (List.mem_cons_of_mem _ hx)) _ (by rw [List.map_append, canonE_fst]; exact hnd))

/-- **the class-tree print/parse round trip**, by induction on the nesting depth -/
theorem treeRun (classes : AList JStr Class) (hok : ∀ e ∈ classes, classOk classes e = true)
    (hnd : (classes.map Prod.fst).Nodup) (fuel : Nat) : TreeRun classes fuel := by
  induction fuel with
  | zero => exact fun _ _ _ cs st s _ hs _ => ⟨s, rfl, by simpa [postRaw] using hs⟩
  | succ fuel ih =>
    intro key c hin cs st s hl hs hnd'
    refine (?_ : Runs st.length _ ⟨cs, st, .idle⟩ _) s hs
    have hcok := hok (key, c) hin
    obtain ⟨hfs, hfnd, hms, hmnd⟩ := classOk_members hcok
    have hf := run_fields cs st (isort fieldLe c.fields) ⟨key, fileNameOf key c, ⟨c.names, c.doc, [], []⟩⟩
      (mem_isort_all hfs) (isort_keys_nodup fieldLe hfnd)
    have hm := run_methods cs st (isort methodLe c.methods)
      ⟨key, fileNameOf key c, ⟨c.names, c.doc, isort fieldLe c.fields, []⟩⟩ (mem_isort_all hms)
      (isort_keys_nodup methodLe hmnd)
    simp only [postRaw, List.map_append, List.map_cons, List.map_nil] at hnd'
    rw [← List.append_assoc] at hnd'
    have hnd3 := List.nodup_append.mp hnd'
    have hk := run_forest classes fuel ih (⟨key, fileNameOf key c, canonClass c⟩ :: st)
      (childrenOf classes key)
      (fun e he => ⟨(mem_childrenOf he).1, (mem_childrenOf he).2, c, lookup_of_mem hnd hin, rfl⟩) cs hnd3.1
    -- the `CLASS` loop of this class ends
    have hfresh : AList.contains key (cs ++ ((childrenOf classes key).flatMap fun e => postRaw classes fuel e.1 e.2).map canonE) = false := by
      rw [contains_eq_false_iff, List.map_append, canonE_fst]
      exact fun hm => hnd3.2.2 _ hm _ List.mem_cons_self rfl
    simp only [treeEL, classEL, postRaw, List.map_append, List.map_cons, List.map_nil, List.append_assoc]
    refine Runs.entry (fun doc => ⟨cs, ⟨key, fileNameOf key c, ⟨c.names, doc, [], []⟩⟩ :: st, .idle⟩)
      (fun _ => rfl) (by rintro doc (⟨_, _, _⟩ : ELine) rfl; rfl)
      (by rw [handle_class _ _ _ rfl, openClass_link classes st key c hcok hl]; rfl) (classOk_doc hcok)
      (hf.append (hm.append hk)) ?_
    rw [← List.append_assoc]
    exact settle_class _ ⟨key, fileNameOf key c, canonClass c⟩ st hfresh

end Enigma
