import FeatherModel.Lemmas.MavenFuel

/-! The model's loops (`get_merged_pom`'s parent stack, `make_dependency_management`, `get_dependencies_tree`) satisfy
Maven's rules of `Spec/MavenPom.lean`, in both directions (C19). -/

namespace Maven

theorem mergeParent_ok_iff (imp : Coord → Res PomDone) (par : Option PomDone) (child : Pom) (e : PomDone) :
    mergeParent imp par child = .ok e ↔
      ∃ own deps coord, inheritCoord par child = some coord ∧ makeDMOwn imp child.depMgmt = .ok own ∧
        fillDeps (own ++ parDM par) child.deps = some deps ∧
        e = { coord := coord, depMgmt := own ++ parDM par, deps := deps ++ parDeps par } := by
  rw [mergeParent_eq]
  cases inheritCoord par child with
  | none => simp
  | some coord =>
    simp only [Res.bind_eq_ok, Option.some.injEq]
    constructor
    · rintro ⟨own, ho, h⟩
      cases hd : fillDeps (own ++ parDM par) child.deps with
      | none => rw [hd] at h; cases h
      | some deps => rw [hd] at h; exact ⟨own, deps, coord, rfl, ho, hd, (Res.ok.inj h).symm⟩
    · rintro ⟨own, deps, _, rfl, ho, hd, rfl⟩
      exact ⟨own, ho, by rw [hd]⟩

theorem impOf_ok_iff (U : Universe) (rs : List Resolver) (n : Nat) (c : Coord) (b : PomDone) :
    impOf U rs n c = .ok b ↔ ∃ r, getMergedPom U rs n c = .ok (r, b) := by
  rw [impOf, Res.bind_eq_ok]
  constructor
  · rintro ⟨⟨r, q⟩, h, e⟩
    cases e
    exact ⟨r, h⟩
  · rintro ⟨r, h⟩
    exact ⟨(r, b), h, rfl⟩

theorem managed_of_makeDMOwn {imp : Coord → Res PomDone} {E : Coord → PomDone → Prop}
    (hE : ∀ c b, imp c = .ok b → E c b) :
    ∀ (l : List (RawDep (Option Scope))) (own : List DepDone), makeDMOwn imp l = .ok own → Managed E l own := by
  intro l
  induction l with
  | nil =>
    intro own h
    cases h
    exact Managed.nil
  | cons x rest ih =>
    intro own h
    rw [makeDMOwn_cons] at h
    cases hv : x.version with
    | none => rw [hv] at h; cases h
    | some v =>
      rw [hv] at h
      simp only [] at h
      split at h
      · rename_i hs
        simp only [Res.bind_eq_ok, Res.ok.injEq] at h
        obtain ⟨bom, hi, r, hr, rfl⟩ := h
        exact Managed.imp hv hs (hE _ _ hi) (ih r hr)
      · rename_i hs
        simp only [Res.bind_eq_ok, Res.ok.injEq] at h
        obtain ⟨r, hr, rfl⟩ := h
        exact Managed.entry hv hs (ih r hr)

theorem makeDMOwn_of_managed (U : Universe) (rs : List Resolver) {l : List (RawDep (Option Scope))} {own : List DepDone}
    (h : Managed (EffPom U rs) l own) : ∃ N, ∀ n, N ≤ n → makeDMOwn (impOf U rs n) l = .ok own := by
  induction h with
  | nil => exact ⟨0, fun n _ => by rw [makeDMOwn]⟩
  | @entry x v rest r hv hs _ ih =>
    obtain ⟨N, hN⟩ := ih
    refine ⟨N, fun n hn => ?_⟩
    rw [makeDMOwn_cons, hv]
    simp only [if_neg hs, hN n hn, Res.bind]
  | @imp x v rest r bom hv hs hE _ ih =>
    obtain ⟨N, hN⟩ := ih
    obtain ⟨rr, k, hk⟩ := hE
    refine ⟨max N k, fun n hn => ?_⟩
    have h1 : impOf U rs n (depCoord x.group x.artifact v x.type_ x.classifier) = .ok bom :=
      Res.le_ok (impOf_mono U rs (by omega : k ≤ n) _) ((impOf_ok_iff U rs k _ _).2 ⟨rr, hk⟩)
    rw [makeDMOwn_cons, hv]
    simp only [if_pos hs, h1, hN n (by omega), Res.bind]

theorem getMergedPom_ok_iff (U : Universe) (rs : List Resolver) (n : Nat) (c : Coord) (r : Resolver) (e : PomDone) :
    getMergedPom U rs (n + 1) c = .ok (r, e) ↔
      ∃ pom parent, tryGetPom U rs c = .ok (r, pom) ∧ parentOf U rs (impOf U rs n) n pom.parentCoord = .ok parent ∧
        mergeParent (impOf U rs n) parent pom = .ok e := by
  rw [getMergedPom_succ]
  simp only [Res.bind_eq_ok, Res.ok.injEq, Prod.mk.injEq]
  constructor
  · rintro ⟨⟨r', pom⟩, h1, parent, h2, m, h3, rfl, rfl⟩
    exact ⟨pom, parent, h1, h2, h3⟩
  · rintro ⟨pom, parent, h1, h2, h3⟩
    exact ⟨(r, pom), h1, parent, h2, e, h3, rfl, rfl⟩

/-- what `parentOf` computes for the parent `c` is the effective POM of `c`: the steps of `parentOf_some` are those of
`getMergedPom` on `c` itself -/
theorem parentOf_impOf (U : Universe) (rs : List Resolver) (n : Nat) (c : Coord) :
    parentOf U rs (impOf U rs n) (n + 1) (some c) = (getMergedPom U rs (n + 1) c).bind fun p => .ok (some p.2) := by
  simp only [parentOf_some, getMergedPom_succ, Res.bind_assoc]
  rfl

/- In both directions the fuel of the call differs from the `n`, `n + 1` of `parentOf_impOf`; monotonicity absorbs it. -/
theorem parentEff_of_parentOf (U : Universe) (rs : List Resolver) (n : Nat) (pc : Option Coord) (parent : Option PomDone)
    (h : parentOf U rs (impOf U rs n) n pc = .ok parent) : ParentEff (EffPom U rs) pc parent := by
  cases pc with
  | none =>
    rw [parentOf_none] at h
    cases h
    rfl
  | some c =>
    have h := Res.le_ok (parentOf_le U rs (fun _ => Res.le_refl _) (Nat.le_succ n) _) h
    rw [parentOf_impOf, Res.bind_eq_ok] at h
    obtain ⟨⟨r, m⟩, hk, hm⟩ := h
    exact ⟨m, (Res.ok.inj hm).symm, r, n + 1, hk⟩

theorem parentOf_of_parentEff (U : Universe) (rs : List Resolver) (pc : Option Coord) (par : Option PomDone)
    (h : ParentEff (EffPom U rs) pc par) : ∃ N, ∀ n, N ≤ n → parentOf U rs (impOf U rs n) n pc = .ok par := by
  cases pc with
  | none =>
    have hp : par = none := h
    subst hp
    exact ⟨0, fun n _ => parentOf_none U rs _ n⟩
  | some c =>
    obtain ⟨ep, hp, r, k, hk⟩ := h
    subst hp
    cases k with
    | zero => rw [getMergedPom] at hk; cases hk
    | succ j =>
      refine ⟨j + 1, fun n hn => ?_⟩
      have himp : ∀ c, (impOf U rs j c).le (impOf U rs n c) := fun c => impOf_mono U rs (by omega) c
      refine Res.le_ok (parentOf_le U rs himp hn _) ?_
      rw [parentOf_impOf, hk]
      rfl

theorem treesFor_of_mapRes {T : Coord → Scope → Tree Found → Prop} {f : Coord × Scope → Res (Tree Found)}
    (hT : ∀ p t, f p = .ok t → T p.1 p.2 t) :
    ∀ (l : List (Coord × Scope)) (ts : List (Tree Found)), mapRes f l = .ok ts → TreesFor T l ts := by
  intro l
  induction l with
  | nil =>
    intro ts h
    cases h
    exact TreesFor.nil
  | cons x rest ih =>
    intro ts h
    rw [mapRes_cons] at h
    simp only [Res.bind_eq_ok, Res.ok.injEq] at h
    obtain ⟨t, h1, ts', h2, rfl⟩ := h
    exact TreesFor.cons (hT x t h1) (ih ts' h2)

theorem mapRes_of_treesFor (U : Universe) (rs : List Resolver) {l : List (Coord × Scope)} {ts : List (Tree Found)}
    (h : TreesFor (DepTreeOf U rs) l ts) :
    ∃ N, ∀ n, N ≤ n → mapRes (fun p => depTree U rs n p.1 p.2) l = .ok ts := by
  induction h with
  | nil => exact ⟨0, fun n _ => rfl⟩
  | @cons c s t rest ts' hT _ ih =>
    obtain ⟨N, hN⟩ := ih
    obtain ⟨k, hk⟩ := hT
    refine ⟨max N k, fun n hn => ?_⟩
    have h1 : depTree U rs n c s = .ok t := Res.le_ok (depTree_mono U rs (by omega : k ≤ n) c s) hk
    simp only [mapRes, h1, hN n (by omega)]

end Maven
