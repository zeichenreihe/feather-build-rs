import FeatherModel.Lemmas.TinyText
import FeatherModel.Lemmas.AList
import FeatherModel.Lemmas.Machine

/-!
# The Tiny v2 reader, line by line (C03)
The header's own section (`Tiny.headerSec_eq`: what it consumes is a function of the text alone, `headerPart` / `bodyPart`,
and its comment lines are folded with `add_comment`);
what one accepted line does to the tree under construction (`TreeStep`: nothing, one fresh entry appended under a new key
to the open node, or the absent comment of the open node set); consequences for whole runs: one entry per recognised
line, well-formed result maps, closed classes are never touched again, a second line with the key of an earlier sibling
is an error; the same through line positions (`Tiny.dupAt`), which is how the driver and the harness evaluate them.
-/

namespace Tiny

theorem headerPart_append_bodyPart (ls : List TLine) : headerPart ls ++ bodyPart ls = ls :=
  List.takeWhile_append_dropWhile

theorem bodyPart_nil : bodyPart [] = [] := rfl
theorem headerPart_nil : headerPart [] = [] := rfl

theorem bodyPart_cons_zero {l : TLine} (ls : List TLine) (h : l.indent = 0) : bodyPart (l :: ls) = l :: ls := by
  simp [bodyPart, h]

theorem bodyPart_cons_pos {l : TLine} (ls : List TLine) (h : l.indent ≠ 0) : bodyPart (l :: ls) = bodyPart ls := by
  simp [bodyPart, h]

theorem bodyPart_append_of_pos : ∀ (pre : List TLine) (rest : List TLine), (∀ l ∈ pre, l.indent ≠ 0) →
    bodyPart (pre ++ rest) = bodyPart rest :=
  fun _ _ h => List.dropWhile_append_of_pos fun l hl => bne_iff_ne.mpr (h l hl)

theorem headerPart_append_of_pos : ∀ (pre : List TLine) (rest : List TLine), (∀ l ∈ pre, l.indent ≠ 0) →
    headerPart (pre ++ rest) = pre ++ headerPart rest :=
  fun _ _ h => List.takeWhile_append_of_pos fun l hl => bne_iff_ne.mpr (h l hl)

theorem headerPart_indent_pos : ∀ (ls : List TLine), ∀ l ∈ headerPart ls, l.indent ≠ 0 :=
  fun _ l hl => bne_iff_ne.mp (List.all_eq_true.mp List.all_takeWhile l hl)

/-- a cut lies in the body when a line at indentation 0 stands before it or directly behind it: what follows the cut then
ends the body as it ends the text -/
theorem bodyPart_append {pre rest : List TLine} (hb : (∃ x ∈ pre, x.indent = 0) ∨ ∃ x ∈ rest.head?, x.indent = 0) :
    bodyPart (pre ++ rest) = bodyPart pre ++ rest := by
  refine List.dropWhile_append.trans ?_
  split
  · rename_i he
    have he : bodyPart pre = [] := List.isEmpty_iff.mp he
    rcases hb with ⟨x, hx, h0⟩ | ⟨x, hx, h0⟩
    · rw [← headerPart_append_bodyPart pre, he, List.append_nil] at hx
      exact absurd h0 (headerPart_indent_pos pre x hx)
    · obtain ⟨r, rfl⟩ := List.head?_eq_some_iff.mp hx
      simp [he, h0]
  · rfl

theorem bodyPart_head (ls : List TLine) : ∀ l ∈ (bodyPart ls).head?, l.indent = 0 := by
  intro l hl
  have := List.head?_dropWhile_not (fun l : TLine => l.indent != 0) ls
  rw [show (List.dropWhile (fun l : TLine => l.indent != 0) ls).head? = some l from hl] at this
  simpa using this

theorem headerSec_nil (doc : Option JStr) : headerSec doc [] = some (doc, []) := rfl

theorem headerPart_cons (l : TLine) (ls : List TLine) :
    headerPart (l :: ls) = if l.indent = 0 then [] else l :: headerPart ls := by
  by_cases h : l.indent = 0 <;> simp [headerPart, h]

/-- the only induction along `headerSec` -/
theorem headerSec_eq (doc : Option JStr) (ls : List TLine) : headerSec doc ls =
    if (headerPart ls).all (·.indent == 1) then ((headerDocLines ls).foldlM setDoc doc).map (·, bodyPart ls) else none := by
  fun_induction headerSec doc ls with
  | case1 => rfl
  | case2 _ l ls h0 => simp [headerDocLines, headerPart_cons, bodyPart_cons_zero, h0]
  | case3 _ l ls h1 hf hs => simp [headerDocLines, headerPart_cons, h1, hf, hs]
  | case4 _ l ls h1 hf d hs ih => simp [headerDocLines, headerPart_cons, bodyPart_cons_pos, h1, hf, hs, ih]
  | case5 _ l ls h1 hf ih => simp [headerDocLines, headerPart_cons, bodyPart_cons_pos, h1, hf, ih]
  | case6 _ l ls h0 h1 => simp [headerPart_cons, show l.indent ≠ 0 from h0, show ¬ l.indent = 1 from h1]

theorem setDoc_some {old new : Option JStr} {l : TLine} (h : setDoc old l = some new) :
    old = none ∧ ∃ d, new = some d ∧ commentOf l = some d := by
  unfold setDoc at h
  cases hc : commentOf l with
  | none => simp [hc] at h
  | some c =>
    cases old with
    | some o => simp [hc] at h
    | none => exact ⟨rfl, c, by simpa [hc] using h.symm, rfl⟩

theorem foldlM_setDoc {dls : List TLine} {doc d : Option JStr} (h : dls.foldlM setDoc doc = some d) :
    (dls = [] ∧ d = doc) ∨ ∃ l c, dls = [l] ∧ doc = none ∧ d = some c ∧ commentOf l = some c := by
  match dls, h with
  | [], h => exact .inl ⟨rfl, by simpa using h.symm⟩
  | l :: rest, h =>
    obtain ⟨d1, h1, h2⟩ := Option.bind_eq_some_iff.mp (List.foldlM_cons (m := Option) ▸ h)
    obtain ⟨hdoc, c, rfl, hc⟩ := setDoc_some h1
    match rest, h2 with
    | [], h2 => exact .inr ⟨l, c, rfl, hdoc, by simpa using h2.symm, hc⟩
    | l2 :: _, h2 =>
      obtain ⟨d2, h3, _⟩ := Option.bind_eq_some_iff.mp (List.foldlM_cons (m := Option) ▸ h2)
      cases (setDoc_some h3).1

theorem headerSec_some {ls : List TLine} {doc d : Option JStr} {rest : List TLine} (h : headerSec doc ls = some (d, rest)) :
    rest = bodyPart ls ∧ (∀ l ∈ headerPart ls, l.indent = 1) ∧ (headerDocLines ls).foldlM setDoc doc = some d := by
  rw [headerSec_eq] at h
  split at h
  · rename_i hall
    obtain ⟨d', hd, he⟩ := Option.map_eq_some_iff.mp h
    cases he
    exact ⟨rfl, by simpa using hall, hd⟩
  · cases h

theorem headerSec_none_doc {ls : List TLine} {d : Option JStr} {rest : List TLine} (h : headerSec none ls = some (d, rest)) :
    d = headerDoc ls ∧ docN d = (headerDocLines ls).length := by
  rcases foldlM_setDoc (headerSec_some h).2.2 with ⟨hnil, rfl⟩ | ⟨l, c, hl, _, rfl, hc⟩
  · simp [headerDoc, hnil, docN]
  · simp [headerDoc, hl, hc, docN]

theorem headerSec_of_headerBad {ls : List TLine} (doc : Option JStr) (h : headerBad ls = true) : headerSec doc ls = none := by
  cases hr : headerSec doc ls with
  | none => rfl
  | some r =>
    obtain ⟨_, h1, h2⟩ := headerSec_some (d := r.1) (rest := r.2) hr
    simp only [headerBad, Bool.or_eq_true, List.any_eq_true, decide_eq_true_eq] at h
    rcases h with ⟨l, hl, h2l⟩ | h
    · have := h1 l hl
      omega
    · rcases foldlM_setDoc h2 with ⟨hnil, _⟩ | ⟨l, c, hl, _⟩
      · simp [hnil] at h
      · simp [hl] at h

theorem headerSec_ignores (pre : List TLine) (doc : Option JStr) (l : TLine) (post : List TLine)
    (hpre : ∀ x ∈ pre, x.indent ≠ 0) (h1 : l.indent = 1) (hf : l.first ≠ C_) :
    headerSec doc (pre ++ l :: post) = headerSec doc (pre ++ post) := by
  simp [headerSec_eq, headerDocLines, headerPart_append_of_pos _ _ hpre, bodyPart_append_of_pos _ _ hpre, headerPart_cons,
    bodyPart_cons_pos, h1, hf]

theorem headerBad_two_comments {pre mid post : List TLine} {l1 l2 : TLine} (hpre : ∀ x ∈ pre, x.indent ≠ 0)
    (hmid : ∀ x ∈ mid, x.indent ≠ 0) (h1 : l1.indent = 1 ∧ l1.first = C_) (h2 : l2.indent = 1 ∧ l2.first = C_) :
    headerBad (pre ++ l1 :: (mid ++ l2 :: post)) = true := by
  have a : l1.indent ≠ 0 := by omega
  have b : l2.indent ≠ 0 := by omega
  simp only [headerBad, headerDocLines, headerPart_append_of_pos _ _ hpre, headerPart_append_of_pos _ _ hmid, headerPart_cons,
    a, b, if_false, List.filter_append, List.filter_cons, h1.2, h2.2, beq_self_eq_true, if_true, List.length_append,
    List.length_cons, Bool.or_eq_true, decide_eq_true_eq]
  omega

theorem headerBad_deep {pre post : List TLine} {l : TLine} (hpre : ∀ x ∈ pre, x.indent ≠ 0) (hl : 2 ≤ l.indent) :
    headerBad (pre ++ l :: post) = true := by
  have a : l.indent ≠ 0 := by omega
  simp [headerBad, headerPart_append_of_pos _ _ hpre, headerPart_cons, a, hl]

theorem run_cons_of_step {n : Nat} {s s' : St} {l : TLine} (h : step n s l = some s') (rest : List TLine) :
    run n s (l :: rest) = run n s' rest := by
  simp only [run, h]

theorem exists_snoc {α : Type} {l : List α} (h : l ≠ []) : ∃ r y, l = r ++ [y] := by
  obtain ⟨r, y, rfl⟩ := l.eq_nil_or_concat.resolve_left h
  exact ⟨r, y, List.concat_eq_append⟩

theorem modLast_append_single {α : Type} (f : α → Option α) :
    ∀ (xs : List α) (x : α), modLast f (xs ++ [x]) = (f x).map (fun y => xs ++ [y])
  | [], x => by simp [modLast]
  | [a], x => by
    simp only [List.cons_append, List.nil_append, modLast]
    cases f x <;> rfl
  | a :: b :: r, x => by
    have := modLast_append_single f (b :: r) x
    simp only [List.cons_append, modLast] at this ⊢
    rw [this]
    cases f x <;> rfl

theorem modLastV_append_single {K V : Type} (g : V → Option V) (m : AList K V) (k : K) (v : V) :
    modLastV g (m ++ [(k, v)]) = (g v).map (fun v' => m ++ [(k, v')]) := by
  unfold modLastV
  rw [modLast_append_single]
  cases g v <;> rfl

theorem intoNames_some {valid : JStr → Bool} {n : Nat} {cells : List JStr} {names : Names}
    (h : intoNames valid n cells = some names) : names = cells.map fun f => if f.isEmpty then none else some f := by
  simp only [intoNames, Option.ite_none_left_eq_some, Option.some.injEq] at h
  exact h.2.2.symm

theorem firstName_intoNames {valid : JStr → Bool} {n : Nat} {name : JStr} {more : List JStr} {names : Names}
    (hne : name ≠ []) (h : intoNames valid n (name :: more) = some names) : firstName names = some name := by
  rw [intoNames_some h]
  simp [firstName, hne]

theorem head_of_intoNames {valid : JStr → Bool} {n : Nat} {cells : List JStr} {names : Names} {key : JStr}
    (h : intoNames valid n cells = some names) (hf : firstName names = some key) : cells.head? = some key := by
  rw [intoNames_some h] at hf
  cases cells with
  | nil => cases hf
  | cons c rest =>
    by_cases hc : c = []
    · simp [firstName, hc] at hf
    · simpa [firstName, hc] using hf

/-! What one accepted line may do to the tree: `TreeStep` and, below a class, `ClassStep` / `MethodStep` /
`FieldStep` / `ParamStep` (the change inside the last class, method, field, parameter). -/

inductive ParamStep : LineKind → Param → Param → Prop
  | doc {p : Param} {d : JStr} : p.doc = none → ParamStep .doc p { p with doc := some d }

inductive FieldStep : LineKind → Field → Field → Prop
  | doc {f : Field} {d : JStr} : f.doc = none → FieldStep .doc f { f with doc := some d }

inductive MethodStep : LineKind → Method → Method → Prop
  | doc {m : Method} {d : JStr} : m.doc = none → MethodStep .doc m { m with doc := some d }
  | addParam {m : Method} {p : Param} : p.doc = none → AList.contains p.index m.params = false →
      MethodStep .par m { m with params := m.params ++ [(p.index, p)] }
  | inParam {κ : LineKind} {m : Method} {init : AList Nat Param} {k : Nat} {p p' : Param} :
      m.params = init ++ [(k, p)] → ParamStep κ p p' → MethodStep κ m { m with params := init ++ [(k, p')] }

inductive ClassStep : LineKind → Class → Class → Prop
  | doc {c : Class} {d : JStr} : c.doc = none → ClassStep .doc c { c with doc := some d }
  | addField {c : Class} {f : Field} {name : JStr} : f.doc = none → firstName f.names = some name →
      AList.contains (name, f.desc) c.fields = false →
      ClassStep .fld c { c with fields := c.fields ++ [((name, f.desc), f)] }
  | addMethod {c : Class} {m : Method} {name : JStr} : m.doc = none → m.params = [] → firstName m.names = some name →
      AList.contains (name, m.desc) c.methods = false →
      ClassStep .mth c { c with methods := c.methods ++ [((name, m.desc), m)] }
  | inField {κ : LineKind} {c : Class} {init : AList MemberKey Field} {k : MemberKey} {f f' : Field} :
      c.fields = init ++ [(k, f)] → FieldStep κ f f' → ClassStep κ c { c with fields := init ++ [(k, f')] }
  | inMethod {κ : LineKind} {c : Class} {init : AList MemberKey Method} {k : MemberKey} {m m' : Method} :
      c.methods = init ++ [(k, m)] → MethodStep κ m m' → ClassStep κ c { c with methods := init ++ [(k, m')] }

/-- the only ways an accepted line of kind `κ` changes the class map -/
inductive TreeStep : LineKind → AList JStr Class → AList JStr Class → Prop
  | skip {cs : AList JStr Class} : TreeStep .skip cs cs
  | addClass {cs : AList JStr Class} {key : JStr} {c : Class} : c.doc = none → c.fields = [] → c.methods = [] →
      firstName c.names = some key → AList.contains key cs = false → TreeStep .cls cs (cs ++ [(key, c)])
  | inClass {κ : LineKind} {init : AList JStr Class} {k : JStr} {c c' : Class} :
      ClassStep κ c c' → TreeStep κ (init ++ [(k, c)]) (init ++ [(k, c')])

theorem map_some' {α β : Type} {f : α → β} {o : Option α} {b : β} (h : o.map f = some b) : ∃ a, o = some a ∧ f a = b :=
  Option.map_eq_some_iff.mp h

theorem modLastV_some {K V : Type} {g : V → Option V} {m m' : AList K V} (h : modLastV g m = some m') :
    ∃ init k v v', m = init ++ [(k, v)] ∧ g v = some v' ∧ m' = init ++ [(k, v')] := by
  cases m with
  | nil => cases h
  | cons a t =>
    obtain ⟨init, ⟨k, v⟩, e⟩ := exists_snoc (List.cons_ne_nil a t)
    rw [e, modLastV_append_single] at h
    obtain ⟨v', hv, rfl⟩ := Option.map_eq_some_iff.mp h
    exact ⟨init, k, v, v', e, hv, rfl⟩

theorem addClass_some {n : Nat} {l : TLine} {cs cs' : AList JStr Class} (h : addClass n l cs = some cs') :
    ∃ (names : Names) (key : JStr), intoNames validClass n l.fields = some names ∧ firstName names = some key ∧
      AList.contains key cs = false ∧ cs' = cs ++ [(key, { names := names, doc := none, fields := [], methods := [] })] := by
  unfold addClass at h
  split at h
  · cases h
  · rename_i names h1
    split at h
    · cases h
    · rename_i key h2
      obtain ⟨h3, h4⟩ := AList.insertNew_some h
      exact ⟨names, key, h1, h2, h3, h4⟩

theorem addField_some {n : Nat} {l : TLine} {c c' : Class} (h : addField n l c = some c') :
    ∃ (desc : JStr) (rest : List JStr) (names : Names) (name : JStr), l.fields = desc :: rest ∧
      intoNames validUnq n rest = some names ∧ firstName names = some name ∧
      AList.contains (name, desc) c.fields = false ∧
      c' = { c with fields := c.fields ++ [((name, desc), { desc := desc, names := names, doc := none })] } := by
  unfold addField at h
  split at h
  · cases h
  · rename_i desc rest h0
    split at h
    · cases h
    · rename_i names h1
      split at h
      · cases h
      · rename_i name h2
        split at h
        · cases h
        · rename_i _ h3
          cases h
          obtain ⟨h4, rfl⟩ := AList.insertNew_some h3
          exact ⟨desc, rest, names, name, h0, h1, h2, h4, rfl⟩

theorem addMethod_some {n : Nat} {l : TLine} {c c' : Class} (h : addMethod n l c = some c') :
    ∃ (desc : JStr) (rest : List JStr) (names : Names) (name : JStr), l.fields = desc :: rest ∧
      intoNames validMethod n rest = some names ∧ firstName names = some name ∧
      AList.contains (name, desc) c.methods = false ∧
      c' = { c with methods := c.methods ++ [((name, desc), { desc := desc, names := names, doc := none, params := [] })] } := by
  unfold addMethod at h
  split at h
  · cases h
  · rename_i desc rest h0
    split at h
    · cases h
    · rename_i names h1
      split at h
      · cases h
      · rename_i name h2
        split at h
        · cases h
        · rename_i _ h3
          cases h
          obtain ⟨h4, rfl⟩ := AList.insertNew_some h3
          exact ⟨desc, rest, names, name, h0, h1, h2, h4, rfl⟩

theorem addParam_some {n : Nat} {l : TLine} {m m' : Method} (h : addParam n l m = some m') :
    ∃ (idx : JStr) (rest : List JStr) (index : Nat) (names : Names), l.fields = idx :: rest ∧
      parseUsize idx = some index ∧ intoNames validUnq n rest = some names ∧
      AList.contains index m.params = false ∧
      m' = { m with params := m.params ++ [(index, { index := index, names := names, doc := none })] } := by
  unfold addParam at h
  split at h
  · cases h
  · rename_i idx rest h0
    split at h
    · cases h
    · rename_i index h1
      split at h
      · cases h
      · rename_i names h2
        split at h
        · cases h
        · rename_i _ h3
          cases h
          obtain ⟨h4, rfl⟩ := AList.insertNew_some h3
          exact ⟨idx, rest, index, names, h0, h1, h2, h4, rfl⟩

/-- `classDoc`, `fieldDoc`, `methodDoc`, `paramDoc` are `setDoc` under a record update `mk` -/
theorem setDoc_map_some {α : Type} {doc : Option JStr} {l : TLine} {mk : Option JStr → α} {x' : α}
    (h : (setDoc doc l).map mk = some x') : doc = none ∧ ∃ d, x' = mk (some d) := by
  obtain ⟨d, hd, rfl⟩ := Option.map_eq_some_iff.mp h
  obtain ⟨h1, d', rfl, _⟩ := setDoc_some hd
  exact ⟨h1, d', rfl⟩

theorem classDoc_step (l : TLine) (c c' : Class) (h : classDoc l c = some c') : ClassStep .doc c c' := by
  obtain ⟨h1, d, rfl⟩ := setDoc_map_some h
  exact .doc h1

theorem fieldDoc_step (l : TLine) (f f' : Field) (h : fieldDoc l f = some f') : FieldStep .doc f f' := by
  obtain ⟨h1, d, rfl⟩ := setDoc_map_some h
  exact .doc h1

theorem methodDoc_step (l : TLine) (m m' : Method) (h : methodDoc l m = some m') : MethodStep .doc m m' := by
  obtain ⟨h1, d, rfl⟩ := setDoc_map_some h
  exact .doc h1

theorem paramDoc_step (l : TLine) (p p' : Param) (h : paramDoc l p = some p') : ParamStep .doc p p' := by
  obtain ⟨h1, d, rfl⟩ := setDoc_map_some h
  exact .doc h1

theorem inLastField_some {κ : LineKind} {g : Field → Option Field} (hg : ∀ f f', g f = some f' → FieldStep κ f f')
    (c c' : Class) (h : inLastField g c = some c') : ClassStep κ c c' := by
  obtain ⟨fs, hfs, rfl⟩ := Option.map_eq_some_iff.mp h
  obtain ⟨init, k, f, f', h1, h2, rfl⟩ := modLastV_some hfs
  exact .inField h1 (hg f f' h2)

theorem inLastMethod_some {κ : LineKind} {g : Method → Option Method} (hg : ∀ m m', g m = some m' → MethodStep κ m m')
    (c c' : Class) (h : inLastMethod g c = some c') : ClassStep κ c c' := by
  obtain ⟨ms, hms, rfl⟩ := Option.map_eq_some_iff.mp h
  obtain ⟨init, k, m, m', h1, h2, rfl⟩ := modLastV_some hms
  exact .inMethod h1 (hg m m' h2)

theorem inLastParam_some {κ : LineKind} {g : Param → Option Param} (hg : ∀ p p', g p = some p' → ParamStep κ p p')
    (m m' : Method) (h : inLastParam g m = some m') : MethodStep κ m m' := by
  obtain ⟨ps, hps, rfl⟩ := Option.map_eq_some_iff.mp h
  obtain ⟨init, k, p, p', h1, h2, rfl⟩ := modLastV_some hps
  exact .inParam h1 (hg p p' h2)

theorem inClass_some {κ : LineKind} {g : Class → Option Class} {cs cs' : AList JStr Class}
    (h : modLastV g cs = some cs') (hg : ∀ c c', g c = some c' → ClassStep κ c c') : TreeStep κ cs cs' := by
  obtain ⟨init, k, c, c', rfl, h2, rfl⟩ := modLastV_some h
  exact .inClass (hg c c' h2)

theorem addField_step {n : Nat} {l : TLine} (c c' : Class) (h : addField n l c = some c') : ClassStep .fld c c' := by
  obtain ⟨desc, rest, names, name, _, _, h3, h4, rfl⟩ := addField_some h
  exact ClassStep.addField (f := { desc := desc, names := names, doc := none }) rfl h3 h4

theorem addMethod_step {n : Nat} {l : TLine} (c c' : Class) (h : addMethod n l c = some c') : ClassStep .mth c c' := by
  obtain ⟨desc, rest, names, name, _, _, h3, h4, rfl⟩ := addMethod_some h
  exact ClassStep.addMethod (m := { desc := desc, names := names, doc := none, params := [] }) rfl rfl h3 h4

theorem addParam_step {n : Nat} {l : TLine} (m m' : Method) (h : addParam n l m = some m') : MethodStep .par m m' := by
  obtain ⟨idx, rest, index, names, _, _, _, h4, rfl⟩ := addParam_some h
  exact MethodStep.addParam (p := { index := index, names := names, doc := none }) rfl h4

/-- the change a line classified as `κ` makes to the class map (`k`: the kind of the member opened last) -/
def act (n : Nat) (k : Kind) (l : TLine) : LineKind → AList JStr Class → Option (AList JStr Class)
  | .cls => addClass n l
  | .fld => modLastV (addField n l)
  | .mth => modLastV (addMethod n l)
  | .par => modLastV (inLastMethod (addParam n l))
  | .doc =>
    match l.indent, k with
    | 1, _ => modLastV (classDoc l)
    | 2, .field => modLastV (inLastField (fieldDoc l))
    | 2, .method => modLastV (inLastMethod (methodDoc l))
    | _, _ => modLastV (inLastMethod (inLastParam (paramDoc l)))
  | .skip => some

/-- a line that adds an entry opens the loop one level deeper -/
def opens : LineKind → Nat
  | .cls | .fld | .mth | .par => 1
  | _ => 0

/-- **`step` in one formula**: a line deeper than the innermost open loop (or than any loop) is refused; otherwise the
line is classified by `lineKind`, makes the change `act` to the tree, and leaves the loop of its own level open, or the
one below it when it added an entry. The only place where `step` is taken apart case by case. -/
theorem step_eq (n : Nat) (s : St) (l : TLine) : step n s l =
    if s.depth < l.indent ∨ 4 ≤ l.indent then none
    else (act n s.kind l (lineKind s.kind l) s.classes).map fun cs =>
      { depth := l.indent + opens (lineKind s.kind l), kind := kindAfter s.kind l, classes := cs } := by
  have hMF : ¬ M_ = F_ := by decide
  have hCF : ¬ C_ = F_ := by decide
  have hCM : ¬ C_ = M_ := by decide
  have hCP : ¬ C_ = P_ := by decide
  obtain ⟨d, k, cs⟩ := s
  obtain ⟨i, f, fs⟩ := l
  by_cases hd : d < i
  · simp only [step, hd, if_true, true_or]
  simp only [step, hd, if_false, false_or]
  match i with
  | 0 => by_cases h : f = C_ <;> simp [lineKind, kindAfter, act, opens, h]
  | 1 =>
    by_cases h1 : f = F_
    · simp [lineKind, kindAfter, act, opens, h1]
    · by_cases h2 : f = M_
      · simp [lineKind, kindAfter, act, opens, h2, hMF]
      · by_cases h3 : f = C_ <;> simp [lineKind, kindAfter, act, opens, h1, h2, h3, hCF, hCM]
  | 2 =>
    cases k with
    | field => by_cases h : f = C_ <;> simp [lineKind, kindAfter, act, opens, h]
    | method =>
      by_cases h1 : f = P_
      · simp [lineKind, kindAfter, act, opens, h1]
      · by_cases h2 : f = C_ <;> simp [lineKind, kindAfter, act, opens, h1, h2, hCP]
  | 3 => by_cases h : f = C_ <;> simp [lineKind, kindAfter, act, opens, h]
  | i + 4 => simp

theorem step_some {n : Nat} {s s' : St} {l : TLine} (h : step n s l = some s') :
    l.indent ≤ s.depth ∧ ∃ cs, act n s.kind l (lineKind s.kind l) s.classes = some cs ∧
      s' = { depth := l.indent + opens (lineKind s.kind l), kind := kindAfter s.kind l, classes := cs } := by
  rw [step_eq] at h
  split at h
  · cases h
  · obtain ⟨cs, hcs, rfl⟩ := Option.map_eq_some_iff.mp h
    exact ⟨by omega, cs, hcs, rfl⟩

theorem step_of_act {n : Nat} {s : St} {l : TLine} {κ : LineKind} {cs : AList JStr Class} (hd : l.indent ≤ s.depth)
    (h4 : l.indent < 4) (hκ : lineKind s.kind l = κ) (ha : act n s.kind l κ s.classes = some cs) :
    step n s l = some { depth := l.indent + opens κ, kind := kindAfter s.kind l, classes := cs } := by
  rw [step_eq, if_neg (by omega), hκ, ha]
  rfl

theorem act_treeStep {n : Nat} {k : Kind} {l : TLine} {κ : LineKind} {cs cs' : AList JStr Class}
    (h : act n k l κ cs = some cs') : TreeStep κ cs cs' := by
  cases κ with
  | cls =>
    obtain ⟨names, key, _, h2, h3, rfl⟩ := addClass_some h
    exact TreeStep.addClass (c := { names := names, doc := none, fields := [], methods := [] }) rfl rfl rfl h2 h3
  | fld => exact inClass_some h addField_step
  | mth => exact inClass_some h addMethod_step
  | par => exact inClass_some h (inLastMethod_some addParam_step)
  | doc =>
    obtain ⟨i, f, fs⟩ := l
    match i, k, h with
    | 1, _, h => exact inClass_some h (classDoc_step _)
    | 2, .field, h => exact inClass_some h (inLastField_some (fieldDoc_step _))
    | 2, .method, h => exact inClass_some h (inLastMethod_some (methodDoc_step _))
    | 0, _, h | _ + 3, _, h => exact inClass_some h (inLastMethod_some (inLastParam_some (paramDoc_step _)))
  | skip => cases h; exact .skip

theorem step_treeStep {n : Nat} {s s' : St} {l : TLine} (h : step n s l = some s') :
    TreeStep (lineKind s.kind l) s.classes s'.classes ∧ s'.kind = kindAfter s.kind l ∧ l.indent ≤ s.depth ∧
      l.indent ≤ s'.depth ∧ s'.depth ≤ l.indent + 1 := by
  obtain ⟨hd, cs, hcs, rfl⟩ := step_some h
  refine ⟨act_treeStep hcs, rfl, hd, Nat.le_add_right _ _, Nat.add_le_add_left ?_ _⟩
  cases lineKind s.kind l <;> decide

theorem isRun (n : Nat) : IsRun (step n) (run n) :=
  ⟨fun _ => rfl, fun s l ls => by simp only [run]; cases step n s l <;> rfl⟩

theorem read_some {n : Nat} {t : List Nat} {m : Mappings} (h : read n t = some m) :
    ∃ (hd : TLine) (s : St), (textLines t).head? = some hd ∧ 2 ≤ n ∧ m.ns.length = n ∧ hd.fields = [50] :: [48] :: m.ns ∧
      headerSec none (textLines t).tail = some (m.doc, bodyPart (textLines t).tail) ∧
      run n { depth := 0, kind := .field, classes := [] } (bodyPart (textLines t).tail) = some s ∧ m.classes = s.classes := by
  unfold read at h
  cases htl : textLines t with
  | nil => simp [htl] at h
  | cons hd ls =>
    simp only [htl, Option.ite_none_left_eq_some] at h
    obtain ⟨hn, _, h⟩ := h
    split at h
    · rename_i two zero nss hfs
      simp only [Option.ite_none_left_eq_some, ne_eq, Decidable.not_not] at h
      obtain ⟨h2, h0, hlen, _, h⟩ := h
      split at h
      · cases h
      · rename_i doc body hsec
        split at h
        · cases h
        · rename_i s hrun
          cases h
          cases (headerSec_some hsec).1
          exact ⟨hd, s, rfl, by omega, hlen, by rw [hfs, h2, h0], hsec, hrun, rfl⟩
    · cases h

def delta (κ κ' : LineKind) : Nat := if κ = κ' then 1 else 0

theorem methodStep_counts {κ : LineKind} {m m' : Method} (h : MethodStep κ m m') :
    (κ = .doc ∨ κ = .par) ∧ methodDocs m' = methodDocs m + delta κ .doc ∧
      m'.params.length = m.params.length + delta κ .par := by
  cases h with
  | doc h1 => simp +arith [methodDocs, docN, h1, delta]
  | addParam h1 h2 => simp [methodDocs, docN, h1, delta]
  | inParam h1 h2 =>
    cases h2 with
    | doc h3 => simp +arith [methodDocs, docN, h1, h3, delta]

theorem classStep_counts {κ : LineKind} {c c' : Class} (h : ClassStep κ c c') :
    delta κ .cls = 0 ∧ c'.fields.length = c.fields.length + delta κ .fld ∧
      c'.methods.length = c.methods.length + delta κ .mth ∧
      classParams c' = classParams c + delta κ .par ∧ classDocs c' = classDocs c + delta κ .doc := by
  cases h with
  | doc h1 => simp +arith [classDocs, classParams, docN, h1, delta]
  | addField h1 h2 h3 => simp [classDocs, classParams, docN, h1, delta]
  | addMethod h1 h2 h3 h4 => simp [classDocs, classParams, methodDocs, docN, h1, h2, delta]
  | inField h1 h2 =>
    cases h2 with
    | doc h3 => simp +arith [classDocs, classParams, docN, h1, h3, delta]
  | inMethod h1 h2 =>
    obtain ⟨hk, h3, h4⟩ := methodStep_counts h2
    rcases hk with rfl | rfl <;> simp +arith [classDocs, classParams, h1, h3, h4, delta]

theorem treeStep_counts {κ : LineKind} {cs cs' : AList JStr Class} (h : TreeStep κ cs cs') (κ' : LineKind) (hk : κ' ≠ .skip) :
    countOf κ' cs' = countOf κ' cs + delta κ κ' := by
  cases h with
  | skip => cases κ' <;> simp [delta] at hk ⊢
  | addClass h1 h2 h3 h4 h5 =>
    cases κ' <;> simp [countOf, delta, classParams, classDocs, docN, h1, h2, h3] at hk ⊢
  | inClass h1 =>
    obtain ⟨c0, c1, c2, c3, c4⟩ := classStep_counts h1
    cases κ' with
    | skip => exact absurd rfl hk
    | cls => simp [countOf, c0]
    | fld => simp +arith [countOf, c1]
    | mth => simp +arith [countOf, c2]
    | par => simp +arith [countOf, c3]
    | doc => simp +arith [countOf, c4]

theorem count_lineKinds_cons (κ' : LineKind) (k : Kind) (l : TLine) (ls : List TLine) :
    (lineKinds k (l :: ls)).count κ' = delta (lineKind k l) κ' + (lineKinds (kindAfter k l) ls).count κ' := by
  simp only [lineKinds, List.count_cons, delta, beq_iff_eq]
  exact Nat.add_comm _ _

theorem run_counts {n : Nat} (κ' : LineKind) (hk : κ' ≠ .skip) :
    ∀ (ls : List TLine) (s s' : St), run n s ls = some s' →
      countOf κ' s'.classes = countOf κ' s.classes + (lineKinds s.kind ls).count κ'
  | [], s, s', h => by
    cases h
    simp [lineKinds]
  | l :: ls, s, s', h => by
    obtain ⟨m, h1, h2⟩ := (isRun n).cons_some h
    obtain ⟨ht, hkind, _⟩ := step_treeStep h1
    have ih := run_counts κ' hk ls m s' h2
    rw [ih, treeStep_counts ht κ' hk, count_lineKinds_cons, hkind]
    omega

/-- an accepted line changes the last entry or appends one: a proper prefix of the class map stays one -/
theorem treeStep_frozen {κ : LineKind} {cs cs' : AList JStr Class} (h : TreeStep κ cs cs')
    {init rest : AList JStr Class} (hne : rest ≠ []) (hc : cs = init ++ rest) : ∃ rest', rest' ≠ [] ∧ cs' = init ++ rest' := by
  cases h with
  | skip => exact ⟨rest, hne, hc⟩
  | @addClass _ key c _ _ _ _ _ => exact ⟨rest ++ [(key, c)], by simp, by rw [hc, List.append_assoc]⟩
  | inClass h1 =>
    rename_i init' k c c'
    -- the open class `(k, c)` is the last entry of `rest`
    obtain ⟨r0, y, rfl⟩ := exists_snoc hne
    have := List.append_inj' (hc.trans (List.append_assoc ..).symm) rfl
    exact ⟨r0 ++ [(k, c')], by simp, by rw [this.1, List.append_assoc]⟩

theorem keys_append_single {K V : Type} (m : AList K V) (k : K) (v : V) : AList.keys (m ++ [(k, v)]) = AList.keys m ++ [k] := by
  simp [AList.keys]

section
variable {K V : Type} [BEq K] [LawfulBEq K] {P : K × V → Bool} {m : AList K V} {k : K} {v v' : V}

theorem keysNodup_append_single (k : K) (v : V) :
    ∀ m : AList K V, keysNodup (m ++ [(k, v)]) = (keysNodup m && !AList.contains k m)
  | [] => rfl
  | (a, b) :: rest => by
    rw [List.cons_append, keysNodup, keysNodup, keysNodup_append_single k v rest, AList.contains_append_single,
      AList.contains_cons, BEq.comm (a := k)]
    cases AList.contains a rest <;> cases a == k <;> cases keysNodup rest <;> rfl

theorem wfEntries_append (hn : keysNodup m = true) (hp : m.all P = true) (hk : AList.contains k m = false)
    (hv : P (k, v) = true) : keysNodup (m ++ [(k, v)]) = true ∧ (m ++ [(k, v)]).all P = true := by
  rw [keysNodup_append_single, hn, hk, List.all_append, hp, List.all_cons, hv]
  exact ⟨rfl, rfl⟩

theorem wfEntries_replace_last (hn : keysNodup (m ++ [(k, v)]) = true) (hp : (m ++ [(k, v)]).all P = true)
    (hv : P (k, v) = true → P (k, v') = true) : keysNodup (m ++ [(k, v')]) = true ∧ (m ++ [(k, v')]).all P = true := by
  rw [keysNodup_append_single] at hn ⊢
  simp only [List.all_append, List.all_cons, List.all_nil, Bool.and_true, Bool.and_eq_true] at hn hp ⊢
  exact ⟨hn, hp.1, hv hp.2⟩

end

theorem wf_eq_wfCs (m : Mappings) : wf m = wfCs m.classes := rfl

theorem methodStep_wf {κ : LineKind} {m m' : Method} (h : MethodStep κ m m') (hw : wfMethod m = true) :
    wfMethod m' = true := by
  cases h with
  | doc => exact hw
  | addParam h1 h2 =>
    simp only [wfMethod, Bool.and_eq_true] at hw ⊢
    exact wfEntries_append hw.1 hw.2 h2 (beq_self_eq_true _)
  | inParam h1 h2 =>
    cases h2 with
    | doc hd =>
      simp only [wfMethod, h1, Bool.and_eq_true] at hw ⊢
      exact wfEntries_replace_last hw.1 hw.2 id

theorem classStep_wf {κ : LineKind} {c c' : Class} (h : ClassStep κ c c') (hw : wfClass c = true) :
    wfClass c' = true := by
  simp only [wfClass, Bool.and_eq_true] at hw ⊢
  obtain ⟨⟨hf, hmn⟩, hmp⟩ := hw
  cases h with
  | doc => exact ⟨⟨hf, hmn⟩, hmp⟩
  | addField h1 h2 h3 => exact ⟨⟨wfEntries_append hf.1 hf.2 h3 (by simp [h2]), hmn⟩, hmp⟩
  | @addMethod _ m _ h1 h2 h3 h4 =>
    have hm : wfMethod m = true := by simp [wfMethod, h2, keysNodup]
    obtain ⟨a, b⟩ := wfEntries_append (v := m) hmn hmp h4 (by simp [h3, hm])
    exact ⟨⟨hf, a⟩, b⟩
  | inField h1 h2 =>
    cases h2 with
    | doc hd =>
      rw [h1] at hf
      exact ⟨⟨wfEntries_replace_last hf.1 hf.2 id, hmn⟩, hmp⟩
  | @inMethod _ _ init k m m' h1 h2 =>
    rw [h1] at hmn hmp
    have hdn : m'.desc = m.desc ∧ m'.names = m.names := by
      cases h2 <;> exact ⟨rfl, rfl⟩
    obtain ⟨a, b⟩ := wfEntries_replace_last (v' := m') hmn hmp (by
      simp only [hdn.1, hdn.2, Bool.and_eq_true]
      exact fun hv => ⟨hv.1, methodStep_wf h2 hv.2⟩)
    exact ⟨⟨hf, a⟩, b⟩

theorem treeStep_wf {κ : LineKind} {cs cs' : AList JStr Class} (h : TreeStep κ cs cs') (hw : wfCs cs = true) :
    wfCs cs' = true := by
  simp only [wfCs, Bool.and_eq_true] at hw ⊢
  cases h with
  | skip => exact hw
  | addClass h1 h2 h3 h4 h5 => exact wfEntries_append hw.1 hw.2 h5 (by simp [h4, wfClass, h2, h3, keysNodup])
  | @inClass _ init k c c' h1 =>
    have hn : c'.names = c.names := by
      cases h1 <;> rfl
    refine wfEntries_replace_last hw.1 hw.2 ?_
    simp only [hn, Bool.and_eq_true]
    exact fun hv => ⟨hv.1, classStep_wf h1 hv.2⟩

theorem run_wf {n : Nat} {ls : List TLine} {s s' : St} (h : run n s ls = some s') (hw : wfCs s.classes = true) :
    wfCs s'.classes = true :=
  (isRun n).invariant (I := fun s => wfCs s.classes = true) (fun hi hs => treeStep_wf (step_treeStep hs).1 hi) h hw

def ofLast {K V κ : Type} (f : V → List κ) (m : AList K V) : List κ :=
  match m.getLast? with
  | some e => f e.2
  | none => []

theorem ofLast_snoc {K V κ : Type} (f : V → List κ) (init : AList K V) (k : K) (v : V) :
    ofLast f (init ++ [(k, v)]) = f v := by
  simp [ofLast]

/-- the field / method / parameter keys of the node that is currently open -/
def openFieldKeys (cs : AList JStr Class) : List MemberKey := ofLast (fun c => AList.keys c.fields) cs
def openMethodKeys (cs : AList JStr Class) : List MemberKey := ofLast (fun c => AList.keys c.methods) cs
def openParamKeys (cs : AList JStr Class) : List Nat :=
  ofLast (fun c => ofLast (fun m => AList.keys m.params) c.methods) cs

theorem keys_snoc_prefix {K V : Type} (m : AList K V) (k : K) (v : V) : AList.keys m <+: AList.keys (m ++ [(k, v)]) :=
  keys_append_single m k v ▸ List.prefix_append _ _

theorem keys_replace_last {K V : Type} {m init : AList K V} {k : K} {v : V} (v' : V) (hm : m = init ++ [(k, v)]) :
    AList.keys m <+: AList.keys (init ++ [(k, v')]) := by
  simp [hm, AList.keys]

theorem treeStep_keys {κ : LineKind} {cs cs' : AList JStr Class} (h : TreeStep κ cs cs') :
    AList.keys cs <+: AList.keys cs' := by
  cases h with
  | skip => exact List.prefix_rfl
  | addClass => exact keys_snoc_prefix _ _ _
  | inClass => exact keys_replace_last _ rfl

theorem classStep_member_keys {κ : LineKind} {c c' : Class} (h : ClassStep κ c c') :
    AList.keys c.fields <+: AList.keys c'.fields ∧ AList.keys c.methods <+: AList.keys c'.methods := by
  cases h with
  | doc => exact ⟨List.prefix_rfl, List.prefix_rfl⟩
  | addField => exact ⟨keys_snoc_prefix _ _ _, List.prefix_rfl⟩
  | addMethod => exact ⟨List.prefix_rfl, keys_snoc_prefix _ _ _⟩
  | inField h1 _ => exact ⟨keys_replace_last _ h1, List.prefix_rfl⟩
  | inMethod h1 _ => exact ⟨List.prefix_rfl, keys_replace_last _ h1⟩

theorem treeStep_member_keys {κ : LineKind} {cs cs' : AList JStr Class} (h : TreeStep κ cs cs') (hk : κ ≠ .cls) :
    openFieldKeys cs <+: openFieldKeys cs' ∧ openMethodKeys cs <+: openMethodKeys cs' := by
  cases h with
  | skip => exact ⟨List.prefix_rfl, List.prefix_rfl⟩
  | addClass => exact absurd rfl hk
  | inClass h1 =>
    simp only [openFieldKeys, openMethodKeys, ofLast_snoc]
    exact classStep_member_keys h1

theorem methodStep_param_keys {κ : LineKind} {m m' : Method} (h : MethodStep κ m m') :
    AList.keys m.params <+: AList.keys m'.params := by
  cases h with
  | doc => exact List.prefix_rfl
  | addParam => exact keys_snoc_prefix _ _ _
  | inParam h1 _ => exact keys_replace_last _ h1

theorem treeStep_param_keys {κ : LineKind} {cs cs' : AList JStr Class} (h : TreeStep κ cs cs')
    (hk : κ ≠ .cls ∧ κ ≠ .fld ∧ κ ≠ .mth) : openParamKeys cs <+: openParamKeys cs' := by
  cases h with
  | skip => exact List.prefix_rfl
  | addClass => exact absurd rfl hk.1
  | inClass h1 =>
    simp only [openParamKeys, ofLast_snoc]
    cases h1 with
    | doc => exact List.prefix_rfl
    | addField => exact absurd rfl hk.2.1
    | addMethod => exact absurd rfl hk.2.2
    | inField => exact List.prefix_rfl
    | inMethod h2 h3 =>
      rw [h2, ofLast_snoc, ofLast_snoc]
      exact methodStep_param_keys h3

/-- Read off the definition: `lineKind` answers `.cls` only in its branch for indentation 0, `.fld` and `.mth` only in
the branch for indentation 1, and `kindAfter` changes the kind only at indentation 1. The proof walks the branches of
the indentation at hand (1, 2, deeper) and finds the excluded answers in none of them. -/
theorem lineKind_of_indent (k : Kind) {l : TLine} (h : 1 ≤ l.indent) :
    lineKind k l ≠ .cls ∧ (2 ≤ l.indent → lineKind k l ≠ .fld ∧ lineKind k l ≠ .mth ∧ kindAfter k l = k) := by
  obtain ⟨i, f, fs⟩ := l
  match i, h with
  | 1, _ => exact ⟨by simp only [lineKind]; (repeat' split) <;> simp, fun h => absurd h (of_decide_eq_false rfl)⟩
  | 2, _ =>
    cases k <;> refine ⟨?_, fun _ => ⟨?_, ?_, rfl⟩⟩ <;> simp only [lineKind] <;> (repeat' split) <;> simp
  | i + 3, _ =>
    refine ⟨?_, fun _ => ⟨?_, ?_, by simp [kindAfter]⟩⟩ <;> simp only [lineKind] <;> split <;> simp

/-- the key of a field or method line: its second cell (name) and first cell (descriptor) -/
def memberKeyOf (l : TLine) : Option MemberKey :=
  match l.fields.take 2 with
  | [desc, name] => some (name, desc)
  | _ => none

theorem memberKeyOf_eq {l : TLine} {desc name : JStr} {rest : List JStr} (h : l.fields = desc :: rest)
    (hn : rest.head? = some name) : memberKeyOf l = some (name, desc) := by
  cases rest with
  | nil => cases hn
  | cons x r => cases hn; simp [memberKeyOf, h]

theorem step_act {n : Nat} {s s' : St} {l : TLine} {κ : LineKind} (hk : lineKind s.kind l = κ)
    (h : step n s l = some s') : act n s.kind l κ s.classes = some s'.classes := by
  obtain ⟨_, cs, hcs, rfl⟩ := step_some h
  exact hk ▸ hcs

theorem entry_cls {n : Nat} {s s' : St} {l : TLine} (hi : l.indent = 0) (hf : l.first = C_) (h : step n s l = some s') :
    ∃ key, l.fields.head? = some key ∧ key ∉ AList.keys s.classes ∧ key ∈ AList.keys s'.classes := by
  obtain ⟨names, key, h1, h2, h3, h4⟩ := addClass_some (step_act (κ := .cls) (by simp [lineKind, hi, hf]) h)
  exact ⟨key, head_of_intoNames h1 h2, AList.contains_eq_false_iff.mp h3, by simp [h4, keys_append_single]⟩

theorem entry_fld {n : Nat} {s s' : St} {l : TLine} (hi : l.indent = 1) (hf : l.first = F_) (h : step n s l = some s') :
    ∃ key, memberKeyOf l = some key ∧ key ∉ openFieldKeys s.classes ∧ key ∈ openFieldKeys s'.classes := by
  obtain ⟨init, k, c, c', h1, h2, h3⟩ := modLastV_some (step_act (κ := .fld) (by simp [lineKind, hi, hf]) h)
  obtain ⟨desc, rest, names, name, g1, g2, g3, g4, rfl⟩ := addField_some h2
  refine ⟨_, memberKeyOf_eq g1 (head_of_intoNames g2 g3), ?_, ?_⟩
  · rw [h1, openFieldKeys, ofLast_snoc]; exact AList.contains_eq_false_iff.mp g4
  · simp [h3, openFieldKeys, ofLast_snoc, keys_append_single]

theorem entry_mth {n : Nat} {s s' : St} {l : TLine} (hi : l.indent = 1) (hf : l.first = M_) (h : step n s l = some s') :
    s'.kind = .method ∧
      ∃ key, memberKeyOf l = some key ∧ key ∉ openMethodKeys s.classes ∧ key ∈ openMethodKeys s'.classes := by
  have hMF : ¬ M_ = F_ := by decide
  obtain ⟨init, k, c, c', h1, h2, h3⟩ := modLastV_some (step_act (κ := .mth) (by simp [lineKind, hi, hf, hMF]) h)
  obtain ⟨desc, rest, names, name, g1, g2, g3, g4, rfl⟩ := addMethod_some h2
  refine ⟨by simp [(step_treeStep h).2.1, kindAfter, hi, hf, hMF], _, memberKeyOf_eq g1 (head_of_intoNames g2 g3), ?_, ?_⟩
  · rw [h1, openMethodKeys, ofLast_snoc]; exact AList.contains_eq_false_iff.mp g4
  · simp [h3, openMethodKeys, ofLast_snoc, keys_append_single]

theorem entry_par {n : Nat} {s s' : St} {l : TLine} (hi : l.indent = 2) (hf : l.first = P_) (hm : s.kind = .method)
    (h : step n s l = some s') :
    ∃ ix, l.fields.head?.bind parseUsize = some ix ∧ ix ∉ openParamKeys s.classes ∧ ix ∈ openParamKeys s'.classes := by
  obtain ⟨init, k, c, c', h1, h2, h3⟩ := modLastV_some (step_act (κ := .par) (by simp [lineKind, hi, hf, hm]) h)
  obtain ⟨ms, hms, rfl⟩ := Option.map_eq_some_iff.mp h2
  obtain ⟨minit, mk, m, m', h4, h5, rfl⟩ := modLastV_some hms
  obtain ⟨idx, rest, index, names, g1, g2, g3, g4, rfl⟩ := addParam_some h5
  refine ⟨index, by simp [g1, g2], ?_, ?_⟩
  · rw [h1, openParamKeys, ofLast_snoc, h4, ofLast_snoc]; exact AList.contains_eq_false_iff.mp g4
  · simp [h3, openParamKeys, ofLast_snoc, keys_append_single]

/-- Two lines carry the same key (`lk`); each is only accepted when the key is new and then puts it among the keys
`keys` of the open node, lines with `P` between them keep the keys: the run fails. `Q` is what has to
be known of the state at the first line (for parameters: that a method is open) and is kept by lines with `P`. -/
theorem run_dup {n : Nat} {κ : Type} (keys : St → List κ) (lk : TLine → Option κ) (P : TLine → Prop) (Q : St → Prop)
    (mono : ∀ {s s' l}, P l → step n s l = some s' → (Q s → Q s') ∧ keys s <+: keys s')
    {l1 l2 : TLine} (e1 : ∀ {s s'}, Q s → step n s l1 = some s' → Q s' ∧ ∃ k, lk l1 = some k ∧ k ∉ keys s ∧ k ∈ keys s')
    (e2 : ∀ {s s'}, Q s → step n s l2 = some s' → ∃ k, lk l2 = some k ∧ k ∉ keys s ∧ k ∈ keys s') (hk : lk l1 = lk l2)
    {s : St} {mid post : List TLine} (hQ : Q s) (hmid : ∀ l ∈ mid, P l) :
    run n s (l1 :: (mid ++ l2 :: post)) = none := by
  cases hr : run n s (l1 :: (mid ++ l2 :: post)) with
  | none => rfl
  | some s' =>
    obtain ⟨sb, hb, hb'⟩ := (isRun n).cons_some hr
    obtain ⟨sc, hc, hc'⟩ := (isRun n).append_some hb'
    obtain ⟨sd, hd, _⟩ := (isRun n).cons_some hc'
    obtain ⟨qb, k1, hk1, _, hin⟩ := e1 hQ hb
    have hbc := (isRun n).induction (R := fun a b => (Q a → Q b) ∧ keys a <+: keys b)
      (fun _ => ⟨id, List.prefix_rfl⟩) (fun h1 h2 => ⟨h2.1 ∘ h1.1, h1.2.trans h2.2⟩) mono hc hmid
    obtain ⟨k2, hk2, hout, _⟩ := e2 (hbc.1 qb) hd
    rw [hk, hk2] at hk1
    cases hk1
    exact absurd (hbc.2.subset hin) hout

theorem run_dup_class {n : Nat} {s : St} {mid post : List TLine} {l1 l2 : TLine}
    (h1 : l1.indent = 0 ∧ l1.first = C_) (h2 : l2.indent = 0 ∧ l2.first = C_)
    (hk : l1.fields.head? = l2.fields.head?) : run n s (l1 :: (mid ++ l2 :: post)) = none :=
  run_dup (fun s => AList.keys s.classes) (fun l => l.fields.head?) (fun _ => True) (fun _ => True)
    (fun _ h => ⟨id, treeStep_keys (step_treeStep h).1⟩)
    (fun _ h => ⟨trivial, entry_cls h1.1 h1.2 h⟩) (fun _ => entry_cls h2.1 h2.2) hk trivial (fun _ _ => trivial)

theorem run_dup_member {n : Nat} {s : St} {first : JStr} {mid post : List TLine} {l1 l2 : TLine}
    (hfm : first = F_ ∨ first = M_) (h1 : l1.indent = 1 ∧ l1.first = first) (h2 : l2.indent = 1 ∧ l2.first = first)
    (hmid : ∀ l ∈ mid, 1 ≤ l.indent) (hk : l1.fields.take 2 = l2.fields.take 2) :
    run n s (l1 :: (mid ++ l2 :: post)) = none := by
  have keep {s s' : St} {l : TLine} (hl : 1 ≤ l.indent) (h : step n s l = some s') :=
    treeStep_member_keys (step_treeStep h).1 (lineKind_of_indent s.kind hl).1
  rcases hfm with rfl | rfl
  · exact run_dup (fun s => openFieldKeys s.classes) memberKeyOf (fun l => 1 ≤ l.indent) (fun _ => True)
      (fun hl h => ⟨id, (keep hl h).1⟩) (fun _ h => ⟨trivial, entry_fld h1.1 h1.2 h⟩) (fun _ => entry_fld h2.1 h2.2)
      (by simp only [memberKeyOf, hk]) trivial hmid
  · exact run_dup (fun s => openMethodKeys s.classes) memberKeyOf (fun l => 1 ≤ l.indent) (fun _ => True)
      (fun hl h => ⟨id, (keep hl h).2⟩) (fun _ h => ⟨trivial, (entry_mth h1.1 h1.2 h).2⟩)
      (fun _ h => (entry_mth h2.1 h2.2 h).2) (by simp only [memberKeyOf, hk]) trivial hmid

theorem step_deep_keeps {n : Nat} {s s' : St} {l : TLine} (hl : 2 ≤ l.indent) (h : step n s l = some s') :
    s'.kind = s.kind ∧ openParamKeys s.classes <+: openParamKeys s'.classes := by
  obtain ⟨ht, hkind, _⟩ := step_treeStep h
  obtain ⟨h0, h1⟩ := lineKind_of_indent s.kind (Nat.le_of_succ_le hl)
  obtain ⟨h2, h3, h4⟩ := h1 hl
  exact ⟨hkind.trans h4, treeStep_param_keys ht ⟨h0, h2, h3⟩⟩

theorem run_dup_param {n : Nat} {s : St} {mid0 mid post : List TLine} {lm l1 l2 : TLine}
    (hm : lm.indent = 1 ∧ lm.first = M_) (hmid0 : ∀ l ∈ mid0, 2 ≤ l.indent)
    (h1 : l1.indent = 2 ∧ l1.first = P_) (h2 : l2.indent = 2 ∧ l2.first = P_) (hmid : ∀ l ∈ mid, 2 ≤ l.indent)
    (hk : (l1.fields.head?).bind parseUsize = (l2.fields.head?).bind parseUsize) :
    run n s (lm :: (mid0 ++ l1 :: (mid ++ l2 :: post))) = none := by
  have keep {s s' : St} {l : TLine} (hl : 2 ≤ l.indent) (h : step n s l = some s') :=
    (step_deep_keeps hl h).imp_left (Eq.trans (c := .method))
  cases hr : run n s (lm :: (mid0 ++ l1 :: (mid ++ l2 :: post))) with
  | none => rfl
  | some s' =>
    obtain ⟨sm, hsm, h0⟩ := (isRun n).cons_some hr
    obtain ⟨s0, hs0, h3⟩ := (isRun n).append_some h0
    have hq := (isRun n).induction (R := fun a b => a.kind = .method → b.kind = .method) (fun _ => id)
      (fun f g => g ∘ f) (fun hl h => (keep hl h).1) hs0 hmid0 (entry_mth hm.1 hm.2 hsm).1
    cases (run_dup (fun s => openParamKeys s.classes) (fun l => l.fields.head?.bind parseUsize) (fun l => 2 ≤ l.indent)
      (fun s => s.kind = .method) keep (fun hq h => ⟨(keep (Nat.le_of_eq h1.1.symm) h).1 hq, entry_par h1.1 h1.2 hq h⟩)
      (entry_par h2.1 h2.2) hk hq hmid).symm.trans h3

theorem drop_of_getElem? {α : Type} {ls : List α} {i : Nat} {a : α} (h : ls[i]? = some a) :
    ls.drop i = a :: ls.drop (i + 1) := by
  obtain ⟨hi, rfl⟩ := List.getElem?_eq_some_iff.mp h
  exact List.drop_eq_getElem_cons hi

theorem split_one {α : Type} {ls : List α} {i : Nat} {a : α} (h : ls[i]? = some a) :
    ls = ls.take i ++ a :: ls.drop (i + 1) := by
  rw [← drop_of_getElem? h, List.take_append_drop]

theorem drop_split {α : Type} (ls : List α) {i j : Nat} {b : α} (hij : i < j) (hb : ls[j]? = some b) :
    ls.drop (i + 1) = (ls.drop (i + 1)).take (j - i - 1) ++ b :: ls.drop (j + 1) := by
  have h4 : (ls.drop (i + 1)).drop (j - i - 1) = ls.drop j := by
    rw [List.drop_drop]
    congr 1
    omega
  conv => lhs; rw [← List.take_append_drop (j - i - 1) (ls.drop (i + 1)), h4, drop_of_getElem? hb]

theorem split_two {α : Type} (ls : List α) {i j : Nat} {a b : α} (hij : i < j) (ha : ls[i]? = some a)
    (hb : ls[j]? = some b) :
    ls = ls.take i ++ a :: ((ls.drop (i + 1)).take (j - i - 1) ++ b :: ls.drop (j + 1)) := by
  rw [← drop_split ls hij hb]
  exact split_one ha

theorem of_isLine {indent : Nat} {first : JStr} {l : TLine} (h : isLine indent first l = true) :
    l.indent = indent ∧ l.first = first := by
  simpa [isLine] using h

theorem run_dupClassAt {n : Nat} {s : St} {ls : List TLine} {i j : Nat} (h : dupClassAt ls i j = true) :
    run n s ls = none := by
  unfold dupClassAt at h
  split at h
  · rename_i a b ha hb
    simp only [Bool.and_eq_true, decide_eq_true_eq, beq_iff_eq] at h
    rw [split_two ls h.1.1.1 ha hb]
    exact (isRun n).append_none (fun _ => run_dup_class (of_isLine h.1.1.2) (of_isLine h.1.2) h.2) _ _
  · simp at h

theorem run_dupMemberAt {n : Nat} {s : St} {first : JStr} {ls : List TLine} {i j : Nat} (hfm : first = F_ ∨ first = M_)
    (h : dupMemberAt first ls i j = true) : run n s ls = none := by
  unfold dupMemberAt at h
  split at h
  · rename_i a b ha hb
    simp only [Bool.and_eq_true, decide_eq_true_eq, beq_iff_eq, List.all_eq_true, between] at h
    rw [split_two ls h.1.1.1.1 ha hb]
    exact (isRun n).append_none (fun _ => run_dup_member hfm (of_isLine h.1.1.1.2) (of_isLine h.1.1.2) h.2 h.1.2) _ _
  · simp at h

theorem run_dupParamAt {n : Nat} {s : St} {ls : List TLine} {m i j : Nat} (h : dupParamAt ls m i j = true) :
    run n s ls = none := by
  unfold dupParamAt at h
  split at h
  · rename_i lm a b hm ha hb
    simp only [Bool.and_eq_true, decide_eq_true_eq, beq_iff_eq, List.all_eq_true, between] at h
    obtain ⟨⟨⟨⟨⟨⟨⟨hmi, hij⟩, hlm⟩, hla⟩, hlb⟩, hkey⟩, hmid0⟩, hmid⟩ := h
    -- cut at `m`, then cut the rest at `i` and `j`
    have c1 := split_two ls hmi hm ha
    have hrest := drop_split ls hij hb
    rw [hrest] at c1
    rw [c1]
    exact (isRun n).append_none (fun _ => run_dup_param (of_isLine hlm) hmid0 (of_isLine hla) (of_isLine hlb) hmid hkey) _ _
  · simp at h

theorem run_dupAt {n : Nat} {s : St} {ls : List TLine} {m i j : Nat} (h : dupAt ls m i j = true) : run n s ls = none := by
  simp only [dupAt, Bool.or_eq_true] at h
  rcases h with ((h | h) | h) | h
  · exact run_dupClassAt h
  · exact run_dupMemberAt (.inl rfl) h
  · exact run_dupMemberAt (.inr rfl) h
  · exact run_dupParamAt h

theorem read_none_of {n : Nat} {t : List Nat}
    (h : headerSec none (textLines t).tail = none ∨ ∀ s, run n s (bodyPart (textLines t).tail) = none) : read n t = none := by
  cases hr : read n t with
  | none => rfl
  | some m =>
    obtain ⟨_, s, _, _, _, _, hsec, hrun, _⟩ := read_some hr
    rcases h with h | h
    · cases h.symm.trans hsec
    · cases (h _).symm.trans hrun

theorem read_none_of_block {n : Nat} {t : List Nat} {hd : TLine} {pre rest : List TLine}
    (ht : textLines t = hd :: (pre ++ rest)) (hb : (∃ x ∈ pre, x.indent = 0) ∨ ∃ x ∈ rest.head?, x.indent = 0)
    (h : ∀ s, run n s rest = none) : read n t = none :=
  read_none_of (.inr fun s => by rw [ht, List.tail_cons, bodyPart_append hb]; exact (isRun n).append_none h _ s)

theorem read_congr {n : Nat} {t t' : List Nat} (hh : (textLines t).head? = (textLines t').head?)
    (h : headerSec none (textLines t).tail = headerSec none (textLines t').tail) : read n t = read n t' := by
  unfold read
  generalize textLines t = a at hh h ⊢
  generalize textLines t' = b at hh h ⊢
  cases a <;> cases b <;> cases hh
  · rfl
  · simp only [List.tail_cons] at h
    simp only [h]

/-- a line at indentation 0 that is no class opens nothing: an indented line directly after it is an error, wherever it
stands (this is what happens to a header property line that does not directly follow the header) -/
theorem run_orphan_indent {n : Nat} {s : St} {post : List TLine} {l0 l : TLine} (h0 : l0.indent = 0)
    (hf : l0.first ≠ C_) (hl : 1 ≤ l.indent) : run n s (l0 :: l :: post) = none := by
  cases hr : run n s (l0 :: l :: post) with
  | none => rfl
  | some s' =>
    obtain ⟨m2, h3, h4⟩ := (isRun n).cons_some hr
    obtain ⟨m3, h5, _⟩ := (isRun n).cons_some h4
    obtain ⟨_, cs, _, rfl⟩ := step_some h3
    have hle := (step_some h5).1
    have hk : lineKind s.kind l0 = .skip := by simp [lineKind, h0, hf]
    simp only [hk, opens, h0] at hle
    omega

theorem read_none_of_headerBad {n : Nat} {t : List Nat} (h : headerBad (textLines t).tail = true) : read n t = none :=
  read_none_of (.inl (headerSec_of_headerBad none h))

end Tiny
