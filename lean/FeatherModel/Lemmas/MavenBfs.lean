import FeatherModel.Model.Maven
import FeatherModel.Spec.MavenLevels

/-! The queue of `Forest::breadth_first_retain` and of `into_breadth_first` (C19): it serves a forest level by level; what
it records `rebuild` reads back as a forest with the same breadth-first listing, which is the input with whole subtrees
deleted.
The queue and level recursions (`queueRun`, `bfs`, `levelRun` here; `levelOrder`, `levelsFrom` in `MavenMediation`) are by
well-founded recursion; `f.eq_1` / `f.eq_2` are the equations Lean generates for them on `[]` / `t :: ts`. -/

namespace Maven
open Tree (sizeList)

variable {α σ : Type}

theorem data_node (d : α) (c : List (Tree α)) : (Tree.node d c).data = d := rfl
theorem children_node (d : α) (c : List (Tree α)) : (Tree.node d c).children = c := rfl

theorem node_eta (t : Tree α) : Tree.node t.data t.children = t := by cases t; rfl

theorem filterS_append (f : σ → α → Bool × σ) (s : σ) (a b : List (Tree α)) :
    filterS f s (a ++ b) =
      ((filterS f (filterS f s a).1 b).1, (filterS f s a).2 ++ (filterS f (filterS f s a).1 b).2) := by
  induction a generalizing s with
  | nil => simp [filterS]
  | cons t ts ih =>
    simp only [List.cons_append, filterS, ih]
    split <;> simp

theorem filterS_sublist (f : σ → α → Bool × σ) (s : σ) (ts : List (Tree α)) : (filterS f s ts).2.Sublist ts := by
  induction ts generalizing s with
  | nil => exact List.Sublist.slnil
  | cons t ts ih =>
    simp only [filterS]
    split
    · exact (ih _).cons_cons t
    · exact (ih _).cons t

theorem processLevel_eq (f : σ → α → Bool × σ) (s : σ) (level : List (Tree α)) :
    (processLevel f s level).1 = (filterS f s (level.flatMap Tree.children)).1 ∧
    (processLevel f s level).2.2 = (filterS f s (level.flatMap Tree.children)).2 ∧
    (processLevel f s level).2.1.map Prod.fst = level.map Tree.data := by
  induction level generalizing s with
  | nil => simp [processLevel, filterS]
  | cons t ts ih =>
    obtain ⟨h1, h2, h3⟩ := ih (filterS f s t.children).1
    simp only [processLevel, List.flatMap_cons, filterS_append, List.map_cons, h1, h2, h3]
    simp

/-- serving the rest `cur` of the current level, with the already retained part `acc` of the next level waiting
behind it, emits the entries of `cur` and leaves the whole next level in the queue -/
theorem queueRun_level (f : σ → α → Bool × σ) (cur : List (Tree α)) :
    ∀ (s : σ) (acc : List (Tree α)),
      queueRun f s (cur ++ acc) =
        (processLevel f s cur).2.1 ++
          queueRun f (processLevel f s cur).1 (acc ++ (processLevel f s cur).2.2) := by
  induction cur with
  | nil => intro s acc; simp [processLevel]
  | cons t ts ih =>
    intro s acc
    simp only [List.cons_append, queueRun.eq_2, processLevel, List.append_assoc, ih]

theorem queueRun_eq_levelRun (f : σ → α → Bool × σ) (s : σ) (q : List (Tree α)) :
    queueRun f s q = levelRun f s q := by
  induction s, q using levelRun.induct f with
  | case1 s => rw [queueRun.eq_1, levelRun.eq_1]
  | case2 s t ts _ ih =>
    have hq := queueRun_level f (t :: ts) s []
    rw [List.append_nil, List.nil_append] at hq
    rw [hq, levelRun.eq_2, ih]

theorem bfs_level (cur : List (Tree α)) :
    ∀ acc : List (Tree α), bfs (cur ++ acc) = cur.map Tree.data ++ bfs (acc ++ cur.flatMap Tree.children) := by
  induction cur with
  | nil => intro acc; simp
  | cons t ts ih =>
    intro acc
    rw [List.cons_append, bfs.eq_2, List.append_assoc, ih]
    simp

/-- whatever counts a serialisation carries, `rebuild` hands every pending tree either to the entry as a child or back
as a root, so listing the rebuilt forest breadth first returns the data of the entries in order -/
theorem bfs_rebuild (l : List (α × Nat)) : bfs (rebuild l) = l.map Prod.fst := by
  induction l with
  | nil => exact bfs.eq_1
  | cons e l ih => rw [rebuild, bfs.eq_2, children_node, List.take_append_drop, ih]; rfl

/-- same roots in the same order, children pruned -/
inductive KeptRoots : List (Tree α) → List (Tree α) → Prop
  | nil : KeptRoots [] []
  | cons {d : α} {cs ds ts us : List (Tree α)} :
      Pruned cs ds → KeptRoots ts us → KeptRoots (Tree.node d cs :: ts) (Tree.node d ds :: us)

theorem KeptRoots.length {q G : List (Tree α)} (h : KeptRoots q G) : q.length = G.length := by
  induction h with
  | nil => rfl
  | cons _ _ ih => simp [ih]

theorem KeptRoots.split {a : List (Tree α)} : ∀ {b G : List (Tree α)}, KeptRoots (a ++ b) G →
    KeptRoots a (G.take a.length) ∧ KeptRoots b (G.drop a.length) := by
  induction a with
  | nil => intro b G h; exact ⟨by simpa using KeptRoots.nil, by simpa using h⟩
  | cons t ts ih =>
    intro b G h
    cases h with
    | cons hp hr =>
      obtain ⟨h1, h2⟩ := ih hr
      exact ⟨by simpa using KeptRoots.cons hp h1, by simpa using h2⟩

theorem pruned_of_sublist {us ts : List (Tree α)} (h : us.Sublist ts) : ∀ {G : List (Tree α)}, KeptRoots us G →
    Pruned ts G := by
  induction h with
  | slnil => intro G hk; cases hk; exact Pruned.nil
  | cons t _ ih => intro G hk; exact Pruned.drop (ih hk)
  | cons_cons t _ ih =>
    intro G hk
    cases hk with
    | cons hp hr => exact Pruned.keep hp (ih hr)

/-- `rebuild` reads what the queue of `breadth_first_retain` records back as the roots of the queue, each with a pruning
of its children: the node served takes the last trees of the rebuilt rest, one for each child it retained -/
theorem rebuild_queueRun_kept (f : σ → α → Bool × σ) (s : σ) (q : List (Tree α)) :
    KeptRoots q (rebuild (queueRun f s q)) := by
  induction s, q using queueRun.induct f with
  | case1 s => rw [queueRun.eq_1]; exact KeptRoots.nil
  | case2 s t ts _ ih =>
    obtain ⟨hk1, hk2⟩ := ih.split
    have hlen : ts.length + (filterS f s t.children).2.length = _ := List.length_append ▸ ih.length
    have := KeptRoots.cons (d := t.data) (pruned_of_sublist (filterS_sublist f s t.children) hk2) hk1
    rw [node_eta] at this
    rw [queueRun.eq_2, rebuild, ← hlen, Nat.add_sub_cancel]
    exact this

/-- **the retained forest is obtained from the input by deleting whole subtrees** -/
theorem bfsRetain_pruned (f : σ → α → Bool × σ) (s : σ) (forest : List (Tree α)) :
    Pruned forest (bfsRetain f s forest) :=
  pruned_of_sublist (filterS_sublist f s forest) (rebuild_queueRun_kept f _ _)

end Maven
