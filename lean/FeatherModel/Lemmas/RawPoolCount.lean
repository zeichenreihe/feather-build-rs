import FeatherModel.Lemmas.RawLen
import FeatherModel.Spec.JvmsRaw

/-! C20: the `constant_pool_count` a struct with the header shape of `ClassFile` writes, and the count the JVMS
prescribes (`long`/`double` entries take two slots). -/

namespace RawLayout

/-- header shape of `ClassFile`: `const magic: u32`, two `u16` fields, `const count: u16 = pool_slots(&pool) + 1` after
the second, then the pool, read as `{count - 1; slots}` (both with the slot table `wide`) and handed on as the pool.
The widths are the Rust types the translator gives the two expressions: `usize` (64) for `pool_slots(..) + 1`, `u16` for
`count - 1`, the type of the constant -/
def poolCountShape (wide : List Nat) (body : Body) : Bool :=
  match body.pre, body.fields with
  | [c0], f1 :: f2 :: fp :: _ =>
    c0.p == .u32 && f1.kind == .field (.prim .u16) false && f1.post == [] &&
    f2.kind == .field (.prim .u16) false &&
    (match f2.post with
     | [cc] => cc.p == .u16 && cc.e == ⟨64, .add (.slotsOf fp.name wide) (.lit 1)⟩ &&
         (match fp.kind with
          | .field (.vecSlots e w (.ref _)) true => e == ⟨16, .sub (.var cc.name) (.lit 1)⟩ && w == wide
          | _ => false)
     | _ => false) &&
    f1.name != fp.name && f2.name != fp.name && fp.isVec
  | _, _ => false

/-- bytes 8 and 9 of the output (after the magic and the two `u16` fields) are `(slots of the pool entries + 1) as u16` -/
theorem pool_count_bytes (env : Env) (wide : List Nat) (id nm : Nat) (body : Body) (fs : List Val) (b : Bytes)
    (hdef : env.defs[id]? = some (.struct nm body)) (hs : poolCountShape wide body = true)
    (hw : writeV env (.ref id) (.node 0 fs) = some b) :
    ∃ es, fs[2]? = some (.list es) ∧ (b.drop 8).take 2 = be .u16 ((slotsAll wide es + 1) % 65536) := by
  simp only [poolCountShape] at hs
  split at hs
  · rename_i c0 f1 f2 fp rest hpre hfields
    split at hs
    · rename_i cc hpost2
      simp only [Bool.and_eq_true, beq_iff_eq, bne_iff_ne, ne_eq] at hs
      obtain ⟨⟨⟨⟨⟨⟨⟨hc0, hk1⟩, hpost1⟩, hk2⟩, ⟨hccp, hcce⟩, _⟩, hne1⟩, hne2⟩, hvec⟩ := hs
      simp only [writeV_struct hdef, if_true, writeBody, Option.bind_eq_some_iff, Option.map_eq_some_iff] at hw
      obtain ⟨a, ha, w, hwf, rfl⟩ := hw
      rw [hpre, writeConsts_cons] at ha
      simp only [writeConsts, Option.map_some, Option.bind_eq_some_iff, Option.some.injEq] at ha
      obtain ⟨n0, hn0, rfl⟩ := ha
      rw [hfields] at hwf
      generalize hctx : mkCtx (f1 :: f2 :: fp :: rest) fs = ctx at hwf
      obtain ⟨n1, vs1, c1, r1, rfl, hc1, hr1, rfl⟩ := writeFields_prim_cons env _ ctx f1 .u16 false hk1 _ fs w hwf
      rw [hpost1] at hc1; simp only [writeConsts, Option.some.injEq] at hc1; subst hc1
      obtain ⟨n2, vs2, c2, r2, rfl, hc2, hr2, rfl⟩ := writeFields_prim_cons env _ ctx f2 .u16 false hk2 _ vs1 r1 hr1
      rw [hpost2] at hc2
      simp only [writeConsts, hcce, evalW] at hc2
      cases vs2 with
      | nil => simp [writeFields] at hr2
      | cons vp vs3 =>
        simp only [mkCtx] at hctx
        subst hctx
        simp only [lookup, hne1, hne2, if_false, if_true] at hc2
        cases vp with
        | num _ | node _ _ => simp at hc2
        | list es =>
          refine ⟨es, rfl, ?_⟩
          simp only at hc2
          split at hc2
          · rename_i m rr hm hrr
            simp at hrr; subst hrr
            simp at hc2; subst hc2
            simp only [checkedAdd] at hm
            split at hm
            · simp at hm; subst hm
              simp [hc0, hccp, be, Prim.bound]
            · cases hm
          · cases hc2
    · simp at hs
  · cases hs

theorem poolGet_eq_some (wide : List Nat) : ∀ (es : List Val) (at_ index : Nat) (e : Val),
    poolGet wide es at_ index = some e ↔ ∃ pre post, es = pre ++ e :: post ∧ index = at_ + slotsAll wide pre := by
  intro es
  induction es with
  | nil => intro at_ index e; simp [poolGet]
  | cons x xs ih =>
    intro at_ index e
    have hpos : 0 < slotsV wide x := by unfold slotsV; split <;> omega
    simp only [poolGet]
    split
    · -- the head is at `index`; any later entry sits at least one slot further on
      rename_i heq
      constructor
      · rintro ⟨rfl⟩; exact ⟨[], xs, rfl, heq.symm⟩
      · rintro ⟨pre, post, he, hi⟩
        cases pre with
        | nil => cases he; rfl
        | cons p pre => cases he; simp only [slotsAll] at hi; omega
    · rename_i hne
      rw [ih]
      constructor
      · rintro ⟨pre, post, rfl, rfl⟩; exact ⟨x :: pre, post, rfl, by simp [slotsAll, Nat.add_assoc]⟩
      · rintro ⟨pre, post, he, rfl⟩
        cases pre with
        | nil => exact absurd rfl hne
        | cons p pre => cases he; exact ⟨pre, post, rfl, by simp [slotsAll, Nat.add_assoc]⟩

end RawLayout

namespace JvmsRaw
open RawLayout

theorem slotsV_eq_jvms (variants : List Variant) (wide : List Nat) (h : slotsConform variants wide = true) (e : Val) :
    slotsV wide e = jvmsSlots variants e := by
  simp only [slotsConform, Bool.and_eq_true, List.all_eq_true, List.mem_range, decide_eq_true_eq] at h
  obtain ⟨hlt, hall⟩ := h
  cases e with
  | num _ | list _ => simp [slotsV, isWide, jvmsSlots, entryTag]
  | node k fs =>
    simp only [slotsV, isWide, jvmsSlots, entryTag]
    cases hv : variants[k]? with
    | none =>
      have hnm : k ∉ wide := fun hm => Nat.not_lt.mpr (List.getElem?_eq_none_iff.mp hv) (hlt k hm)
      simp [hnm]
    | some v =>
      have hkk := hall k (List.getElem?_eq_some_iff.mp hv).1
      rw [hv] at hkk
      simp only at hkk ⊢
      cases he : v.tagWrite.e with
      | lit t =>
        rw [he] at hkk
        simp only [beq_iff_eq] at hkk
        simp only [slots] at hkk ⊢
        by_cases ht : t = 5 ∨ t = 6
        · have hc : k ∈ wide := by simpa [ht] using hkk
          simp [hc, ht]
        · have hc : k ∉ wide := by simpa [ht] using hkk
          simp [hc, ht]
      | var _ | lenOf _ | slotsOf _ _ | thisLen | add _ _ | sub _ _ | mul _ _ => rw [he] at hkk; cases hkk

theorem slotsAll_eq_jvms (variants : List Variant) (wide : List Nat) (h : slotsConform variants wide = true) :
    ∀ (es : List Val), slotsAll wide es + 1 = jvmsPoolCount variants es := by
  intro es
  induction es with
  | nil => rfl
  | cons e es ih =>
    simp only [jvmsPoolCount, List.map_cons, List.sum_cons, slotsAll] at ih ⊢
    rw [slotsV_eq_jvms variants wide h e]
    omega

end JvmsRaw
