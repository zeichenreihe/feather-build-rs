import FeatherModel.Lemmas.ArmsReaderJvms
import FeatherModel.Lemmas.ClassReadPasses

/-!
# The generated reader tables against the hand-written reader model

What the model does per arm of its opcode dispatch, for all inputs, by cases on the arm (`decodeInsn_kind`,
`decodeWide_kind`; `ClassRead.pass1Step_wideSkip` for the first loop's `wide` arm): a successful decode consumes
`kindBytes k` operand bytes (where that is fixed), for the `*load_<n>` / `*store_<n>` arms carries the index `kindLocal k`,
and builds an instruction whose general form is the opcode `kindBase k`, in `RdDomain` if `KindDomain k` holds. One walk per
generated table then compares the Rust arm of every opcode byte with the model's arm (`p1_all`, `p1w_all`, `p2Check`),
numbers only: that both mean the instruction of the same name follows from `arms_are_jvms`, since the model's instruction
is named like its general-form opcode (`insnMnemonic_base`) and that opcode is the JVMS's `baseOf op`.
-/

namespace Arms

open ClassRead ClassRead.Outcome JvmsTables

/-- every value `x` can return satisfies `Q` -/
def Holds {α : Type} (Q : α → Prop) (x : Outcome α) : Prop := ∀ r, x = ok r → Q r

theorem Holds.bind {α β : Type} {P : α → Prop} {Q : β → Prop} {x : Outcome α} {f : α → Outcome β} (hx : Holds P x)
    (h : ∀ a, P a → Holds Q (f a)) : Holds Q (x >>= f) := by
  intro r hr
  obtain ⟨a, hxa, ha⟩ := bind_eq_ok hr
  exact h a (hx a hxa) r ha

theorem Holds.bind' {α β : Type} {Q : β → Prop} {x : Outcome α} {f : α → Outcome β} (h : ∀ a, Holds Q (f a)) :
    Holds Q (x >>= f) :=
  Holds.bind (P := fun _ => True) (fun _ _ => trivial) fun a _ => h a

theorem Holds.pure {α : Type} {Q : α → Prop} {r : α} (h : Q r) : Holds Q (pure r) := by
  intro r' hr
  cases hr
  exact h

theorem Holds.err {α : Type} {Q : α → Prop} : Holds Q (err : Outcome α) := fun _ h => nomatch h

/-- a cursor primitive advances the position by exactly `n` whenever it succeeds -/
def Adv {α : Type} (f : Cur → Outcome (α × Cur)) (n : Nat) : Prop := ∀ c, Holds (fun r => r.2.1 = c.1 + n) (f c)

theorem adv_of_rd {α : Type} (rd : Rd α) (n : Nat) :
    Adv (fun c => do let (v, r) ← rd c.2; pure (v, (c.1 + n, r))) n :=
  fun _ => .bind' fun _ => .pure rfl

theorem cU8_adv : Adv cU8 1 := adv_of_rd u8 1
theorem cU16_adv : Adv cU16 2 := adv_of_rd u16 2
theorem cI8_adv : Adv cI8 1 := adv_of_rd i8 1
theorem cI16_adv : Adv cI16 2 := adv_of_rd i16 2
theorem cI32_adv : Adv cI32 4 := adv_of_rd i32 4

theorem cBranch16_adv (pos : Nat) : Adv (cBranch16 pos) 2 :=
  fun c => .bind (cI16_adv c) fun _ h => .bind' fun _ => .pure h

theorem cBranch32_adv (pos : Nat) : Adv (cBranch32 pos) 4 :=
  fun c => .bind (cI32_adv c) fun _ h => .bind' fun _ => .pure h

theorem cSkip_adv (n : Nat) {c c' : Cur} (h : cSkip n c = ok c') : c'.1 = c.1 + n := by
  unfold cSkip at h
  split at h
  · injection h with h; rw [← h]
  · exact absurd h (by simp)

/-- operand bytes the arm consumes after the opcode (`none`: depends on the input) -/
def kindBytes : OpKind → Option Nat
  | .simple | .loadN _ _ | .storeN _ _ => some 0
  | .bipush | .ldc | .load _ | .store _ | .ret | .newarray => some 1
  | .sipush | .ldcW | .iinc | .cond | .goto | .jsr | .field | .invokevirtual | .invokespecial | .invokestatic | .new
  | .anewarray | .checkcast | .instanceof => some 2
  | .multianewarray => some 3
  | .invokeinterface | .invokedynamic | .gotoW | .jsrW => some 4
  | .tableswitch | .lookupswitch | .wide | .invalid => none

/-- the index the `*load_<n>` / `*store_<n>` arms take from the opcode -/
def kindLocal : OpKind → Option Nat
  | .loadN _ i | .storeN _ i => some i
  | _ => none

/-- the opcode of the general form of the instruction a value stands for -/
def insnBase : Insn → Nat
  | .simple op | .branch op _ | .field op _ => op
  | .load k _ => 0x15 + k
  | .store k _ => 0x36 + k
  | .bipush _ => 0x10 | .sipush _ => 0x11 | .ldc _ => 0x12 | .iinc _ _ => 0x84
  | .goto _ => 0xa7 | .jsr _ => 0xa8 | .ret _ => 0xa9 | .tableswitch _ _ _ _ => 0xaa | .lookupswitch _ _ => 0xab
  | .invokevirtual _ => 0xb6 | .invokespecial _ _ => 0xb7 | .invokestatic _ _ => 0xb8
  | .invokeinterface _ => 0xb9 | .invokedynamic _ => 0xba
  | .new _ => 0xbb | .newarray _ => 0xbc | .anewarray _ => 0xbd
  | .checkcast _ => 0xc0 | .instanceof _ => 0xc1 | .multianewarray _ _ => 0xc5

/-- the same for what the arm `k` builds from opcode `op`. `wide` and `invalid` build nothing: their value is a
placeholder that `p2Check` never looks at. -/
def kindBase (op : Nat) : OpKind → Nat
  | .simple | .cond | .field => op
  | .load j | .loadN j _ => 0x15 + j
  | .store j | .storeN j _ => 0x36 + j
  | .bipush => 0x10 | .sipush => 0x11 | .ldc | .ldcW => 0x12 | .iinc => 0x84
  | .goto | .gotoW => 0xa7 | .jsr | .jsrW => 0xa8 | .ret => 0xa9 | .tableswitch => 0xaa | .lookupswitch => 0xab
  | .invokevirtual => 0xb6 | .invokespecial => 0xb7 | .invokestatic => 0xb8
  | .invokeinterface => 0xb9 | .invokedynamic => 0xba
  | .new => 0xbb | .newarray => 0xbc | .anewarray => 0xbd
  | .checkcast => 0xc0 | .instanceof => 0xc1 | .multianewarray => 0xc5
  | .wide | .invalid => 0

/-- `RdDomain` of the instruction the arm `k` builds from opcode `op` -/
def KindDomain (op : Nat) : OpKind → Prop
  | .simple => isSimpleOp op = true
  | .cond => isCondBranchOp op = true
  | .field => 0xb2 ≤ op ∧ op ≤ 0xb5
  | .load j | .loadN j _ | .store j | .storeN j _ => j < 5
  | _ => True

instance (op : Nat) (k : OpKind) : Decidable (KindDomain op k) := by
  cases k <;> unfold KindDomain <;> infer_instance

theorem insnMnemonic_base (i : Insn) : insnMnemonic i = (mnemonic? (insnBase i)).getD [] := by
  cases i <;> simp only [insnMnemonic, insnBase] <;> decide +kernel

theorem decodeInsn_invalid (p : Pool) (bsms : Option (List Bsm)) (l : Labels) (pc op : Nat) (rest : Bytes)
    (hk : opKind op = .invalid) : decodeInsn p bsms l (pc, op :: rest) = err := by
  simp only [decodeInsn, cU8_cons, ok_bind, hk]

/-- `Option.elim`: an arm owes the position only for its own byte count and the index only for its own local -/
theorem decodeInsn_kind (p : Pool) (bsms : Option (List Bsm)) (l : Labels) (pc op : Nat) (rest : Bytes)
    (hw : opKind op ≠ .wide) :
    Holds (fun r : Insn × Cur => (kindBytes (opKind op)).elim True (fun n => r.2.1 = pc + 1 + n) ∧
        (kindLocal (opKind op)).elim True (fun j => insnLocal? r.1 = some j) ∧ insnBase r.1 = kindBase op (opKind op) ∧
        (KindDomain op (opKind op) → RdDomain r.1))
      (decodeInsn p bsms l (pc, op :: rest)) := by
  simp only [decodeInsn, cU8_cons, ok_bind]
  generalize opKind op = k at hw ⊢
  cases k with
  | simple => exact .pure ⟨rfl, trivial, rfl, id⟩
  | loadN _ _ | storeN _ _ => exact .pure ⟨rfl, rfl, rfl, id⟩
  | bipush => exact .bind (cI8_adv _) fun _ h => .pure ⟨h, trivial, rfl, id⟩
  | sipush => exact .bind (cI16_adv _) fun _ h => .pure ⟨h, trivial, rfl, id⟩
  | load _ | store _ | ret => exact .bind (cU8_adv _) fun _ h => .pure ⟨h, trivial, rfl, id⟩
  | ldc => exact .bind (cU8_adv _) fun _ h => .bind' fun _ => .pure ⟨h, trivial, rfl, id⟩
  | ldcW | field | invokevirtual | invokespecial | invokestatic | new | anewarray | checkcast | instanceof =>
    exact .bind (cU16_adv _) fun _ h => .bind' fun _ => .pure ⟨h, trivial, rfl, id⟩
  | cond | goto | jsr => exact .bind (cBranch16_adv _ _) fun _ h => .bind' fun _ => .pure ⟨h, trivial, rfl, id⟩
  | gotoW | jsrW => exact .bind (cBranch32_adv _ _) fun _ h => .bind' fun _ => .pure ⟨h, trivial, rfl, id⟩
  | iinc =>
    exact .bind (cU8_adv _) fun _ h1 => .bind (cI8_adv _) fun _ h2 =>
      .pure ⟨(by show _ = pc + 1 + 2; simp only at h1 h2 ⊢; omega), trivial, rfl, id⟩
  | multianewarray =>
    exact .bind (cU16_adv _) fun _ h1 => .bind' fun _ => .bind (cU8_adv _) fun _ h2 =>
      .pure ⟨(by show _ = pc + 1 + 3; simp only at h1 h2 ⊢; omega), trivial, rfl, id⟩
  | invokeinterface | invokedynamic =>
    exact .bind (cU16_adv _) fun _ h1 => .bind' fun _ => .bind (cU8_adv _) fun _ h2 => .bind (cU8_adv _) fun _ h3 =>
      .pure ⟨(by show _ = pc + 1 + 4; simp only at h1 h2 h3 ⊢; omega), trivial, rfl, id⟩
  | newarray =>
    refine .bind (cU8_adv _) fun _ h => ?_
    split
    · exact .pure ⟨h, trivial, rfl, id⟩
    · exact .err
  | tableswitch =>
    exact .bind' fun _ => .bind' fun _ => .bind' fun _ => .bind' fun _ => .bind' fun _ => .bind' fun _ => .bind' fun _ =>
      .pure ⟨trivial, trivial, rfl, id⟩
  | lookupswitch =>
    refine .bind' fun _ => .bind' fun _ => .bind' fun _ => .bind' fun _ => ?_
    split
    · exact .err
    · exact .bind' fun _ => .pure ⟨trivial, trivial, rfl, id⟩
  | wide => exact absurd rfl hw
  | invalid => exact .err

theorem decodeWide_kind (pc w : Nat) (rest : Bytes) :
    Holds (fun r : Insn × Cur => ∃ n, wideSkipModel w = some n ∧ insnBase r.1 = w ∧ r.2.1 = pc + 1 + n ∧ RdDomain r.1)
      (decodeWide (pc, w :: rest)) := by
  simp only [decodeWide, cU8_cons, ok_bind]
  by_cases c1 : (0x15 ≤ w && w ≤ 0x19) = true
  · rw [if_pos c1]
    have hs : wideSkipModel w = some 2 := by simp [wideSkipModel, c1]
    simp only [Bool.and_eq_true, decide_eq_true_eq] at c1
    exact .bind (cU16_adv _) fun _ h =>
      .pure ⟨2, hs, (by show 0x15 + (w - 0x15) = w; omega), h, (by show w - 0x15 < 5; omega)⟩
  rw [if_neg c1]
  by_cases c2 : (0x36 ≤ w && w ≤ 0x3a) = true
  · rw [if_pos c2]
    have hs : wideSkipModel w = some 2 := by simp [wideSkipModel, c2]
    simp only [Bool.and_eq_true, decide_eq_true_eq] at c2
    exact .bind (cU16_adv _) fun _ h =>
      .pure ⟨2, hs, (by show 0x36 + (w - 0x36) = w; omega), h, (by show w - 0x36 < 5; omega)⟩
  rw [if_neg c2]
  by_cases c3 : (w == 0xa9) = true
  · rw [if_pos c3]
    exact .bind (cU16_adv _) fun _ h => .pure ⟨2, by simp [wideSkipModel, c3], (beq_iff_eq.mp c3).symm, h, trivial⟩
  rw [if_neg c3]
  by_cases c4 : (w == 0x84) = true
  · rw [if_pos c4]
    exact .bind (cU16_adv _) fun _ h1 => .bind (cI16_adv _) fun _ h2 =>
      .pure ⟨4, by simp [wideSkipModel, c1, c2, c3, c4], (beq_iff_eq.mp c4).symm, (by simp only at h1 h2 ⊢; omega), trivial⟩
  rw [if_neg c4]
  exact .err

/-- second loop, opcode byte `op` against its table entry `e`: the same kind of arm, with the same operand bytes and index;
the model's arm builds an instruction of its domain whose general form is the JVMS's -/
def p2Check (op : Nat) (e : Nat × Nat × List Nat × Nat) (_ : Option Unit) (f? : Option (Nat × Option Nat)) : Bool :=
  let a := rArmOf e op
  let k := opKind op
  decide (a = .bail) == decide (k = .invalid) && decide (a = .wide) == decide (k = .wide) && a.isUnit == decide (k = .simple) &&
    (decide (k = .invalid) || decide (k = .wide) ||
      (decide (a.operandBytes? = kindBytes k) && decide (a.implicitIndex? = kindLocal k) &&
        kindBase op k == (f?.map (·.1)).getD op && decide (KindDomain op k)))

theorem p1_all : allFrom (fun op t => p1Code (p1Kind op) == t) Gen.ReaderArms.p1Dense = true := by decide +kernel
/-- the test `t < 16` is that of `p1WideSkip?` -/
theorem p1w_all : allFrom (fun w t => (if t < 16 then some t else none) == wideSkipModel w) Gen.ReaderArms.p1WideDense = true := by
  decide +kernel
theorem p2_all : allRows p2Check 0 Gen.ReaderArms.p2Dense [] forms = true := by decide +kernel

theorem reader_arms_match_model (p : Pool) (bsms : Option (List Bsm)) (l : Labels) (pc op : Nat) (rest : Bytes) (hop : op < 256) :
    p1Code (p1Kind op) = p1Class op ∧
    (rArm op = .bail ↔ opKind op = .invalid) ∧
    (rArm op = .wide ↔ opKind op = .wide) ∧
    ((rArm op).isUnit = true ↔ opKind op = .simple) ∧
    (rArm op = .bail → decodeInsn p bsms l (pc, op :: rest) = err) ∧
    (∀ i c', rArm op ≠ .wide → decodeInsn p bsms l (pc, op :: rest) = ok (i, c') →
      ∃ ctor, (rArm op).ctor? = some ctor ∧ squash (ctorName ctor) = squash (insnMnemonic i) ∧
        (∀ n, (rArm op).operandBytes? = some n → c'.1 = pc + 1 + n) ∧
        (∀ j, (rArm op).implicitIndex? = some j → insnLocal? i = some j) ∧ RdDomain i) := by
  have h1 := allFrom_getD 21 p1Dense_length p1_all op hop
  have hc := allRows_getD noRow p2Dense_length forms_sorted p2_all op hop
  have hb0 : ((forms.lookup op).map (·.1)).getD op = baseOf op := rfl
  have e : rArmOf (Gen.ReaderArms.p2Dense.getD op noRow) op = rArm op := rfl
  simp only [p2Check, e, hb0, Bool.and_eq_true, Bool.or_eq_true, beq_iff_eq, decide_eq_decide, decide_eq_true_eq] at hc
  obtain ⟨⟨⟨hb, hwd⟩, hs⟩, hd⟩ := hc
  have hs' : (rArm op).isUnit = true ↔ opKind op = .simple := by rw [hs]; simp
  refine ⟨by simpa [p1Class] using h1, hb, hwd, hs', ?_, ?_⟩
  · intro h; exact decodeInsn_invalid p bsms l pc op rest (hb.mp h)
  · intro i c' hnw h
    have hw : opKind op ≠ .wide := fun e => hnw (hwd.mpr e)
    have hi : opKind op ≠ .invalid := by
      intro e
      rw [decodeInsn_invalid p bsms l pc op rest e] at h
      cases h
    obtain ⟨h2, h3, h4, h5⟩ := decodeInsn_kind p bsms l pc op rest hw (i, c') h
    rcases hd with (hd | hd) | ⟨⟨⟨d2, d3⟩, d1⟩, d4⟩
    · exact absurd hd hi
    · exact absurd hd hw
    · obtain ⟨ctor, hc⟩ := RArm.ctor?_of_ne hnw (fun e => hi (hb.mp e))
      obtain ⟨-, -, hname, -⟩ := arms_are_jvms op hop
      replace hname := hname hnw
      rw [hc, ← d1, ← h4] at hname
      refine ⟨ctor, hc, ?_, fun n hn => ?_, fun j hj => ?_, h5 d4⟩
      · obtain ⟨m, hm, hsq⟩ := Option.map_eq_some_iff.mp hname.symm
        rw [insnMnemonic_base, hm]
        exact hsq.symm
      · rw [← d2, hn] at h2; exact h2
      · rw [← d3, hj] at h3; exact h3

theorem reader_wide_arms_match_model (l : Labels) (pc w : Nat) (rest : Bytes) (hw : w < 256) :
    pass1Step l (pc, Gen.ReaderArms.wideOpcode :: w :: rest) =
      (match p1WideSkip? w with
        | some n => (do let c ← cSkip n (pc + 2, rest); pure (l, c))
        | none => err) ∧
    ((rWideArm w).ctor? = none → decodeWide (pc, w :: rest) = err) ∧
    (∀ i c', decodeWide (pc, w :: rest) = ok (i, c') →
      ∃ ctor n, (rWideArm w).ctor? = some ctor ∧ squash (ctorName ctor) = squash (insnMnemonic i) ∧
        (rWideArm w).operandBytes? = some n ∧ c'.1 = pc + 1 + n ∧ RdDomain i) := by
  have h1 : p1WideSkip? w = wideSkipModel w := beq_iff_eq.mp (allFrom_getD 21 p1WideDense_length p1w_all w hw)
  obtain ⟨-, -, -, -, -, -, h1w, h2w⟩ := arms_are_jvms w hw
  rw [← h1w, h1] at h2w
  refine ⟨?_, ?_, ?_⟩
  · rw [wideOpcode_eq, pass1Step_wideSkip, h1]
    cases wideSkipModel w <;> rfl
  · intro h
    apply decodeWide_none
    rw [h] at h2w
    exact Option.map_eq_none_iff.mp h2w.symm
  · intro i c' h
    obtain ⟨n, hn, hcar, hpos, hdom⟩ := decodeWide_kind pc w rest (i, c') h
    rw [hn] at h2w
    cases hl : (rWideArm w).ctor? with
    | none => rw [hl] at h2w; cases h2w
    | some ctor =>
      rw [hl] at h2w
      simp only [Option.map_some, Option.some.injEq, Prod.mk.injEq] at h2w
      refine ⟨ctor, n, rfl, ?_, h2w.2, hpos, hdom⟩
      rw [h2w.1, insnMnemonic_base, hcar]
      cases mnemonic? w <;> rfl

end Arms
