import FeatherModel.Lemmas.BridgeIndex

/-!
`get_specialized_methods` (C15): the work-list loop of `get_ancestors` / `get_descendants` (what it computes, fuel
independence, termination), the bridge predicate and the selection loop against their declarative reading, and the
fuel, which only bounds the hierarchy walks.
-/

namespace Bridge

section

variable (g : AList JStr (List JStr))

theorem reach_iff (c a : JStr) : Reach g c a ↔ a ∈ nexts g c ∨ ∃ p, p ∈ nexts g c ∧ Reach g p a := by
  constructor
  · intro h
    cases h with
    | step h => exact Or.inl h
    | trans h h' => exact Or.inr ⟨_, h, h'⟩
  · exact fun h => h.elim Reach.step fun ⟨_, h, h'⟩ => Reach.trans h h'

theorem walk_mem (fuel : Nat) (st acc r : List JStr) (h : walk g fuel st acc = some r) (a : JStr) :
    a ∈ r ↔ a ∈ acc ∨ ∃ c, c ∈ st ∧ Reach g c a := by
  induction fuel generalizing st acc with
  | zero =>
    cases st <;> cases h
    simp
  | succ n ih =>
    cases st with
    | nil => cases h; simp
    | cons c st =>
      -- one pop: `c` leaves the stack, its successors enter both the stack and the result
      rw [ih _ _ h]
      simp only [List.mem_append, List.mem_reverse, List.mem_cons, or_and_right, exists_or, exists_eq_left,
        reach_iff g c, or_assoc]

theorem walk_mem_single (fuel : Nat) (s : JStr) (r : List JStr) (h : walk g fuel [s] [] = some r) (a : JStr) :
    a ∈ r ↔ Reach g s a := by
  simpa using walk_mem g fuel [s] [] r h a

theorem walk_mono (f f' : Nat) (st acc r : List JStr) (h : walk g f st acc = some r) (hle : f ≤ f') :
    walk g f' st acc = some r := by
  induction f generalizing f' st acc with
  | zero =>
    cases st with
    | nil => cases f' <;> exact h
    | cons c st => cases h
  | succ n ih =>
    cases st with
    | nil => cases f' <;> exact h
    | cons c st =>
      cases f' with
      | zero => exact absurd hle (Nat.not_succ_le_zero n)
      | succ m => exact ih m _ _ h (Nat.le_of_succ_le_succ hle)

theorem walk_append (f1 f2 : Nat) (s1 s2 acc a1 a2 : List JStr) (h1 : walk g f1 s1 acc = some a1)
    (h2 : walk g f2 s2 a1 = some a2) : walk g (f1 + f2) (s1 ++ s2) acc = some a2 := by
  induction f1 generalizing s1 acc with
  | zero =>
    cases s1 with
    | nil => cases h1; rwa [Nat.zero_add]
    | cons c s1 => cases h1
  | succ n ih =>
    cases s1 with
    | nil => cases h1; exact walk_mono g f2 _ _ _ _ h2 (Nat.le_add_left _ _)
    | cons c s1 =>
      have := ih _ _ h1
      rw [List.append_assoc] at this
      rwa [Nat.add_right_comm]

variable (rank : JStr → Nat) (hr : ∀ c p, p ∈ nexts g c → rank p < rank c)
include hr

/-- on a graph without cycles (witnessed by a rank function decreasing along every edge) the loop terminates -/
theorem walk_terminates (n : Nat) (st acc : List JStr) (hst : ∀ c, c ∈ st → rank c < n) :
    ∃ f r, walk g f st acc = some r := by
  induction n generalizing st acc with
  | zero =>
    cases st with
    | nil => exact ⟨0, acc, rfl⟩
    | cons c _ => exact absurd (hst c List.mem_cons_self) (Nat.not_lt_zero _)
  | succ n ih =>
    induction st generalizing acc with
    | nil => exact ⟨0, acc, rfl⟩
    | cons c rest ihst =>
      -- first the successors of `c` (smaller rank), then the rest of the stack
      obtain ⟨f1, r1, h1⟩ := ih (nexts g c).reverse (acc ++ nexts g c) fun p hp =>
        Nat.lt_of_lt_of_le (hr c p (List.mem_reverse.mp hp)) (Nat.le_of_lt_succ (hst c List.mem_cons_self))
      obtain ⟨f2, r2, h2⟩ := ihst r1 fun q hq => hst q (List.mem_cons_of_mem _ hq)
      exact ⟨f1 + f2 + 1, r2, walk_append g f1 f2 _ rest _ r1 r2 h1 h2⟩

theorem walk_uniform_fuel :
    ∃ F, ∀ f, F ≤ f → ∀ c, ∃ r, walk g f [c] [] = some r := by
  -- classes that are no key of `g` have no successors: one pop; the keys are finitely many
  have hkeys : ∀ (ks : List JStr), ∃ F, ∀ c, c ∈ ks → ∃ r, walk g F [c] [] = some r := by
    intro ks
    induction ks with
    | nil => exact ⟨0, nofun⟩
    | cons k rest ih =>
      obtain ⟨F, hF⟩ := ih
      obtain ⟨f, r, h⟩ := walk_terminates g rank hr (rank k + 1) [k] [] fun c hc =>
        List.mem_singleton.mp hc ▸ Nat.lt_succ_self _
      refine ⟨F + f, ?_⟩
      intro c hc
      rcases List.mem_cons.mp hc with hc | hc
      · subst hc; exact ⟨r, walk_mono g f _ _ _ _ h (Nat.le_add_left _ _)⟩
      · obtain ⟨r', h'⟩ := hF c hc
        exact ⟨r', walk_mono g F _ _ _ _ h' (Nat.le_add_right _ _)⟩
  obtain ⟨F, hF⟩ := hkeys (g.map Prod.fst)
  refine ⟨F + 1, fun f hf c => ?_⟩
  by_cases hc : c ∈ g.map Prod.fst
  · obtain ⟨r, h⟩ := hF c hc
    exact ⟨r, walk_mono g F _ _ _ _ h (Nat.le_of_succ_le hf)⟩
  · have hn : nexts g c = [] := by rw [nexts, AList.lookup_none_iff.mpr hc]; rfl
    obtain ⟨n, rfl⟩ := Nat.exists_eq_add_of_lt hf
    exact ⟨[], by rw [walk, hn]; cases F + n <;> rfl⟩

end

/-- `a` and `b` give the same answer, or `a` gives none and `Q` holds. `Q := True`: what `a` answers, `b` answers;
`Q := False`: `a` answers. Every function of the selection carries this from the walks to its result (the `_rel` lemmas):
wherever a walk or an earlier function is asked, `Defd.bind` takes the step. -/
def Defd (Q : Prop) {α : Type} : Option α → Option α → Prop
  | none, _ => Q
  | some r, b => b = some r

theorem Defd.refl {Q : Prop} {α : Type} (r : α) : Defd Q (some r) (some r) := rfl

theorem Defd.of_eq_some {Q : Prop} {α : Type} {a : Option α} {r : α} (h : a = some r) : Defd Q a a := h ▸ .refl r

theorem Defd.of_imp {α : Type} {a b : Option α} (h : ∀ r, a = some r → b = some r) : Defd True a b := by
  cases a with
  | none => trivial
  | some r => exact h r rfl

/-- a step of a `?` chain carries the relation: the `match` of any model function is this one by unfolding, once
`smartUnfolding` is off (Lemmas/Ladder.lean) -/
theorem Defd.bind {Q : Prop} {α β : Type} {a a' : Option α} {k k' : α → Option β} :
    Defd Q a a' → (∀ r, Defd Q (k r) (k' r)) →
      Defd Q (match a with | none => none | some r => k r) (match a' with | none => none | some r => k' r) := by
  intro h hk
  cases a with
  | none => exact h
  | some r => cases h; exact hk r

def Walks.Rel (Q : Prop) (w w' : Walks) : Prop :=
  (∀ c, Defd Q (w.anc c) (w'.anc c)) ∧ ∀ c, Defd Q (w.desc c) (w'.desc c)

def Walks.le (w w' : Walks) : Prop := w.Rel True w'

/-- every walk terminates: with `Q := False` the case `none` of `Defd` is excluded, and `Defd False (some r) (some r)`
holds -/
def Walks.total (w : Walks) : Prop := w.Rel False w

theorem Walks.total_of {w : Walks} (ha : ∀ c, ∃ r, w.anc c = some r) (hd : ∀ c, ∃ r, w.desc c = some r) : w.total :=
  ⟨fun c => have ⟨_, e⟩ := ha c; .of_eq_some e, fun c => have ⟨_, e⟩ := hd c; .of_eq_some e⟩

def Walks.Sound (idx : Index) (w : Walks) : Prop :=
  (∀ s as, w.anc s = some as → ∀ a, a ∈ as ↔ Reach idx.parents s a) ∧
  (∀ c ds, w.desc c = some ds → ∀ a, a ∈ ds ↔ Reach idx.children c a)

variable (idx : Index) {w w' : Walks} {Q : Prop}

theorem typesCompat_obj (w : Walks) (b s : JStr) :
    typesCompat idx w (.obj b) (.obj s) =
      if b = s ∨ b = JLO ∨ b ∉ idx.classes then some true
      else (w.anc s).map fun as => as.any fun a => b == a || !idx.classes.contains a := by
  unfold typesCompat
  by_cases h1 : b = s
  · simp [h1]
  by_cases h2 : b = JLO
  · simp [h2]
  by_cases h3 : b ∈ idx.classes
  · simp only [Ty.obj.injEq, h1, h2, h3, if_false, or_self, not_true, List.contains_iff_mem.mpr h3]
    cases w.anc s <;> rfl
  · simp [h1, h2, h3]

theorem typesCompat_of_not_obj (w : Walks) {tb ts : Ty} (h : ¬ ∃ b s, tb = .obj b ∧ ts = .obj s) :
    typesCompat idx w tb ts = some (decide (tb = ts)) := by
  unfold typesCompat
  by_cases e : tb = ts
  · rw [if_pos e, decide_eq_true e]
  · rw [if_neg e, decide_eq_false e]
    -- every pair of shapes but object / object falls through to `some false`
    cases tb <;> cases ts <;> try rfl
    exact absurd ⟨_, _, rfl, rfl⟩ h

theorem typesCompat_rel (hw : w.Rel Q w') (tb ts : Ty) : Defd Q (typesCompat idx w tb ts) (typesCompat idx w' tb ts) := by
  by_cases ho : ∃ b s, tb = .obj b ∧ ts = .obj s
  · obtain ⟨b, s, rfl, rfl⟩ := ho
    rw [typesCompat_obj, typesCompat_obj]
    split
    · exact .refl _
    · set_option smartUnfolding false in exact .bind (hw.1 s) fun _ => .refl _
  · rw [typesCompat_of_not_obj idx w ho, typesCompat_of_not_obj idx w' ho]
    exact .refl _

theorem Compat_obj (b s : JStr) : Compat idx (.obj b) (.obj s) ↔
    (b = s ∨ b = JLO ∨ b ∉ idx.classes) ∨ ∃ a, Reach idx.parents s a ∧ (a = b ∨ a ∉ idx.classes) := by
  simp only [Compat, Ty.obj.injEq, exists_and_left, exists_eq_left', or_assoc]

theorem typesCompat_spec (hw : w.Sound idx) (tb ts : Ty) (r : Bool)
    (h : typesCompat idx w tb ts = some r) : r = true ↔ Compat idx tb ts := by
  by_cases ho : ∃ b s, tb = .obj b ∧ ts = .obj s
  · obtain ⟨b, s, rfl, rfl⟩ := ho
    rw [typesCompat_obj] at h
    rw [Compat_obj]
    split at h
    · next hc => cases h; exact iff_of_true rfl (Or.inl hc)
    · next hc =>
      obtain ⟨as, has, rfl⟩ := Option.map_eq_some_iff.mp h
      rw [or_iff_right hc, List.any_eq_true]
      refine exists_congr fun a => and_congr (hw.1 s as has a) ?_
      rw [Bool.or_eq_true, beq_iff_eq, eq_comm, Bool.not_eq_true', ← Bool.not_eq_true, List.contains_iff_mem]
  · rw [typesCompat_of_not_obj idx w ho] at h
    cases h
    rw [decide_eq_true_iff]
    exact ⟨Or.inl, fun h => h.elim id fun ⟨b, s, hb, hs, _⟩ => absurd ⟨b, s, hb, hs⟩ ho⟩

theorem allCompat_rel (hw : w.Rel Q w') (bs ss : List Ty) : Defd Q (allCompat idx w bs ss) (allCompat idx w' bs ss) := by
  induction bs generalizing ss with
  | nil => exact .refl _
  | cons b bs ih =>
    cases ss with
    | nil => exact .refl _
    | cons s ss =>
      unfold allCompat
      set_option smartUnfolding false in exact .bind (typesCompat_rel idx hw b s) fun | false => .refl _ | true => ih ss

theorem allCompat_spec (hw : w.Sound idx) (bs ss : List Ty) (r : Bool)
    (h : allCompat idx w bs ss = some r) : r = true ↔ ∀ p, p ∈ List.zip bs ss → Compat idx p.1 p.2 := by
  induction bs generalizing ss with
  | nil => cases h; exact iff_of_true rfl (by rw [List.zip_nil_left]; exact List.forall_mem_nil _)
  | cons b bs ih =>
    cases ss with
    | nil => cases h; exact iff_of_true rfl (by rw [List.zip_nil_right]; exact List.forall_mem_nil _)
    | cons s ss =>
      unfold allCompat at h
      rw [List.zip_cons_cons, List.forall_mem_cons]
      split at h
      · cases h
      · next hc =>
        cases h
        exact iff_of_false Bool.false_ne_true fun hall => Bool.false_ne_true ((typesCompat_spec idx hw b s _ hc).mpr hall.1)
      · next hc =>
        rw [ih ss h]
        exact (and_iff_right ((typesCompat_spec idx hw b s _ hc).mp rfl)).symm

theorem isPotentialBridge_rel (hw : w.Rel Q w') (m : MRef) (acc : Access) (s : MRef) :
    Defd Q (isPotentialBridge idx w m acc s) (isPotentialBridge idx w' m acc s) := by
  unfold isPotentialBridge
  split
  · exact .refl _
  split
  · exact .refl _
  split
  · exact .refl _
  split
  · exact .refl _
  next pb rb _ _ ps rs _ _ =>
  set_option smartUnfolding false in exact .bind (allCompat_rel idx hw pb ps) fun
    | false => .refl _
    | true => by
      dsimp only
      split
      · exact typesCompat_rel idx hw _ _
      · exact .refl _
      · exact .refl _

theorem isPotentialBridge_spec (hw : w.Sound idx) (b : MRef) (acc : Access) (s : MRef)
    (r : Bool) (h : isPotentialBridge idx w b acc s = some r) : r = true ↔ Potential idx b acc s := by
  unfold isPotentialBridge at h
  split at h
  · next hf =>
    cases h
    refine iff_of_false Bool.false_ne_true ?_
    rintro ⟨h1, h2, h3, _⟩
    rw [h1, h2, h3] at hf
    cases hf
  next hf =>
  simp only [Bool.or_eq_true, not_or, Bool.not_eq_true] at hf
  split at h
  · next hb =>
    cases h
    refine iff_of_false Bool.false_ne_true ?_
    rintro ⟨_, _, _, _, _, _, _, hp, _⟩
    exact nomatch hb.symm.trans hp
  next pb rb hb =>
  split at h
  · next hs =>
    cases h
    refine iff_of_false Bool.false_ne_true ?_
    rintro ⟨_, _, _, _, _, _, _, _, hp, _⟩
    exact nomatch hs.symm.trans hp
  next ps rs hs =>
  -- with the flags and both descriptors fixed, `Potential` is its last three conjuncts
  have key : Potential idx b acc s ↔
      pb.length = ps.length ∧ (∀ p, p ∈ List.zip pb ps → Compat idx p.1 p.2) ∧ RetCompat idx rb rs := by
    constructor
    · rintro ⟨_, _, _, pb', rb', ps', rs', h1, h2, h3⟩
      cases hb.symm.trans h1
      cases hs.symm.trans h2
      exact h3
    · exact fun h3 => ⟨hf.1.1, hf.2, hf.1.2, pb, rb, ps, rs, hb, hs, h3⟩
  rw [key]
  split at h
  · next hl =>
    cases h
    exact iff_of_false Bool.false_ne_true fun h' => bne_iff_ne.mp hl h'.1
  next hl =>
  rw [and_iff_right (Decidable.not_not.mp (mt bne_iff_ne.mpr hl))]
  split at h
  · cases h
  · next ha =>
    cases h
    exact iff_of_false Bool.false_ne_true fun h' => Bool.false_ne_true ((allCompat_spec idx hw _ _ _ ha).mpr h'.1)
  · next ha =>
    rw [and_iff_right ((allCompat_spec idx hw _ _ _ ha).mp rfl)]
    cases rb <;> cases rs
    · cases h; exact iff_of_true rfl trivial
    · cases h; exact iff_of_false Bool.false_ne_true id
    · cases h; exact iff_of_false Bool.false_ne_true id
    · exact typesCompat_spec idx hw _ _ r h

theorem candidate_rel (hw : w.Rel Q w') (m : MRef) (acc : Access) :
    Defd Q (candidate idx w m acc) (candidate idx w' m acc) := by
  unfold candidate
  split
  · exact .refl _
  split
  · next s _ =>
    split
    · exact .refl _
    set_option smartUnfolding false in exact .bind (isPotentialBridge_rel idx hw m acc s) fun r => by cases r <;> exact .refl _
  · exact .refl _

/-- what the iterator chain lets through, for any reading `P` of the answers of `isPotentialBridge` -/
theorem candidate_spec (m : MRef) (acc : Access) {P : MRef → Prop}
    (hP : ∀ s r, isPotentialBridge idx w m acc s = some r → (r = true ↔ P s)) (c : Option (MRef × MRef))
    (h : candidate idx w m acc = some c) (b s : MRef) :
    c = some (b, s) ↔ b = m ∧ acc.synthetic = true ∧ AList.lookup m idx.refs = some [s] ∧ (acc.bridge = true ∨ P s) := by
  unfold candidate at h
  split at h
  · next hs =>
    cases h
    exact iff_of_false nofun fun h' => by rw [h'.2.1] at hs; cases hs
  next hs =>
  rw [Bool.not_eq_true, Bool.not_eq_false'] at hs
  split at h
  · next s0 hr =>
    -- the call set is `[s0]`: the pair can only be `(m, s0)`
    have key : (b = m ∧ acc.synthetic = true ∧ AList.lookup m idx.refs = some [s] ∧
        (acc.bridge = true ∨ P s)) ↔ (m, s0) = (b, s) ∧ (acc.bridge = true ∨ P s0) := by
      rw [hr]
      constructor
      · rintro ⟨rfl, _, h3, h4⟩; cases h3; exact ⟨rfl, h4⟩
      · rintro ⟨⟨⟩, h4⟩; exact ⟨rfl, hs, rfl, h4⟩
    rw [key]
    split at h
    · next hb =>
      cases h
      exact ⟨fun e => ⟨Option.some.inj e, Or.inl hb⟩, fun e => congrArg some e.1⟩
    next hb =>
    split at h
    · cases h
    · next hp =>
      cases h
      exact ⟨fun e => ⟨Option.some.inj e, Or.inr ((hP _ _ hp).mp rfl)⟩,
        fun e => congrArg some e.1⟩
    · next hp =>
      cases h
      exact iff_of_false nofun fun h' =>
        h'.2.elim hb fun h4 => Bool.false_ne_true ((hP _ _ hp).mpr h4)
  · next hr =>
    cases h
    exact iff_of_false nofun fun h' => hr s h'.2.2.1

theorem candidate_fst {idx : Index} {w : Walks} {m : MRef} {acc : Access} {p : MRef × MRef}
    (h : candidate idx w m acc = some (some p)) : p.1 = m :=
  ((candidate_spec idx m acc (P := fun s => isPotentialBridge idx w m acc s = some true)
    (fun s r hr => by rw [hr]; exact ⟨congrArg some, Option.some.inj⟩) _ h p.1 p.2).mp rfl).1

theorem candidates_rel (hw : w.Rel Q w') (ms : AList MRef Access) :
    Defd Q (candidates idx w ms) (candidates idx w' ms) := by
  induction ms with
  | nil => exact .refl _
  | cons e rest ih =>
    unfold candidates
    set_option smartUnfolding false in exact .bind (candidate_rel idx hw e.1 e.2) fun _ => .bind ih fun _ => .refl _

theorem candidates_mem (hw : w.Sound idx) (ms : AList MRef Access) (cs : List (MRef × MRef))
    (h : candidates idx w ms = some cs) (b s : MRef) :
    (b, s) ∈ cs ↔ ∃ acc, (b, acc) ∈ ms ∧ acc.synthetic = true ∧ AList.lookup b idx.refs = some [s] ∧
      (acc.bridge = true ∨ Potential idx b acc s) := by
  induction ms generalizing cs with
  | nil => cases h; exact iff_of_false List.not_mem_nil fun ⟨_, h, _⟩ => List.not_mem_nil h
  | cons e rest ih =>
    obtain ⟨m, acc⟩ := e
    unfold candidates at h
    split at h
    · cases h
    next c hc =>
    split at h
    · cases h
    next cs' hr =>
    cases h
    rw [List.mem_append, ih cs' hr, Option.mem_toList, candidate_spec idx m acc (isPotentialBridge_spec idx hw m acc) c hc b s]
    constructor
    · rintro (⟨rfl, h'⟩ | ⟨acc', h1, h'⟩)
      · exact ⟨acc, List.mem_cons_self, h'⟩
      · exact ⟨acc', List.mem_cons_of_mem _ h1, h'⟩
    · rintro ⟨acc', h1, h'⟩
      rcases List.mem_cons.mp h1 with h1 | h1
      · cases h1; exact Or.inl ⟨rfl, h'⟩
      · exact Or.inr ⟨acc', h1, h'⟩

theorem candidates_keys (w : Walks) (ms : AList MRef Access) (cs : List (MRef × MRef))
    (h : candidates idx w ms = some cs) : (cs.map Prod.fst).Sublist (ms.map Prod.fst) := by
  induction ms generalizing cs with
  | nil => cases h; exact List.Sublist.refl _
  | cons e rest ih =>
    obtain ⟨m, acc⟩ := e
    unfold candidates at h
    split at h
    · cases h
    next c hc =>
    split at h
    · cases h
    next cs' hr =>
    cases h
    cases c with
    | none => exact (ih cs' hr).cons _
    | some p => exact candidate_fst hc ▸ (ih cs' hr).cons_cons _

theorem higher_rel (hw : w.Rel Q w') (b1 b2 : MRef) : Defd Q (higher w b1 b2) (higher w' b1 b2) := by
  unfold higher
  set_option smartUnfolding false in exact .bind (hw.2 b1.cls) fun _ => .refl _

theorem higher_spec (hw : w.Sound idx) (b1 b2 r : MRef) (h : higher w b1 b2 = some r) :
    (Reach idx.children b1.cls b2.cls → r = b1) ∧ (¬ Reach idx.children b1.cls b2.cls → r = b2) := by
  unfold higher at h
  split at h
  · cases h
  next ds hd =>
  cases h
  rw [← hw.2 _ ds hd, ← List.contains_iff_mem]
  exact ⟨fun hc => if_pos hc, fun hc => if_neg hc⟩

theorem stepSel_eq {st st1 : SelState} {p : MRef × MRef} (h : stepSel w st p = some st1) :
    st1.1 = upsert p.1 p.2 st.1 ∧
      ∃ hi, st1.2 = upsert p.2 hi st.2 ∧ foldHigher w (AList.lookup p.2 st.2) [p.1] = some (some hi) := by
  unfold stepSel at h
  split at h
  · next o ho =>
    split at h
    · cases h
    next hi hh =>
    cases h
    refine ⟨rfl, hi, rfl, ?_⟩
    rw [ho]
    unfold foldHigher
    rw [hh]
    rfl
  · next ho =>
    cases h
    refine ⟨rfl, p.1, rfl, ?_⟩
    rw [ho]
    rfl

theorem stepSel_rel (hw : w.Rel Q w') (st : SelState) (p : MRef × MRef) : Defd Q (stepSel w st p) (stepSel w' st p) := by
  unfold stepSel
  split
  · set_option smartUnfolding false in exact .bind (higher_rel hw p.1 _) fun _ => .refl _
  · exact .refl _

theorem foldSel_rel (hw : w.Rel Q w') (cs : List (MRef × MRef)) (st : SelState) :
    Defd Q (foldSel w cs st) (foldSel w' cs st) := by
  induction cs generalizing st with
  | nil => exact .refl _
  | cons p rest ih =>
    unfold foldSel
    set_option smartUnfolding false in exact .bind (stepSel_rel hw st p) ih

theorem selectWith_rel (hw : w.Rel Q w') : Defd Q (selectWith idx w) (selectWith idx w') := by
  unfold selectWith
  set_option smartUnfolding false in exact .bind (candidates_rel idx hw idx.methods) fun cs => foldSel_rel hw cs _

theorem selectWith_mono (hle : w.le w') (st : SelState)
    (h : selectWith idx w = some st) : selectWith idx w' = some st := by
  have hr := selectWith_rel idx hle
  rw [h] at hr
  exact hr

theorem selectWith_total (ht : w.total) : ∃ st, selectWith idx w = some st := by
  have hr := selectWith_rel idx ht
  cases h : selectWith idx w with
  | some st => exact ⟨st, rfl⟩
  | none =>
    rw [h] at hr
    exact hr.elim

theorem foldSel_fst (w : Walks) (cs : List (MRef × MRef)) (st st' : SelState) (h : foldSel w cs st = some st')
    (hnd : ((st.1 ++ cs).map Prod.fst).Nodup) : st'.1 = st.1 ++ cs := by
  induction cs generalizing st with
  | nil => cases h; exact (List.append_nil _).symm
  | cons p rest ih =>
    unfold foldSel at h
    split at h
    · cases h
    next st1 hs =>
    have e : st1.1 = st.1 ++ [p] := by rw [(stepSel_eq hs).1, upsert_of_not_mem p.2 (List.key_not_mem_of_nodup hnd)]
    rw [ih st1 h (by rwa [e, List.append_assoc]), e, List.append_assoc]
    rfl

/-- with unique method keys `bridge_to_specialized` is the list of candidates, in order, and the loop ran over exactly
that list -/
theorem select_fst (w : Walks) (hnd : (idx.methods.map Prod.fst).Nodup) (st : SelState)
    (h : selectWith idx w = some st) : candidates idx w idx.methods = some st.1 ∧ foldSel w st.1 ([], []) = some st := by
  unfold selectWith at h
  split at h
  · cases h
  next cs hc =>
  cases (foldSel_fst w cs ([], []) st h ((candidates_keys idx w _ cs hc).nodup hnd) : st.1 = cs)
  exact ⟨hc, h⟩

theorem IsBridgePair.unique {idx : Index} {b s s' : MRef} (h : IsBridgePair idx b s) (h' : IsBridgePair idx b s') :
    s = s' := by
  obtain ⟨_, _, _, r, _⟩ := h
  obtain ⟨_, _, _, r', _⟩ := h'
  cases r.symm.trans r'
  rfl

theorem IsBridgePair.of_lookup {idx : Index} {b s : MRef} {acc : Access} (h : IsBridgePair idx b s)
    (hb : AList.lookup b idx.methods = some acc) :
    acc.synthetic = true ∧ AList.lookup b idx.refs = some [s] ∧ (acc.bridge = true ∨ Potential idx b acc s) := by
  obtain ⟨_, h1, h'⟩ := h
  cases hb.symm.trans h1
  exact h'

theorem selectWith_mem (hnd : (idx.methods.map Prod.fst).Nodup) (hw : w.Sound idx)
    (st : SelState) (h : selectWith idx w = some st) (b s : MRef) : (b, s) ∈ st.1 ↔ IsBridgePair idx b s := by
  rw [candidates_mem idx hw idx.methods st.1 (select_fst idx w hnd st h).1 b s]
  exact exists_congr fun acc => and_congr_left fun _ => ⟨AList.lookup_of_mem_nodup hnd, AList.lookup_mem⟩

theorem foldHigher_cons {cur c : Option MRef} {b : MRef} (h : foldHigher w cur [b] = some c) (bs : List MRef) :
    foldHigher w cur (b :: bs) = foldHigher w c bs := by
  cases cur with
  | none => cases h; rfl
  | some o =>
    unfold foldHigher at h
    split at h
    · cases h
    next hi hh =>
    cases h
    conv => lhs; unfold foldHigher
    rw [hh]

/-- the second component of the loop state: a fold of `get_higher_method` per specialized method -/
theorem foldSel_snd (w : Walks) (s : MRef) (cs : List (MRef × MRef)) (st st' : SelState)
    (h : foldSel w cs st = some st') :
    foldHigher w (AList.lookup s st.2) ((cs.filter fun p => p.2 == s).map Prod.fst) = some (AList.lookup s st'.2) := by
  induction cs generalizing st with
  | nil => cases h; rfl
  | cons p rest ih =>
    unfold foldSel at h
    split at h
    · cases h
    next st1 hs =>
    obtain ⟨_, hi, h2, h3⟩ := stepSel_eq hs
    have ih := ih st1 h
    rw [h2] at ih
    rw [List.filter_cons]
    split
    · next hps =>
      cases eq_of_beq hps
      rw [List.map_cons, foldHigher_cons h3, ← ih, lookup_upsert_self]
    · next hps =>
      rwa [lookup_upsert_ne _ _ (fun e => hps (beq_iff_eq.mpr e.symm))] at ih

theorem walksOf_sound (fuel : Nat) : (walksOf idx fuel).Sound idx :=
  ⟨walk_mem_single idx.parents fuel, walk_mem_single idx.children fuel⟩

theorem walksOf_le {f f' : Nat} (h : f ≤ f') : (walksOf idx f).le (walksOf idx f') :=
  ⟨fun _ => .of_imp fun r hr => walk_mono idx.parents f f' _ _ r hr h,
    fun _ => .of_imp fun r hr => walk_mono idx.children f f' _ _ r hr h⟩

theorem walksOf_total (rankP rankC : JStr → Nat)
    (hp : ∀ c p, p ∈ nexts idx.parents c → rankP p < rankP c)
    (hc : ∀ p c, c ∈ nexts idx.children p → rankC c < rankC p) :
    ∃ F, (walksOf idx F).total := by
  obtain ⟨F1, h1⟩ := walk_uniform_fuel idx.parents rankP hp
  obtain ⟨F2, h2⟩ := walk_uniform_fuel idx.children rankC hc
  exact ⟨F1 + F2, Walks.total_of (h1 _ (Nat.le_add_right _ _)) (h2 _ (Nat.le_add_left _ _))⟩

end Bridge
