import FeatherModel.Lemmas.CodeInsnDecode

/-!
# The final form of an instruction, and what it decodes to

With `Patched` (`CodePatch`) a switch is a sequence of label slots and fixed fields (`swTable_patched`,
`swPairs_patched`, `switch_patched`), its final bytes are `finTable` / `finPairs`, and the decoder reads those back. Then
`Fin`, the final bytes of any instruction after patching, by form: `encInsn_fin` is the one place where the patches of a
single instruction are looked at, and it holds wherever the instruction stands in the code; `Fin.decoded` reads a final
form with the decoder.
-/

namespace CodeWrite
open CodeDecode CodeDenote

/-- the final bytes of a 32-bit label slot: the offset of `t` relative to the switch opcode at `p` -/
def finLabel (lp : Nat → Option Nat) (p t : Nat) : Option Bytes := (lp t).map fun tp => i32b (offs p tp)

def finTable (lp : Nat → Option Nat) (p : Nat) : List Nat → Option Bytes
  | [] => some []
  | t :: ts => finSeq (finLabel lp p t) (finTable lp p ts)

def finPairs (lp : Nat → Option Nat) (p : Nat) : List (Int × Nat) → Option Bytes
  | [] => some []
  | kt :: ps => finSeq (finSeq (some (i32b kt.1)) (finLabel lp p kt.2)) (finPairs lp p ps)

theorem swLabel_patched {lbl lp : Nat → Option Nat} (hok : LabelsOk lbl lp) (base p k wp t : Nat) :
    Patched base lp wp (swLabel lbl p k wp t) (finLabel lp p t) := by
  unfold swLabel finLabel
  cases hl : lbl t with
  | some tp => rw [hok.sub _ _ hl]; exact .const _
  | none =>
    rw [← patchVal_wide lp (u := ⟨p, k, t, wp, true⟩) rfl]
    exact .slot base lp ⟨p, k, t, wp, true⟩ (V := i32b I32MAX) rfl

theorem swTable_patched {lbl lp : Nat → Option Nat} (hok : LabelsOk lbl lp) (base p k : Nat) :
    ∀ (ts : List Nat) (wp : Nat), Patched base lp wp (swTable lbl p k wp ts) (finTable lp p ts)
  | [], _ => .const []
  | t :: ts, wp =>
    (swLabel_patched hok base p k wp t).seq (swLabel_len ..) (swTable_patched hok base p k ts (wp + 4))

theorem swPairs_patched {lbl lp : Nat → Option Nat} (hok : LabelsOk lbl lp) (base p k : Nat) :
    ∀ (ps : List (Int × Nat)) (wp : Nat), Patched base lp wp (swPairs lbl p k wp ps) (finPairs lp p ps)
  | [], _ => .const []
  | kt :: ps, wp =>
    ((Patched.const (i32b kt.1)).seq rfl (swLabel_patched hok base p k (wp + 4) kt.2)).seq
      (by simp only [List.length_append, i32b_length, swLabel_len]) (swPairs_patched hok base p k ps (wp + 8))

theorem readOffsets_finTable {lp : Nat → Option Nat} {p : Nat} (hp : p ≤ 65535)
    (hb : ∀ t x, lp t = some x → x ≤ 65535) (ts : List Nat) :
    ∀ b, finTable lp p ts = some b → b.length = 4 * ts.length ∧
      ∃ os, os.length = ts.length ∧ (∀ rest, readOffsets p ts.length (b ++ rest) = some (os, rest)) ∧
        landsAll lp ts os = true := by
  induction ts with
  | nil => intro b h; cases h; exact ⟨rfl, [], rfl, fun rest => rfl, rfl⟩
  | cons t ts ih =>
    intro b h
    obtain ⟨_, r, ha, hf, rfl⟩ := finSeq_some h
    obtain ⟨tp, hl, rfl⟩ := Option.map_eq_some_iff.mp ha
    obtain ⟨hlen, os, hos, h1, h2⟩ := ih _ hf
    have hr := offs_range hp (hb _ _ hl)
    refine ⟨by simp only [List.length_append, i32b_length, hlen, List.length_cons]; omega, (tp : Int) :: os,
      by simp only [List.length_cons, hos], fun rest => ?_, ?_⟩
    · simp only [i32b_eq, List.length_cons, List.cons_append, List.nil_append, readOffsets, h1 rest,
        s32_digits _ hr.1 hr.2, offs_add]
    · simp only [landsAll, lands_self hl, Bool.true_and, h2]

theorem readPairs_finPairs {lp : Nat → Option Nat} {p : Nat} (hp : p ≤ 65535)
    (hb : ∀ t x, lp t = some x → x ≤ 65535) (ps : List (Int × Nat)) :
    (ps.all (fun kp => decide (-2147483648 ≤ kp.1) && decide (kp.1 ≤ 2147483647)) = true) →
    ∀ b, finPairs lp p ps = some b → b.length = 8 * ps.length ∧
      ∃ os, os.length = ps.length ∧ (∀ rest, readPairs p ps.length (b ++ rest) = some (os, rest)) ∧
        landsPairs lp ps os = true := by
  induction ps with
  | nil => intro _ b h; cases h; exact ⟨rfl, [], rfl, fun rest => rfl, rfl⟩
  | cons kt ps ih =>
    intro hk b h
    obtain ⟨_, r, ha, hf, rfl⟩ := finSeq_some h
    obtain ⟨_, _, ⟨⟩, ha', rfl⟩ := finSeq_some ha
    obtain ⟨tp, hl, rfl⟩ := Option.map_eq_some_iff.mp ha'
    simp only [List.all_cons, Bool.and_eq_true, decide_eq_true_eq] at hk
    obtain ⟨hlen, os, hos, h1, h2⟩ := ih (by simpa using hk.2) _ hf
    have hr := offs_range hp (hb _ _ hl)
    refine ⟨by simp only [List.length_append, i32b_length, hlen, List.length_cons]; omega, (kt.1, (tp : Int)) :: os,
      by simp only [List.length_cons, hos], fun rest => ?_, ?_⟩
    · simp only [i32b_eq, List.length_cons, List.cons_append, List.nil_append, readPairs, h1 rest,
        s32_digits _ hr.1 hr.2, s32_digits _ hk.1.1 hk.1.2, offs_add]
    · simp only [landsPairs, lands_self hl, Bool.and_true, beq_self_eq_true, h2]

end CodeWrite

namespace CodeDecode

theorem decodeOne_tableswitch (pc : Nat) (pre : Bytes) (hpre : pre.length = switchPad pc)
    (d1 d2 d3 d4 l1 l2 l3 l4 h1 h2 h3 h4 : Nat) (tl : Bytes) :
    decodeOne pc (0xaa :: (pre ++ d1 :: d2 :: d3 :: d4 :: l1 :: l2 :: l3 :: l4 :: h1 :: h2 :: h3 :: h4 :: tl)) =
      (if s32 l1 l2 l3 l4 ≤ s32 h1 h2 h3 h4 then
        match readOffsets pc (s32 h1 h2 h3 h4 - s32 l1 l2 l3 l4 + 1).toNat tl with
        | some (os, _) =>
          some (.tableswitch ((pc : Int) + s32 d1 d2 d3 d4) (s32 l1 l2 l3 l4) (s32 h1 h2 h3 h4) os,
            1 + switchPad pc + 12 + 4 * os.length)
        | none => none
      else none) := by
  unfold decodeOne
  dsimp only
  rw [← hpre, List.drop_left]
  rfl

theorem decodeOne_lookupswitch (pc : Nat) (pre : Bytes) (hpre : pre.length = switchPad pc)
    (d1 d2 d3 d4 n1 n2 n3 n4 : Nat) (tl : Bytes) :
    decodeOne pc (0xab :: (pre ++ d1 :: d2 :: d3 :: d4 :: n1 :: n2 :: n3 :: n4 :: tl)) =
      (if 0 ≤ s32 n1 n2 n3 n4 then
        match readPairs pc (s32 n1 n2 n3 n4).toNat tl with
        | some (ps, _) =>
          some (.lookupswitch ((pc : Int) + s32 d1 d2 d3 d4) ps, 1 + switchPad pc + 8 + 8 * ps.length)
        | none => none
      else none) := by
  unfold decodeOne
  dsimp only
  rw [← hpre, List.drop_left]
  rfl

end CodeDecode

namespace CodeWrite
open CodeDecode CodeDenote

/-- both switches: opcode and padding `hd`, the default slot at `wp`, fixed fields `mid`, then a table `T` of slots whose
final form is `F` -/
theorem switch_patched {lbl lp : Nat → Option Nat} (hok : LabelsOk lbl lp) {base p k wp d : Nat} {hd mid : Bytes}
    {T : Bytes × List Unwritten} {F : Option Bytes} (hhd : p + hd.length = wp)
    (hT : Patched base lp (wp + 4 + mid.length) T F) :
    ∃ G, Patched base lp p (hd ++ ((swLabel lbl p k wp d).1 ++ (mid ++ T.1)), (swLabel lbl p k wp d).2 ++ T.2) G ∧
      ∀ fin, G = some fin → ∃ dtp b, lp d = some dtp ∧ F = some b ∧ fin = hd ++ (i32b (offs p dtp) ++ (mid ++ b)) := by
  subst hhd
  refine ⟨_, (Patched.const hd).seq rfl ((swLabel_patched hok base p k _ d).seq (swLabel_len ..)
    ((Patched.const mid).seq rfl hT)), fun fin h => ?_⟩
  unfold finLabel at h
  cases hld : lp d <;> cases hF : F <;> rw [hld, hF] at h <;> cases h
  exact ⟨_, _, rfl, rfl, rfl⟩

/-- opcode and target of the form with a 16-bit offset -/
def shortOp : Insn → Option (Nat × Nat)
  | .goto t => some (0xa7, t)
  | .jsr t => some (0xa8, t)
  | .ifc c t => some (c.opcode, t)
  | _ => none

/-- opcode and target of the `_w` form -/
def longOp : Insn → Option (Nat × Nat)
  | .goto t => some (0xc8, t)
  | .jsr t => some (0xc9, t)
  | _ => none

/-- **the final bytes of instruction `i` at `p`** after patching, by form, every offset computed from the final label
table `lp`: an instruction without label as written; a branch with a 16-bit offset that fits; `goto_w` / `jsr_w`; the
trampoline `if<not c> +8; goto_w target`; the switches with their final tables. A long form stands only where the
instruction is marked wide or a target known during the pass was out of 16-bit range. In `plain` the label table `lbl`
and the index `k` of the pass are arbitrary: the bytes of an instruction without label do not depend on them. -/
inductive Fin (isWide : Bool) (lp : Nat → Option Nat) (p : Nat) : Insn → Bytes → Prop
  | plain {i : Insn} {bs : Bytes} {lbl : Nat → Option Nat} {k : Nat} :
      plainInsn i = true → encInsn isWide lbl p k i = .ok (bs, []) → Fin isWide lp p i bs
  | short {i : Insn} {op t tp : Nat} :
      shortOp i = some (op, t) → lp t = some tp → fitsI16 (offs p tp) = true → Fin isWide lp p i (op :: i16b (offs p tp))
  | long {i : Insn} {wop t tp : Nat} :
      longOp i = some (wop, t) → lp t = some tp → (isWide = true ∨ fitsI16 (offs p tp) = false) →
      Fin isWide lp p i (wop :: i32b (offs p tp))
  | tramp {c : Cond} {t tp : Nat} :
      lp t = some tp → p + 3 ≤ 65535 → (isWide = true ∨ fitsI16 (offs p tp) = false) →
      Fin isWide lp p (.ifc c t) (c.opposite.opcode :: (i16b 8 ++ GOTO_W :: i32b (offs (p + 3) tp)))
  | table {d : Nat} {lo hi : Int} {tb : List Nat} {dtp : Nat} {b : Bytes} :
      lo ≤ hi → (tb.length : Int) = hi - lo + 1 → lp d = some dtp → finTable lp p tb = some b →
      Fin isWide lp p (.tableswitch d lo hi tb)
        (0xaa :: List.replicate (padLen p) 0 ++ (i32b (offs p dtp) ++ (i32b lo ++ i32b hi ++ b)))
  | lookup {d : Nat} {ps : List (Int × Nat)} {dtp : Nat} {b : Bytes} :
      lp d = some dtp → finPairs lp p ps = some b →
      Fin isWide lp p (.lookupswitch d ps)
        (0xab :: List.replicate (padLen p) 0 ++ (i32b (offs p dtp) ++ (i32b ps.length ++ b)))

theorem encGoto_fin {lp lbl : Nat → Option Nat} {p k t op wop : Nat} {i : Insn} {isWide : Bool}
    {r : Bytes × List Unwritten} (hs : shortOp i = some (op, t)) (hl : longOp i = some (wop, t))
    (hok : LabelsOk lbl lp) (henc : encGoto op wop isWide lbl p k t = .ok r) (base : Nat) :
    ∃ F, Patched base lp p r F ∧ ∀ fin, F = some fin → Fin isWide lp p i fin := by
  revert henc
  fun_cases encGoto op wop isWide lbl p k t <;> intro henc <;> cases henc
  · exact ⟨_, .const _, fun _ h => by cases h; exact .short hs (hok.sub _ _ ‹_›) ‹_›⟩
  · exact ⟨_, .const _, fun _ h => by cases h; exact .long hl (hok.sub _ _ ‹_›) (.inr (Bool.eq_false_iff.mpr ‹_›))⟩
  · refine ⟨_, (Patched.const [wop]).seq rfl (.slot base lp ⟨p, k, t, p + 1, true⟩ (V := i32b I32MAX) rfl), fun _ h => ?_⟩
    obtain ⟨_, _, ⟨⟩, hv, rfl⟩ := finSeq_some h
    rw [patchVal_wide lp rfl] at hv
    obtain ⟨tp, hl', rfl⟩ := Option.map_eq_some_iff.mp hv
    exact .long hl hl' (.inl ‹_›)
  · refine ⟨_, (Patched.const [op]).seq rfl (.slot base lp ⟨p, k, t, p + 1, false⟩ (V := i16b I16MAX) rfl), fun _ h => ?_⟩
    obtain ⟨_, _, ⟨⟩, hv, rfl⟩ := finSeq_some h
    obtain ⟨tp, hl', hf, rfl⟩ := patchVal_narrow rfl hv
    exact .short hs hl' hf

theorem encIf_fin {lp lbl : Nat → Option Nat} {c : Cond} {p k t : Nat} {isWide : Bool} {r : Bytes × List Unwritten}
    (hok : LabelsOk lbl lp) (henc : encIf c isWide lbl p k t = .ok r) (base : Nat) :
    ∃ F, Patched base lp p r F ∧ ∀ fin, F = some fin → Fin isWide lp p (.ifc c t) fin := by
  revert henc
  fun_cases encIf c isWide lbl p k t <;> intro henc <;> cases henc
  · exact ⟨_, .const _, fun _ h => by cases h; exact .short rfl (hok.sub _ _ ‹_›) ‹_›⟩
  · exact ⟨_, .const _, fun _ h => by
      cases h; exact .tramp (hok.sub _ _ ‹_›) (by omega) (.inr (Bool.eq_false_iff.mpr ‹¬ fitsI16 _ = true›))⟩
  · refine ⟨_, (Patched.const (c.opposite.opcode :: (i16b 8 ++ [GOTO_W]))).seq rfl
      (.slot base lp ⟨p + 3, k, t, p + 4, true⟩ (V := i32b I32MAX) rfl), fun _ h => ?_⟩
    obtain ⟨_, _, ⟨⟩, hv, rfl⟩ := finSeq_some h
    rw [patchVal_wide lp rfl] at hv
    obtain ⟨tp, hl, rfl⟩ := Option.map_eq_some_iff.mp hv
    exact .tramp hl (by omega) (.inl ‹_›)
  · refine ⟨_, (Patched.const [c.opcode]).seq rfl (.slot base lp ⟨p, k, t, p + 1, false⟩ (V := i16b I16MAX) rfl), fun _ h => ?_⟩
    obtain ⟨_, _, ⟨⟩, hv, rfl⟩ := finSeq_some h
    obtain ⟨tp, hl, hf, rfl⟩ := patchVal_narrow rfl hv
    exact .short rfl hl hf

theorem encInsn_fin {lp lbl : Nat → Option Nat} {p k : Nat} {i : Insn} {isWide : Bool}
    {r : Bytes × List Unwritten} (hok : LabelsOk lbl lp) (henc : encInsn isWide lbl p k i = .ok r) (base : Nat) :
    ∃ F, Patched base lp p r F ∧ ∀ fin, F = some fin → Fin isWide lp p i fin := by
  have plainCase : plainInsn i = true → ∃ F, Patched base lp p r F ∧ ∀ fin, F = some fin → Fin isWide lp p i fin := by
    intro hnl
    obtain ⟨bs, us⟩ := r
    cases plain_unw hnl henc
    exact ⟨_, .const bs, fun _ h => by cases h; exact .plain hnl henc⟩
  cases i with
  | ifc c t => exact encIf_fin hok henc base
  | goto t => exact encGoto_fin rfl rfl hok henc base
  | jsr t => exact encGoto_fin rfl rfl hok henc base
  | tableswitch d lo hi tb =>
    obtain ⟨hle, hlen, rfl⟩ := encTableSwitch_ok henc
    obtain ⟨G, hP, hG⟩ := switch_patched hok (p := p) (d := d) (k := k) (hd := 0xaa :: List.replicate (padLen p) 0)
      (mid := i32b lo ++ i32b hi) (wp := p + 1 + padLen p) (by simp; omega)
      (swTable_patched hok base p k tb (p + 1 + padLen p + 12))
    refine ⟨G, by simpa only [List.append_assoc] using hP, fun fin h => ?_⟩
    obtain ⟨dtp, b, hld, hft, rfl⟩ := hG fin h
    exact .table hle hlen hld hft
  | lookupswitch d ps =>
    cases encLookupSwitch_ok henc
    obtain ⟨G, hP, hG⟩ := switch_patched hok (p := p) (d := d) (k := k) (hd := 0xab :: List.replicate (padLen p) 0)
      (mid := i32b ps.length) (wp := p + 1 + padLen p) (by simp; omega)
      (swPairs_patched hok base p k ps (p + 1 + padLen p + 8))
    refine ⟨G, by simpa only [List.append_assoc] using hP, fun fin h => ?_⟩
    obtain ⟨dtp, b, hld, hft, rfl⟩ := hG fin h
    exact .lookup hld hft
  | _ => exact plainCase rfl

theorem Fin.decoded {lp : Nat → Option Nat} {p : Nat} {i : Insn} {isWide : Bool} {fin : Bytes}
    (h : Fin isWide lp p i fin) (hp : p ≤ 65535) (hb : ∀ t x, lp t = some x → x ≤ 65535) (hwt : wt i = true)
    (hfl : fin.length ≤ 65535) : Decoded lp p i fin := by
  cases h with
  | plain hnl henc => exact plain_decoded lp hwt hnl henc
  | @short i op t tp hs hl hf =>
    cases i <;> cases hs
    · exact narrow_decoded (decodeOne_if _ p) (by simp [denote1, lands_self hl]) hf
    · exact narrow_decoded (decodeOne_goto p) (by simp [denote1, lands_self hl]) hf
    · exact narrow_decoded (decodeOne_jsr p) (by simp [denote1, lands_self hl]) hf
  | @long i wop t tp hw hl _ =>
    cases i <;> cases hw
    · exact wide_decoded (decodeOne_goto_w p) (by simp [denote1, lands_self hl]) hp (hb _ _ hl)
    · exact wide_decoded (decodeOne_jsr_w p) (by simp [denote1, lands_self hl]) hp (hb _ _ hl)
  | tramp hl hp3 _ => exact if_tramp_decoded hl hp3 (hb _ _ hl)
  | @table d lo hi tb dtp b hle hlen hld hft =>
    simp only [wt, Bool.and_eq_true, decide_eq_true_eq] at hwt
    obtain ⟨⟨⟨hlo1, hlo2⟩, hhi1⟩, hhi2⟩ := hwt
    have hdr := offs_range hp (hb _ _ hld)
    have hn : (hi - lo + 1).toNat = tb.length := by omega
    obtain ⟨hbl, os, hos, hro, hla⟩ := readOffsets_finTable hp hb tb b hft
    refine .single (.tableswitch (dtp : Int) lo hi os) (by simp) (fun rest => ?_) ?_
    · have hd := decodeOne_tableswitch p (List.replicate (padLen p) 0) (by simp [padLen_eq_switchPad])
      simp only [i32b_eq, List.cons_append, List.nil_append, List.append_assoc] at hd ⊢
      rw [hd]
      simp only [s32_digits _ hlo1 hlo2, s32_digits _ hhi1 hhi2, s32_digits _ hdr.1 hdr.2, hle, if_true, hn, hro rest,
        offs_add]
      simp only [List.length_cons, List.length_append, List.length_replicate, hbl, hos, padLen_eq_switchPad]
      exact congrArg (fun n => some (_, n)) (by omega)
    · simp [denote1, lands_self hld, hla]
  | @lookup d ps dtp b hld hft =>
    simp only [wt] at hwt
    have hdr := offs_range hp (hb _ _ hld)
    obtain ⟨hbl, os, hos, hro, hla⟩ := readPairs_finPairs hp hb ps hwt b hft
    have hnb : ps.length ≤ 65535 := by
      simp only [List.length_append, hbl] at hfl
      omega
    refine .single (.lookupswitch (dtp : Int) os) (by simp) (fun rest => ?_) ?_
    · have hd := decodeOne_lookupswitch p (List.replicate (padLen p) 0) (by simp [padLen_eq_switchPad])
      simp only [i32b_eq, List.cons_append, List.nil_append, List.append_assoc] at hd ⊢
      rw [hd]
      simp only [s32_digits (ps.length : Int) (by omega) (by omega), s32_digits _ hdr.1 hdr.2,
        (by omega : (0 : Int) ≤ ps.length), if_true, Int.toNat_natCast, hro rest, offs_add]
      simp only [List.length_cons, List.length_append, List.length_replicate, hbl, hos, padLen_eq_switchPad]
      exact congrArg (fun n => some (_, n)) (by omega)
    · simp [denote1, lands_self hld, hla]

end CodeWrite
