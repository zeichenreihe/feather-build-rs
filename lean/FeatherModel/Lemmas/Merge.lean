import FeatherModel.Lemmas.MergeZip

/-!
# Merging two mapping sets (C09): nodes and paths
What a successful merge of one node consists of (all parts or nothing), failure of a node = conflict, how the entry of
the result at a path relates to the entries of the inputs at that path (`Joined`), and what every node merge does with
the name rows, compared parts and comments of the two sides (`NodeMerge`; `Joined.side` reads them by side).
-/

namespace Merge
open AList
variable {K V α β γ : Type}

theorem mkNames_eq_some {x r : Names} (h : mkNames x = some r) : r = x := by
  unfold mkNames at h
  split at h <;> cases h
  rfl

theorem mergeNames_spec {c : Comb Names} {r : Names} (h : mergeNames c = some r) :
    r = joinRow c.left c.right ∧ ∀ j x, c.side j = some x → projRow 0 (j.toNat + 1) r = x := by
  unfold mergeNames at h
  split at h
  · cases mkNames_eq_some h
    exact ⟨rfl, fun j x hx => by cases j <;> cases hx <;> rfl⟩
  · cases mkNames_eq_some h
    exact ⟨rfl, fun j x hx => by cases j <;> cases hx <;> rfl⟩
  · split at h
    · cases h
    · rename_i hne
      cases mkNames_eq_some h
      obtain rfl : _ = _ := by simpa using hne
      exact ⟨rfl, fun j x hx => by cases j <;> cases hx <;> rfl⟩
  · cases h

theorem mkNames_of_ok {r : Names} (h : some [] ∉ r) : mkNames r = some r := by
  unfold mkNames namesOk
  rw [if_pos]
  simp only [Bool.not_eq_true', List.any_eq_false, beq_iff_eq]
  exact fun x hx e => h (e ▸ hx)

theorem ShapeNames.eq_pair {r : Names} (h : ShapeNames r) : ∃ a0 a1, r = [a0, a1] ∧ some [] ≠ a0 ∧ some [] ≠ a1 := by
  obtain ⟨hl, he⟩ := h
  match r, hl with
  | [a0, a1], _ =>
    exact ⟨a0, a1, rfl, fun e => he (e ▸ List.mem_cons_self), fun e => he (e ▸ List.mem_cons_of_mem _ List.mem_cons_self)⟩

theorem mergeNames_none_iff {c : Comb Names} (hs : Comb.All ShapeNames c) :
    mergeNames c = none ↔ combBad srcConflict c = true := by
  cases c with
  | a n =>
    obtain ⟨a0, a1, rfl, h0, h1⟩ := hs.eq_pair
    show mkNames [a0, a1, none] = none ↔ false = true
    rw [mkNames_of_ok (by simp [h0, h1])]
    exact ⟨nofun, nofun⟩
  | b n =>
    obtain ⟨b0, b1, rfl, h0, h1⟩ := hs.eq_pair
    show mkNames [b0, none, b1] = none ↔ false = true
    rw [mkNames_of_ok (by simp [h0, h1])]
    exact ⟨nofun, nofun⟩
  | ab n n' =>
    obtain ⟨a0, a1, rfl, h0, h1⟩ := hs.1.eq_pair
    obtain ⟨b0, b1, rfl, _, h1'⟩ := hs.2.eq_pair
    show (if (a0 != b0) = true then none else mkNames [a0, a1, b1]) = none ↔ (some a0 != some b0) = true
    rw [mkNames_of_ok (by simp [h0, h1, h1'])]
    by_cases h : a0 = b0 <;> simp [h]

theorem mergeDoc_spec {c : Comb (Option JStr)} {d : Option JStr} (h : mergeDoc c = some d) :
    d = joinDoc c.left.join c.right.join ∧ ∀ j x, c.side j = some (some x) → d = some x := by
  unfold mergeDoc at h
  split at h
  · cases h
    exact ⟨by cases d <;> rfl, fun j x hx => by cases j <;> cases hx <;> rfl⟩
  · cases h
    exact ⟨rfl, fun j x hx => by cases j <;> cases hx <;> rfl⟩
  · cases h
    exact ⟨rfl, fun j x hx => by cases j <;> cases hx⟩
  · cases h
    exact ⟨rfl, fun j x hx => by cases j <;> cases hx <;> rfl⟩
  · cases h
    exact ⟨rfl, fun j x hx => by cases j <;> cases hx <;> rfl⟩
  · split at h <;> cases h
    rename_i hab
    cases eq_of_beq hab
    exact ⟨rfl, fun j x hx => by cases j <;> cases hx <;> rfl⟩

theorem mergeDoc_none_iff {c : Comb (Option JStr)} : mergeDoc c = none ↔ combBad docConflict c = true := by
  cases c with
  | a x => simp [mergeDoc, combBad]
  | b y => simp [mergeDoc, combBad]
  | ab x y => cases x <;> cases y <;> simp [mergeDoc, combBad, docConflict]

theorem mergeEq_spec [BEq α] [LawfulBEq α] {c : Comb α} {v : α} (h : mergeEq c = some v) (j : Bool) {x : α}
    (hx : c.side j = some x) : v = x := by
  cases c with
  | a y | b y =>
    cases h
    cases j <;> cases hx <;> rfl
  | ab y z =>
    simp [mergeEq] at h
    obtain ⟨rfl, rfl⟩ := h
    cases j <;> cases hx <;> rfl

theorem mergeEq_none_iff [BEq α] [LawfulBEq α] {c : Comb α} :
    mergeEq c = none ↔ combBad (fun x y => x != y) c = true := by
  cases c <;> simp [mergeEq, combBad]

theorem Comb.All_map {P : β → Prop} {g : α → β} {c : Comb α} (h : Comb.All (fun x => P (g x)) c) :
    Comb.All P (c.map g) := by
  cases c <;> exact h

theorem Comb.All.imp {P Q : α → Prop} (h : ∀ x, P x → Q x) {c : Comb α} (hc : Comb.All P c) : Comb.All Q c := by
  cases c with
  | a x => exact h x hc
  | b y => exact h y hc
  | ab x y => exact ⟨h x hc.1, h y hc.2⟩

theorem mergeMethod_inv {c : Comb Method} {r : Method} (h : mergeMethod c = some r) :
    mergeEq (c.map (·.desc)) = some r.desc ∧ mergeNames (c.map (·.names)) = some r.names ∧
      zipComb (c.map (·.params)) mergeParam = some r.params ∧ mergeDoc (c.map (·.doc)) = some r.doc := by
  unfold mergeMethod at h
  split at h <;> cases h
  simp only [*, and_self]

theorem mergeClass_inv {c : Comb Class} {r : Class} (h : mergeClass c = some r) :
    mergeNames (c.map (·.names)) = some r.names ∧ zipComb (c.map (·.fields)) mergeField = some r.fields ∧
      zipComb (c.map (·.methods)) mergeMethod = some r.methods ∧ mergeDoc (c.map (·.doc)) = some r.doc := by
  unfold mergeClass at h
  split at h <;> cases h
  simp only [*, and_self]

theorem merge_inv {A B R : Mappings} (h : merge A B = some R) :
    mergeNamespaces A.ns B.ns = some R.ns ∧ zipMap A.classes B.classes mergeClass = some R.classes ∧
      mergeDoc (.ab A.doc B.doc) = some R.doc := by
  unfold merge at h
  split at h <;> cases h
  simp only [*, and_self]

theorem mergeNamespaces_spec {a b r : List JStr} (h : mergeNamespaces a b = some r) :
    ∃ s x y, a = [s, x] ∧ b = [s, y] ∧ r = [s, x, y] := by
  unfold mergeNamespaces at h
  split at h
  · rename_i a0 a1 b0 b1
    split at h
    · cases h
    · split at h
      · cases h
      · rename_i hne _
        cases h
        cases (by simpa using hne : a0 = b0)
        exact ⟨a0, a1, b1, rfl, rfl, rfl⟩
  · cases h

/-! The shape predicates, read by part: what `mergeNames` needs of a row, and what `zipComb_none_iff` needs of a child map
(unique keys, every entry in shape). -/

theorem ShapeMethod.names {m : Method} (h : ShapeMethod m) : ShapeNames m.names := h.1
theorem ShapeMethod.params {m : Method} (h : ShapeMethod m) :
    NoDupKeys m.params ∧ ∀ e ∈ m.params, ShapeNames e.2.names := h.2
theorem ShapeClass.names {c : Class} (h : ShapeClass c) : ShapeNames c.names := h.1
theorem ShapeClass.fields {c : Class} (h : ShapeClass c) :
    NoDupKeys c.fields ∧ ∀ e ∈ c.fields, ShapeNames e.2.names := ⟨h.2.1, h.2.2.1⟩
theorem ShapeClass.methods {c : Class} (h : ShapeClass c) :
    NoDupKeys c.methods ∧ ∀ e ∈ c.methods, ShapeMethod e.2 := h.2.2.2
theorem Shape.ns {M : Mappings} (h : Shape M) : M.ns.length = 2 ∧ [] ∉ M.ns := ⟨h.1, h.2.1⟩
theorem Shape.classes {M : Mappings} (h : Shape M) :
    NoDupKeys M.classes ∧ ∀ e ∈ M.classes, ShapeClass e.2 := h.2.2

/-- A node merge is a simultaneous `match` on its part merges that succeeds only when all of them do: it fails iff a part
fails. Each `mergeX` is such a `match` by unfolding (`smartUnfolding false`, see `Lemmas/Ladder.lean`). -/
theorem match3_eq_none {δ : Type} {a : Option α} {b : Option β} {c : Option γ} {f : α → β → γ → δ} :
    (match a, b, c with
      | some x, some y, some z => some (f x y z)
      | _, _, _ => none) = none ↔ (a = none ∨ b = none) ∨ c = none := by
  cases a with
  | none => simp
  | some x =>
  cases b with
  | none => simp
  | some y => cases c <;> simp

theorem match4_eq_none {δ ε : Type} {a : Option α} {b : Option β} {c : Option γ} {d : Option δ} {f : α → β → γ → δ → ε} :
    (match a, b, c, d with
      | some x, some y, some z, some w => some (f x y z w)
      | _, _, _, _ => none) = none ↔ ((a = none ∨ b = none) ∨ c = none) ∨ d = none := by
  cases a with
  | none => simp
  | some x =>
  cases b with
  | none => simp
  | some y =>
  cases c with
  | none => simp
  | some z => cases d <;> simp

theorem mergeParam_none_iff {c : Comb Param} (hs : Comb.All (fun p => ShapeNames p.names) c) :
    mergeParam c = none ↔ combBad paramConflict c = true := by
  have : combBad paramConflict c = (combBad (fun x y => x != y) (c.map (·.index)) ||
      combBad srcConflict (c.map (·.names)) || combBad docConflict (c.map (·.doc))) := by
    cases c <;> rfl
  rw [this, Bool.or_eq_true, Bool.or_eq_true, ← mergeEq_none_iff, ← mergeNames_none_iff (Comb.All_map hs),
    ← mergeDoc_none_iff]
  set_option smartUnfolding false in exact match3_eq_none

theorem mergeField_none_iff {c : Comb Field} (hs : Comb.All (fun p => ShapeNames p.names) c) :
    mergeField c = none ↔ combBad fieldConflict c = true := by
  have : combBad fieldConflict c = (combBad (fun x y => x != y) (c.map (·.desc)) ||
      combBad srcConflict (c.map (·.names)) || combBad docConflict (c.map (·.doc))) := by
    cases c <;> rfl
  rw [this, Bool.or_eq_true, Bool.or_eq_true, ← mergeEq_none_iff, ← mergeNames_none_iff (Comb.All_map hs),
    ← mergeDoc_none_iff]
  set_option smartUnfolding false in exact match3_eq_none

theorem mergeMethod_none_iff {c : Comb Method} (hs : Comb.All ShapeMethod c) :
    mergeMethod c = none ↔ combBad methodConflict c = true := by
  have : combBad methodConflict c = (combBad (fun x y => x != y) (c.map (·.desc)) ||
      combBad srcConflict (c.map (·.names)) ||
      combBad (fun m n => anyShared m n paramConflict) (c.map (·.params)) ||
      combBad docConflict (c.map (·.doc))) := by
    cases c <;> rfl
  rw [this, Bool.or_eq_true, Bool.or_eq_true, Bool.or_eq_true, ← mergeEq_none_iff,
    ← mergeNames_none_iff (Comb.All_map (hs.imp fun _ h => h.names)),
    ← zipComb_none_iff (fun _ hc => mergeParam_none_iff hc) (Comb.All_map (hs.imp fun _ h => h.params)), ← mergeDoc_none_iff]
  set_option smartUnfolding false in exact match4_eq_none

theorem mergeClass_none_iff {c : Comb Class} (hs : Comb.All ShapeClass c) :
    mergeClass c = none ↔ combBad classConflict c = true := by
  have : combBad classConflict c = (combBad srcConflict (c.map (·.names)) ||
      combBad (fun m n => anyShared m n fieldConflict) (c.map (·.fields)) ||
      combBad (fun m n => anyShared m n methodConflict) (c.map (·.methods)) ||
      combBad docConflict (c.map (·.doc))) := by
    cases c <;> rfl
  rw [this, Bool.or_eq_true, Bool.or_eq_true, Bool.or_eq_true,
    ← mergeNames_none_iff (Comb.All_map (hs.imp fun _ h => h.names)),
    ← zipComb_none_iff (fun _ hc => mergeField_none_iff hc) (Comb.All_map (hs.imp fun _ h => h.fields)),
    ← zipComb_none_iff (fun _ hc => mergeMethod_none_iff hc) (Comb.All_map (hs.imp fun _ h => h.methods)),
    ← mergeDoc_none_iff]
  set_option smartUnfolding false in exact match4_eq_none

theorem mergeNamespaces_none_iff {a b : List JStr} (ha : a.length = 2 ∧ [] ∉ a) (hb : b.length = 2 ∧ [] ∉ b) :
    mergeNamespaces a b = none ↔ (a[0]? != b[0]?) = true := by
  obtain ⟨hl, he⟩ := ha
  obtain ⟨hl', he'⟩ := hb
  rcases a with _ | ⟨a0, _ | ⟨a1, _ | ⟨a2, t⟩⟩⟩ <;> simp at hl
  rcases b with _ | ⟨b0, _ | ⟨b1, _ | ⟨b2, t'⟩⟩⟩ <;> simp at hl'
  simp at he he'
  simp [mergeNamespaces, he.1, he.2, he'.2]

namespace Joined
variable {f : Comb α → Option β} {oa ob : Option α} {or : Option β}

theorem inv (hj : Joined f oa ob or) {r : β} (hr : or = some r) : ∃ c, c.left = oa ∧ c.right = ob ∧ f c = some r := by
  cases hj with
  | neither => cases hr
  | of hf =>
    cases hr
    exact ⟨_, rfl, rfl, hf⟩

theorem isSome_iff (hj : Joined f oa ob or) : or.isSome = true ↔ oa.isSome = true ∨ ob.isSome = true := by
  cases hj with
  | neither => simp
  | @of c _ _ => cases c <;> simp [Comb.left, Comb.right]

/-- from a node to its children under a key: the child maps of the merged node are the zip of the child maps -/
theorem child [BEq K] [LawfulBEq K] {γ δ : Type} {fY : Comb γ → Option δ} {g : α → AList K γ} {gR : β → AList K δ}
    (hz : ∀ c r, f c = some r → zipComb (c.map g) fY = some (gR r)) (hj : Joined f oa ob or) (k : K) :
    Joined fY (oa.bind (fun x => lookup k (g x))) (ob.bind (fun x => lookup k (g x)))
      (or.bind (fun x => lookup k (gR x))) := by
  cases hj with
  | neither => exact .neither
  | of hf =>
    have := zipComb_at (hz _ _ hf) k
    rwa [Comb.left_map, Comb.right_map, Option.bind_map, Option.bind_map] at this

end Joined

section
variable {A B R : Mappings} (h : merge A B = some R) (kc : JStr) (km : MemberKey)
include h

theorem merge_cls :
    Joined mergeClass (cls A kc) (cls B kc) (cls R kc) :=
  zipComb_at (ab := .ab A.classes B.classes) (merge_inv h).2.1 kc

theorem merge_fld (kf : MemberKey) :
    Joined mergeField (fld A kc kf) (fld B kc kf) (fld R kc kf) :=
  Joined.child (g := (·.fields)) (gR := (·.fields)) (fun _ _ hc => (mergeClass_inv hc).2.1) (merge_cls h kc) kf

theorem merge_mth :
    Joined mergeMethod (mth A kc km) (mth B kc km) (mth R kc km) :=
  Joined.child (g := (·.methods)) (gR := (·.methods)) (fun _ _ hc => (mergeClass_inv hc).2.2.1) (merge_cls h kc) km

theorem merge_prm (kp : Nat) :
    Joined mergeParam (prm A kc km kp) (prm B kc km kp) (prm R kc km kp) :=
  Joined.child (g := (·.params)) (gR := (·.params)) (fun _ _ hc => (mergeMethod_inv hc).2.2.1) (merge_mth h kc km) kp

end

/-- what every node merge does with the name rows, the comments and the part `g` that `merge_equal` compares (descriptor,
parameter index; a class has none: `Unit`) of the two sides -/
structure NodeMerge [BEq γ] (f : Comb α → Option α) (n : α → Names) (g : α → γ) (d : α → Option JStr) : Prop where
  names : ∀ {c r}, f c = some r → mergeNames (c.map n) = some (n r)
  key : ∀ {c r}, f c = some r → mergeEq (c.map g) = some (g r)
  doc : ∀ {c r}, f c = some r → mergeDoc (c.map d) = some (d r)

theorem nodeClass : NodeMerge mergeClass (·.names) (fun _ => ()) (·.doc) :=
  ⟨fun h => (mergeClass_inv h).1, fun {c _} _ => by cases c <;> rfl, fun h => (mergeClass_inv h).2.2.2⟩
theorem nodeField : NodeMerge mergeField (·.names) (·.desc) (·.doc) := by
  refine ⟨fun h => ?_, fun h => ?_, fun h => ?_⟩ <;>
  · unfold mergeField at h
    split at h <;> cases h
    assumption
theorem nodeMethod : NodeMerge mergeMethod (·.names) (·.desc) (·.doc) :=
  ⟨fun h => (mergeMethod_inv h).2.1, fun h => (mergeMethod_inv h).1, fun h => (mergeMethod_inv h).2.2.2⟩
theorem nodeParam : NodeMerge mergeParam (·.names) (·.index) (·.doc) := by
  refine ⟨fun h => ?_, fun h => ?_, fun h => ?_⟩ <;>
  · unfold mergeParam at h
    split at h <;> cases h
    assumption

namespace Joined
variable [BEq γ] {f : Comb α → Option α} {n : α → Names} {g : α → γ} {d : α → Option JStr}
  {oa ob or : Option α} (hn : NodeMerge f n g d) (hj : Joined f oa ob or)
include hn hj

theorem row_doc {r : α} (hr : or = some r) :
    n r = joinRow (oa.map n) (ob.map n) ∧ d r = joinDoc (oa.bind d) (ob.bind d) := by
  obtain ⟨c, rfl, rfl, hf⟩ := hj.inv hr
  have h1 := (mergeNames_spec (hn.names hf)).1
  have h2 := (mergeDoc_spec (hn.doc hf)).1
  rw [Comb.left_map, Comb.right_map] at h1 h2
  exact ⟨h1, h2.trans (by cases c.left <;> cases c.right <;> rfl)⟩

variable [LawfulBEq γ]

/-- an entry of side `j` (A: `false`, column 1; B: `true`, column 2) is found in the result with the side's row in
columns 0 and 1 or 2, the side's `g` part, and the side's comment if it has one -/
theorem side (j : Bool) {a : α} (ha : (bif j then ob else oa) = some a) :
    ∃ r, or = some r ∧ projRow 0 (j.toNat + 1) (n r) = n a ∧ g r = g a ∧ ∀ x, d a = some x → d r = some x := by
  cases hj with
  | neither => cases j <;> cases ha
  | @of c r hf =>
    have hc {δ : Type} (k : α → δ) : (c.map k).side j = some (k a) :=
      (Comb.side_map k j c).trans (congrArg (Option.map k) ha)
    exact ⟨r, rfl, (mergeNames_spec (hn.names hf)).2 j _ (hc n), mergeEq_spec (hn.key hf) j (hc g),
      fun x hx => (mergeDoc_spec (hn.doc hf)).2 j x (hx ▸ hc d)⟩

theorem clash {a b : α} (ha : oa = some a) (hb : ob = some b) :
    (n a)[0]? = (n b)[0]? ∧ docConflict (d a) (d b) = false := by
  obtain ⟨r, hr, hna, _, hda⟩ := side hn hj false ha
  obtain ⟨r', hr', hnb, _, hdb⟩ := side hn hj true hb
  cases hr.symm.trans hr'
  refine ⟨by rw [← hna, ← hnb]; simp [projRow], ?_⟩
  cases hx : d a with
  | none => rfl
  | some x =>
    cases hy : d b with
    | none => rfl
    | some y => simp only [docConflict, Option.some.inj ((hda x hx).symm.trans (hdb y hy)), bne_self_eq_false]

end Joined

section
variable (i j : Nat) (R : Mappings) (kc : JStr) (km : MemberKey)

theorem cls_project : cls (project i j R) kc = (cls R kc).map (projClass i j) := lookup_mapVals _ _ _

theorem project_child {X Y : Type} [BEq K] (o : Option X) {px : X → X} {py : Y → Y} (g : X → AList K Y) (k : K)
    (h : ∀ x, g (px x) = mapVals py (g x)) :
    (o.map px).bind (fun x => lookup k (g x)) = (o.bind fun x => lookup k (g x)).map py := by
  cases o with
  | none => rfl
  | some x => simp only [Option.map_some, Option.bind_some, h, lookup_mapVals]

theorem fld_project (kf : MemberKey) : fld (project i j R) kc kf = (fld R kc kf).map (projField i j) := by
  rw [fld, cls_project]
  exact project_child _ Class.fields kf fun _ => rfl

theorem mth_project : mth (project i j R) kc km = (mth R kc km).map (projMethod i j) := by
  rw [mth, cls_project]
  exact project_child _ Class.methods km fun _ => rfl

theorem prm_project (kp : Nat) : prm (project i j R) kc km kp = (prm R kc km kp).map (projParam i j) := by
  rw [prm, mth_project]
  exact project_child _ Method.params kp fun _ => rfl

end

section
variable {M : Mappings} {kc : JStr} {km : MemberKey}

theorem fld_eq_some {kf : MemberKey} {x : Field} :
    fld M kc kf = some x ↔ ∃ c, cls M kc = some c ∧ lookup kf c.fields = some x := Option.bind_eq_some_iff

theorem mth_eq_some {x : Method} :
    mth M kc km = some x ↔ ∃ c, cls M kc = some c ∧ lookup km c.methods = some x := Option.bind_eq_some_iff

theorem prm_eq_some {kp : Nat} {x : Param} :
    prm M kc km kp = some x ↔ ∃ m, mth M kc km = some m ∧ lookup kp m.params = some x := Option.bind_eq_some_iff

end

namespace KeysConsistent
variable {M : Mappings} {kc : JStr} {km : MemberKey}

theorem atCls (k : KeysConsistent M) {c : Class} (h : cls M kc = some c) : c.names[0]? = some (some kc) :=
  (k _ (lookup_mem h)).1

theorem atFld (k : KeysConsistent M) {kf : MemberKey} {x : Field} (h : fld M kc kf = some x) :
    x.names[0]? = some (some kf.1) ∧ x.desc = kf.2 :=
  let ⟨_, hc, hx⟩ := fld_eq_some.mp h
  (k _ (lookup_mem hc)).2.1 (kf, x) (lookup_mem hx)

theorem atMth (k : KeysConsistent M) {x : Method} (h : mth M kc km = some x) :
    x.names[0]? = some (some km.1) ∧ x.desc = km.2 ∧ ∀ p ∈ x.params, p.2.index = p.1 :=
  let ⟨_, hc, hx⟩ := mth_eq_some.mp h
  (k _ (lookup_mem hc)).2.2 (km, x) (lookup_mem hx)

theorem atPrm (k : KeysConsistent M) {kp : Nat} {x : Param} (h : prm M kc km kp = some x) : x.index = kp :=
  let ⟨_, hm, hx⟩ := prm_eq_some.mp h
  (k.atMth hm).2.2 (kp, x) (lookup_mem hx)

end KeysConsistent

theorem srcConflict_of_key {x y : Names} {k : JStr} (hx : x[0]? = some (some k)) (hy : y[0]? = some (some k)) :
    srcConflict x y = false := by
  unfold srcConflict
  rw [hx, hy]
  exact bne_self_eq_false _

/-- between key-consistent inputs of the right shape the executable conflict predicate reduces to `Conflict`: entries that
meet under one key agree on what the key is made of (first name, descriptor, parameter index) -/
theorem conflict_imp_Conflict {A B : Mappings} (hA : Shape A) (kA : KeysConsistent A) (kB : KeysConsistent B)
    (h : conflict A B = true) : Conflict A B := by
  unfold conflict at h
  rw [Bool.or_eq_true, Bool.or_eq_true] at h
  rcases h with (h | h) | h
  · exact .inl (bne_iff_ne.mp h)
  · obtain ⟨kc, a, b, ha, hb, hc⟩ := (anyShared_iff hA.classes.1).mp h
    have hSa := hA.classes.2 _ (lookup_mem ha)
    rw [classConflict, srcConflict_of_key (kA.atCls ha) (kB.atCls hb), Bool.false_or, Bool.or_eq_true, Bool.or_eq_true] at hc
    rcases hc with (hc | hc) | hc
    · obtain ⟨kf, x, y, hx, hy, hxy⟩ := (anyShared_iff hSa.fields.1).mp hc
      have hx := fld_eq_some.mpr ⟨a, ha, hx⟩
      have hy := fld_eq_some.mpr ⟨b, hb, hy⟩
      rw [fieldConflict, (kA.atFld hx).2, (kB.atFld hy).2, bne_self_eq_false, srcConflict_of_key (kA.atFld hx).1 (kB.atFld hy).1] at hxy
      exact .inr (.inr (.inr (.inl ⟨kc, kf, x, y, hx, hy, hxy⟩)))
    · obtain ⟨km, x, y, hx, hy, hxy⟩ := (anyShared_iff hSa.methods.1).mp hc
      have hSx := hSa.methods.2 _ (lookup_mem hx)
      have hx := mth_eq_some.mpr ⟨a, ha, hx⟩
      have hy := mth_eq_some.mpr ⟨b, hb, hy⟩
      rw [methodConflict, (kA.atMth hx).2.1, (kB.atMth hy).2.1, bne_self_eq_false,
        srcConflict_of_key (kA.atMth hx).1 (kB.atMth hy).1, Bool.false_or, Bool.false_or, Bool.or_eq_true] at hxy
      rcases hxy with hxy | hxy
      · obtain ⟨kp, p, q, hp, hq, hpq⟩ := (anyShared_iff hSx.params.1).mp hxy
        have hp := prm_eq_some.mpr ⟨x, hx, hp⟩
        have hq := prm_eq_some.mpr ⟨y, hy, hq⟩
        rw [paramConflict, kA.atPrm hp, kB.atPrm hq, bne_self_eq_false, Bool.false_or, Bool.or_eq_true] at hpq
        exact .inr (.inr (.inr (.inr (.inr ⟨kc, km, kp, p, q, hp, hq, hpq.imp (fun h => bne_iff_ne.mp h) id⟩))))
      · exact .inr (.inr (.inr (.inr (.inl ⟨kc, km, x, y, hx, hy, hxy⟩))))
    · exact .inr (.inr (.inl ⟨kc, a, b, ha, hb, hc⟩))
  · exact .inr (.inl h)

end Merge
