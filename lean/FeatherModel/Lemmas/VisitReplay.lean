import FeatherModel.Lemmas.VisitBuild
import FeatherModel.Lemmas.VisitAccept

/-!
# C17 lemmas — replaying a tree into the tree builder reproduces it (objects and the whole class)

Every lemma says what a block of the replay does to the builder whatever follows it: `run S (block ++ rest) = run S' rest`,
so that a replay is run by rewriting block after block. The builder states are written out: a replay only meets states
in which exactly the objects around the event are open.
-/

namespace Visit

theorem run_nil (st : BSt) : run st [] = some st := rfl

/-- attribute events reach the slots of the open object only: `S s` is the builder state in which that object has the
slots `s` (for the five kinds of object the hypothesis is the object's arm of `step`, by `rfl`) -/
theorem run_items {ord : List K} {mk : Bool → K → Pay → Ev} (S : Slots → BSt)
    (hstep : ∀ s it, step (S s) (toEv mk it) = (s.add ord it.1 it.2.1 it.2.2).bind fun s' => some (S s'))
    (s : Slots) (items : List Item) (rest : List Ev) :
    run (S s) (items.map (toEv mk) ++ rest) = (addItems ord s items).bind fun s' => run (S s') rest := by
  induction items generalizing s with
  | nil => rfl
  | cons it its ih =>
    rw [List.map_cons, List.cons_append, isRun.cons, addItems_cons, hstep]
    cases s.add ord it.1 it.2.1 it.2.2 with
    | none => rfl
    | some s1 => exact ih s1

theorem run_attrs {ord : List K} {mk : Bool → K → Pay → Ev} (S : Slots → BSt)
    (hstep : ∀ s it, step (S s) (toEv mk it) = (s.add ord it.1 it.2.1 it.2.2).bind fun s' => some (S s'))
    (hnd : ord.Nodup) {s : Slots} (hs : s.ShapedFor ord) (rest : List Ev) :
    run (S {}) (emitKinds allMask ord mk s ++ (emitUnknown allMask mk s ++ rest)) = run (S s) rest := by
  rw [← List.append_assoc, emitKinds, emitUnknown, ← List.map_append, run_items S hstep, addItems_rebuild hnd hs]
  rfl

theorem run_seqEv {α : Type} {f : Nat → α → List Ev} {Q : α → Prop} (S : List α → BSt)
    (h : ∀ l i a rest, Q a → run (S l) (f i a ++ rest) = run (S (l ++ [a])) rest) (rest : List Ev) :
    ∀ (as l : List α) (i : Nat), (∀ a ∈ as, Q a) → run (S l) (seqEv f i as ++ rest) = run (S (l ++ as)) rest
  | [], l, _, _ => by rw [List.append_nil]; rfl
  | a :: as, l, i, hq => by
    rw [seqEv, List.append_assoc, h l i a _ (hq a List.mem_cons_self),
      run_seqEv S h rest as _ _ fun b hb => hq b (List.mem_cons_of_mem _ hb), List.append_assoc]
    rfl

theorem run_acceptRec (c : ClassTree) (r : Nat) (t : RecTree) (rest : List Ev) (hs : t.slots.ShapedFor recOrder) :
    run { cls := some c } (acceptRec full r t ++ rest) = run { cls := some { c with recs := c.recs ++ [t] } } rest := by
  simp only [acceptRec, full_recc, List.cons_append, List.append_assoc, isRun.cons, step, Option.bind]
  rw [run_attrs (fun s => { cls := some c, rc := some { h := t.h, slots := s } }) (fun _ _ => rfl) recOrder_nodup hs]
  simp only [List.nil_append, isRun.cons, step, Option.bind, bind, pure]

theorem run_acceptField (c : ClassTree) (i : Nat) (t : FieldTree) (rest : List Ev) (hs : t.slots.ShapedFor fieldOrder) :
    run { cls := some c } (acceptField full i t ++ rest) = run { cls := some { c with fields := c.fields ++ [t] } } rest := by
  simp only [acceptField, full_field, List.cons_append, List.append_assoc, isRun.cons, step, Option.bind, bind, pure]
  rw [run_attrs (fun s => { cls := some c, fld := some { h := t.h, dep := t.dep, syn := t.syn, slots := s } })
    (fun _ _ => rfl) fieldOrder_nodup hs]
  simp only [List.nil_append, isRun.cons, step, Option.bind, bind, pure]

theorem run_insns (i : Nat) (oc : Option ClassTree) (om : Option MethodTree) (rest : List Ev) :
    ∀ (l : List (Option Pay × Nat)) (k : CodeTree),
    run { cls := oc, mth := om, code := some k } (l.map (fun x => Ev.codeInsns i x.1 x.2) ++ rest) =
      run { cls := oc, mth := om, code := some { k with insns := k.insns ++ l } } rest := by
  intro l
  induction l with
  | nil => intro k; simp
  | cons x l ih =>
    intro k
    simp only [List.map_cons, List.cons_append, isRun.cons, step, bind, Option.bind, pure]
    rw [ih]
    simp

theorem run_maxs (i : Nat) (maxs : Option Nat) (oc : Option ClassTree) (om : Option MethodTree) (k : CodeTree)
    (rest : List Ev) (h0 : k.maxs = none) :
    run { cls := oc, mth := om, code := some k } (maxs.toList.map (Ev.codeMaxs i) ++ rest) =
      run { cls := oc, mth := om, code := some { k with maxs := maxs } } rest := by
  cases maxs with
  | none => cases k; cases h0; rfl
  | some h => rfl

theorem run_lines (i : Nat) (lines : Option (List Pay)) (oc : Option ClassTree) (om : Option MethodTree) (k : CodeTree)
    (rest : List Ev) (h0 : k.lines = none) :
    run { cls := oc, mth := om, code := some k } (lines.toList.map (Ev.codeLines i) ++ rest) =
      run { cls := oc, mth := om, code := some { k with lines := lines } } rest := by
  cases lines with
  | none => cases k; cases h0; rfl
  | some h => simp [isRun.cons, step, h0, bind, Option.bind, pure]

theorem run_locals (i : Nat) (locals : Option (List LvPart)) (oc : Option ClassTree) (om : Option MethodTree) (k : CodeTree)
    (rest : List Ev) (h0 : k.locals = none) :
    run { cls := oc, mth := om, code := some k } ((locals.map (acceptLocals i allMask)).getD [] ++ rest) =
      run { cls := oc, mth := om, code := some { k with locals := locals } } rest := by
  cases locals with
  | none => cases k; cases h0; rfl
  | some h => simp [acceptLocals_all, isRun.cons, step, h0, bind, Option.bind, pure]

theorem run_acceptCode (oc : Option ClassTree) (m : MethodTree) (i : Nat) (t : CodeTree) (rest : List Ev) (hmc : m.code = none)
    (hs : t.Shaped) :
    run { cls := oc, mth := some m } (acceptCode i fullMc t ++ rest) = run { cls := oc, mth := some { m with code := some t } } rest := by
  rw [acceptCode_eq]
  unfold codeBody
  simp only [show fullMc.code = true from rfl, show fullMc.codeV = some allMask from rfl, allMask_apply, if_true, Bool.or_self, List.cons_append, List.append_assoc, isRun.cons, step, Option.bind]
  rw [run_maxs i t.maxs _ _ {} _ rfl, run_insns i]
  simp only [List.nil_append, isRun.cons, step, Option.bind, bind, pure]
  rw [run_lines i t.lines _ _ _ _ rfl, run_locals i t.locals _ _ _ _ rfl,
    run_attrs (fun s => { cls := oc, mth := some m, code := some { t with slots := s } }) (fun _ _ => rfl) codeOrder_nodup hs]
  simp only [Option.bind, isRun.cons, step, hmc, bind, pure, Option.isSome_none, Bool.false_eq_true, if_false]

theorem run_acceptMethod (c : ClassTree) (i : Nat) (t : MethodTree) (rest : List Ev) (hs : t.Shaped) :
    run { cls := some c } (acceptMethod full i t ++ rest) = run { cls := some { c with methods := c.methods ++ [t] } } rest := by
  obtain ⟨th, tdep, tsyn, tslots, tcode⟩ := t
  simp only [acceptMethod, full_method, show fullMc.mask = allMask from rfl, List.cons_append, List.append_assoc, isRun.cons,
    step, Option.bind, bind, pure]
  cases tcode with
  | none =>
    simp only [List.nil_append]
    rw [run_attrs (fun s => { cls := some c, mth := some { h := th, dep := tdep, syn := tsyn, slots := s } })
      (fun _ _ => rfl) methodOrder_nodup hs.1]
    simp only [isRun.cons, step, Option.bind, bind, pure]
  | some k =>
    simp only []
    rw [run_acceptCode _ _ i k _ rfl (hs.2 k rfl),
      run_attrs (fun s => { cls := some c, mth := some { h := th, dep := tdep, syn := tsyn, slots := s, code := some k } })
        (fun _ _ => rfl) methodOrder_nodup hs.1]
    simp only [List.nil_append, isRun.cons, step, Option.bind, bind, pure]

theorem build_accept (t : ClassTree) (hs : t.Shaped) : build (accept full t) = some t := by
  obtain ⟨h1, h2, h3, h4⟩ := hs
  unfold build
  simp only [accept, full_cls, full_fieldsI, full_methodsI, allMask_apply, if_true, List.cons_append,
    List.append_assoc, acceptRecs_eq, acceptFields_eq, acceptMethods_eq, isRun.cons, step, Option.isSome_none,
    Bool.false_eq_true, if_false, Option.bind, bind, pure]
  rw [emitKinds, run_items (fun s => { cls := some { h := t.h, dep := t.dep, syn := t.syn, slots := s } }) (fun _ _ => rfl),
    addItems_kinds_shaped classOrder_nodup h1, Option.bind,
    run_seqEv (fun l => { cls := some { t with slots := { t.slots with attrs := [] }, recs := l, fields := [], methods := [] } })
      (fun _ => run_acceptRec _) _ t.recs [] 0 h2,
    emitUnknown, List.nil_append,
    run_items (fun s => { cls := some { t with slots := s, fields := [], methods := [] } }) (fun _ _ => rfl)]
  simp only [unkItems, allMask, if_true]
  rw [addItems_unknown]
  simp only [Option.bind, List.nil_append]
  rw [run_seqEv (fun l => { cls := some { t with fields := l, methods := [] } })
      (fun _ => run_acceptField _) _ t.fields [] 0 h3]
  simp only [List.nil_append]
  rw [run_seqEv (fun l => { cls := some { t with methods := l } })
      (fun _ => run_acceptMethod _) _ t.methods [] 0 h4]
  simp only [Option.bind, isRun.cons, step, run_nil, if_true, List.nil_append]

end Visit
