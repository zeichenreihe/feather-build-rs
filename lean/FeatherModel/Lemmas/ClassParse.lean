import FeatherModel.Spec.ClassParse
import FeatherModel.Lemmas.PoolWrite
import FeatherModel.Lemmas.Bytes

/-!
# The independent parser reads back what the framing model writes (every count and length field is exact)

Proof style: each parser gets a *step lemma* over variables, and a number is read back by unfolding the parser on the
written digits (`congrArg` over `Be.val16` / `Be.val32'`): a parser unfolded on a concrete byte expression, or `simp` /
`omega` on the digit arithmetic of `u32`, expands its numerals in unary. `PoolWrite.be16` / `be32` are `CodeWrite.u16b` /
`u32b` by definition, which is all `u16_be16`, `u32_be32` use.
-/

namespace ClassParse
open ClassWrite PoolWrite CodeWrite

theorem u16_u16b (n : Nat) (h : n ≤ 65535) (r : Bytes) : u16 (u16b n ++ r) = some (n, r) :=
  congrArg (fun v => some (v, r)) (Be.val16 n (Nat.lt_succ_of_le h))

theorem u16_be16 (n : Nat) (h : n ≤ 65535) (r : Bytes) : u16 (be16 n ++ r) = some (n, r) := u16_u16b n h r

theorem u32_u32b (n : Nat) (h : n ≤ 4294967295) (r : Bytes) : u32 (u32b n ++ r) = some (n, r) :=
  congrArg (fun v => some (v, r)) (Be.val32' n (Nat.lt_succ_of_le h))

theorem u32_be32 (n : Nat) (h : n ≤ 4294967295) (r : Bytes) : u32 (be32 n ++ r) = some (n, r) := u32_u32b n h r

theorem takeN_append (b r : Bytes) : takeN b.length (b ++ r) = some (b, r) := by
  simp [takeN]

theorem attrs_step {n name len : Nat} {info rest : _} {bs b1 b2 b3 b4 : Bytes}
    (h1 : u16 bs = some (name, b1)) (h2 : u32 b1 = some (len, b2)) (h3 : takeN len b2 = some (info, b3))
    (h4 : attrs n b3 = some (rest, b4)) : attrs (n + 1) bs = some ((name, info) :: rest, b4) := by
  simp only [attrs, h1, h2, h3, h4]

theorem row_step {w x : Nat} {xs : List Nat} {bs b1 b2 : Bytes}
    (h1 : u16 bs = some (x, b1)) (h2 : row w b1 = some (xs, b2)) : row (w + 1) bs = some (x :: xs, b2) := by
  simp only [row, h1, h2]

theorem rows_step {w n : Nat} {r : List Nat} {rs : List (List Nat)} {bs b1 b2 : Bytes}
    (h1 : row w bs = some (r, b1)) (h2 : rows w n b1 = some (rs, b2)) : rows w (n + 1) bs = some (r :: rs, b2) := by
  simp only [rows, h1, h2]

theorem table_step {w n : Nat} {rs : List (List Nat)} {body b1 : Bytes}
    (h1 : u16 body = some (n, b1)) (h2 : rows w n b1 = some (rs, [])) : table w body = some rs := by
  simp only [table, h1, h2]

theorem code_step {ms ml len ne na : Nat} {c : Bytes} {exc : List (List Nat)} {as : List Attr}
    {body b1 b2 b3 b4 b5 b6 b7 : Bytes}
    (h1 : u16 body = some (ms, b1)) (h2 : u16 b1 = some (ml, b2)) (h3 : u32 b2 = some (len, b3))
    (h4 : takeN len b3 = some (c, b4)) (h5 : u16 b4 = some (ne, b5)) (h6 : rows 4 ne b5 = some (exc, b6))
    (h7 : u16 b6 = some (na, b7)) (h8 : attrs na b7 = some (as, [])) :
    code body = some ⟨ms, ml, c, exc, as⟩ := by
  simp only [code, h1, h2, h3, h4, h5, h6, h7, h8]

/-- a counted loop `g` that consumes one `enc x` per round (`hs`, the loop's step lemma applied to what reads `enc x`)
reads `xs.flatMap enc` back as `xs` -/
theorem loop_flatMap {α : Type} {g : Nat → Bytes → Option (List α × Bytes)} {enc : α → Bytes} (xs : List α)
    (h0 : ∀ bs, g 0 bs = some ([], bs))
    (hs : ∀ x ∈ xs, ∀ {n ys r r'}, g n r = some (ys, r') → g (n + 1) (enc x ++ r) = some (x :: ys, r')) (r : Bytes) :
    g xs.length (xs.flatMap enc ++ r) = some (xs, r) := by
  induction xs with
  | nil => exact h0 r
  | cons x xs ih =>
    rw [List.flatMap_cons, List.append_assoc]
    exact hs x List.mem_cons_self (ih fun y hy => hs y (List.mem_cons_of_mem _ hy))

theorem attrs_attrsBytes (as : List Attr) (hr : ∀ a ∈ as, a.1 ≤ 65535 ∧ a.2.length ≤ 4294967295) (r : Bytes) :
    attrs as.length (attrsBytes as ++ r) = some (as, r) :=
  loop_flatMap as (fun _ => rfl) (fun a ha _ _ r _ h => by
    rw [attrBytes, List.append_assoc, List.append_assoc]
    exact attrs_step (u16_u16b _ (hr a ha).1 _) (u32_u32b _ (hr a ha).2 _) (takeN_append _ _) h) r

theorem row_u16bs (xs : List Nat) (hr : ∀ x ∈ xs, x ≤ 65535) (r : Bytes) :
    row xs.length (xs.flatMap u16b ++ r) = some (xs, r) :=
  loop_flatMap xs (fun _ => rfl) (fun x hx => row_step (u16_u16b x (hr x hx) _)) r

theorem rows_rowsBytes (w : Nat) (rs : List (List Nat)) (hr : ∀ row ∈ rs, row.length = w ∧ ∀ x ∈ row, x ≤ 65535)
    (r : Bytes) : rows w rs.length (rowsBytes rs ++ r) = some (rs, r) :=
  loop_flatMap rs (fun _ => rfl) (fun x hx => rows_step ((hr x hx).1 ▸ row_u16bs x (hr x hx).2 _)) r

/-- the operands of a `Code` attribute fit their fields -/
def codeFits (c : CodeAttr) : Prop :=
  c.maxStack ≤ 65535 ∧ c.maxLocals ≤ 65535 ∧ c.code.length ≤ 4294967295 ∧ c.excRows.length ≤ 65535 ∧
  (∀ row ∈ c.excRows, row.length = 4 ∧ ∀ x ∈ row, x ≤ 65535) ∧ c.attrs.length ≤ 65535 ∧
  (∀ a ∈ c.attrs, a.1 ≤ 65535 ∧ a.2.length ≤ 4294967295)

theorem members_step {n access name desc na : Nat} {as : List Attr} {ms : List Member} {bs b1 b2 b3 : Bytes}
    (h1 : row 4 bs = some ([access, name, desc, na], b1)) (h2 : attrs na b1 = some (as, b2))
    (h3 : members n b2 = some (ms, b3)) : members (n + 1) bs = some (⟨access, name, desc, as⟩ :: ms, b3) := by
  simp only [members, h1, h2, h3]

def memberFits (m : Member) : Prop :=
  m.access ≤ 65535 ∧ m.nameIdx ≤ 65535 ∧ m.descIdx ≤ 65535 ∧ m.attrs.length ≤ 65535 ∧
  ∀ a ∈ m.attrs, a.1 ≤ 65535 ∧ a.2.length ≤ 4294967295

theorem members_bytes (ms : List Member) (hr : ∀ m ∈ ms, memberFits m) (r : Bytes) :
    members ms.length (ms.flatMap memberBytes ++ r) = some (ms, r) :=
  loop_flatMap ms (fun _ => rfl) (fun m hm _ _ r _ h => by
    obtain ⟨h1, h2, h3, h4, h5⟩ := hr m hm
    have e : memberBytes m ++ r =
        [m.access, m.nameIdx, m.descIdx, m.attrs.length].flatMap u16b ++ (attrsBytes m.attrs ++ r) := by
      simp [memberBytes]
    rw [e]
    have hrow := row_u16bs [m.access, m.nameIdx, m.descIdx, m.attrs.length]
      (by intro x hx; simp at hx; rcases hx with rfl | rfl | rfl | rfl <;> assumption) (attrsBytes m.attrs ++ r)
    exact members_step hrow (attrs_attrsBytes _ h5 _) h) r

theorem u64_step {hi lo : Nat} {bs r r' : Bytes} (h1 : u32 bs = some (hi, r)) (h2 : u32 r = some (lo, r')) :
    u64 bs = some (hi * 4294967296 + lo, r') := by
  simp only [u64, h1, h2]

theorem row2_step {a b : Nat} (h1 : a ≤ 65535) (h2 : b ≤ 65535) (r : Bytes) :
    row 2 (be16 a ++ (be16 b ++ r)) = some ([a, b], r) :=
  row_step (u16_be16 a h1 _) (row_step (u16_be16 b h2 _) rfl)

theorem pe_utf8 {n : Nat} {s r r1 r2 : Bytes} (h1 : u16 r = some (n, r1)) (h2 : takeN n r1 = some (s, r2)) :
    poolEntry (1 :: r) = some (.utf8 s, r2) := by simp [poolEntry, h1, h2]

/-- a kind whose body is one field read by `rd` (`u16`, `u32`, `u64`); `hk`, the parser's branch for the tag, holds by
unfolding; it is asked for every `r` so that the parser is only ever unfolded on a variable -/
theorem pe_one {rd : Bytes → Option (Nat × Bytes)} {t n : Nat} {k : Nat → Entry} {r r1 : Bytes} (h : rd r = some (n, r1))
    (hk : ∀ r, poolEntry (t :: r) = match rd r with | none => none | some (n, r) => some (k n, r)) :
    poolEntry (t :: r) = some (k n, r1) := by
  rw [hk, h]

theorem pe_two {t a b : Nat} {k : Nat → Nat → Entry} {r r1 : Bytes} (h : row 2 r = some ([a, b], r1))
    (hk : ∀ r, poolEntry (t :: r) = match row 2 r with | some ([a, b], r) => some (k a b, r) | _ => none) :
    poolEntry (t :: r) = some (k a b, r1) := by
  rw [hk, h]

theorem pe_handle {k i : Nat} {r r1 : Bytes} (h : u16 r = some (i, r1)) :
    poolEntry (15 :: k :: r) = some (.methodHandle k i, r1) := by simp [poolEntry, u8, h]

/-- the fields of a pool entry fit their widths (`u2` references, `i32`/`i64` integers, raw float bits, `u1` kind) -/
def entryFits : Entry → Prop
  | .utf8 s => s.length ≤ 65535
  | .int v => -2147483648 ≤ v ∧ v ≤ 2147483647
  | .float b => b ≤ 4294967295
  | .long v => -9223372036854775808 ≤ v ∧ v ≤ 9223372036854775807
  | .double b => b ≤ 18446744073709551615
  | .cls n => n ≤ 65535
  | .str n => n ≤ 65535
  | .fieldRef a b => a ≤ 65535 ∧ b ≤ 65535
  | .methodRef a b => a ≤ 65535 ∧ b ≤ 65535
  | .ifaceMethodRef a b => a ≤ 65535 ∧ b ≤ 65535
  | .nameAndType a b => a ≤ 65535 ∧ b ≤ 65535
  | .methodHandle k i => k ≤ 255 ∧ i ≤ 65535
  | .methodType n => n ≤ 65535
  | .dynamic a b => a ≤ 65535 ∧ b ≤ 65535
  | .invokeDynamic a b => a ≤ 65535 ∧ b ≤ 65535
  | .module n => n ≤ 65535
  | .package n => n ≤ 65535

theorem u64_be64 (n : Nat) (h : n ≤ 18446744073709551615) (r : Bytes) : u64 (be64 n ++ r) = some (n, r) := by
  have hd : n / 4294967296 < 4294967296 := Nat.div_lt_of_lt_mul (Nat.lt_succ_of_le h)
  rw [be64, List.append_assoc, Nat.mod_eq_of_lt hd]
  exact (u64_step (u32_be32 _ (Nat.le_of_lt_succ hd) _) (u32_be32 _ (Nat.le_of_lt_succ (Nat.mod_lt _ (by decide))) r)).trans
    (congrArg (fun v => some (v, r)) (Nat.div_add_mod' n 4294967296))

theorem poolEntry_entryBytes (e : Entry) (h : entryFits e) (r : Bytes) :
    poolEntry (entryBytes e ++ r) = some (e, r) := by
  cases e with
  | utf8 s => exact pe_utf8 (u16_be16 _ h _) (takeN_append _ _)
  | int v =>
    obtain ⟨h1, h2⟩ := h
    have hs : s32 (i32bits v) = v := Be.signed_emod 2147483648 v h1 (by omega)
    have hb : i32bits v ≤ 4294967295 := by unfold i32bits; omega
    have := pe_one (t := 3) (k := fun n => .int (s32 n)) (u32_be32 _ hb r) fun _ => rfl
    rw [hs] at this
    exact this
  | float b => exact pe_one (u32_be32 _ h _) fun _ => rfl
  | long v =>
    obtain ⟨h1, h2⟩ := h
    have hs : s64 (i64bits v) = v := Be.signed_emod 9223372036854775808 v h1 (by omega)
    have hb : i64bits v ≤ 18446744073709551615 := by unfold i64bits; omega
    have := pe_one (t := 5) (k := fun n => .long (s64 n)) (u64_be64 _ hb r) fun _ => rfl
    rw [hs] at this
    exact this
  | double b => exact pe_one (u64_be64 _ h _) fun _ => rfl
  | fieldRef a b | methodRef a b | ifaceMethodRef a b | nameAndType a b | dynamic a b | invokeDynamic a b =>
    exact pe_two (row2_step h.1 h.2 _) fun _ => rfl
  | methodHandle k i =>
    show poolEntry (15 :: k % 256 :: (be16 i ++ r)) = _
    rw [Nat.mod_eq_of_lt (by have := h.1; omega)]
    exact pe_handle (u16_be16 _ h.2 _)
  | cls n | str n | methodType n | module n | package n => exact pe_one (u16_be16 _ h _) fun _ => rfl

theorem pool_done (fuel idx : Nat) (bs : Bytes) : pool fuel idx idx bs = some ([], bs) := by
  cases fuel <;> simp [pool]

theorem pool_step {fuel idx count : Nat} {e : Entry} {es : List Entry} {bs b1 b2 : Bytes} (hlt : idx < count)
    (h1 : poolEntry bs = some (e, b1)) (h2 : pool fuel (idx + slots e) count b1 = some (es, b2)) :
    pool (fuel + 1) idx count bs = some (e :: es, b2) := by
  have a : ¬ idx = count := by omega
  have b : ¬ idx > count := by omega
  simp only [pool, a, b, if_false, h1, h2]

/-- `constant_pool_count` and the two-slot rule are what the parser needs to find the end of the pool -/
theorem pool_entries (es : List Entry) (hf : ∀ e ∈ es, entryFits e) (r : Bytes) :
    ∀ (fuel idx : Nat), es.length ≤ fuel →
      pool fuel idx (idx + (es.map slots).sum) (es.flatMap entryBytes ++ r) = some (es, r) := by
  induction es with
  | nil => intro fuel idx _; simp only [List.map_nil, List.sum_nil, Nat.add_zero]; exact pool_done fuel idx _
  | cons e es ih =>
    intro fuel idx hfuel
    cases fuel with
    | zero => simp at hfuel
    | succ fuel =>
      have e1 : (e :: es).flatMap entryBytes ++ r = entryBytes e ++ (es.flatMap entryBytes ++ r) := by simp
      have hs := PoolWrite.slots_pos e
      have e2 : idx + ((e :: es).map slots).sum = (idx + slots e) + (es.map slots).sum := by
        simp only [List.map_cons, List.sum_cons]; omega
      rw [e1, e2]
      exact pool_step (by omega) (poolEntry_entryBytes e (hf e List.mem_cons_self) _)
        (ih (fun e' he' => hf e' (List.mem_cons_of_mem _ he')) fuel (idx + slots e) (by simp at hfuel; omega))

theorem classFile_step {minor major count access this super ni nf nm na : Nat} {entries : List Entry}
    {ifs : List Nat} {fields methods : List Member} {as : List Attr} {bs b1 b2 b3 b4 b5 b6 b7 b8 b9 : Bytes}
    (h1 : row 3 bs = some ([minor, major, count], b1)) (h2 : pool count 1 count b1 = some (entries, b2))
    (h3 : row 4 b2 = some ([access, this, super, ni], b3)) (h4 : row ni b3 = some (ifs, b4))
    (h5 : u16 b4 = some (nf, b5)) (h6 : members nf b5 = some (fields, b6))
    (h7 : u16 b6 = some (nm, b7)) (h8 : members nm b7 = some (methods, b8))
    (h9 : u16 b8 = some (na, b9)) (h10 : attrs na b9 = some (as, [])) :
    classFile (0xca :: 0xfe :: 0xba :: 0xbe :: bs) =
      some ⟨minor, major, count, entries, access, this, super, ifs, fields, methods, as⟩ := by
  simp only [classFile, h1, h2, h3, h4, h5, h6, h7, h8, h9, h10]

/-- every count and index of the class image fits its field; `constant_pool_count` is one more than the slots used -/
def classFits (c : ClassImg) : Prop :=
  c.minor ≤ 65535 ∧ c.major ≤ 65535 ∧ c.poolCount ≤ 65535 ∧ c.poolCount = 1 + (c.poolEntries.map slots).sum ∧
  (∀ e ∈ c.poolEntries, entryFits e) ∧
  c.access ≤ 65535 ∧ c.thisIdx ≤ 65535 ∧ c.superIdx ≤ 65535 ∧ c.interfaces.length ≤ 65535 ∧
  (∀ x ∈ c.interfaces, x ≤ 65535) ∧
  c.fields.length ≤ 65535 ∧ (∀ m ∈ c.fields, memberFits m) ∧
  c.methods.length ≤ 65535 ∧ (∀ m ∈ c.methods, memberFits m) ∧
  c.attrs.length ≤ 65535 ∧ (∀ a ∈ c.attrs, a.1 ≤ 65535 ∧ a.2.length ≤ 4294967295)

theorem entries_le_count {es : List Entry} : es.length ≤ (es.map slots).sum := by
  induction es with
  | nil => simp
  | cons e es ih => have := PoolWrite.slots_pos e; simp only [List.length_cons, List.map_cons, List.sum_cons]; omega

end ClassParse
