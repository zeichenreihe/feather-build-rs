import FeatherModel.Lemmas.ArmsDefs

/-!
# The shape of the JVMS tables (`Spec/Opcodes.lean`), and the table of flag structs

What the lookups `mnemonic?`, `operands?`, `baseOf` assume of the transcription, by evaluation; `flagSpecs` pairs each flag
struct of `duke/src/tree` with its JVMS table (`Thm.C01.access_flags_are_jvms`).
The comparisons of duke's constants with the tables are evaluated where they are stated, in `Thm/C01.lean`.
-/

namespace Arms

open JvmsTables

/-- the JVMS tables are in the shape the lookups assume: `opcodes` lists 0..201 in order (position = opcode), the
reserved opcodes are outside, `forms` / `wideForms` / `negations` name real opcodes -/
theorem jvms_tables_consistent :
    opcodes.map (·.1) = List.range 202 ∧
    (reserved.all fun r => decide (202 ≤ r.1 ∧ r.1 < 256)) = true ∧
    (forms.all fun f => (mnemonic? f.1).isSome && (mnemonic? f.2.1).isSome && !(forms.lookup f.2.1).isSome) = true ∧
    (wideForms.all fun f => (mnemonic? f.1).isSome) = true ∧
    (negations.all fun f => negations.lookup f.2 == some f.1 && operands? f.1 == some .branch16) = true := by
  decide +kernel

/-- the flag structs in the order the translator finds them (files of `duke/src/tree` sorted by path) with the JVMS table
each mirrors -/
def flagSpecs : List (JStr × List (JStr × Nat)) := [
  (jstr "ClassAccess", classFlags), (jstr "InnerClassFlags", innerClassFlags), (jstr "FieldAccess", fieldFlags),
  (jstr "MethodAccess", methodFlags), (jstr "ParameterFlags", parameterFlags), (jstr "ModuleFlags", moduleFlags),
  (jstr "ModuleRequiresFlags", requiresFlags), (jstr "ModuleExportsFlags", exportsFlags),
  (jstr "ModuleOpensFlags", opensFlags)]

end Arms
