import FeatherModel.Model.RemapProv
import FeatherModel.Lemmas.Remapper
import FeatherModel.Lemmas.RemapperSearch

/-!
# Lemmas about `JarSuperProv::remap` (C06): `setOf`, `remapSupers`, the pre-order of the carried provider
-/

namespace Remapper

theorem mem_setOf (l : List JStr) (x : JStr) : x ∈ setOf l ↔ x ∈ l :=
  (List.mem_foldl_setInsert l [] x).trans (by simp)

theorem nodup_setOf (l : List JStr) : (setOf l).Nodup := List.nodup_foldl_setInsert l List.nodup_nil

theorem setOf_of_nodup (l : List JStr) (h : l.Nodup) : setOf l = l :=
  List.foldl_setInsert_of_nodup l [] h

theorem injOnList_spec {f : JStr → JStr} {N : List JStr} (h : injOnList f N = true) {a b : JStr}
    (ha : a ∈ N) (hb : b ∈ N) (e : f a = f b) : a = b := by
  unfold injOnList at h
  have := (List.all_eq_true.mp ((List.all_eq_true.mp h) a ha)) b hb
  simpa [e] using this

theorem nodup_map_of_inj {f : JStr → JStr} {N l : List JStr} (h : injOnList f N = true) (hsub : ∀ x ∈ l, x ∈ N)
    (hl : l.Nodup) : (l.map f).Nodup :=
  List.pairwise_map.mpr (hl.imp_of_mem fun ha hb hne e => hne (injOnList_spec h (hsub _ ha) (hsub _ hb) e))

theorem lookup_remapSupers (t : ATable) (s : Supers) (k : JStr) :
    AList.lookup k (remapSupers t s) =
      (lastMatch (fun e => mapClass t e.1 == k) s).map fun e => setOf (e.2.map (mapClass t)) := by
  simp only [remapSupers, lookup_tableOf, lastPair, lastMatch_map, remapRow]
  cases lastMatch (fun e => mapClass t e.1 == k) s <;> rfl

theorem lookup_remapSupers_inj (t : ATable) (s : Supers) (c : JStr) (N : List JStr)
    (hinj : injOnList (mapClass t) N = true) (hc : c ∈ N) (hkeys : ∀ e ∈ s, e.1 ∈ N) (hsups : ∀ e ∈ s, ∀ x ∈ e.2, x ∈ N)
    (hnd : (s.map Prod.fst).Nodup) (hnds : ∀ e ∈ s, e.2.Nodup) :
    AList.lookup (mapClass t c) (remapSupers t s) = (AList.lookup c s).map (List.map (mapClass t)) := by
  -- on the keys the image decides the key, so the last row with the image of `c` is the row of `c`
  rw [lookup_remapSupers, lastMatch_key (c := c)
    (fun e he => beq_iff_eq.trans ⟨injOnList_spec hinj (hkeys e he) hc, congrArg _⟩) hnd]
  cases h : AList.lookup c s with
  | none => rfl
  | some v =>
    have hm := AList.lookup_mem h
    simp only [Option.map_some]
    rw [setOf_of_nodup _ (nodup_map_of_inj hinj (hsups _ hm) (hnds _ hm))]

theorem mem_nodesOf {ps : List Supers} {x : JStr} : x ∈ nodesOf ps ↔ ∃ s ∈ ps, ∃ e ∈ s, x = e.1 ∨ x ∈ e.2 := by
  simp only [nodesOf, List.mem_flatMap, List.mem_cons]

theorem wfProvs_spec {ps : List Supers} (h : wfProvs ps = true) {s : Supers} (hs : s ∈ ps) :
    (s.map Prod.fst).Nodup ∧ ∀ e ∈ s, e.2.Nodup := by
  simpa using List.all_eq_true.mp h s hs

theorem lookup_flatten_map {g : Supers → Supers} {φ : List JStr → List JStr} {k k' : JStr} {ps : List Supers}
    (h : ∀ s ∈ ps, AList.lookup k' (g s) = (AList.lookup k s).map φ) :
    AList.lookup k' (ps.map g).flatten = (AList.lookup k ps.flatten).map φ := by
  induction ps with
  | nil => rfl
  | cons s rest ih =>
    rw [List.forall_mem_cons] at h
    simp only [List.map_cons, List.flatten_cons, AList.lookup_append, h.1, ih h.2]
    cases AList.lookup k s <;> rfl

theorem lookup_flatten_remapProvs (t : ATable) (ps : List Supers) (c : JStr) (N : List JStr)
    (hinj : injOnList (mapClass t) N = true) (hc : c ∈ N) (hN : ∀ x ∈ nodesOf ps, x ∈ N) (hwf : wfProvs ps = true) :
    AList.lookup (mapClass t c) (flattenProvs (remapProvs t ps)) =
      (AList.lookup c (flattenProvs ps)).map (List.map (mapClass t)) :=
  lookup_flatten_map fun s hs =>
    lookup_remapSupers_inj t s c N hinj hc
      (fun e he => hN _ (mem_nodesOf.mpr ⟨s, hs, e, he, .inl rfl⟩))
      (fun e he _ hx => hN _ (mem_nodesOf.mpr ⟨s, hs, e, he, .inr hx⟩))
      (wfProvs_spec hwf hs).1 (wfProvs_spec hwf hs).2

theorem dfs_remapProvs (t : ATable) (ps : List Supers) (N : List JStr)
    (hinj : injOnList (mapClass t) N = true) (hN : ∀ x ∈ nodesOf ps, x ∈ N) (hwf : wfProvs ps = true) :
    ∀ (fuel : Nat) (c : JStr), c ∈ N →
      dfs (flattenProvs (remapProvs t ps)) fuel (mapClass t c) = (dfs (flattenProvs ps) fuel c).map (List.map (mapClass t)) := by
  intro fuel
  induction fuel with
  | zero => intro c _; rfl
  | succ f ih =>
    intro c hc
    rw [dfs, dfs, lookup_flatten_remapProvs t ps c N hinj hc hN hwf]
    cases hl : AList.lookup c (flattenProvs ps) with
    | none => rfl
    | some ss =>
      obtain ⟨s, hs, he⟩ := List.mem_flatten.mp (AList.lookup_mem hl)
      simp only [Option.map_some]
      rw [concatM_map_comm fun x hx => ih x (hN x (mem_nodesOf.mpr ⟨s, hs, _, he, .inr hx⟩))]
      cases concatM (fun s => dfs (flattenProvs ps) f s) ss <;> rfl

/-- the member search along the image of a search order; `Thm.C06.roundtrip_inherited` says what `hmiss` and `hhit` are
for the remapper -/
theorem findSome_back {α β κ κ' : Type} (φ : α → β) (D : α → Option κ) (D' : β → Option κ') (key : κ') (key' : κ)
    (order : List α)
    (hfwd : order.findSome? D = some key')
    (hmiss : ∀ d ∈ order, D d = none → D' (φ d) = none)
    (hhit : ∀ d ∈ order, D d = some key' → D' (φ d) = some key) :
    (order.map φ).findSome? D' = some key := by
  -- the classes before the first hit are misses, and so are their images
  obtain ⟨l₁, a, l₂, rfl, ha, hn⟩ := List.findSome?_eq_some_iff.mp hfwd
  refine List.findSome?_eq_some_iff.mpr ⟨l₁.map φ, φ a, l₂.map φ, by simp, hhit a (by simp) ha, fun x hx => ?_⟩
  obtain ⟨d, hd, rfl⟩ := List.mem_map.mp hx
  exact hmiss d (List.mem_append_left _ hd) (hn d hd)

end Remapper
