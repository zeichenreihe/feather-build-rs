import FeatherModel.Lemmas.ArmsDefs
import FeatherModel.Gen.HarnessGlue
import FeatherModel.Lemmas.ArmsFinite

/-!
# The projection glue of the C01 harness against the Rust reader's own arm table

`harness/src/c01facts.rs` prints duke's `Instruction` values in the model's vocabulary, which names the operand-less
instructions, conditional branches and field accesses by opcode and the local-variable instructions by kind. That
table is hand-written (a transcription of the JVMS); `translate/harness_glue_to_lean.py` extracts it and here it is compared
with what `read_code` itself does: the opcode printed for constructor `Y` is an opcode whose arm builds `Y`.
-/

namespace Arms

open JvmsTables Gen.HarnessGlue

theorem harness_glue_matches_reader :
    -- every constructor of `enum Instruction` is printed by an arm of the harness, and there are as many arms as constructors
    ((simple ++ branch ++ field ++ load ++ store).map (·.1) ++ other.map (·.1)).length = Gen.ReaderArms.ctorNames.length ∧
    (Gen.ReaderArms.ctorNames.all fun n => ((simple ++ branch ++ field ++ load ++ store).map (·.1) ++ other.map (·.1)).contains n) = true ∧
    -- `(simple op)` / `(branch op ..)` / `(field op ..)`: the Rust arm of `op` builds that constructor
    ((simple ++ branch ++ field).all fun e => (rArm e.2).ctor?.map ctorName == some e.1) = true ∧
    (simple.all fun e => (rArm e.2).isUnit) = true ∧
    -- `(load k ..)` / `(store k ..)`: kind `k` is the offset from `iload` / `istore`
    (load.all fun e => (rArm (0x15 + e.2)).ctor?.map ctorName == some e.1) = true ∧
    (store.all fun e => (rArm (0x36 + e.2)).ctor?.map ctorName == some e.1) = true ∧
    -- everything else is printed under the constructor's own name
    (other.all fun e => squash e.1 == squash e.2) = true := by
  -- the six lists of the harness keep the order of `enum Instruction`
  have hcov : covered ((simple ++ branch ++ field ++ load ++ store).map (·.1) ++ other.map (·.1)) Gen.ReaderArms.ctorNames
      [simple.map (·.1), branch.map (·.1), field.map (·.1), load.map (·.1), store.map (·.1), other.map (·.1)] = true := by
    decide +kernel
  refine ⟨by decide +kernel, ?_, ?_⟩
  · exact List.all_eq_true.mpr fun n hn => List.contains_iff_mem.mpr
      (covered_sound hcov (fun x hx => by simpa [List.map_append, or_assoc] using hx) n hn)
  · delta rArm ctorName
    simp only [← Tab.getD_ofList 8 Gen.ReaderArms.p2Dense, ← Tab.get?_ofList 8 Gen.ReaderArms.ctorNames]
    decide +kernel

end Arms
