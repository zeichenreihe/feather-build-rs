import FeatherModel.Model.DiffSpec
import FeatherModel.Lemmas.TinyText
import FeatherModel.Lemmas.AList

/-!
# The `.tinydiff` reader on the specification text of a diff (C04)
Splitting into lines and cells, action cells, comments, parameter indices; the `TinyLine`s of the written text; the
reader's zipper on them gives back the diff with every `Edit(a, a)` replaced by `None`. The lemmas about the zipper all
say `steps s (lines ++ tail) = steps s' tail`, so they compose by rewriting, and `step` is only unfolded on a state whose
open nodes are written out. The lists of sibling entries go through `AList.entries_run`: `param_run`, `field_run`,
`method_run`, `class_run` have the shape of its hypothesis `one` (reading the lines of one entry with a new key keeps the
invariant of the enclosing node, `OpenM`, `OpenC` or `viewS s = l`, and appends the entry), hence their order of arguments.
-/

namespace TinyDiff
open DiffModel

open Tiny (CellClean)

theorem clean_nil : CellClean [] := by simp [CellClean]

theorem splitOn_eq : ∀ (sep : Nat) (l : List Nat), splitOn sep l = Tiny.splitOn sep l := by
  set_option smartUnfolding false in exact fun _ _ => rfl

theorem escape_eq : ∀ s : JStr, escape s = Tiny.escape s
  | [] => rfl
  | c :: rest => by
    simp only [escape, Tiny.escape_cons, Tiny.escChar, escape_eq rest, apply_ite (· ++ Tiny.escape rest),
      List.cons_append, List.nil_append]

theorem joinTab_cons (f : JStr) : ∀ fs : List JStr, joinTab (f :: fs) = f ++ fs.flatMap (TAB :: ·)
  | [] => by simp [joinTab]
  | c :: rest => by
    show f ++ TAB :: joinTab (c :: rest) = _
    rw [joinTab_cons c rest]
    simp

theorem mkLine_eq (l : List Nat) :
    mkLine l =
      { idents := (Tiny.tinyLine l).indent, first := (Tiny.tinyLine l).first, fields := (Tiny.tinyLine l).fields } := by
  unfold mkLine Tiny.tinyLine
  simp only [splitOn_eq]
  show (match Tiny.splitOn 9 (l.drop (l.takeWhile (· == 9)).length) with
    | [] => _
    | f :: fs => _) = _
  cases Tiny.splitOn 9 (l.drop (l.takeWhile (· == 9)).length) <;> rfl

/-- `Tiny.mkLine` prints a row; `mkLine` of this namespace is the parser `TinyLine::new`, equal to `Tiny.tinyLine`
(`mkLine_eq`) -/
theorem mkLine_row (i : Nat) (f : JStr) (fs : List JStr) (hf : f ≠ []) (h0 : TAB ∉ f) (hr : ∀ c ∈ fs, TAB ∉ c) :
    mkLine (Tiny.mkLine i f fs) = { idents := i, first := f, fields := fs } := by
  rw [mkLine_eq, Tiny.tinyLine_mkLine i f fs hf h0 hr]

theorem splitOn_lines : ∀ (raw : List (List Nat)), (∀ l ∈ raw, LF ∉ l) →
    splitOn LF (raw.flatMap (· ++ [LF])) = raw ++ [[]]
  | [], _ => by simp [splitOn]
  | l :: rest, h => by
    simp only [List.flatMap_cons, List.append_assoc, List.cons_append, List.nil_append]
    rw [splitOn_eq, Tiny.splitOn_append LF l (h l (by simp)), ← splitOn_eq,
      splitOn_lines rest (fun x hx => h x (List.mem_cons_of_mem _ hx))]

theorem stripCR_of_clean {l : List Nat} (h : CR ∉ l) : stripCR l = l := by
  unfold stripCR
  split
  · rename_i hl
    exact absurd (List.mem_of_getLast? hl) h
  · rfl

/-- text that is a sequence of LF-terminated rows `raw` whose `TinyLine`s are `ls`: what `Tiny.Parsed` is for the tiny v2
reader, here for this reader's `textLines` and `mkLine` -/
def Good (t : List Nat) (ls : List Line) : Prop :=
  ∃ raw : List (List Nat), t = raw.flatMap (· ++ [LF]) ∧ (∀ l ∈ raw, LF ∉ l ∧ CR ∉ l) ∧ raw.map mkLine = ls

theorem Good.nil : Good [] [] := ⟨[], rfl, by simp, rfl⟩

theorem Good.append {t1 t2 : List Nat} {l1 l2 : List Line} (h1 : Good t1 l1) (h2 : Good t2 l2) :
    Good (t1 ++ t2) (l1 ++ l2) := by
  obtain ⟨r1, e1, c1, m1⟩ := h1
  obtain ⟨r2, e2, c2, m2⟩ := h2
  refine ⟨r1 ++ r2, by simp [e1, e2], ?_, by simp [m1, m2]⟩
  intro l hl
  rcases List.mem_append.mp hl with h | h
  · exact c1 l h
  · exact c2 l h

theorem Good.flatten {α : Type} (f : α → List Nat) (g : α → List Line) :
    ∀ (xs : List α), (∀ x ∈ xs, Good (f x) (g x)) → Good (xs.map f).flatten (xs.flatMap g)
  | [], _ => by simpa using Good.nil
  | x :: rest, h => by
    simp only [List.map_cons, List.flatten_cons, List.flatMap_cons]
    exact Good.append (h x (by simp)) (Good.flatten f g rest (fun y hy => h y (List.mem_cons_of_mem _ hy)))

theorem Good.textLines {t : List Nat} {ls : List Line} (h : Good t ls) : (textLines t).map mkLine = ls := by
  obtain ⟨raw, e, c, m⟩ := h
  subst e
  unfold TinyDiff.textLines
  simp only [splitOn_lines raw (fun l hl => (c l hl).1), List.dropLast_concat, List.getLast?_concat, List.append_nil]
  have : raw.map stripCR = raw := by
    conv => rhs; rw [← List.map_id raw]
    apply List.map_congr_left
    intro l hl
    exact stripCR_of_clean (c l hl).2
  rw [this, m]

theorem Good.row (i : Nat) (f : JStr) (fs : List JStr) (hf : f ≠ []) (hc : ∀ c ∈ f :: fs, CellClean c) :
    Good (row i (f :: fs)) [{ idents := i, first := f, fields := fs }] := by
  obtain ⟨h0, hr⟩ := List.forall_mem_cons.mp hc
  refine ⟨[Tiny.mkLine i f fs], by simp [TinyDiff.row, joinTab_cons, Tiny.mkLine, TAB], ?_,
    by rw [List.map_singleton, mkLine_row i f fs hf h0.1 fun c h => (hr c h).1]⟩
  rintro l (_ | ⟨_, ⟨⟩⟩)
  exact ⟨Tiny.not_mem_mkLine (by decide) h0.2.1 fun c h => (hr c h).2.1,
    Tiny.not_mem_mkLine (by decide) h0.2.2 fun c h => (hr c h).2.2⟩

theorem plainCell_clean {s : JStr} (h : plainCell s = true) : CellClean s := by
  unfold plainCell at h
  rw [List.all_eq_true] at h
  refine ⟨?_, ?_, ?_⟩ <;> intro hm <;> have := h _ hm <;> simp at this

theorem actionAll_eq (p : JStr → Bool) (a : Action JStr) :
    actionAll p a = (a.toTuple.1.all p && a.toTuple.2.all p) := by
  cases a <;> simp [actionAll, Action.toTuple]

theorem actionCells_clean {p : JStr → Bool} (hp : ∀ s, p s = true → CellClean s) (a : Action JStr)
    (h : actionAll p a = true) : ∀ c ∈ actionCells a, CellClean c := by
  have hcell : ∀ o : Option JStr, o.all p = true → CellClean (cellOf o)
    | none, _ => clean_nil
    | some s, hs => hp s hs
  rw [actionAll_eq, Bool.and_eq_true] at h
  intro c hc
  simp only [actionCells, List.mem_cons, List.not_mem_nil, or_false] at hc
  rcases hc with rfl | rfl
  · exact hcell _ h.1
  · exact hcell _ h.2

/-- `unescape` is the one of the tiny v2 reader (the model has it twice: a `match` on two characters here, an `if` ladder
there) -/
theorem unescape_eq (s : JStr) : unescape s = Tiny.unescape s := by
  fun_induction Tiny.unescape s <;> simp [unescape, *]

theorem unescape_escape : ∀ d : JStr, unescape (escape d) = d :=
  fun d => by rw [unescape_eq, escape_eq, Tiny.unescape_escape]

theorem escape_inj {x y : JStr} : escape x = escape y ↔ x = y :=
  ⟨fun e => by rw [← unescape_escape x, e, unescape_escape], congrArg escape⟩

theorem escape_eq_nil {s : JStr} : escape s = [] ↔ s = [] := escape_inj (y := [])

theorem plainDoc_ne_nil {s : JStr} (h : plainDoc s = true) : s ≠ [] := by
  intro e; subst e; simp [plainDoc] at h

theorem escape_clean (s : JStr) : CellClean (escape s) := escape_eq s ▸ Tiny.escape_clean s

theorem docCells_clean (a : Action JStr) : ∀ c ∈ (actionCells a).map escape, CellClean c := by
  intro c hc
  obtain ⟨x, _, rfl⟩ := List.mem_map.mp hc
  exact escape_clean x

theorem addComment_cells (a : Action JStr) (h : actionAll plainDoc a = true) :
    addComment false ((actionCells a).map escape) = some (normAction a) := by
  cases a with
  | none => simp [addComment, parseAction, actionCells, Action.toTuple, cellOf, cell, normAction, escape, Action.mapA]
  | add x | remove x =>
    simp only [actionAll] at h
    simp [addComment, parseAction, actionCells, Action.toTuple, cellOf, cell, normAction, escape, Action.mapA,
      escape_eq_nil, plainDoc_ne_nil h, unescape_escape]
  | edit x y =>
    simp only [actionAll, Bool.and_eq_true] at h
    have hnx := plainDoc_ne_nil h.1
    have hny := plainDoc_ne_nil h.2
    -- the reader compares the cells as written: escaped cells are equal exactly when the comments are
    by_cases hxy : x = y
    · subst hxy
      simp [addComment, parseAction, actionCells, Action.toTuple, cellOf, cell, normAction, Action.mapA,
        escape_eq_nil, hnx]
    · simp [addComment, parseAction, actionCells, Action.toTuple, cellOf, cell, normAction, Action.mapA,
        escape_eq_nil, hnx, hny, escape_inj, hxy, unescape_escape]

theorem decimal_eq (n : Nat) : decimal n = Tiny.natDigits n := (Tiny.natDigits_eq n).symm

theorem decimal_clean (n : Nat) : CellClean (decimal n) := decimal_eq n ▸ Tiny.digits_clean n

theorem parseUsize_eq (s : JStr) : parseUsize s = Tiny.parseUsize s := by
  unfold parseUsize
  split
  · simp only [Tiny.parseUsize, Tiny.stripPlus, List.isEmpty_iff, Tiny.USIZE_LIMIT]
    rfl
  · rename_i h
    simp only [Tiny.parseUsize, Tiny.stripPlus.eq_2 s h, List.isEmpty_iff, Tiny.USIZE_LIMIT]
    rfl

theorem parseUsize_decimal (n : Nat) (h : n < Tiny.USIZE_LIMIT) : parseUsize (decimal n) = some n := by
  rw [parseUsize_eq, decimal_eq]
  exact Tiny.parseUsize_natDigits n h

/-! `docL` … `classL`, `headerL`: the `Line`s the reader sees for what `docRow`, `writeParam` … `writeClass` and the header
row of `writeSpec` print (`docRow_good` … `writeClass_good`, `lines_writeSpec`). -/

def docL (i : Nat) : Action JStr → List Line
  | .none => []
  | a => [{ idents := i, first := C_, fields := (actionCells a).map escape }]

def paramL (e : Nat × PDiff) : List Line :=
  { idents := 2, first := P_, fields := decimal e.1 :: [] :: actionCells e.2.info } :: docL 3 e.2.doc

def fieldL (e : MemberKey × FDiff) : List Line :=
  { idents := 1, first := F_, fields := e.1.2 :: e.1.1 :: actionCells e.2.info } :: docL 2 e.2.doc

def methodL (e : MemberKey × MDiff) : List Line :=
  { idents := 1, first := M_, fields := e.1.2 :: e.1.1 :: actionCells e.2.info } ::
    (docL 2 e.2.doc ++ e.2.params.flatMap paramL)

def classL (e : JStr × CDiff) : List Line :=
  { idents := 0, first := C_, fields := e.1 :: actionCells e.2.info } ::
    (docL 1 e.2.doc ++ (e.2.fields.flatMap fieldL ++ e.2.methods.flatMap methodL))

def headerL : Line := { idents := 0, first := TINY, fields := [[50], [48]] }

theorem docL_cases (i : Nat) (a : Action JStr) :
    (a = .none ∧ docL i a = []) ∨ docL i a = [{ idents := i, first := C_, fields := (actionCells a).map escape }] := by
  cases a <;> simp [docL]

theorem nameCell_valid {valid : JStr → Bool} (s : JStr) (h : nameCell valid s = true) : valid s = true := by
  simp only [nameCell, Bool.and_eq_true] at h; exact h.1

theorem nameCell_clean {valid : JStr → Bool} (s : JStr) (h : nameCell valid s = true) : CellClean s := by
  simp only [nameCell, Bool.and_eq_true] at h; exact plainCell_clean h.2

theorem docRow_good (i : Nat) (a : Action JStr) : Good (docRow i a) (docL i a) := by
  have hrow : Good (row i (C_ :: (actionCells a).map escape))
      [{ idents := i, first := C_, fields := (actionCells a).map escape }] :=
    Good.row i C_ _ (by simp [C_]) (List.forall_mem_cons.mpr ⟨by simp [CellClean, C_], docCells_clean a⟩)
  cases a with
  | none => exact Good.nil
  | _ => exact hrow

theorem writeParam_good (e : Nat × PDiff) (h : writableParam e = true) : Good (writeParam e) (paramL e) := by
  simp only [writableParam, Bool.and_eq_true] at h
  obtain ⟨⟨_, hi⟩, hd⟩ := h
  unfold writeParam paramL
  refine Good.append (Good.row 2 P_ _ (by simp [P_]) ?_) (docRow_good 3 _)
  simp only [List.forall_mem_cons]
  exact ⟨by simp [CellClean, P_], decimal_clean _, clean_nil, actionCells_clean nameCell_clean _ hi⟩

theorem writeField_good (e : MemberKey × FDiff) (h : writableField e = true) : Good (writeField e) (fieldL e) := by
  simp only [writableField, Bool.and_eq_true] at h
  obtain ⟨⟨⟨hn, hdesc⟩, hi⟩, hd⟩ := h
  unfold writeField fieldL
  refine Good.append (Good.row 1 F_ _ (by simp [F_]) ?_) (docRow_good 2 _)
  simp only [List.forall_mem_cons]
  exact ⟨by simp [CellClean, F_], plainCell_clean hdesc, nameCell_clean _ hn, actionCells_clean nameCell_clean _ hi⟩

theorem writeMethod_good (e : MemberKey × MDiff) (h : writableMethod e = true) : Good (writeMethod e) (methodL e) := by
  simp only [writableMethod, Bool.and_eq_true, List.all_eq_true] at h
  obtain ⟨⟨⟨⟨hn, hdesc⟩, hi⟩, hd⟩, hp⟩ := h
  unfold writeMethod methodL
  rw [List.append_assoc]
  refine Good.append (Good.row 1 M_ _ (by simp [M_]) ?_)
    (Good.append (docRow_good 2 _) (Good.flatten writeParam paramL _ (fun p hpm => writeParam_good p (hp p hpm))))
  simp only [List.forall_mem_cons]
  exact ⟨by simp [CellClean, M_], plainCell_clean hdesc, nameCell_clean _ hn, actionCells_clean nameCell_clean _ hi⟩

theorem writeClass_good (e : JStr × CDiff) (h : writableClass e = true) : Good (writeClass e) (classL e) := by
  simp only [writableClass, Bool.and_eq_true, List.all_eq_true] at h
  obtain ⟨⟨⟨⟨hn, hi⟩, hd⟩, hf⟩, hm⟩ := h
  unfold writeClass classL
  rw [List.append_assoc, List.append_assoc]
  refine Good.append (Good.row 0 C_ _ (by simp [C_]) ?_)
    (Good.append (docRow_good 1 _)
      (Good.append (Good.flatten writeField fieldL _ (fun f hfm => writeField_good f (hf f hfm)))
        (Good.flatten writeMethod methodL _ (fun m hmm => writeMethod_good m (hm m hmm)))))
  simp only [List.forall_mem_cons]
  exact ⟨by simp [CellClean, C_], nameCell_clean _ hn, actionCells_clean nameCell_clean _ hi⟩

theorem lines_writeSpec (d : Diff) (h : d.classes.all writableClass = true) :
    (textLines (writeSpec d)).map mkLine = headerL :: d.classes.flatMap classL := by
  rw [List.all_eq_true] at h
  apply Good.textLines
  unfold writeSpec
  have hh : Good (row 0 [TINY, [50], [48]]) [headerL] :=
    Good.row 0 TINY _ (by simp [TINY]) (by simp [CellClean, TINY])
  exact Good.append hh (Good.flatten writeClass classL _ (fun c hc => writeClass_good c (h c hc)))

open AList

theorem unq_ne_nil (s : JStr) (h : validUnqualified s = true) : s ≠ [] := by
  intro e; subst e; simp [validUnqualified] at h

theorem method_ne_nil (s : JStr) (h : validMethodName s = true) : s ≠ [] := by
  intro e; subst e; simp [validMethodName] at h

theorem class_ne_nil (s : JStr) (h : validObjClass s = true) : s ≠ [] := by
  intro e; subst e; simp [validObjClass, splitOn, validUnqualified] at h

theorem valid_unq_ne_nil (s : JStr) (h : nameCell validUnqualified s = true) : s ≠ [] :=
  unq_ne_nil s (nameCell_valid s h)

theorem valid_method_ne_nil (s : JStr) (h : nameCell validMethodName s = true) : s ≠ [] :=
  method_ne_nil s (nameCell_valid s h)

theorem valid_class_ne_nil (s : JStr) (h : nameCell validObjClass s = true) : s ≠ [] :=
  class_ne_nil s (nameCell_valid s h)

theorem parse_name {valid : JStr → Bool} (hv : ∀ s, valid s = true → s ≠ []) (a : Action JStr)
    (h : actionAll (nameCell valid) a = true) : parseAction valid (actionCells a) = some (normAction a) := by
  rw [actionAll_eq, Bool.and_eq_true] at h
  cases a <;> simp only [Action.toTuple, Option.all_none, Option.all_some, nameCell, Bool.and_eq_true] at h <;>
    simp [parseAction, actionCells, Action.toTuple, cellOf, cell, normAction, h, hv]

/-- The comment line of an entry, if it has one. `mk a had` is the state when the open node has comment `a`; `hf`: the
reader stores the action `add_comment` returns. -/
theorem doc_run (i : Nat) (mk : Action JStr → Bool → St)
    (hf : ∀ fields a, addComment false fields = some a →
      step (mk .none false) { idents := i, first := C_, fields := fields } = some (mk a true))
    (a : Action JStr) (ha : actionAll plainDoc a = true) (tail : List Line) :
    ∃ h', steps (mk .none false) (docL i a ++ tail) = steps (mk (normAction a) h') tail := by
  rcases docL_cases i a with ⟨rfl, e⟩ | e <;> rw [e]
  · exact ⟨false, rfl⟩
  · exact ⟨true, by simp only [List.cons_append, List.nil_append, steps, hf _ _ (addComment_cells a ha)]⟩

/-- what the class looks like once the open member is closed -/
def viewC (c : OpenClass) : CDiff := closeMem c.d c.mem

/-- what the class map looks like once the open class is closed -/
def viewS (st : St) : AList JStr CDiff := closeClass st.done st.cls

/-- the state in which class `ck` is open and holds the member `m` -/
def inMem (D : AList JStr CDiff) (ck : JStr) (cd : CDiff) (chad : Bool) (m : OpenMem) : St :=
  { done := D, cls := some { key := ck, d := cd, had := chad, mem := some m } }

/-- in `s` class `k` is open after the classes `D`; with its open member closed it is `cd` -/
def OpenC (D : AList JStr CDiff) (k : JStr) (cd : CDiff) (s : St) : Prop :=
  ∃ c : OpenClass, s = { done := D, cls := some c } ∧ c.key = k ∧ viewC c = cd

variable {D : AList JStr CDiff} {ck : JStr} {cd : CDiff} {chad : Bool} {k : MemberKey} {had : Bool} {m : MDiff} {s : St}

theorem OpenC.viewS (h : OpenC D ck cd s) : viewS s = D ++ [(ck, cd)] := by
  obtain ⟨c, rfl, rfl, rfl⟩ := h
  rfl

/-- in `s` method `k` of the open class is open; with its open parameter closed it is `m` -/
def OpenM (D : AList JStr CDiff) (ck : JStr) (cd : CDiff) (chad : Bool) (k : MemberKey) (had : Bool) (m : MDiff)
    (s : St) : Prop :=
  ∃ md par, s = inMem D ck cd chad (.method k md had par) ∧ closeParam md par = m

theorem OpenM.openC (h : OpenM D ck cd chad k had m s) : OpenC D ck { cd with methods := cd.methods ++ [(k, m)] } s := by
  obtain ⟨md, par, rfl, rfl⟩ := h
  exact ⟨_, rfl, rfl, rfl⟩

theorem param_run (e : Nat × PDiff) (hw : writableParam e = true) (tail : List Line)
    (hs : OpenM D ck cd chad k had m s) (hc : contains e.1 m.params = false) :
    ∃ s2, OpenM D ck cd chad k had { m with params := m.params ++ [(e.1, normParam e.2)] } s2 ∧
      steps s (paramL e ++ tail) = steps s2 tail := by
  obtain ⟨md, par, rfl, rfl⟩ := hs
  simp only [writableParam, Bool.and_eq_true, decide_eq_true_eq] at hw
  obtain ⟨⟨hidx, hi⟩, hd⟩ := hw
  obtain ⟨h', hrun⟩ := doc_run 3
    (fun a h => inMem D ck cd chad
      (.method k (closeParam md par) had (some { key := e.1, d := { info := normAction e.2.info, doc := a }, had := h })))
    (fun _ _ h => by simp only [inMem, step, step3, h, if_true, Option.map_some]) e.2.doc hd tail
  refine ⟨_, ⟨_, some { key := e.1, d := normParam e.2, had := h' }, rfl, rfl⟩, Eq.trans ?_ hrun⟩
  simp only [paramL, List.cons_append, steps, inMem, step, step2, if_true, parseUsize_decimal e.1 hidx,
    parse_name unq_ne_nil e.2.info hi, hc, ne_eq, not_true_eq_false, if_false, Bool.false_eq_true, Option.map_some]

theorem field_run (e : MemberKey × FDiff) (hw : writableField e = true) (tail : List Line)
    (hs : OpenC D ck cd s) (hc : contains e.1 cd.fields = false) :
    ∃ s2, OpenC D ck { cd with fields := cd.fields ++ [(e.1, normField e.2)] } s2 ∧
      steps s (fieldL e ++ tail) = steps s2 tail := by
  obtain ⟨c, rfl, rfl, rfl⟩ := hs
  simp only [writableField, Bool.and_eq_true] at hw
  obtain ⟨⟨⟨hn, _⟩, hi⟩, hd⟩ := hw
  obtain ⟨h', hrun⟩ := doc_run 2
    (fun a h => inMem D c.key (viewC c) c.had (.field e.1 { info := normAction e.2.info, doc := a } h))
    (fun _ _ h => by simp only [inMem, step, step2, h, if_true, Option.map_some]) e.2.doc hd tail
  refine ⟨_, ⟨{ c with d := viewC c, mem := some (.field e.1 { info := normAction e.2.info, doc := normAction e.2.doc } h') },
    rfl, rfl, rfl⟩, Eq.trans ?_ hrun⟩
  have hc' : contains (e.1.1, e.1.2) (closeMem c.d c.mem).fields = false := hc
  simp only [fieldL, List.cons_append, steps, inMem, step, step1, if_true, nameCell_valid _ hn, Bool.not_true,
    Bool.false_eq_true, if_false, parse_name unq_ne_nil e.2.info hi, hc', viewC, Option.map_some]

theorem method_run (e : MemberKey × MDiff) (hw : writableMethod e = true) (hn : NoDup e.2.params) (tail : List Line)
    (hs : OpenC D ck cd s) (hc : contains e.1 cd.methods = false) :
    ∃ s2, OpenC D ck { cd with methods := cd.methods ++ [(e.1, normMethod e.2)] } s2 ∧
      steps s (methodL e ++ tail) = steps s2 tail := by
  obtain ⟨c, rfl, rfl, rfl⟩ := hs
  simp only [writableMethod, Bool.and_eq_true, List.all_eq_true] at hw
  obtain ⟨⟨⟨⟨hnm, _⟩, hi⟩, hd⟩, hp⟩ := hw
  obtain ⟨h', hrun⟩ := doc_run 2
    (fun a h => inMem D c.key (viewC c) c.had (.method e.1 { info := normAction e.2.info, doc := a, params := [] } h none))
    (fun _ _ h => by
      have hcp : ¬ (C_ = P_) := by decide
      simp only [inMem, step, step2, closeParam, hcp, h, if_false, if_true, Option.map_some]) e.2.doc hd
    (e.2.params.flatMap paramL ++ tail)
  obtain ⟨s2, h2, hrun2⟩ := AList.entries_run steps
    (fun l => OpenM D c.key (viewC c) c.had e.1 h' { info := normAction e.2.info, doc := normAction e.2.doc, params := l })
    paramL Prod.fst (normParam ·.2) tail e.2.params [] _ ⟨_, none, rfl, rfl⟩
    (fun x hx _ _ tail => param_run x (hp x hx) tail) hn (fun _ _ => rfl)
  refine ⟨s2, h2.openC, Eq.trans ?_ (hrun.trans hrun2)⟩
  have hc' : contains (e.1.1, e.1.2) (closeMem c.d c.mem).methods = false := hc
  have hmf : ¬ (M_ = F_) := by decide
  simp only [methodL, List.cons_append, List.append_assoc, steps, inMem, step, step1, hmf, if_false, if_true,
    nameCell_valid _ hnm, Bool.not_true, Bool.false_eq_true, parse_name method_ne_nil e.2.info hi, hc', viewC,
    Option.map_some]

theorem class_run (e : JStr × CDiff) (hw : writableClass e = true)
    (hnf : NoDup e.2.fields) (hnm : NoDup e.2.methods) (hnp : ∀ m ∈ e.2.methods, NoDup m.2.params) (tail : List Line)
    {l : AList JStr CDiff} {st : St} (hs : viewS st = l) (hc : contains e.1 l = false) :
    ∃ st2, viewS st2 = l ++ [(e.1, normClass e.2)] ∧ steps st (classL e ++ tail) = steps st2 tail := by
  subst hs
  simp only [writableClass, Bool.and_eq_true, List.all_eq_true] at hw
  obtain ⟨⟨⟨⟨hn, hi⟩, hd⟩, hf⟩, hm⟩ := hw
  obtain ⟨h', hrun⟩ := doc_run 1
    (fun a h => { done := viewS st, cls := some { key := e.1, d := { info := normAction e.2.info, doc := a, fields := [], methods := [] }, had := h, mem := none } })
    (fun _ _ h => by
      have hcf : ¬ (C_ = F_) := by decide
      have hcm : ¬ (C_ = M_) := by decide
      simp only [step, step1, closeMem, hcf, hcm, h, if_false, if_true, Option.map_some]) e.2.doc hd
    (e.2.fields.flatMap fieldL ++ (e.2.methods.flatMap methodL ++ tail))
  obtain ⟨_, h1, hrun1⟩ := AList.entries_run steps
    (fun l => OpenC (viewS st) e.1 { info := normAction e.2.info, doc := normAction e.2.doc, fields := l, methods := [] })
    fieldL Prod.fst (normField ·.2) (e.2.methods.flatMap methodL ++ tail) e.2.fields [] _
    ⟨⟨e.1, ⟨normAction e.2.info, normAction e.2.doc, [], []⟩, h', none⟩, rfl, rfl, rfl⟩
    (fun x hx _ _ tail => field_run x (hf x hx) tail) hnf (fun _ _ => rfl)
  obtain ⟨s2, h2, hrun2⟩ := AList.entries_run steps
    (fun l => OpenC (viewS st) e.1
      { info := normAction e.2.info, doc := normAction e.2.doc,
        fields := [] ++ e.2.fields.map fun e => (e.1, normField e.2), methods := l })
    methodL Prod.fst (normMethod ·.2) tail e.2.methods [] _ h1
    (fun x hx _ _ tail => method_run x (hm x hx) (hnp x hx) tail) hnm (fun _ _ => rfl)
  refine ⟨s2, ?_, Eq.trans ?_ (hrun.trans (hrun1.trans hrun2))⟩
  · simp only [h2.viewS, normClass, List.nil_append]
  · have hc' : contains e.1 (closeClass st.done st.cls) = false := hc
    simp only [classL, List.cons_append, List.append_assoc, steps, step, step0, if_true, nameCell_valid _ hn, Bool.not_true,
      Bool.false_eq_true, if_false, parse_name class_ne_nil e.2.info hi, hc', viewS]

end TinyDiff
