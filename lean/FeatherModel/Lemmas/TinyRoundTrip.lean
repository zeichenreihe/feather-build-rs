import FeatherModel.Lemmas.TinyRead
import FeatherModel.Lemmas.TinyWrite

/-!
# `Tiny.read` on the text `Tiny.write` emits (C03)
`Tiny.run` on the written lines, level by level: the lines of an entry are a `Block` denoting the canonical form of that
entry; the blocks of the entries of a map, in the order `write` emits them, denote its sorted entries (`Block.sorted`),
which is what `canon` makes of the map; the lines of the whole file. `Thm.C03.read_write` puts them together.
-/

namespace Tiny

/-- a position in the tree under construction where the open class lives -/
abbrev ClassCtx (ctx : Class → AList JStr Class) : Prop :=
  ∀ (g : Class → Option Class) (c : Class), modLastV g (ctx c) = (g c).map ctx

/-- … where the open method lives: the last method of the open class -/
abbrev MethodCtx (ctx : Method → AList JStr Class) : Prop :=
  ∀ (g : Method → Option Method) (m : Method), modLastV (inLastMethod g) (ctx m) = (g m).map ctx

theorem classCtx_mk (cs : AList JStr Class) (k : JStr) : ClassCtx (fun c => cs ++ [(k, c)]) := by
  intro g c
  exact modLastV_append_single g cs k c

theorem methodCtx_mk {cctx : Class → AList JStr Class} (hc : ClassCtx cctx) (c : Class)
    (ms : AList MemberKey Method) (k : MemberKey) :
    MethodCtx (fun m => cctx { c with methods := ms ++ [(k, m)] }) := by
  intro g m
  rw [hc]
  simp only [inLastMethod, modLastV_append_single]
  cases g m <;> rfl

theorem intoNames_cells {valid : JStr → Bool} {n : Nat} {names : Names} (h : namesOk valid n names = true) :
    intoNames valid n (cellsOf names) = some names := by
  have h1 : (cellsOf names).any (fun f => !f.isEmpty && !valid f) = false := by
    rw [Bool.eq_false_iff]
    intro hany
    simp only [List.any_eq_true, cellsOf, List.mem_map] at hany
    obtain ⟨x, ⟨o, ho, rfl⟩, hx⟩ := hany
    cases o with
    | none => simp at hx
    | some s => simp [(namesOk_some h ho).2.2] at hx
  have h2 : (cellsOf names).length = n := by
    simp only [namesOk, Bool.and_eq_true, beq_iff_eq] at h
    simp [cellsOf, h.1]
  have h3 : (cellsOf names).map (fun f => if f.isEmpty then none else some f) = names := by
    simp only [cellsOf, List.map_map]
    conv => rhs; rw [← List.map_id names]
    apply List.map_congr_left
    intro o ho
    cases o with
    | none => simp
    | some s => simpa using (namesOk_some h ho).1
  simp only [intoNames, h1, h2, h3]
  simp

theorem setDoc_doc (indent : Nat) (d : JStr) :
    setDoc none { indent := indent, first := C_, fields := [escape d] } = some (some d) := by
  simp [setDoc, commentOf, unescape_escape d]

/-- the optional comment line behind the line that opened an entry; `s o` is the state in which the entry has the
comment `o`, and `hstep` the reader's step on the comment line -/
theorem run_doc {n : Nat} (s : Option JStr → St) (indent : Nat) (doc : Option JStr)
    (hstep : ∀ d, step n (s none) { indent := indent, first := C_, fields := [escape d] } = some (s (some d)))
    (tail : List TLine) : run n (s none) (docT indent doc ++ tail) = run n (s doc) tail := by
  cases doc with
  | none => rfl
  | some d => exact run_cons_of_step (hstep d) tail

/-- **the block `ls` denotes the entries `es`**: where the open list of entries is `m` (at the place `ctx` of the tree)
and depth and member kind satisfy `I`, reading `ls` goes on as from the state in which `es` are appended to `m`,
provided their keys are new -/
def Block {K V : Type} [BEq K] (n : Nat) (I : Nat → Kind → Prop) (ctx : AList K V → AList JStr Class) (ls : List TLine)
    (es : AList K V) : Prop :=
  ∀ (m : AList K V) (d : Nat) (k : Kind) (tail : List TLine), I d k → (∀ e ∈ es, AList.contains e.1 m = false) →
    ∃ d' k', I d' k' ∧ run n ⟨d, k, ctx m⟩ (ls ++ tail) = run n ⟨d', k', ctx (m ++ es)⟩ tail

/-- the blocks of the entries of a map with unique keys, in the order `write` emits them, denote the map `canon` makes of
it: `g` is what reading a block makes of the entry written (`id` or the canonical form), which the order does not see -/
theorem Block.sorted {K V : Type} [BEq K] [LawfulBEq K] {n : Nat} {I : Nat → Kind → Prop}
    {ctx : AList K V → AList JStr Class} (le : V → V → Bool) (T : V → List TLine) (g : V → V)
    (hg : ∀ a b, le (g a) (g b) = le a b) (es : AList K V) (hnd : keysNodup es = true)
    (one : ∀ e ∈ es, Block n I ctx (T e.2) [(e.1, g e.2)]) :
    Block n I ctx ((sortBy le es.values).flatMap T) (sortKV le (AList.mapVals g es)) := by
  rw [← values_sortKV, AList.values, List.flatMap_map, sortKV_mapVals_eq le g hg]
  intro m d k tail hi hnew
  obtain ⟨_, ⟨d', k', hi', rfl⟩, h⟩ := AList.entries_run (run n) (fun m s => ∃ d k, I d k ∧ s = ⟨d, k, ctx m⟩)
    (fun e => T e.2) Prod.fst (fun e => g e.2) tail (sortKV le es) m _ ⟨d, k, hi, rfl⟩
    (fun e he m s tail ⟨d, k, hi, hs⟩ hnew => by
      obtain ⟨d', k', hi', h⟩ := one e (mem_sortBy.mp he) m d k tail hi (List.forall_mem_singleton.mpr hnew)
      exact ⟨_, ⟨d', k', hi', rfl⟩, hs ▸ h⟩)
    (((sortBy_perm _ es).map _).nodup_iff.mpr (keysNodup_iff.mp hnd)) (fun e he => hnew (e.1, g e.2) (List.mem_map_of_mem he))
  exact ⟨d', k', hi', h⟩

theorem firstName_getD {names : Names} {k : JStr} (h : firstName names = some k) : (firstName names).getD [] = k := by
  rw [h]; rfl

theorem param_block {n : Nat} {ctx : Method → AList JStr Class} (hctx : MethodCtx ctx) (m : Method) {p : Param}
    (hp : paramOk n p = true) :
    Block n (fun d k => 2 ≤ d ∧ k = .method) (fun ps => ctx { m with params := ps }) (paramT p) [(p.index, p)] := by
  rintro ps d _ tail ⟨hd, rfl⟩ hnew
  obtain ⟨hix, hpn⟩ := paramOk_iff.mp hp
  have hstep : step n ⟨d, .method, ctx { m with params := ps }⟩
      { indent := 2, first := P_, fields := natDigits p.index :: cellsOf p.names }
      = some ⟨3, .method, ctx { m with params := ps ++ [(p.index, { index := p.index, names := p.names, doc := none })] }⟩ := by
    refine step_of_act (κ := .par) hd (by simp) rfl ?_
    simp only [act, hctx, addParam, parseUsize_natDigits p.index hix, intoNames_cells hpn,
      AList.insertNew_new _ _ _ (hnew _ List.mem_cons_self)]
    rfl
  refine ⟨3, .method, ⟨by omega, rfl⟩, ?_⟩
  rw [paramT, List.cons_append, run_cons_of_step hstep]
  refine run_doc (fun o => ⟨3, .method, ctx { m with params := ps ++ [(p.index, { index := p.index, names := p.names, doc := o })] }⟩)
    3 p.doc (fun dd => ?_) tail
  refine step_of_act (κ := .doc) (Nat.le_refl 3) (by simp) rfl ?_
  simp only [act, hctx, inLastParam, modLastV_append_single, paramDoc, setDoc_doc 3 dd]
  rfl

theorem field_block {n : Nat} {cctx : Class → AList JStr Class} (hctx : ClassCtx cctx) (c : Class) {f : Field}
    {name : JStr} (hf : fieldOk n f = true) (hname : firstName f.names = some name) :
    Block n (fun d _ => 1 ≤ d) (fun fs => cctx { c with fields := fs }) (fieldT f) [((name, f.desc), f)] := by
  intro fs d k tail hd hnew
  obtain ⟨_, hfn⟩ := fieldOk_iff.mp hf
  have hstep : step n ⟨d, k, cctx { c with fields := fs }⟩ { indent := 1, first := F_, fields := f.desc :: cellsOf f.names }
      = some ⟨2, .field, cctx { c with fields := fs ++ [((name, f.desc), { desc := f.desc, names := f.names, doc := none })] }⟩ := by
    refine step_of_act (κ := .fld) hd (by simp) rfl ?_
    simp only [act, hctx, addField, intoNames_cells hfn, hname, AList.insertNew_new _ _ _ (hnew _ List.mem_cons_self)]
    rfl
  refine ⟨2, .field, Nat.le_succ 1, ?_⟩
  rw [fieldT, List.cons_append, run_cons_of_step hstep]
  refine run_doc (fun o => ⟨2, .field, cctx { c with fields := fs ++ [((name, f.desc), { desc := f.desc, names := f.names, doc := o })] }⟩)
    2 f.doc (fun dd => ?_) tail
  refine step_of_act (κ := .doc) (Nat.le_refl 2) (by simp) rfl ?_
  simp only [act, hctx, inLastField, modLastV_append_single, fieldDoc, setDoc_doc 2 dd]
  rfl

theorem method_block {n : Nat} {cctx : Class → AList JStr Class} (hctx : ClassCtx cctx) (c : Class) {m : Method}
    {name : JStr} (hm : methodOk n m = true) (hwf : wfMethod m = true) (hname : firstName m.names = some name) :
    Block n (fun d _ => 1 ≤ d) (fun ms => cctx { c with methods := ms }) (methodT m) [((name, m.desc), canonMethod m)] := by
  intro ms d k tail hd hnew
  obtain ⟨_, hmn, hps⟩ := methodOk_iff.mp hm
  have hmc := methodCtx_mk hctx c ms (name, m.desc)
  have hstep : step n ⟨d, k, cctx { c with methods := ms }⟩ { indent := 1, first := M_, fields := m.desc :: cellsOf m.names }
      = some ⟨2, .method, cctx { c with methods := ms ++ [((name, m.desc), { m with doc := none, params := [] })] }⟩ := by
    refine step_of_act (κ := .mth) hd (by simp) rfl ?_
    simp only [act, hctx, addMethod, intoNames_cells hmn, hname, AList.insertNew_new _ _ _ (hnew _ List.mem_cons_self)]
    rfl
  rw [methodT, List.cons_append, run_cons_of_step hstep, List.append_assoc,
    run_doc (fun o => ⟨2, .method, cctx { c with methods := ms ++ [((name, m.desc), { m with doc := o, params := [] })] }⟩)
      2 m.doc (fun dd => by
        refine step_of_act (κ := .doc) (Nat.le_refl 2) (by simp) rfl ?_
        simp only [act, hmc, methodDoc, setDoc_doc 2 dd]
        rfl)]
  obtain ⟨d', _, ⟨hd', rfl⟩, h⟩ := Block.sorted paramLe paramT id (fun _ _ => rfl) m.params (wfMethod_params hwf).1
    (fun e he => (wfMethod_params hwf).2 e he ▸ param_block hmc m (hps e he))
    [] 2 .method tail ⟨Nat.le_refl 2, rfl⟩ (fun _ _ => rfl)
  rw [mapVals_id] at h
  exact ⟨d', .method, by omega, h⟩

theorem class_block {n : Nat} {c : Class} (hc : classOk n c = true) (hwf : wfClass c = true) {key : JStr}
    (hname : firstName c.names = some key) : Block n (fun _ _ => True) id (classT c) [(key, canonClass c)] := by
  intro cs d k tail _ hnew
  show ∃ d' k', True ∧ run n ⟨d, k, cs⟩ (classT c ++ tail) = run n ⟨d', k', cs ++ [(key, canonClass c)]⟩ tail
  obtain ⟨hcn, hfs, hms⟩ := classOk_iff.mp hc
  have hctx := classCtx_mk cs key
  have hstep : step n ⟨d, k, cs⟩ { indent := 0, first := C_, fields := cellsOf c.names }
      = some ⟨1, k, cs ++ [(key, { c with doc := none, fields := [], methods := [] })]⟩ := by
    refine step_of_act (κ := .cls) (Nat.zero_le d) (by simp) rfl ?_
    simp only [act, addClass, intoNames_cells hcn, hname, AList.insertNew_new _ _ _ (hnew _ List.mem_cons_self)]
  rw [classT, List.cons_append, run_cons_of_step hstep, List.append_assoc,
    run_doc (fun o => ⟨1, k, cs ++ [(key, ({ c with doc := o, fields := [], methods := [] } : Class))]⟩) 1 c.doc (fun dd => by
      refine step_of_act (κ := .doc) (Nat.le_refl 1) (by simp) rfl ?_
      simp only [act, hctx, classDoc, setDoc_doc 1 dd]
      rfl)]
  obtain ⟨d1, k1, hd1, e1⟩ := Block.sorted fieldLe fieldT id (fun _ _ => rfl) c.fields (wfClass_fields hwf).1
    (fun e he => by
      have := (wfClass_fields hwf).2 e he
      exact this.2 ▸ field_block hctx { c with methods := [] } (hfs e he) this.1)
    [] 1 k ((sortBy methodLe c.methods.values).flatMap methodT ++ tail) (Nat.le_refl 1) (fun _ _ => rfl)
  obtain ⟨d2, k2, _, e2⟩ := Block.sorted methodLe methodT canonMethod (fun _ _ => rfl) c.methods (wfClass_methods hwf).1
    (fun e he => by
      have := (wfClass_methods hwf).2 e he
      exact this.2.1 ▸ method_block hctx { c with fields := sortKV fieldLe c.fields } (hms e he) this.2.2 this.1)
    [] d1 k1 tail hd1 (fun _ _ => rfl)
  rw [mapVals_id] at e1
  exact ⟨d2, k2, trivial, by rw [List.append_assoc]; exact e1.trans e2⟩

theorem writeLines_parsed {n : Nat} {m : Mappings} (hns : ∀ s ∈ m.ns, cellOk s = true)
    (hcls : ∀ e ∈ m.classes, classOk n e.2 = true) :
    Parsed (writeLines m) ({ indent := 0, first := TINY, fields := [50] :: [48] :: m.ns } ::
      (docT 1 m.doc ++ (sortBy classLe m.classes.values).flatMap classT)) := by
  exact Parsed.rowOf 0 TINY _ (by decide) (by decide)
    (List.forall_mem_cons.mpr ⟨by decide, List.forall_mem_cons.mpr ⟨by decide, fun c hc => cellOk_clean (hns c hc)⟩⟩)
    (by simp [headerLine, mkLine, TINY])
    ((docLines_parsed 1 m.doc).append (Parsed.sorted _ _ _ _ fun e he => classLines_parsed (hcls e he)))

theorem classT_head (cs : List Class) : ∀ l ∈ (cs.flatMap classT).head?, l.indent = 0 := by
  cases cs with
  | nil => simp
  | cons c cs => simp [List.flatMap_cons, classT]

theorem headerSec_written (doc : Option JStr) (rest : List TLine) (h : ∀ l ∈ rest.head?, l.indent = 0) :
    headerSec none (docT 1 doc ++ rest) = some (doc, rest) := by
  have hp : headerPart rest = [] ∧ bodyPart rest = rest := by
    cases rest with
    | nil => exact ⟨rfl, rfl⟩
    | cons l ls => simp [headerPart_cons, bodyPart_cons_zero, h l (by simp)]
  cases doc with
  | none => simp [headerSec_eq, docT, headerDocLines, hp]
  | some c =>
    simp [headerSec_eq, docT, headerDocLines, headerPart_cons, bodyPart_cons_pos, hp, setDoc, commentOf, unescape_escape]

end Tiny
