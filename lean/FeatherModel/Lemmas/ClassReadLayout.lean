import FeatherModel.Lemmas.ClassReadCursor
import FeatherModel.Lemmas.ClassReadOpKind

/-! The layout functions of the specification (sizes are the lengths of the encodings, positions are strictly increasing)
and the reader-side values a layout denotes relative to a label table (`labOf`, `SVType.raw`, `SFrameKind.raw`); the
encoding, size and legality of a switch, which do not depend on its `form`. -/

namespace ClassRead
open Outcome Spec

/-- the label id the table holds for instruction `t` -/
def labOf (l : Labels) (pos : Nat → Nat) (t : Nat) : Nat := (l.get (pos t)).getD 0

def Spec.SVType.raw (lf : Labels) (pos : Nat → Nat) : SVType → VType
  | .top => .top | .int => .int | .float => .float | .double => .double | .long => .long | .null => .null
  | .uninitThis => .uninitThis
  | .object _ c => .object c
  | .uninit t => .uninit (labOf lf pos t)

def Spec.SVType.refs (pos : Nat → Nat) : SVType → List Nat
  | .uninit t => [pos t]
  | _ => []

def Spec.SFrameKind.raw (lf : Labels) (pos : Nat → Nat) : SFrameKind → Frame
  | .same => .same
  | .same1 v => .same1 (v.raw lf pos)
  | .chop k => .chop k
  | .append vs => .append (vs.map (SVType.raw lf pos))
  | .full ls ss => .full (ls.map (SVType.raw lf pos)) (ss.map (SVType.raw lf pos))

def Spec.SFrameKind.refs (pos : Nat → Nat) : SFrameKind → List Nat
  | .same1 v => v.refs pos
  | .append vs => vs.flatMap (SVType.refs pos)
  | .full ls ss => ls.flatMap (SVType.refs pos) ++ ss.flatMap (SVType.refs pos)
  | _ => []

/-- the frames as the reader holds them: (label of the instruction, frame with label ids) -/
def framesRaw (lf : Labels) (pos : Nat → Nat) (fs : List SFrame) : List (Nat × Frame) :=
  fs.map (fun f => (labOf lf pos f.at_, f.kind.raw lf pos))

theorem tryGet_labOf (l : Labels) (pos : Nat → Nat) (t : Nat) (h : (l.get (pos t)).isSome = true) :
    l.tryGet (pos t) = ok (labOf l pos t) := by
  unfold Labels.tryGet labOf
  cases hg : l.get (pos t) with
  | none => simp [hg] at h
  | some id => simp

/- A switch is encoded the same way under every `form`; the two equations spare their users the case split on it. -/
theorem SInsn.tableswitch_eq (pos : Nat → Nat) (a d : Nat) (lo hi : Int) (tbl : List Nat) (form : Form) (cp pad : Nat) :
    SInsn.encode pos a ⟨.tableswitch d lo hi tbl, form, cp, pad⟩ =
      0xaa :: (List.replicate (padLen a) pad ++ (be32 (ofI32 (relOff pos a d)) ++ (be32 (ofI32 lo) ++ (be32 (ofI32 hi)
        ++ tbl.flatMap (fun t => be32 (ofI32 (relOff pos a t))))))) := by
  cases form <;> simp [SInsn.encode]

theorem SInsn.tableswitch_size (a d : Nat) (lo hi : Int) (tbl : List Nat) (form : Form) (cp pad : Nat) :
    SInsn.size a ⟨.tableswitch d lo hi tbl, form, cp, pad⟩ = 1 + padLen a + 12 + 4 * tbl.length := by
  cases form <;> rfl

theorem SInsn.lookupswitch_eq (pos : Nat → Nat) (a d : Nat) (pairs : List (Int × Nat)) (form : Form) (cp pad : Nat) :
    SInsn.encode pos a ⟨.lookupswitch d pairs, form, cp, pad⟩ =
      0xab :: (List.replicate (padLen a) pad ++ (be32 (ofI32 (relOff pos a d)) ++ (be32 pairs.length
        ++ pairs.flatMap (fun kt => be32 (ofI32 kt.1) ++ be32 (ofI32 (relOff pos a kt.2)))))) := by
  cases form <;> simp [SInsn.encode]

theorem SInsn.lookupswitch_size (a d : Nat) (pairs : List (Int × Nat)) (form : Form) (cp pad : Nat) :
    SInsn.size a ⟨.lookupswitch d pairs, form, cp, pad⟩ = 1 + padLen a + 8 + 8 * pairs.length := by
  cases form <;> rfl

theorem SInsn.legal_tableswitch {p : Pool} {bsms : Option (List Bsm)} {n : Nat} {pos : Nat → Nat} {a d : Nat} {lo hi : Int}
    {tbl : List Nat} {form : Form} {cp pad : Nat} (h : SInsn.Legal p bsms n pos a ⟨.tableswitch d lo hi tbl, form, cp, pad⟩) :
    d < n ∧ (∀ t ∈ tbl, t < n) ∧ inI32 lo ∧ inI32 hi ∧ lo ≤ hi ∧ (tbl.length : Int) = hi - lo + 1 ∧ tbl.length < 16384 ∧ pad < 256 := by
  cases form <;> exact h

theorem SInsn.legal_lookupswitch {p : Pool} {bsms : Option (List Bsm)} {n : Nat} {pos : Nat → Nat} {a d : Nat}
    {pairs : List (Int × Nat)} {form : Form} {cp pad : Nat} (h : SInsn.Legal p bsms n pos a ⟨.lookupswitch d pairs, form, cp, pad⟩) :
    d < n ∧ (∀ kt ∈ pairs, kt.2 < n ∧ inI32 kt.1) ∧ pairs.length < 8192 ∧ pad < 256 := by
  cases form <;> exact h

theorem SInsn.size_pos (a : Nat) (si : SInsn) : 1 ≤ si.size a := by
  obtain ⟨insn, form, cp, pad⟩ := si
  cases insn with
  | tableswitch d lo hi tbl => rw [SInsn.tableswitch_size]; omega
  | lookupswitch d pairs => rw [SInsn.lookupswitch_size]; omega
  | _ => cases form <;> exact Nat.succ_le_succ (Nat.zero_le _)

theorem SInsn.encode_length (pos : Nat → Nat) (a : Nat) (si : SInsn) : (si.encode pos a).length = si.size a := by
  obtain ⟨insn, form, cp, pad⟩ := si
  cases insn with
  | tableswitch d lo hi tbl =>
    have h := length_flatMap_const (fun t => be32 (ofI32 (relOff pos a t))) 4 tbl (fun _ _ => rfl)
    rw [SInsn.tableswitch_eq, SInsn.tableswitch_size]
    simp only [List.length_cons, List.length_append, List.length_replicate, be32_length, h]; omega
  | lookupswitch d pairs =>
    have h := length_flatMap_const (fun kt : Int × Nat => be32 (ofI32 kt.1) ++ be32 (ofI32 (relOff pos a kt.2))) 8 pairs (fun _ _ => rfl)
    rw [SInsn.lookupswitch_eq, SInsn.lookupswitch_size]
    simp only [List.length_cons, List.length_append, List.length_replicate, be32_length, h]; omega
  | _ => cases form <;> rfl

theorem SInsn.encode_ne_nil (pos : Nat → Nat) (a : Nat) (si : SInsn) : si.encode pos a ≠ [] := by
  intro h
  have hs := SInsn.size_pos a si
  rw [← SInsn.encode_length pos a si, h] at hs
  exact Nat.not_succ_le_zero 0 hs

theorem endPos_ge (xs : List SInsn) (a : Nat) : a + xs.length ≤ endPos xs a := by
  induction xs generalizing a with
  | nil => simp [endPos]
  | cons x xs ih =>
    have := ih (a + x.size a)
    have := SInsn.size_pos a x
    simp [endPos]; omega

theorem encInsns_length (pos : Nat → Nat) (xs : List SInsn) (a : Nat) : a + (encInsns pos xs a).length = endPos xs a := by
  induction xs generalizing a with
  | nil => simp [encInsns, endPos]
  | cons x xs ih =>
    have := ih (a + x.size a)
    simp [encInsns, endPos, SInsn.encode_length]; omega

theorem endPos_append (xs ys : List SInsn) (a : Nat) : endPos (xs ++ ys) a = endPos ys (endPos xs a) := by
  induction xs generalizing a with
  | nil => simp [endPos]
  | cons x xs ih => simp [endPos, ih]

theorem codePos_length (insns : List SInsn) : codePos insns insns.length = endPos insns 0 := by
  rw [codePos, List.take_length]

theorem codePos_zero (insns : List SInsn) : codePos insns 0 = 0 := by simp [codePos, endPos]

theorem codePos_succ (insns : List SInsn) (i : Nat) (h : i < insns.length) :
    codePos insns (i + 1) = codePos insns i + insns[i].size (codePos insns i) := by
  unfold codePos
  rw [List.take_succ_eq_append_getElem h, endPos_append]
  simp [endPos]

theorem codePos_mono (insns : List SInsn) (i j : Nat) (hij : i < j) (hj : j ≤ insns.length) :
    codePos insns i < codePos insns j := by
  induction j with
  | zero => omega
  | succ j ih =>
    have hj' : j < insns.length := by omega
    rw [codePos_succ insns j hj']
    have := SInsn.size_pos (codePos insns j) insns[j]
    rcases Nat.lt_succ_iff_lt_or_eq.mp hij with h | rfl
    · have := ih h (by omega); omega
    · omega

theorem codePos_inj (insns : List SInsn) (i j : Nat) (hi : i ≤ insns.length) (hj : j ≤ insns.length)
    (h : codePos insns i = codePos insns j) : i = j := by
  rcases Nat.lt_trichotomy i j with h1 | h1 | h1
  · have := codePos_mono insns i j h1 hj; omega
  · exact h1
  · have := codePos_mono insns j i h1 hi; omega

theorem codePos_le_end (insns : List SInsn) (i : Nat) (hi : i ≤ insns.length) :
    codePos insns i ≤ codePos insns insns.length := by
  rcases Nat.lt_or_eq_of_le hi with h | rfl
  · exact Nat.le_of_lt (codePos_mono insns i insns.length h (Nat.le_refl _))
  · exact Nat.le_refl _

end ClassRead
