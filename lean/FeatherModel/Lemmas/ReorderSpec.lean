import FeatherModel.Model.Reorder
import FeatherModel.Lemmas.AList

/-!
# The relational specification of `reorder` and its equivalence with the model

`ListRel` relates two lists position by position; `buildMap` is characterised through it (`buildVals_iff`: collect what
the steps produce, then the keys must be pairwise different), once for all four levels.

`Spec m req m'` says, without `buildMap` (the lookup table, the name rows, the class map and `map_desc` are the model's
own): entry `i` of every map of `m'` comes from entry `i` of the corresponding map of `m` (order preserved); its name row
is the old row read through the lookup table; its descriptor is the old one rewritten by the class map `0 → table[0]`;
comments and parameter indices are equal; it is stored under the key derived from its *new* info; the keys of every
result map are pairwise different.
-/

namespace Reorder
open MapDesc

/-- two lists of the same length are related position by position (entry order preserved). A relation, not
`l.map f = l'.map g`: the entry relations nest (`ClassRel` holds `ListRel (FieldRel …)`), and the inverse is read off
by flipping them (`flip`). -/
inductive ListRel {α β : Type} (R : α → β → Prop) : List α → List β → Prop
  | nil : ListRel R [] []
  | cons {a b l l'} : R a b → ListRel R l l' → ListRel R (a :: l) (b :: l')

namespace ListRel
variable {α β γ : Type} {R : α → β → Prop} {l : List α} {l' : List β}

theorem length_eq (h : ListRel R l l') : l.length = l'.length := by
  induction h with
  | nil => rfl
  | cons _ _ ih => simp [ih]

theorem get (h : ListRel R l l') :
    ∀ (i : Nat) (hi : i < l.length) (hi' : i < l'.length), R l[i] l'[i] := by
  induction h with
  | nil => intro i hi; simp at hi
  | cons hab _ ih =>
    intro i hi hi'
    cases i with
    | zero => exact hab
    | succ i => exact ih i (by simpa using hi) (by simpa using hi')

theorem of_get : ∀ {l : List α} {l' : List β}, l.length = l'.length →
    (∀ (i : Nat) (hi : i < l.length) (hi' : i < l'.length), R l[i] l'[i]) → ListRel R l l' := by
  intro l
  induction l with
  | nil =>
    intro l' h _
    cases l' with
    | nil => exact .nil
    | cons _ _ => cases h
  | cons a l ih =>
    intro l' h hg
    cases l' with
    | nil => cases h
    | cons b l' =>
      exact .cons (hg 0 (Nat.zero_lt_succ _) (Nat.zero_lt_succ _))
        (ih (Nat.succ.inj h) fun i hi hi' => hg (i + 1) (Nat.succ_lt_succ hi) (Nat.succ_lt_succ hi'))

theorem imp_mem {S : α → β → Prop} (h : ListRel R l l')
    (himp : ∀ a ∈ l, ∀ b ∈ l', R a b → S a b) : ListRel S l l' := by
  induction h with
  | nil => exact .nil
  | cons hab _ ih =>
    refine .cons (himp _ List.mem_cons_self _ List.mem_cons_self hab) (ih ?_)
    intro a ha b hb
    exact himp a (List.mem_cons_of_mem _ ha) b (List.mem_cons_of_mem _ hb)

theorem flip (h : ListRel R l l') : ListRel (fun b a => R a b) l' l := by
  induction h with
  | nil => exact .nil
  | cons hab _ ih => exact .cons hab ih

theorem refl_mem {R : α → α → Prop} {l : List α} (h : ∀ a ∈ l, R a a) : ListRel R l l := by
  induction l with
  | nil => exact .nil
  | cons a l ih =>
    exact .cons (h a List.mem_cons_self) (ih (fun x hx => h x (List.mem_cons_of_mem _ hx)))

theorem mem_left (h : ListRel R l l') {a : α} (ha : a ∈ l) : ∃ b ∈ l', R a b := by
  induction h with
  | nil => simp at ha
  | cons hab _ ih =>
    rcases List.mem_cons.mp ha with rfl | ha
    · exact ⟨_, List.mem_cons_self, hab⟩
    · obtain ⟨b, hb, hr⟩ := ih ha
      exact ⟨b, List.mem_cons_of_mem _ hb, hr⟩

theorem map_eq {f : α → γ} {g : β → γ} (h : ListRel (fun a b => g b = f a) l l') :
    l'.map g = l.map f := by
  induction h with
  | nil => rfl
  | cons hab _ ih => simp [hab, ih]

theorem eq_of_eq {l l' : List α} (h : ListRel (fun a b => b = a) l l') : l' = l := by
  have := map_eq (f := fun a : α => a) (g := fun a : α => a) h
  simpa using this

theorem key_ne {κ : Type} {key : β → κ} (h : ListRel R l l') (hnd : (l'.map key).Nodup)
    {i j : Nat} (hi : i < l.length) (hj : j < l.length) (hij : i < j) :
    ∃ a b, R l[i] a ∧ R l[j] b ∧ key a ≠ key b := by
  have hi' : i < l'.length := h.length_eq ▸ hi
  have hj' : j < l'.length := h.length_eq ▸ hj
  refine ⟨l'[i], l'[j], h.get i hi hi', h.get j hj hj', fun e => ?_⟩
  have := (List.getElem_inj (h₀ := (List.length_map key).symm ▸ hi') (h₁ := (List.length_map key).symm ▸ hj') hnd).mp
    (by rw [List.getElem_map, List.getElem_map]; exact e)
  omega

end ListRel

/-- `map_with_key_from_result_iter(map.values().map(mk))` with an accumulator: the entries produced are appended,
provided no key occurs twice; `R` is what one successful step says of its input and output entry -/
theorem buildVals_iff_acc {K0 K V W : Type} [BEq K] [LawfulBEq K] {mk : V → Option (K × W)}
    {R : K0 × V → K × W → Prop} (hR : ∀ e e', mk e.2 = some e' ↔ R e e') :
    ∀ (l : AList K0 V) (acc r : AList K W), (AList.keys acc).Nodup →
      (buildMap mk (AList.values l) acc = some r ↔
        ∃ kvs, ListRel R l kvs ∧ r = acc ++ kvs ∧ (AList.keys r).Nodup) := by
  intro l
  induction l with
  | nil =>
    intro acc r hacc
    simp only [AList.values, List.map_nil, buildMap, Option.some.injEq]
    constructor
    · rintro rfl
      exact ⟨[], .nil, (List.append_nil _).symm, hacc⟩
    · rintro ⟨kvs, h, rfl, _⟩
      cases h
      exact (List.append_nil _).symm
  | cons e l ih =>
    intro acc r hacc
    simp only [AList.values, List.map_cons, buildMap]
    cases hmk : mk e.2 with
    | none =>
      refine ⟨nofun, ?_⟩
      rintro ⟨kvs, h, _⟩
      cases h with
      | cons hab _ => rw [← hR, hmk] at hab; cases hab
    | some kw =>
      obtain ⟨k, w⟩ := kw
      dsimp only
      by_cases hk : k ∈ AList.keys acc
      · rw [AList.insertNew_eq_none.mpr (AList.contains_iff_mem_keys.mpr hk)]
        refine ⟨nofun, ?_⟩
        rintro ⟨kvs, h, rfl, hnd⟩
        cases h with
        | cons hab _ =>
          rw [← hR, hmk] at hab
          cases hab
          rw [AList.keys, List.map_append, List.nodup_append] at hnd
          exact (hnd.2.2 k hk k List.mem_cons_self rfl).elim
      · rw [AList.insertNew_new k w acc (AList.contains_eq_false_iff.mpr hk)]
        have hacc' : (AList.keys (acc ++ [(k, w)])).Nodup := by
          rw [AList.keys, List.map_append]
          refine List.nodup_append.mpr ⟨hacc, List.nodup_cons.mpr ⟨List.not_mem_nil, List.nodup_nil⟩, fun a ha b hb e => ?_⟩
          have e : a = k := e.trans (List.mem_singleton.mp hb)
          exact hk (e ▸ ha)
        rw [← AList.values, ih _ r hacc']
        constructor
        · rintro ⟨kvs, h, rfl, hnd⟩
          exact ⟨(k, w) :: kvs, .cons ((hR _ _).mp hmk) h, (List.append_cons ..).symm, hnd⟩
        · rintro ⟨kvs, h, rfl, hnd⟩
          cases h with
          | cons hab h' =>
            rw [← hR, hmk] at hab
            cases hab
            exact ⟨_, h', List.append_cons .., hnd⟩

/-- `map_with_key_from_result_iter(map.values().map(mk))` -/
theorem buildVals_iff {K0 K V W : Type} [BEq K] [LawfulBEq K] {mk : V → Option (K × W)}
    {R : K0 × V → K × W → Prop} (hR : ∀ e e', mk e.2 = some e' ↔ R e e') {l : AList K0 V} {l' : AList K W} :
    buildMap mk (AList.values l) [] = some l' ↔ ListRel R l l' ∧ (AList.keys l').Nodup := by
  rw [buildVals_iff_acc hR l [] l' List.nodup_nil]
  simp only [List.nil_append]
  exact ⟨fun ⟨_, h, e, hnd⟩ => ⟨e ▸ h, hnd⟩, fun ⟨h, hnd⟩ => ⟨l', h, rfl, hnd⟩⟩

/-- new key = old index; index and comment kept; the row read through the table -/
def ParamRel (table : List Nat) (e e' : Nat × Param) : Prop :=
  e'.1 = e.2.index ∧ e'.2.index = e.2.index ∧ e'.2.names = reorderNames table e.2.names ∧ e'.2.doc = e.2.doc

/-- descriptor rewritten by `f`; row read through the table; comment kept; stored under (new first name, new descriptor) -/
def FieldRel (f : JStr → JStr) (table : List Nat) (e e' : MemberKey × Field) : Prop :=
  mapDesc f e.2.desc = some e'.2.desc ∧ e'.2.names = reorderNames table e.2.names ∧ e'.2.doc = e.2.doc ∧
  e'.2.names.head? = some (some e'.1.1) ∧ e'.1.2 = e'.2.desc

/-- as `FieldRel`, and the parameters related position by position, with pairwise different new keys -/
def MethodRel (f : JStr → JStr) (table : List Nat) (e e' : MemberKey × Method) : Prop :=
  mapDesc f e.2.desc = some e'.2.desc ∧ e'.2.names = reorderNames table e.2.names ∧ e'.2.doc = e.2.doc ∧
  e'.2.names.head? = some (some e'.1.1) ∧ e'.1.2 = e'.2.desc ∧
  ListRel (ParamRel table) e.2.params e'.2.params ∧ (AList.keys e'.2.params).Nodup

/-- row read through the table; comment kept; stored under the new first name; fields and methods related position by
position, each map with pairwise different new keys -/
def ClassRel (f : JStr → JStr) (table : List Nat) (e e' : JStr × Class) : Prop :=
  e'.2.names = reorderNames table e.2.names ∧ e'.2.doc = e.2.doc ∧ e'.2.names.head? = some (some e'.1) ∧
  ListRel (FieldRel f table) e.2.fields e'.2.fields ∧ (AList.keys e'.2.fields).Nodup ∧
  ListRel (MethodRel f table) e.2.methods e'.2.methods ∧ (AList.keys e'.2.methods).Nodup

/-- request of the right length, all names known (`tableOf`); namespaces, top comment and classes as specified -/
def Spec (m : Mappings) (req : List JStr) (m' : Mappings) : Prop :=
  req.length = m.ns.length ∧ ∃ t0 rest, tableOf m req = some (t0 :: rest) ∧
    m'.ns = (t0 :: rest).map (fun i => m.ns.getD i []) ∧ m'.doc = m.doc ∧
    ListRel (ClassRel (mapClass (rows m t0)) (t0 :: rest)) m.classes m'.classes ∧ (AList.keys m'.classes).Nodup

section
variable {f : JStr → JStr} {table : List Nat}

namespace ParamRel
variable {e e' : Nat × Param} (h : ParamRel table e e')
include h

theorem key : e'.1 = e.2.index := h.1
theorem index : e'.2.index = e.2.index := h.2.1
theorem names : e'.2.names = reorderNames table e.2.names := h.2.2.1
theorem doc : e'.2.doc = e.2.doc := h.2.2.2

end ParamRel

namespace FieldRel
variable {e e' : MemberKey × Field} (h : FieldRel f table e e')
include h

theorem desc : mapDesc f e.2.desc = some e'.2.desc := h.1
theorem names : e'.2.names = reorderNames table e.2.names := h.2.1
theorem doc : e'.2.doc = e.2.doc := h.2.2.1
theorem head : e'.2.names.head? = some (some e'.1.1) := h.2.2.2.1
theorem key : e'.1.2 = e'.2.desc := h.2.2.2.2

end FieldRel

namespace MethodRel
variable {e e' : MemberKey × Method} (h : MethodRel f table e e')
include h

theorem desc : mapDesc f e.2.desc = some e'.2.desc := h.1
theorem names : e'.2.names = reorderNames table e.2.names := h.2.1
theorem doc : e'.2.doc = e.2.doc := h.2.2.1
theorem head : e'.2.names.head? = some (some e'.1.1) := h.2.2.2.1
theorem key : e'.1.2 = e'.2.desc := h.2.2.2.2.1
theorem params : ListRel (ParamRel table) e.2.params e'.2.params := h.2.2.2.2.2.1
theorem params_nodup : (AList.keys e'.2.params).Nodup := h.2.2.2.2.2.2

end MethodRel

namespace ClassRel
variable {e e' : JStr × Class} (h : ClassRel f table e e')
include h

theorem names : e'.2.names = reorderNames table e.2.names := h.1
theorem doc : e'.2.doc = e.2.doc := h.2.1
theorem head : e'.2.names.head? = some (some e'.1) := h.2.2.1
theorem fields : ListRel (FieldRel f table) e.2.fields e'.2.fields := h.2.2.2.1
theorem fields_nodup : (AList.keys e'.2.fields).Nodup := h.2.2.2.2.1
theorem methods : ListRel (MethodRel f table) e.2.methods e'.2.methods := h.2.2.2.2.2.1
theorem methods_nodup : (AList.keys e'.2.methods).Nodup := h.2.2.2.2.2.2

end ClassRel
end

theorem firstName_iff {names : Names} {n : JStr} : firstName names = some n ↔ names.head? = some (some n) := by
  unfold firstName
  cases names.head? with
  | none => simp
  | some o => cases o <;> simp

theorem reorderParam_iff {table : List Nat} (e e' : Nat × Param) :
    reorderParam table e.2 = some e' ↔ ParamRel table e e' := by
  obtain ⟨k', p'⟩ := e'
  cases p'
  simp only [reorderParam, ParamRel, Option.some.injEq, Prod.mk.injEq, Param.mk.injEq]
  constructor
  · rintro ⟨a, b, c, d⟩; exact ⟨a.symm, b.symm, c.symm, d.symm⟩
  · rintro ⟨a, b, c, d⟩; exact ⟨a.symm, b.symm, c.symm, d.symm⟩

theorem reorderField_iff {f : JStr → JStr} {table : List Nat} (e e' : MemberKey × Field) :
    reorderField f table e.2 = some e' ↔ FieldRel f table e e' := by
  obtain ⟨⟨n', kd'⟩, ⟨desc', names', doc'⟩⟩ := e'
  simp only [reorderField, FieldRel]
  constructor
  · intro h
    split at h
    · cases h
    · rename_i d hd
      split at h <;> cases h
      rename_i hn
      exact ⟨hd, rfl, rfl, firstName_iff.mp hn, rfl⟩
  · rintro ⟨h1, rfl, rfl, h4, rfl⟩
    simp only [h1, firstName_iff.mpr h4]

theorem reorderMethod_iff {f : JStr → JStr} {table : List Nat} (e e' : MemberKey × Method) :
    reorderMethod f table e.2 = some e' ↔ MethodRel f table e e' := by
  obtain ⟨⟨n', kd'⟩, ⟨desc', names', doc', params'⟩⟩ := e'
  simp only [reorderMethod, MethodRel]
  constructor
  · intro h
    split at h
    · cases h
    · rename_i d hd
      split at h
      · cases h
      · rename_i ps hps
        split at h <;> cases h
        rename_i hn
        have := (buildVals_iff (R := ParamRel table) reorderParam_iff).mp hps
        exact ⟨hd, rfl, rfl, firstName_iff.mp hn, rfl, this.1, this.2⟩
  · rintro ⟨h1, rfl, rfl, h4, rfl, h6, h7⟩
    simp only [h1, firstName_iff.mpr h4, (buildVals_iff (R := ParamRel table) reorderParam_iff).mpr ⟨h6, h7⟩]

theorem reorderClass_iff {f : JStr → JStr} {table : List Nat} (e e' : JStr × Class) :
    reorderClass f table e.2 = some e' ↔ ClassRel f table e e' := by
  obtain ⟨n', ⟨names', doc', fields', methods'⟩⟩ := e'
  simp only [reorderClass, ClassRel]
  constructor
  · intro h
    split at h
    · cases h
    · rename_i fs hfs
      split at h
      · cases h
      · rename_i ms hms
        split at h <;> cases h
        rename_i hn
        have hf := (buildVals_iff (R := FieldRel f table) reorderField_iff).mp hfs
        have hm := (buildVals_iff (R := MethodRel f table) reorderMethod_iff).mp hms
        exact ⟨rfl, rfl, firstName_iff.mp hn, hf.1, hf.2, hm.1, hm.2⟩
  · rintro ⟨rfl, rfl, h3, h4, h5, h6, h7⟩
    simp only [firstName_iff.mpr h3, (buildVals_iff (R := FieldRel f table) reorderField_iff).mpr ⟨h4, h5⟩,
      (buildVals_iff (R := MethodRel f table) reorderMethod_iff).mpr ⟨h6, h7⟩]

/-- the model computes exactly the specified result, and fails exactly when no such result exists -/
theorem reorder_iff_spec {m m' : Mappings} {req : List JStr} : reorder m req = some m' ↔ Spec m req m' := by
  unfold reorder Spec
  constructor
  · intro h
    split at h
    · cases h
    · rename_i hlen
      split at h
      · cases h
      · rename_i table htab
        split at h
        · cases h
        · rename_i t0 rest
          simp only at h
          split at h <;> cases h
          rename_i cs hcs
          have hc := (buildVals_iff (R := ClassRel (mapClass (rows m t0)) (t0 :: rest)) reorderClass_iff).mp hcs
          exact ⟨Decidable.of_not_not hlen, t0, rest, htab, rfl, rfl, hc.1, hc.2⟩
  · obtain ⟨ns', doc', cs'⟩ := m'
    rintro ⟨hlen, t0, rest, htab, rfl, rfl, hrel, hnd⟩
    simp only [hlen, ne_eq, not_true_eq_false, if_false, htab,
      (buildVals_iff (R := ClassRel (mapClass (rows m t0)) (t0 :: rest)) reorderClass_iff).mpr ⟨hrel, hnd⟩]

theorem Spec.of_table {m m' : Mappings} {req : List JStr} {table : List Nat} (hs : Spec m req m')
    (ht : tableOf m req = some table) :
    m'.ns = table.map (fun i => m.ns.getD i []) ∧ m'.doc = m.doc ∧
    ListRel (ClassRel (mapClass (rows m (table.headD 0))) table) m.classes m'.classes ∧ (AList.keys m'.classes).Nodup := by
  obtain ⟨_, t0, rest, htab, hr⟩ := hs
  cases ht.symm.trans htab
  exact hr

theorem reorder_class {m m' : Mappings} {req : List JStr} {t0 : Nat} {rest : List Nat} {e : JStr × Class}
    (h : reorder m req = some m') (ht : tableOf m req = some (t0 :: rest)) (he : e ∈ m.classes) :
    ∃ e', ClassRel (mapClass (rows m t0)) (t0 :: rest) e e' :=
  let ⟨e', _, hr⟩ := ((reorder_iff_spec.mp h).of_table ht).2.2.1.mem_left he
  ⟨e', hr⟩

theorem newName_eq {t0 : Nat} {rest : List Nat} {names names' : Names} {n : JStr}
    (h : names' = reorderNames (t0 :: rest) names) (hn : names'.head? = some (some n)) : names.getD t0 none = some n := by
  rw [h, reorderNames, List.map_cons, List.head?_cons] at hn
  exact Option.some.inj hn

theorem ClassRel.key_eq {f : JStr → JStr} {t0 : Nat} {rest : List Nat} {e e' : JStr × Class}
    (h : ClassRel f (t0 :: rest) e e') : e.2.names.getD t0 none = some e'.1 :=
  newName_eq h.names h.head

theorem FieldRel.key_eq {f : JStr → JStr} {t0 : Nat} {rest : List Nat} {e e' : MemberKey × Field}
    (h : FieldRel f (t0 :: rest) e e') : e.2.names.getD t0 none = some e'.1.1 ∧ mapDesc f e.2.desc = some e'.1.2 :=
  ⟨newName_eq h.names h.head, h.key ▸ h.desc⟩

theorem MethodRel.key_eq {f : JStr → JStr} {t0 : Nat} {rest : List Nat} {e e' : MemberKey × Method}
    (h : MethodRel f (t0 :: rest) e e') : e.2.names.getD t0 none = some e'.1.1 ∧ mapDesc f e.2.desc = some e'.1.2 :=
  ⟨newName_eq h.names h.head, h.key ▸ h.desc⟩

end Reorder
