/-!
# Plain `List` facts
Facts about lists that are not about any model function and that core does not have in this form: an element is determined
by a duplicate-free key and no earlier element has that key, the rank argument behind the fuel bounds of the table walks of C06 and C14, `set` at a position
that holds a value, `IndexSet::insert` in a loop (first occurrences, in order) as `Bridge.setExtend` and `Remapper.setOf`
write it, and the union `a ++ b.filter (!a.contains ·)` that `zip_map` and `merge_preserve_order` build.
-/

namespace List

theorem eq_of_nodup_map {T K : Type} {key : T → K} {l : List T} (h : (l.map key).Nodup) {x y : T} (hx : x ∈ l)
    (hy : y ∈ l) (e : key x = key y) : x = y := by
  induction l with
  | nil => cases hx
  | cons z l ih =>
    obtain ⟨hz, hl⟩ := List.nodup_cons.mp h
    rcases List.mem_cons.mp hx with ex | hx' <;> rcases List.mem_cons.mp hy with ey | hy'
    · rw [ex, ey]
    · exact absurd (List.mem_map.mpr ⟨y, hy', ex ▸ e.symm⟩) hz
    · exact absurd (List.mem_map.mpr ⟨x, hx', ey ▸ e⟩) hz
    · exact ih hl hx' hy'

/-- a rank on the rows of a finite table can be taken below the number of rows: count the rows ranked at most like the
given one. Going from a row `x` to anything ranked below it loses at least `x` itself from the count. -/
theorem countP_rank_lt {α : Type} {l : List α} {r : α → Nat} {x : α} (hx : x ∈ l) {a : Nat} (h : a < r x) :
    l.countP (fun y => decide (r y ≤ a)) < l.countP (fun y => decide (r y ≤ r x)) := by
  have hmono : ∀ l : List α, l.countP (fun y => decide (r y ≤ a)) ≤ l.countP (fun y => decide (r y ≤ r x)) :=
    fun l => List.countP_mono_left fun y _ hy => by
      rw [decide_eq_true_eq] at hy ⊢
      exact Nat.le_trans hy (Nat.le_of_lt h)
  obtain ⟨s, t, rfl⟩ := List.append_of_mem hx
  rw [List.countP_append, List.countP_append, List.countP_cons, List.countP_cons, if_neg (by simpa using h), if_pos (by simp)]
  exact Nat.add_lt_add_of_le_of_lt (hmono s) (Nat.lt_succ_of_le (hmono t))

theorem key_not_mem_of_nodup {T K : Type} {key : T → K} {acc rest : List T} {x : T}
    (h : ((acc ++ x :: rest).map key).Nodup) : key x ∉ acc.map key := by
  intro hm
  rw [List.map_append, List.nodup_append] at h
  exact h.2.2 _ hm _ List.mem_cons_self rfl

theorem getElem?_set_of_some {α : Type} {l : List α} {i : Nat} {x a : α} (h : l[i]? = some x) :
    (l.set i a)[i]? = some a :=
  List.getElem?_set_self (List.getElem?_eq_some_iff.mp h).1

theorem set_eq_self_of_getElem? {α : Type} {l : List α} {i : Nat} {a : α} (h : l[i]? = some a) : l.set i a = l := by
  obtain ⟨hi, rfl⟩ := List.getElem?_eq_some_iff.mp h
  exact List.set_getElem_self hi

section
variable {α : Type} [BEq α] [LawfulBEq α]

theorem mem_foldl_setInsert (xs l : List α) (y : α) :
    y ∈ xs.foldl (fun acc x => if acc.contains x then acc else acc ++ [x]) l ↔ y ∈ l ∨ y ∈ xs := by
  induction xs generalizing l with
  | nil => simp
  | cons x rest ih =>
    rw [foldl_cons, ih, mem_cons, ← or_assoc]
    split
    · next h => exact or_congr_left ⟨Or.inl, fun h' => h'.elim id fun e => e ▸ contains_iff_mem.mp h⟩
    · rw [mem_append, mem_singleton]

theorem nodup_foldl_setInsert (xs : List α) {l : List α} (h : l.Nodup) :
    (xs.foldl (fun acc x => if acc.contains x then acc else acc ++ [x]) l).Nodup := by
  induction xs generalizing l with
  | nil => exact h
  | cons x rest ih =>
    refine ih (l := if l.contains x then l else l ++ [x]) ?_
    split
    · exact h
    · next hc =>
      exact nodup_append.mpr ⟨h, pairwise_singleton _ x,
        fun a ha b hb e => hc (contains_iff_mem.mpr (mem_singleton.mp hb ▸ e ▸ ha))⟩

theorem foldl_setInsert_of_nodup (xs l : List α) (h : (l ++ xs).Nodup) :
    xs.foldl (fun acc x => if acc.contains x then acc else acc ++ [x]) l = l ++ xs := by
  induction xs generalizing l with
  | nil => simp
  | cons a rest ih =>
    have ha : ¬ l.contains a = true := fun hm =>
      (nodup_append.mp h).2.2 a (contains_iff_mem.mp hm) a mem_cons_self rfl
    rw [foldl_cons, if_neg ha, ih (l ++ [a]) (by simpa using h)]
    simp

theorem mem_append_filter_not {a b : List α} {x : α} :
    x ∈ a ++ b.filter (fun y => !a.contains y) ↔ x ∈ a ∨ x ∈ b := by
  rw [mem_append, mem_filter]
  by_cases h : x ∈ a <;> simp [h]

theorem nodup_append_filter_not {a b : List α} (ha : a.Nodup) (hb : b.Nodup) :
    (a ++ b.filter (fun y => !a.contains y)).Nodup := by
  refine nodup_append.mpr ⟨ha, hb.filter _, fun x hx y hy e => ?_⟩
  subst e
  simpa [hx] using (mem_filter.mp hy).2

end

end List
