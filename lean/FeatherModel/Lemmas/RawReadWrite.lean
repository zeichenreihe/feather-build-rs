import FeatherModel.Lemmas.RawLen
import FeatherModel.Lemmas.OptionList

/-! C20: reading back what `_write` produced returns the value: `read (write v ++ r) = (v, r)` on the domain `fitsV`, for
every layout, both reader modes. -/

namespace RawLayout

@[simp] theorem Res.bind_ok {α β : Type} (a : α) (f : α → Res β) : (Res.ok a).bind f = f a := rfl

theorem Res.bind_eq_ok {α β : Type} {x : Res α} {f : α → Res β} {b : β} :
    x.bind f = .ok b ↔ ∃ a, x = .ok a ∧ f a = .ok b := by
  cases x <;> simp [Res.bind]

theorem constVals_cons (tl : Option Nat) (ctx : List (Nat × Val)) (c : Const) (cs : List Const) :
    constVals tl ctx (c :: cs) =
      (evalW c.e.bits tl ctx c.e.e).bind fun n => (constVals tl ctx cs).map (n % c.p.bound :: ·) := by
  simp only [constVals]
  cases evalW c.e.bits tl ctx c.e.e <;> cases constVals tl ctx cs <;> rfl

theorem constVals_eq (tl : Option Nat) (ctx : List (Nat × Val)) (cs : List Const) :
    constVals tl ctx cs = cs.mapM fun c => (evalW c.e.bits tl ctx c.e.e).map (· % c.p.bound) := by
  induction cs with
  | nil => rfl
  | cons c cs ih =>
    rw [constVals_cons, List.mapM_option_cons, ih]
    cases evalW c.e.bits tl ctx c.e.e <;> rfl

theorem constVals_append {tl : Option Nat} {ctx : List (Nat × Val)} {cs ds : List Const} {x y : List Nat}
    (h1 : constVals tl ctx cs = some x) (h2 : constVals tl ctx ds = some y) :
    constVals tl ctx (cs ++ ds) = some (x ++ y) := by
  simp only [constVals_eq, List.mapM_eq_some_iff, List.map_append] at *
  rw [h1, h2]

theorem readConsts_write (tl : Option Nat) (ctx : List (Nat × Val)) :
    ∀ (cs : List Const) (binds binds' : Binds) (b r : Bytes),
      constsBinds tl ctx binds cs = some binds' → writeConsts tl ctx cs = some b →
      ∃ vals, constVals tl ctx cs = some vals ∧ readConsts binds cs (b ++ r) = .ok (binds', vals, r) := by
  intro cs
  induction cs with
  | nil =>
    intro binds binds' b r hb hw
    simp [constsBinds] at hb; simp [writeConsts] at hw
    subst hb; subst hw
    exact ⟨[], rfl, rfl⟩
  | cons c cs ih =>
    intro binds binds' b r hb hw
    simp only [writeConsts_cons, Option.bind_eq_some_iff, Option.map_eq_some_iff] at hw
    obtain ⟨n, hn, w, hw', rfl⟩ := hw
    simp only [constsBinds, hn] at hb
    split at hb
    · rename_i hok
      obtain ⟨vals, hv, hr⟩ := ih _ binds' w r hb hw'
      refine ⟨n % c.p.bound :: vals, by simp [constVals_cons, hn, hv], ?_⟩
      have hlt : n % c.p.bound < c.p.bound := Nat.mod_lt _ (by cases c.p <;> simp [Prim.bound])
      simp only [readConsts, List.append_assoc, takeBE_be c.p _ _ hlt, hok, if_true, hr, Res.bind_ok]
    · cases hb

/-- the induction is over the value alone: what is shown of one value, for every type, pool, bindings and fuel -/
def RWOk (strict : Bool) (env : Env) (v : Val) : Prop :=
  ∀ (fuel : Nat) (ty : Ty) (pool : Pool) (binds : Binds) (b r : Bytes), depthV v ≤ fuel →
    fitsV env pool binds ty v = true → writeV env ty v = some b →
    readTy (readG strict env fuel) pool binds ty (b ++ r) = .ok (v, r)

theorem isWide_nil (v : Val) : isWide [] v = false := by cases v <;> simp [isWide]

/-- the counted loop is the slot-counting loop in which no item takes two slots: what is shown of `readSlots` for every slot
table holds of `readN` -/
theorem readN_eq_readSlots (rd : Bytes → Res (Val × Bytes)) : ∀ n bs, readN rd n bs = readSlots [] rd n bs := by
  intro n
  induction n with
  | zero => intro bs; rfl
  | succ n ih => intro bs; simp [readN, readSlots, isWide_nil, ih]

theorem slotsAll_nil : ∀ vs : List Val, slotsAll [] vs = vs.length := by
  intro vs
  induction vs with
  | nil => rfl
  | cons v vs ih => simp [slotsAll, slotsV, isWide_nil, ih]; omega

theorem readSlots_writeAll (env : Env) (wide : List Nat) (rd : Bytes → Res (Val × Bytes)) (el : Ty) :
    ∀ (vs : List Val) (b r : Bytes),
      (∀ v ∈ vs, ∀ a r', writeV env el v = some a → rd (a ++ r') = .ok (v, r')) →
      writeAll env el vs = some b → readSlots wide rd (slotsAll wide vs) (b ++ r) = .ok (vs, r) := by
  intro vs
  induction vs with
  | nil => intro b r _ hw; simp [writeAll] at hw; subst hw; rfl
  | cons v vs ih =>
    intro b r hall hw
    simp only [writeAll_cons, Option.bind_eq_some_iff, Option.map_eq_some_iff] at hw
    obtain ⟨a, ha, w, hw', rfl⟩ := hw
    have hrec := ih w r (fun x hx => hall x (by simp [hx])) hw'
    have hv := hall v (by simp) a (w ++ r) ha
    cases hwd : isWide wide v with
    | true =>
      have : slotsAll wide (v :: vs) = (slotsAll wide vs + 1) + 1 := by simp [slotsAll, slotsV, hwd]; omega
      rw [this]
      simp only [readSlots, List.append_assoc, hv, Res.bind_ok, hwd, if_true, hrec]
    | false =>
      have : slotsAll wide (v :: vs) = slotsAll wide vs + 1 := by simp [slotsAll, slotsV, hwd]; omega
      rw [this]
      simp only [readSlots, List.append_assoc, hv, Res.bind_ok, hwd, hrec]
      simp

theorem depthAll_le {vs : List Val} {n : Nat} (h : depthAll vs ≤ n) : ∀ v ∈ vs, depthV v ≤ n := by
  induction vs with
  | nil => intro v hv; cases hv
  | cons w ws ih =>
    intro v hv
    simp only [depthAll] at h
    cases hv with
    | head => omega
    | tail _ hm => exact ih (by omega) v hm

theorem fitsAll_mem {env : Env} {pool : Pool} {binds : Binds} {el : Ty} {vs : List Val}
    (h : fitsAll env pool binds el vs = true) : ∀ v ∈ vs, fitsV env pool binds el v = true := by
  induction vs with
  | nil => intro v hv; cases hv
  | cons w ws ih =>
    intro v hv
    simp only [fitsAll, Bool.and_eq_true] at h
    cases hv with
    | head => exact h.1
    | tail _ hm => exact ih h.2 v hm

/-- `i` is the index, in the enum, of the head of `vs`: the variant found sits at `j - i` -/
theorem selectVariant_idx (utf8 : Nat) (wide : List Nat) (pool : Pool) (tag : Nat) :
    ∀ (vs : List Variant) (i j : Nat) (v : Variant), selectVariant utf8 wide pool tag vs i = .ok (j, v) →
      i ≤ j ∧ vs[j - i]? = some v := by
  intro vs
  induction vs with
  | nil => intro i j v h; simp [selectVariant] at h
  | cons w ws ih =>
    intro i j v h
    simp only [selectVariant] at h
    have hrec : selectVariant utf8 wide pool tag ws (i + 1) = .ok (j, v) → i ≤ j ∧ (w :: ws)[j - i]? = some v := by
      intro h'
      obtain ⟨h1, h2⟩ := ih (i + 1) j v h'
      refine ⟨by omega, ?_⟩
      have : j - i = (j - (i + 1)) + 1 := by omega
      rw [this]; simpa using h2
    split at h
    · split at h
      · simp at h; obtain ⟨rfl, rfl⟩ := h; simp
      · split at h
        · simp at h; obtain ⟨rfl, rfl⟩ := h; simp
        · exact hrec h
        · cases h
        · cases h
        · cases h
    · exact hrec h

theorem selectVariant_of_idx (utf8 : Nat) (wide : List Nat) (pool : Pool) (tag : Nat) (vs : List Variant) (k : Nat)
    (v : Variant) (h1 : selectIdx utf8 wide pool tag vs = some k) (h2 : vs[k]? = some v) :
    selectVariant utf8 wide pool tag vs 0 = .ok (k, v) := by
  unfold selectIdx at h1
  split at h1
  · rename_i i w hs
    simp at h1; subst h1
    obtain ⟨_, h3⟩ := selectVariant_idx utf8 wide pool tag vs 0 i w hs
    simp at h3
    rw [h2] at h3; simp at h3; subst h3
    exact hs
  · cases h1

theorem readFields_write (strict : Bool) (env : Env) (fuel : Nat) (tl : Option Nat) (ctx : List (Nat × Val)) :
    ∀ (fds : List Field) (vs : List Val) (pool : Pool) (binds : Binds) (b r : Bytes),
      (∀ v ∈ vs, RWOk strict env v) → depthAll vs ≤ fuel →
      fitsFields env tl ctx pool binds fds vs = true → writeFields env tl ctx fds vs = some b →
      ∃ tr, constVals tl ctx (allPost fds) = some tr ∧
        readFields (readG strict env fuel) pool binds fds (b ++ r) = .ok (vs, tr, r) := by
  intro fds
  induction fds with
  | nil =>
    intro vs pool binds b r _ _ hf hw
    cases vs with
    | nil => simp [writeFields] at hw; subst hw; exact ⟨[], rfl, rfl⟩
    | cons v vs => simp [writeFields] at hw
  | cons f fds ih =>
    intro vs pool binds b r hall hd hf hw
    cases vs with
    | nil => simp [writeFields] at hw
    | cons v vs =>
      have hdv : depthV v ≤ fuel := depthAll_le hd v (by simp)
      have hdvs : depthAll vs ≤ fuel := by simp only [depthAll] at hd; omega
      have hall' : ∀ w ∈ vs, RWOk strict env w := fun w hw => hall w (by simp [hw])
      simp only [writeFields_cons, Option.bind_eq_some_iff, Option.map_eq_some_iff] at hw
      obtain ⟨a, ha, c, hc, w, hw', rfl⟩ := hw
      simp only [fitsFields] at hf
      cases hk : f.kind with
      | field ty sp =>
        rw [hk] at ha hf; simp only at ha hf
        simp only [Bool.and_eq_true] at hf
        obtain ⟨hfv, hf2⟩ := hf
        split at hf2
        · rename_i b2 hcb
          obtain ⟨t1, ht1, hr1⟩ := readConsts_write tl ctx f.post _ b2 c (w ++ r) hcb hc
          obtain ⟨t2, ht2, hr2⟩ := ih vs _ b2 w r hall' hdvs hf2 hw'
          refine ⟨t1 ++ t2, constVals_append ht1 ht2, ?_⟩
          simp only [readFields, hk, List.append_assoc, hall v (by simp) fuel ty pool binds a _ hdv hfv ha,
            Res.bind_ok, hr1, hr2]
        · cases hf2
      | nowrite p e =>
        rw [hk] at ha hf; simp only at ha hf
        cases v with
        | list _ | node _ _ => simp at ha
        | num n =>
          simp at ha; subst ha
          split at hf
          · rename_i n' m hv hm
            cases hv
            simp only [Bool.and_eq_true, beq_iff_eq] at hf
            obtain ⟨rfl, hf2⟩ := hf
            split at hf2
            · rename_i b2 hcb
              obtain ⟨t1, ht1, hr1⟩ := readConsts_write tl ctx f.post _ b2 c (w ++ r) hcb hc
              obtain ⟨t2, ht2, hr2⟩ := ih vs _ b2 w r hall' hdvs hf2 hw'
              refine ⟨t1 ++ t2, constVals_append ht1 ht2, ?_⟩
              simp only [readFields, hk, hm, List.nil_append, List.append_assoc, Res.bind_ok, hr1, hr2]
            · cases hf2
          · cases hf

/-- the tag read for a node is the one `_write` recomputes from its fields (a struct has no tag) -/
def TagOk (env : Env) (id k : Nat) (body : Body) (fs : List Val) : Option (TExpr × Prim × Nat) → Prop
  | none => True
  | some (e, p, t) => ∃ n, evalW e.bits (thisLen env id k fs) (mkCtx body.fields fs) e.e = some n ∧ n % p.bound = t

theorem nodeAgrees_iff (env : Env) (id k : Nat) (body : Body) (tag : Option (TExpr × Prim × Nat)) (vs : List Val)
    (tr : List Nat) : nodeAgrees env id k body tag vs tr = true ↔
      constVals (thisLen env id k vs) (mkCtx body.fields vs) (body.pre ++ allPost body.fields) = some tr ∧
        TagOk env id k body vs tag := by
  simp only [nodeAgrees, Bool.and_eq_true, beq_iff_eq]
  refine and_congr_right fun _ => ?_
  match tag with
  | none => simp [TagOk]
  | some (e, p, t) =>
    simp only [TagOk]
    cases evalW e.bits (thisLen env id k vs) (mkCtx body.fields vs) e.e <;> simp

theorem readBody_write (strict : Bool) (env : Env) (fuel id k : Nat) (body : Body) (fs : List Val) (pool : Pool)
    (binds b1 : Binds) (b r : Bytes) (tag : Option (TExpr × Prim × Nat))
    (hall : ∀ v ∈ fs, RWOk strict env v) (hd : depthAll fs ≤ fuel)
    (hcb : constsBinds (thisLen env id k fs) (mkCtx body.fields fs) binds body.pre = some b1)
    (hf : fitsFields env (thisLen env id k fs) (mkCtx body.fields fs) pool b1 body.fields fs = true)
    (hw : writeBody env id k body fs = some b) (htag : TagOk env id k body fs tag) :
    readBody strict env id tag (readG strict env fuel) pool binds k body (b ++ r) = .ok (.node k fs, r) := by
  simp only [writeBody, Option.bind_eq_some_iff, Option.map_eq_some_iff] at hw
  obtain ⟨a, ha, w, hw, rfl⟩ := hw
  obtain ⟨t1, ht1, hr1⟩ := readConsts_write _ _ body.pre binds b1 a (w ++ r) hcb ha
  obtain ⟨t2, ht2, hr2⟩ := readFields_write strict env fuel _ _ body.fields fs pool b1 w r hall hd hf hw
  have hag := (nodeAgrees_iff env id k body tag fs (t1 ++ t2)).mpr ⟨constVals_append ht1 ht2, htag⟩
  simp only [readBody, List.append_assoc, hr1, Res.bind_ok, hr2, hag]
  simp

theorem readTy_write (strict : Bool) (env : Env) : ∀ v, RWOk strict env v := by
  intro v
  induction v using Val.ind with
  | hnum n =>
    intro fuel ty pool binds b r _ hf hw
    cases ty <;> simp [writeV] at hw
    obtain ⟨hlt, rfl⟩ := hw
    simp [readTy, takeBE_be _ _ _ hlt]
  | hlist vs ih =>
    intro fuel ty pool binds b r hd hf hw
    simp only [depthV] at hd
    -- the three vector forms read with the slot-counting loop; with the empty slot table it is the counted loop
    have hsl : ∀ wide el w, fitsAll env pool binds el vs = true → writeAll env el vs = some w →
        readSlots wide (readTy (readG strict env fuel) pool binds el) (slotsAll wide vs) (w ++ r) = .ok (vs, r) :=
      fun wide el w hfa hw => readSlots_writeAll env wide _ el vs w r
        (fun v hv a r' ha => ih v hv fuel el pool binds a r' (depthAll_le hd v hv) (fitsAll_mem hfa v hv) ha) hw
    cases ty with
    | prim _ | ref _ => simp [writeV] at hw
    | vecCnt c el =>
      simp only [writeV_vecCnt, Option.map_eq_some_iff] at hw
      obtain ⟨w, hw', rfl⟩ := hw
      simp only [fitsV, Bool.and_eq_true, decide_eq_true_eq] at hf
      have := hsl [] el w hf.2 hw'
      rw [slotsAll_nil] at this
      simp only [readTy, List.append_assoc, Nat.mod_eq_of_lt hf.1, takeBE_be _ _ _ hf.1, readN_eq_readSlots, this,
        Res.bind_ok]
    | vecLen e el =>
      simp only [writeV] at hw
      simp only [fitsV, Bool.and_eq_true, beq_iff_eq] at hf
      have := hsl [] el b hf.2 hw
      rw [slotsAll_nil] at this
      simp only [readTy, hf.1, readN_eq_readSlots, this, Res.bind_ok]
    | vecSlots e wd el =>
      simp only [writeV] at hw
      simp only [fitsV, Bool.and_eq_true, beq_iff_eq] at hf
      simp only [readTy, hf.1, hsl wd el b hf.2 hw, Res.bind_ok]
  | hnode k fs ih =>
    intro fuel ty pool binds b r hd hf hw
    simp only [depthV] at hd
    cases ty with
    | prim _ | vecCnt _ _ | vecLen _ _ | vecSlots _ _ _ => simp [writeV] at hw
    | ref id =>
      cases fuel with
      | zero => omega
      | succ fuel =>
        have hd' : depthAll fs ≤ fuel := by omega
        simp only [fitsV] at hf
        simp only [readTy, readG, readDef]
        cases hdef : env.defs[id]? with
        | none => simp [writeV, hdef] at hw
        | some d =>
          cases d with
          | struct nm body =>
            simp only [hdef] at hf ⊢
            rw [writeV_struct hdef] at hw
            split at hw
            · rename_i hk
              subst hk
              simp only [beq_self_eq_true, Bool.true_and] at hf
              split at hf
              · rename_i b1 hcb
                exact readBody_write strict env fuel id 0 body fs pool [] b1 b r none ih hd' hcb hf hw trivial
              · cases hf
            · cases hw
          | enum nm tn tagTy variants fb =>
            simp only [hdef] at hf ⊢
            cases hv : variants[k]? with
            | none => simp [writeV, hdef, hv] at hw
            | some var =>
              simp only [writeV_enum hdef hv, Option.bind_eq_some_iff, Option.map_eq_some_iff] at hw
              obtain ⟨t, ht, w, hw, rfl⟩ := hw
              simp only [hv, ht, Bool.and_eq_true, beq_iff_eq] at hf
              obtain ⟨hsel, hf⟩ := hf
              split at hf
              · rename_i b1 hcb
                have hlt : t % tagTy.bound < tagTy.bound := Nat.mod_lt _ (by cases tagTy <;> simp [Prim.bound])
                simp only [List.append_assoc, takeBE_be _ _ _ hlt,
                  selectVariant_of_idx env.utf8 env.wide pool _ variants k var hsel hv, Res.bind_ok]
                exact readBody_write strict env fuel id k var.body fs pool _ b1 w r _ ih hd' hcb hf hw ⟨t, ht, rfl⟩
              · cases hf

/-- **read ∘ write**: for every layout environment, a value in the domain `fitsV` that `_write` serialises to `b` is
read back from `b ++ r` exactly, with `r` left over, by the Rust reader (`strict = false`) and by the checking reader,
for every fuel above the nesting depth. -/
theorem read_write (strict : Bool) (env : Env) (id : Nat) (pool : Pool) (v : Val) (b r : Bytes) (fuel : Nat)
    (hd : depthV v ≤ fuel) (hf : fitsV env pool [] (.ref id) v = true) (hw : writeV env (.ref id) v = some b) :
    readG strict env fuel id pool (b ++ r) = .ok (v, r) := by
  simpa [readTy] using readTy_write strict env v fuel (.ref id) pool [] b r hd hf hw

end RawLayout
