import FeatherModel.Lemmas.NestTable
import FeatherModel.Lemmas.ReorderDesc

/-!
# Nesting and un-nesting mappings: `map_with_key_from_result_iter` as a map followed by duplicate-free insertion,
the shape of a nested mapping set, un-nesting undoes nesting on the first namespace
-/

namespace Nest
open MapDesc

/-- `iter().map(step).collect::<Result<Vec<_>>>()` -/
def mapE {A B : Type} (step : A → Except String B) : List A → Except String (List B)
  | [] => .ok []
  | a :: rest =>
    match step a with
    | .error e => .error e
    | .ok b =>
      match mapE step rest with
      | .error e => .error e
      | .ok bs => .ok (b :: bs)

theorem mapE_eq_ok_iff {A B : Type} {f : A → Except String B} : ∀ {l : List A} {r : List B},
    mapE f l = .ok r ↔ l.map f = r.map .ok := by
  intro l
  induction l with
  | nil => intro r; cases r <;> simp [mapE]
  | cons a rest ih =>
    intro r
    rw [mapE]
    cases h : f a with
    | error e => cases r <;> simp [h]
    | ok b =>
      cases hr : mapE f rest <;> cases r <;> simp [h, ← ih, hr]

theorem mapE_length {A B : Type} {f : A → Except String B} {l : List A} {l' : List B} (h : mapE f l = .ok l') :
    l'.length = l.length := by
  simpa using (congrArg List.length (mapE_eq_ok_iff.mp h)).symm

theorem mapE_getElem {A B : Type} {f : A → Except String B} {l : List A} {l' : List B} (h : mapE f l = .ok l')
    (i : Nat) (a : A) (ha : l[i]? = some a) : ∃ b, l'[i]? = some b ∧ f a = .ok b := by
  have := congrArg (·[i]?) (mapE_eq_ok_iff.mp h)
  simp only [List.getElem?_map, ha, Option.map_some] at this
  obtain ⟨b, hb, e⟩ := Option.map_eq_some_iff.mp this.symm
  exact ⟨b, hb, e.symm⟩

theorem map_ok_roundtrip {T D : Type} (f g : T → Except String T) (view : T → D) :
    ∀ (l l' : List T), (∀ a ∈ l, ∀ b, f a = .ok b → ∃ c, g b = .ok c ∧ view c = view a) →
      l.map f = l'.map .ok → ∃ l'' : List T, l'.map g = l''.map .ok ∧ l''.map view = l.map view := by
  intro l
  induction l with
  | nil => intro l' _ h; cases l' with | nil => exact ⟨[], rfl, rfl⟩ | cons _ _ => cases h
  | cons a rest ih =>
    intro l' hp h
    cases l' with
    | nil => cases h
    | cons b bs =>
      rw [List.map_cons, List.map_cons, List.cons.injEq] at h
      obtain ⟨c, hc, hv⟩ := hp a List.mem_cons_self b h.1
      obtain ⟨l'', h1, h2⟩ := ih bs (fun x hx => hp x (List.mem_cons_of_mem _ hx)) h.2
      exact ⟨c :: l'', by rw [List.map_cons, List.map_cons, hc, h1], by rw [List.map_cons, List.map_cons, hv, h2]⟩

theorem foldAddE_ok {A K V : Type} [BEq K] (step : A → Except String (K × V)) :
    ∀ (l : List A) (acc out : AList K V), foldAddE step l acc = .ok out →
      ∃ l', l.map step = l'.map .ok ∧ out = acc ++ l' := by
  intro l
  induction l with
  | nil => intro acc out h; cases h; exact ⟨[], rfl, (List.append_nil _).symm⟩
  | cons a rest ih =>
    intro acc out h
    rw [foldAddE] at h
    cases hs : step a with
    | error e => rw [hs] at h; cases h
    | ok kv =>
      obtain ⟨k, v⟩ := kv
      rw [hs] at h
      cases hi : AList.insertNew k v acc with
      | none => simp only [hi] at h; cases h
      | some acc' =>
        simp only [hi] at h
        obtain ⟨-, rfl⟩ := AList.insertNew_some hi
        obtain ⟨l', h1, h2⟩ := ih _ out h
        exact ⟨(k, v) :: l', by rw [List.map_cons, List.map_cons, hs, h1], by rw [h2, List.append_assoc]; rfl⟩

theorem foldAddE_mapE {A K V : Type} [BEq K] {step : A → Except String (K × V)} {l : List A} {out : AList K V}
    (h : foldAddE step l [] = .ok out) : mapE step l = .ok out := by
  obtain ⟨l', h1, rfl⟩ := foldAddE_ok step l [] out h
  exact mapE_eq_ok_iff.mpr h1

theorem foldAddE_build {A K V : Type} [BEq K] [LawfulBEq K] (step : A → Except String (K × V)) :
    ∀ (l : List A) (l' : List (K × V)) (acc : AList K V), l.map step = l'.map .ok →
      ((acc ++ l').map Prod.fst).Nodup → foldAddE step l acc = .ok (acc ++ l') := by
  intro l
  induction l with
  | nil => intro l' acc h _; cases l' with | nil => rw [List.append_nil]; rfl | cons _ _ => cases h
  | cons a rest ih =>
    intro l' acc h hnd
    cases l' with
    | nil => cases h
    | cons kv bs =>
      rw [List.map_cons, List.map_cons, List.cons.injEq] at h
      have hk : AList.contains kv.1 acc = false := AList.contains_eq_false_iff.mpr (List.key_not_mem_of_nodup hnd)
      rw [foldAddE, h.1]
      simp only [AList.insertNew_new _ _ _ hk]
      rw [ih bs (acc ++ [kv]) h.2 (by rw [List.append_assoc]; exact hnd), List.append_assoc]
      rfl

theorem foldAddE_roundtrip {K V D : Type} [BEq K] [LawfulBEq K] (f g : K × V → Except String (K × V))
    (view : K × V → D) (keyOf : D → K) (hkey : ∀ c, keyOf (view c) = c.1) (l l1 : AList K V)
    (hp : ∀ a ∈ l, ∀ b, f a = .ok b → ∃ c, g b = .ok c ∧ view c = view a)
    (hnd : (l.map Prod.fst).Nodup) (h : foldAddE f l [] = .ok l1) :
    ∃ l2, foldAddE g l1 [] = .ok l2 ∧ l2.map view = l.map view := by
  obtain ⟨l', h1, rfl⟩ := foldAddE_ok f l [] l1 h
  obtain ⟨l2, h2, hv⟩ := map_ok_roundtrip f g view l l1 hp h1
  refine ⟨l2, foldAddE_build g _ l2 [] h2 ?_, hv⟩
  -- the views show the keys, so the keys the second fold inserts are those of `l`: pairwise different
  have : l2.map Prod.fst = l.map Prod.fst := by
    have := congrArg (List.map keyOf) hv
    simpa only [List.map_map, Function.comp_def, hkey] using this
  rw [List.nil_append, this]
  exact hnd

theorem foldAddE_roundtrip_id {K V : Type} [BEq K] [LawfulBEq K] (f g : K × V → Except String (K × V))
    (l l1 : AList K V) (hp : ∀ a ∈ l, ∀ b, f a = .ok b → g b = .ok a) (hnd : (l.map Prod.fst).Nodup)
    (h : foldAddE f l [] = .ok l1) : foldAddE g l1 [] = .ok l := by
  obtain ⟨l2, h2, hv⟩ := foldAddE_roundtrip f g id Prod.fst (fun _ => rfl) l l1
    (fun a ha b hb => ⟨a, hp a ha b hb, rfl⟩) hnd h
  rw [List.map_id, List.map_id] at hv
  exact hv ▸ h2

/-- the shape `stepField` and `stepMethod` share: two lookups that must both succeed (stated over `Option JStr` so that
the `match` is the very one the two definitions unfold to) -/
theorem step_ok {γ : Type} {od on : Option JStr} {mk : JStr → JStr → γ} {r : γ} {err err' : String}
    (h : (match od with
          | none => Except.error err
          | some d =>
            match on with
            | none => Except.error err'
            | some n => Except.ok (mk n d)) = (Except.ok r : Except String γ)) :
    ∃ d n, od = some d ∧ on = some n ∧ r = mk n d := by
  cases od with
  | none => cases h
  | some d =>
    cases on with
    | none => cases h
    | some n => cases h; exact ⟨d, n, rfl, rfl, rfl⟩

theorem nameOpt_some {s : JStr} (h : s ≠ []) : nameOpt s = some s := by
  unfold nameOpt
  rw [if_neg (by rwa [List.isEmpty_iff])]

theorem nameOpt_eq_some {s k : JStr} (h : nameOpt s = some k) : k = s := by
  unfold nameOpt at h
  split at h
  · cases h
  · exact (Option.some.inj h).symm

theorem rewriteClass_eq_ok {tr dstf : JStr → JStr} {e e' : JStr × Class} : rewriteClass tr dstf e = .ok e' ↔
    ∃ dst fs ms, name1 e.2.names = some dst ∧ applyFields tr e.2.fields = .ok fs ∧
      applyMethods tr e.2.methods = .ok ms ∧ tr e.1 ≠ [] ∧
      e' = (tr e.1, { e.2 with names := [some (tr e.1), nameOpt (dstf dst)], fields := fs, methods := ms }) := by
  unfold rewriteClass
  constructor
  · intro h
    split at h
    · cases h
    · rename_i dst hn1
      split at h
      · cases h
      · rename_i fs hf
        split at h
        · cases h
        · rename_i ms hm
          split at h
          · cases h
          · rename_i k' hk
            cases h
            cases nameOpt_eq_some hk
            exact ⟨dst, fs, ms, hn1, hf, hm, (fun e0 => by rw [e0] at hk; cases hk), rfl⟩
  · rintro ⟨dst, fs, ms, h1, h2, h3, h4, rfl⟩
    simp only [h1, h2, h3, nameOpt_some h4]

theorem applyNests_ok {m m1 : Mappings} {ns : Nests} (h : applyNests m ns = .ok m1) :
    ∃ mapped t mt cs, mapTable ns = some t ∧ mapTable mapped = some mt ∧
      rewriteClasses (tableMap t) (tableMap mt) m.classes = .ok cs ∧ m1 = { m with classes := cs } := by
  unfold applyNests at h
  split at h
  · cases h
  · rename_i mapped _
    split at h
    · rename_i t mt ht hmt
      split at h
      · rename_i cs hr
        cases h
        exact ⟨mapped, t, mt, cs, ht, hmt, hr, rfl⟩
      · cases h
    · cases h

theorem applyNests_table_err (m : Mappings) (ns : Nests) (h : mapTable ns = none) : applyNests m ns = .error "e" := by
  unfold applyNests
  cases mapNests ns m with
  | none => rfl
  | some mapped => simp only [h]

theorem undoNests_table_err (m : Mappings) (ns : Nests) (h : mapTable ns = none) : undoNests m ns = .error "e" := by
  unfold undoNests
  simp only [h]

theorem lookupLast_eq (c : JStr) (l : AList JStr JStr) : lookupLast c l = AList.lookup c l.reverse := by
  induction l with
  | nil => rfl
  | cons e rest ih =>
    rw [lookupLast, ih, List.reverse_cons, AList.lookup_append]
    cases AList.lookup c rest.reverse <;> rfl

theorem tableMap_of_all {P : JStr → Prop} (t : AList JStr JStr) (ht : ∀ kv ∈ t, P kv.2) (c : JStr) (hc : P c) :
    P (tableMap t c) := by
  unfold tableMap
  cases hlk : AList.lookup c t with
  | none => exact hc
  | some r => exact ht (c, r) (AList.lookup_mem hlk)

theorem tableUnmap_tableMap (t : AList JStr JStr) (c : JStr) (h : noCollision t c = true) :
    tableUnmap t (tableMap t c) = c := by
  have hinj : ∀ kv ∈ t, tableMap t c = kv.2 → c = kv.1 := by
    intro kv hkv e
    have := List.all_eq_true.mp h kv hkv
    rw [Bool.or_eq_true, bne_iff_ne, beq_iff_eq] at this
    exact this.resolve_left fun ne => ne e
  unfold tableUnmap
  rw [lookupLast_eq]
  cases hl : AList.lookup (tableMap t c) (t.map (fun (k, v) => (v, k))).reverse with
  | some r =>
    obtain ⟨⟨k, v⟩, hkv, e⟩ := List.mem_map.mp (List.mem_reverse.mp (AList.lookup_mem hl))
    obtain ⟨e1, e2⟩ := Prod.mk.inj e
    exact e2 ▸ (hinj (k, v) hkv e1.symm).symm
  | none =>
    show tableMap t c = c
    unfold tableMap
    cases hlk : AList.lookup c t with
    | none => rfl
    | some r =>
      refine absurd (List.mem_map.mpr ⟨(r, c), List.mem_reverse.mpr (List.mem_map.mpr ⟨(c, r), AList.lookup_mem hlk, rfl⟩), ?_⟩)
        (AList.lookup_none_iff.mp hl)
      simp only [tableMap, hlk]

theorem cleanName_iff (s : JStr) : cleanName s = true ↔ s ≠ [] ∧ SEMI ∉ s := by
  unfold cleanName
  cases s <;> simp

theorem mapTable_values_ne_nil {ns : Nests} {t : AList JStr JStr} (h : mapTable ns = some t) :
    ∀ kv ∈ t, kv.2 ≠ [] := by
  intro kv hkv
  obtain ⟨n, _, e⟩ := List.mem_of_mapM ((mapOpt_eq _ _).symm.trans h) hkv
  obtain ⟨a, _, rfl⟩ := Option.map_eq_some_iff.mp e
  exact List.append_ne_nil_of_right_ne_nil _ (List.cons_ne_nil _ _)

/-- what the domain gives for a class name the mapping set uses -/
structure NameOk (t : AList JStr JStr) (x : JStr) : Prop where
  ne : x ≠ []
  unmap : tableUnmap t (tableMap t x) = x
  image_ne : tableMap t x ≠ []
  image_semi : SEMI ∉ tableMap t x

theorem desc_roundtrip {t : AList JStr JStr} {d d' : JStr} (hd : ∀ x ∈ Reorder.classesOf d, NameOk t x)
    (h : mapDesc (tableMap t) d = some d') : mapDesc (tableUnmap t) d' = some d :=
  Reorder.mapDesc_roundtrip h (fun x hx => (hd x hx).unmap) (fun x hx => ⟨(hd x hx).image_ne, (hd x hx).image_semi⟩)

theorem srcView_eq (m : Mappings) : srcView m = m.classes.map classView := rfl

def entryNames (e : JStr × Class) : List JStr :=
  e.1 :: (e.2.fields.flatMap (fun f => Reorder.classesOf f.2.desc) ++
          e.2.methods.flatMap (fun f => Reorder.classesOf f.2.desc))

theorem rewriteClass_roundtrip {t : AList JStr JStr} (dstf dstf2 : JStr → JStr) (hdst : ∀ d, d ≠ [] → dstf d ≠ [])
    (e e' : JStr × Class) (hwf : wfClass e.1 e.2 = true) (hname : ∀ x ∈ entryNames e, NameOk t x)
    (h : rewriteClass (tableMap t) dstf e = .ok e') :
    ∃ e'', rewriteClass (tableUnmap t) dstf2 e' = .ok e'' ∧ classView e'' = classView e := by
  obtain ⟨dst, fs, ms, hn1, hf, hm, -, rfl⟩ := rewriteClass_eq_ok.mp h
  unfold wfClass at hwf
  simp only [Bool.and_eq_true, beq_iff_eq, List.all_eq_true, decide_eq_true_eq, hn1] at hwf
  obtain ⟨⟨⟨⟨⟨hkey, hdne⟩, hfwf⟩, hfnd⟩, hmwf⟩, hmnd⟩ := hwf
  have hk := hname e.1 List.mem_cons_self
  have hf2 := foldAddE_roundtrip_id _ (stepField (tableUnmap t)) _ _ (fun ⟨⟨kn, kd⟩, fld⟩ ha b hb => by
    have hw := hfwf _ ha
    simp only at hw
    obtain ⟨hn, rfl⟩ := hw
    unfold stepField at hb ⊢
    obtain ⟨d, n, h1, _, rfl⟩ := step_ok hb
    simp only [hn, desc_roundtrip (fun x hx => hname x (List.mem_cons_of_mem _ (List.mem_append_left _
      (List.mem_flatMap.mpr ⟨_, ha, hx⟩)))) h1]) hfnd hf
  have hm2 := foldAddE_roundtrip_id _ (stepMethod (tableUnmap t)) _ _ (fun ⟨⟨kn, kd⟩, mth⟩ ha b hb => by
    have hw := hmwf _ ha
    simp only at hw
    obtain ⟨hn, rfl⟩ := hw
    unfold stepMethod at hb ⊢
    obtain ⟨d, n, h1, _, rfl⟩ := step_ok hb
    simp only [hn, desc_roundtrip (fun x hx => hname x (List.mem_cons_of_mem _ (List.mem_append_right _
      (List.mem_flatMap.mpr ⟨_, ha, hx⟩)))) h1]) hmnd hm
  refine ⟨_, rewriteClass_eq_ok.mpr ⟨dstf dst, _, _, ?_, hf2, hm2, ?_, rfl⟩, ?_⟩
  · rw [nameOpt_some (hdst dst fun e => by rw [e] at hdne; cases hdne)]
    rfl
  · rw [hk.unmap]
    exact hk.ne
  · simp only [classView, hk.unmap, hkey]
    rfl

theorem rewriteClasses_roundtrip {t : AList JStr JStr} (dstf dstf2 : JStr → JStr) (hdst : ∀ d, d ≠ [] → dstf d ≠ [])
    (cs cs1 : AList JStr Class) (hwf : ∀ e ∈ cs, wfClass e.1 e.2 = true) (hname : ∀ x ∈ cs.flatMap entryNames, NameOk t x)
    (hnd : (cs.map Prod.fst).Nodup) (h : rewriteClasses (tableMap t) dstf cs = .ok cs1) :
    ∃ cs2, rewriteClasses (tableUnmap t) dstf2 cs1 = .ok cs2 ∧ cs2.map classView = cs.map classView :=
  foldAddE_roundtrip _ _ classView ClassView.key (fun _ => rfl) cs cs1
    (fun a ha b hb => rewriteClass_roundtrip dstf dstf2 hdst a b (hwf a ha)
      (fun x hx => hname x (List.mem_flatMap.mpr ⟨a, ha, hx⟩)) hb) hnd h

theorem nameOk_of_domain {m : Mappings} {t : AList JStr JStr} (ht : t.all (fun kv => cleanName kv.2) = true)
    (hu : (usedNames m).all (fun c => cleanName c && noCollision t c) = true) (x : JStr) (hx : x ∈ usedNames m) :
    NameOk t x := by
  have := List.all_eq_true.mp hu x hx
  rw [Bool.and_eq_true] at this
  have hc := (cleanName_iff _).mp (tableMap_of_all (P := fun s => cleanName s = true) t (List.all_eq_true.mp ht) x this.1)
  exact ⟨((cleanName_iff _).mp this.1).1, tableUnmap_tableMap t x this.2, hc.1, hc.2⟩

end Nest
