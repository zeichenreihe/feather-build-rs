/-!
# `collect::<Option<Vec<_>>>()`: `List.mapM` in `Option`
The model files write this traversal out several times (`Nest.mapOpt`, `Reorder.mapOpt`, `ClassRead.Spec.mapOpt`,
`RemapTree.omapM`, `ClassRead.mapM'`; with the step written into the loop: `RawLayout.constVals`; keyed: `AList.mapValsM`,
`Merge.collectOpt`, `DiffModel.mapKeysM`). Each of these is `List.mapM` by an equation next to the copy's users (`Nest.mapOpt_eq`,
`Reorder.mapOpt_eq`, `ClassRead.mapOpt_eq`, `omapM_eq`, `mapM'_eq`, `constVals_eq`, `mapValsM_eq`; `collectOpt_eq` and
`mapKeysM_eq` say `AList.collect`, which is `List.mapM` by definition); what a traversal does is said here once, and that a
loop which inserts what its steps produce is a traversal followed by a fold (`loop_eq_mapM_foldl`). The same traversal in
another monad (`MergeJar.Outcome.mapM'`, `Maven.mapRes`, `Nest.mapE`) has its own few lemmas.
-/

namespace List
variable {α β γ : Type} {f : α → Option β} {l : List α} {r : List β}

theorem mapM_option_cons (f : α → Option β) (a : α) (l : List α) :
    (a :: l).mapM f = (f a).bind fun b => (l.mapM f).map (b :: ·) := by
  rw [mapM_cons]
  cases f a with
  | none => rfl
  | some b => cases l.mapM f <;> rfl

theorem mapM_eq_some_iff : l.mapM f = some r ↔ l.map f = r.map some := by
  induction l generalizing r with
  | nil => cases r <;> simp
  | cons a l ih =>
    rw [mapM_option_cons, map_cons]
    cases r with
    | nil => cases f a <;> simp
    | cons b bs =>
      rw [map_cons, cons.injEq, ← ih, and_comm]
      cases f a <;> simp

theorem mapM_eq_none_iff : l.mapM f = none ↔ ∃ a ∈ l, f a = none := by
  induction l with
  | nil => simp
  | cons a l ih =>
    simp only [mapM_option_cons, mem_cons, exists_eq_or_imp, ← ih]
    cases f a <;> simp

theorem mem_of_mapM (h : l.mapM f = some r) {b : β} (hb : b ∈ r) : ∃ a ∈ l, f a = some b :=
  mem_map.mp (mapM_eq_some_iff.mp h ▸ mem_map_of_mem (f := some) hb)

theorem mapM_of_mem (h : l.mapM f = some r) {a : α} (ha : a ∈ l) : ∃ b ∈ r, f a = some b :=
  let ⟨b, hb, e⟩ := mem_map.mp (mapM_eq_some_iff.mp h ▸ mem_map_of_mem (f := f) ha)
  ⟨b, hb, e.symm⟩

theorem map_eq_of_mapM {g : β → γ} {k : α → γ} (h : l.mapM f = some r)
    (hp : ∀ a ∈ l, ∀ b, f a = some b → g b = k a) : r.map g = l.map k := by
  induction l generalizing r with
  | nil => cases h; rfl
  | cons a l ih =>
    rw [mapM_option_cons] at h
    obtain ⟨b, hb, h⟩ := Option.bind_eq_some_iff.mp h
    obtain ⟨bs, hbs, rfl⟩ := Option.map_eq_some_iff.mp h
    rw [map_cons, map_cons, hp a mem_cons_self b hb, ih hbs fun a ha => hp a (mem_cons_of_mem _ ha)]

theorem mapM_of_forall {g : α → β} (h : ∀ a ∈ l, f a = some (g a)) : l.mapM f = some (l.map g) := by
  rw [mapM_eq_some_iff, map_map]
  exact map_congr_left h

theorem mapM_option_congr {g : α → Option β} (h : ∀ a ∈ l, f a = g a) : l.mapM f = l.mapM g :=
  Option.ext fun r => by rw [mapM_eq_some_iff, mapM_eq_some_iff, map_congr_left h]

theorem length_of_mapM (h : l.mapM f = some r) : r.length = l.length := by
  simpa using (congrArg length (mapM_eq_some_iff.mp h)).symm

theorem mapM_concat_eq_some {a : α} (h : (l ++ [a]).mapM f = some r) :
    ∃ r0 b, l.mapM f = some r0 ∧ f a = some b ∧ r = r0 ++ [b] := by
  have h' := mapM_eq_some_iff.mp h
  rw [map_append, map_cons, map_nil] at h'
  obtain ⟨r0, r1, rfl, e0, e1⟩ := map_eq_append_iff.mp h'.symm
  obtain ⟨b, rfl, eb⟩ := map_eq_singleton_iff.mp e1
  exact ⟨r0, b, mapM_eq_some_iff.mpr e0.symm, eb.symm, rfl⟩

/-- `for a in l { acc.insert(f(a)?) }`: a loop that stops at the first failing step and otherwise inserts what the steps
produce is `mapM` of the steps followed by a fold of the insertions (`go` is the loop as the model writes it; a loop
whose step looks at the accumulator is not of this form) -/
theorem loop_eq_mapM_foldl {α β σ : Type} (f : α → Option β) (ins : σ → β → σ) (go : List α → σ → Option σ)
    (hnil : ∀ acc, go [] acc = some acc) (hcons : ∀ a l acc, go (a :: l) acc = (f a).bind fun b => go l (ins acc b)) :
    ∀ (l : List α) (acc : σ), go l acc = (l.mapM f).map (·.foldl ins acc) := by
  intro l
  induction l with
  | nil => exact hnil
  | cons a rest ih =>
    intro acc
    rw [hcons, mapM_option_cons]
    cases f a with
    | none => rfl
    | some n =>
      rw [Option.bind_some, Option.bind_some, ih, Option.map_map]
      rfl

end List
