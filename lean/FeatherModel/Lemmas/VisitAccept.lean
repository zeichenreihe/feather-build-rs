import FeatherModel.Model.VisitTree
import FeatherModel.Lemmas.VisitProj

/-!
# C17 lemmas — a masked / declining replay delivers the projection of the full replay

`projA cfg` is the projection `ClassFile::accept` realises: like `proj` (the reader's) except for local variable vectors
without entries (`Some(vec![])`: handed to every visitor interested in one of the two tables, the tree cannot tell which
table was the empty one). Apart from such vectors the two projections agree (`projA_eq_proj`, `projA_eq_proj_up_to_vacuous`).
-/

namespace Visit

section projAEqs
variable (cfg : Cfg)
@[simp] theorem projA_classBegin (h : Nat) : projA cfg (.classBegin h) = some (.classBegin h) := rfl
@[simp] theorem projA_cAttr (unk : Bool) (k : K) (pay : Pay) : projA cfg (.cAttr unk k pay) =
    (match cfg.cls with | some m => keepIf (m (evBit unk k)) (.cAttr unk k pay) | none => none) := rfl
@[simp] theorem projA_recBegin (r h : Nat) : projA cfg (.recBegin r h) =
    (match cfg.cls with | some m => keepIf (m .record) (.recBegin r h) | none => none) := rfl
@[simp] theorem projA_rAttr (r : Nat) (unk : Bool) (k : K) (pay : Pay) : projA cfg (.rAttr r unk k pay) =
    (match recMaskOf cfg r with | some rm => keepIf (rm (evBit unk k)) (.rAttr r unk k pay) | none => none) := rfl
@[simp] theorem projA_recEnd (r : Nat) : projA cfg (.recEnd r) = keepIf (recMaskOf cfg r).isSome (.recEnd r) := rfl
@[simp] theorem projA_classFlags (d s : Bool) : projA cfg (.classFlags d s) = keepIf cfg.cls.isSome (.classFlags d s) := rfl
@[simp] theorem projA_classEnd : projA cfg .classEnd = keepIf cfg.cls.isSome .classEnd := rfl
@[simp] theorem projA_fieldBegin (i h : Nat) : projA cfg (.fieldBegin i h) =
    keepIf (cfg.cls.isSome && cfg.fieldsI) (.fieldBegin i h) := rfl
@[simp] theorem projA_fAttr (i : Nat) (unk : Bool) (k : K) (pay : Pay) : projA cfg (.fAttr i unk k pay) =
    (match fieldMaskOfA cfg i with | some fm => keepIf (fm (evBit unk k)) (.fAttr i unk k pay) | none => none) := rfl
@[simp] theorem projA_fieldFlags (i : Nat) (d s : Bool) : projA cfg (.fieldFlags i d s) =
    keepIf (fieldMaskOfA cfg i).isSome (.fieldFlags i d s) := rfl
@[simp] theorem projA_fieldEnd (i : Nat) : projA cfg (.fieldEnd i) = keepIf (fieldMaskOfA cfg i).isSome (.fieldEnd i) := rfl
@[simp] theorem projA_methodBegin (i h : Nat) : projA cfg (.methodBegin i h) =
    keepIf (cfg.cls.isSome && cfg.methodsI) (.methodBegin i h) := rfl
@[simp] theorem projA_mAttr (i : Nat) (unk : Bool) (k : K) (pay : Pay) : projA cfg (.mAttr i unk k pay) =
    (match methodCfgOfA cfg i with | some mc => keepIf (mc.mask (evBit unk k)) (.mAttr i unk k pay) | none => none) := rfl
@[simp] theorem projA_methodFlags (i : Nat) (d s : Bool) : projA cfg (.methodFlags i d s) =
    keepIf (methodCfgOfA cfg i).isSome (.methodFlags i d s) := rfl
@[simp] theorem projA_methodEnd (i : Nat) : projA cfg (.methodEnd i) = keepIf (methodCfgOfA cfg i).isSome (.methodEnd i) := rfl
@[simp] theorem projA_codeBegin (i : Nat) : projA cfg (.codeBegin i) =
    (match methodCfgOfA cfg i with | some mc => keepIf mc.code (.codeBegin i) | none => none) := rfl
@[simp] theorem projA_codeMaxs (i h : Nat) : projA cfg (.codeMaxs i h) = keepIf (codeMaskOfA cfg i).isSome (.codeMaxs i h) := rfl
@[simp] theorem projA_codeExc (i h : Nat) : projA cfg (.codeExc i h) = keepIf (codeMaskOfA cfg i).isSome (.codeExc i h) := rfl
@[simp] theorem projA_codeEnd (i : Nat) : projA cfg (.codeEnd i) = keepIf (codeMaskOfA cfg i).isSome (.codeEnd i) := rfl
@[simp] theorem projA_codeInsns (i : Nat) (fr : Option Pay) (h : Nat) : projA cfg (.codeInsns i fr h) =
    (match codeMaskOfA cfg i with
      | some cm => some (.codeInsns i (if cm .stackMapTable then fr else none) h) | none => none) := rfl
@[simp] theorem projA_kAttr (i : Nat) (unk : Bool) (k : K) (pay : Pay) : projA cfg (.kAttr i unk k pay) =
    (match codeMaskOfA cfg i with | some cm => keepIf (cm (evBit unk k)) (.kAttr i unk k pay) | none => none) := rfl
@[simp] theorem projA_codeLines (i : Nat) (parts : List Pay) : projA cfg (.codeLines i parts) =
    (match codeMaskOfA cfg i with | some cm => keepIf (cm .lineNumberTable) (.codeLines i parts) | none => none) := rfl
@[simp] theorem projA_codeLocals (i : Nat) (parts : List LvPart) : projA cfg (.codeLocals i parts) =
    (match codeMaskOfA cfg i with
      | some cm =>
        if (cm .lvt || cm .lvtt) && (lvNone parts || !lvNone (lvProj cm parts)) then some (.codeLocals i (lvProj cm parts))
        else none
      | none => none) := rfl
end projAEqs

theorem filterMap_all_some {α β : Type} (f : α → Option β) (g : α → β) (h : ∀ a, f a = some (g a)) (l : List α) :
    l.filterMap f = l.map g := by
  rw [funext h, List.filterMap_eq_map']

theorem emit_proj {mk : Bool → K → Pay → Ev} (P : Ev → Option Ev) (om : Option Mask)
    (hP : ∀ unk k pay, P (mk unk k pay) =
      match om with | some m => keepIf (m (evBit unk k)) (mk unk k pay) | none => none)
    (ord : List K) (s : Slots) :
    (emitKinds allMask ord mk s).filterMap P =
        (match (generalizing := false) om with | some m => emitKinds m ord mk s | none => []) ∧
      (emitUnknown allMask mk s).filterMap P =
        (match (generalizing := false) om with | some m => emitUnknown m mk s | none => []) := by
  unfold emitKinds emitUnknown unkItems
  simp only [allMask, if_true, List.map_map]
  rw [List.filterMap_map, List.filterMap_map]
  cases om with
  | none => exact ⟨List.filterMap_eq_nil_iff.mpr fun _ _ => hP .., List.filterMap_eq_nil_iff.mpr fun _ _ => hP ..⟩
  | some m =>
    dsimp only at hP ⊢
    constructor
    · unfold kindItems
      rw [List.filterMap_filterMap, List.map_filterMap]
      congr 1
      funext k
      simp only [kindItem, allMask, if_true]
      cases isMulti k
      · cases hm : m k <;> cases s.single k <;> simp [toEv, hP, keepIf, evBit, hm]
      · cases hm : m k <;> cases (s.multi k).isEmpty <;> simp [toEv, hP, keepIf, evBit, hm]
    · cases hm : m .other <;> simp only [Bool.false_eq_true, if_false, if_true, List.map_nil, List.map_map]
      · exact List.filterMap_eq_nil_iff.mpr fun a _ => by simp [toEv, hP, keepIf, evBit, hm]
      · exact filterMap_all_some _ _ (by intro a; simp [toEv, hP, keepIf, evBit, hm]) _

theorem full_recc (r : Nat) : full.recc r = some allMask := rfl
theorem full_field (i : Nat) : full.field i = some allMask := rfl
theorem full_method' (i : Nat) : full.method i = some { mask := allMask, code := true, codeV := some allMask } := rfl

set_option smartUnfolding false in
theorem acceptRecs_eq (cfg : Cfg) : acceptRecs cfg = seqEv (acceptRec cfg) := rfl

set_option smartUnfolding false in
theorem acceptFields_eq (cfg : Cfg) : acceptFields cfg = seqEv (acceptField cfg) := rfl

set_option smartUnfolding false in
theorem acceptMethods_eq (cfg : Cfg) : acceptMethods cfg = seqEv (acceptMethod cfg) := rfl

theorem acceptRec_proj (cfg : Cfg) (r : Nat) (t : RecTree) :
    (acceptRec full r t).filterMap (projA cfg) = if cfg.cls.any (· .record) then acceptRec cfg r t else [] := by
  obtain ⟨hk, hu⟩ := emit_proj (mk := Ev.rAttr r) (projA cfg) (recMaskOf cfg r) (fun _ _ _ => rfl) recOrder t.slots
  simp only [acceptRec, full_recc, List.filterMap_cons, List.filterMap_append, List.filterMap_nil, hk, hu,
    projA_recBegin, projA_recEnd, recMaskOf]
  cases cfg.cls with
  | none => rfl
  | some m =>
    dsimp only
    rw [Option.any_some]
    cases m .record
    · rfl
    · cases cfg.recc r <;> rfl

theorem acceptField_proj (cfg : Cfg) (i : Nat) (t : FieldTree) :
    (acceptField full i t).filterMap (projA cfg) =
      if cfg.cls.isSome && cfg.fieldsI then acceptField cfg i t else [] := by
  obtain ⟨hk, hu⟩ := emit_proj (mk := Ev.fAttr i) (projA cfg) (fieldMaskOfA cfg i) (fun _ _ _ => rfl) fieldOrder t.slots
  simp only [acceptField, full_field, List.filterMap_cons, List.filterMap_append, List.filterMap_nil, hk, hu,
    projA_fieldBegin, projA_fieldFlags, projA_fieldEnd, fieldMaskOfA]
  cases cfg.cls <;> cases cfg.fieldsI <;> try rfl
  cases cfg.field i <;> rfl

theorem acceptLocals_all (i : Nat) (p : List LvPart) : acceptLocals i allMask p = [Ev.codeLocals i p] := by
  simp only [acceptLocals, lvProj_all]
  cases lvNone p <;> simp

theorem acceptLocals_proj {cfg : Cfg} {i : Nat} {cm : Mask} (hn : codeMaskOfA cfg i = some cm) (p : List LvPart) :
    [Ev.codeLocals i p].filterMap (projA cfg) = if cm .lvt || cm .lvtt then acceptLocals i cm p else [] := by
  simp only [List.filterMap_cons, List.filterMap_nil, projA_codeLocals, hn, acceptLocals]
  cases cm .lvt <;> cases cm .lvtt <;> cases lvNone p <;> cases lvNone (lvProj cm p) <;> simp

theorem acceptLocals_drop {cfg : Cfg} {i : Nat} (hn : codeMaskOfA cfg i = none) (p : List LvPart) :
    [Ev.codeLocals i p].filterMap (projA cfg) = [] := by
  simp [hn]

/-- what `Code::accept` hands a code visitor with interests `cm` after `visit_code()`, the optional parts written as
lists -/
def codeBody (i : Nat) (cm : Mask) (t : CodeTree) : List Ev :=
  t.maxs.toList.map (Ev.codeMaxs i)
    ++ t.insns.map (fun x => Ev.codeInsns i (if cm .stackMapTable then x.1 else none) x.2) ++ [Ev.codeExc i t.exc]
    ++ (if cm .lineNumberTable then t.lines.toList.map (Ev.codeLines i) else [])
    ++ (if cm .lvt || cm .lvtt then (t.locals.map (acceptLocals i cm)).getD [] else [])
    ++ emitKinds cm codeOrder (Ev.kAttr i) t.slots ++ emitUnknown cm (Ev.kAttr i) t.slots ++ [Ev.codeEnd i]

theorem acceptCode_eq (i : Nat) (mc : MethodCfg) (t : CodeTree) :
    acceptCode i mc t =
      if mc.code then Ev.codeBegin i :: (match mc.codeV with | some cm => codeBody i cm t | none => []) else [] := by
  unfold acceptCode codeBody
  cases mc.code
  · rfl
  · cases mc.codeV with
    | none => rfl
    | some cm => cases t.maxs <;> cases t.lines <;> cases t.locals <;> rfl

theorem filterMap_map_keepIf {α : Type} (P : Ev → Option Ev) (f : α → Ev) (b : Bool)
    (h : ∀ a, P (f a) = keepIf b (f a)) (l : List α) : (l.map f).filterMap P = if b then l.map f else [] := by
  rw [List.filterMap_map]
  cases b
  · exact List.filterMap_eq_nil_iff.mpr fun a _ => h a
  · exact filterMap_all_some _ _ h _

theorem allMask_apply (k : K) : allMask k = true := rfl

theorem codeBody_proj (cfg : Cfg) (i : Nat) (t : CodeTree) :
    (codeBody i allMask t).filterMap (projA cfg) =
      match codeMaskOfA cfg i with | some cm => codeBody i cm t | none => [] := by
  obtain ⟨hk, hu⟩ := emit_proj (mk := Ev.kAttr i) (projA cfg) (codeMaskOfA cfg i) (fun _ _ _ => rfl) codeOrder t.slots
  unfold codeBody
  simp only [List.filterMap_append, hk, hu, allMask_apply, if_true, Bool.or_self]
  have e1 := filterMap_map_keepIf (projA cfg) (Ev.codeMaxs i) _ (fun _ => rfl) t.maxs.toList
  have e2 : (t.insns.map fun x => Ev.codeInsns i x.1 x.2).filterMap (projA cfg) =
      match codeMaskOfA cfg i with
      | some cm => t.insns.map (fun x => Ev.codeInsns i (if cm .stackMapTable then x.1 else none) x.2)
      | none => [] := by
    rw [List.filterMap_map]
    cases hn : codeMaskOfA cfg i with
    | none => exact List.filterMap_eq_nil_iff.mpr fun _ _ => by simp only [Function.comp, projA_codeInsns, hn]
    | some cm => exact filterMap_all_some _ _ (fun _ => by simp only [Function.comp, projA_codeInsns, hn]) _
  have e3 : (t.lines.toList.map (Ev.codeLines i)).filterMap (projA cfg) =
      match codeMaskOfA cfg i with
      | some cm => if cm .lineNumberTable then t.lines.toList.map (Ev.codeLines i) else []
      | none => [] := by
    cases hn : codeMaskOfA cfg i with
    | none => exact filterMap_map_keepIf _ _ false (fun _ => by rw [projA_codeLines, hn]; rfl) _
    | some cm => exact filterMap_map_keepIf _ _ _ (fun _ => by rw [projA_codeLines, hn]) _
  have e4 : ((t.locals.map (acceptLocals i allMask)).getD []).filterMap (projA cfg) =
      match codeMaskOfA cfg i with
      | some cm => if cm .lvt || cm .lvtt then (t.locals.map (acceptLocals i cm)).getD [] else []
      | none => [] := by
    cases t.locals with
    | none => cases codeMaskOfA cfg i <;> simp
    | some p =>
      simp only [Option.map_some, Option.getD_some, acceptLocals_all]
      cases hn : codeMaskOfA cfg i with
      | none => exact acceptLocals_drop hn p
      | some cm => exact acceptLocals_proj hn p
  simp only [e1, e2, e3, e4, List.filterMap_cons, List.filterMap_nil, projA_codeExc, projA_codeEnd]
  cases codeMaskOfA cfg i <;> rfl

theorem acceptCode_proj (cfg : Cfg) (i : Nat) (t : CodeTree) :
    (acceptCode i fullMc t).filterMap (projA cfg) =
      match methodCfgOfA cfg i with | some mc => acceptCode i mc t | none => [] := by
  simp only [acceptCode_eq, show fullMc.code = true from rfl, show fullMc.codeV = some allMask from rfl, if_true,
    List.filterMap_cons, codeBody_proj, projA_codeBegin, codeMaskOfA]
  cases methodCfgOfA cfg i with
  | none => rfl
  | some mc =>
    dsimp only
    cases mc.code
    · rfl
    · cases mc.codeV <;> rfl

theorem acceptMethod_proj (cfg : Cfg) (i : Nat) (t : MethodTree) :
    (acceptMethod full i t).filterMap (projA cfg) =
      if cfg.cls.isSome && cfg.methodsI then acceptMethod cfg i t else [] := by
  have hP : ∀ unk k pay, projA cfg (.mAttr i unk k pay) =
      match (methodCfgOfA cfg i).map (·.mask) with
      | some m => keepIf (m (evBit unk k)) (.mAttr i unk k pay) | none => none := fun _ _ _ => by
    rw [projA_mAttr]; cases methodCfgOfA cfg i <;> rfl
  obtain ⟨hk, hu⟩ := emit_proj (projA cfg) _ hP methodOrder t.slots
  cases ht : t.code <;>
    simp only [acceptMethod, full_method, ht, List.filterMap_cons, List.filterMap_append, List.filterMap_nil, hk, hu,
      acceptCode_proj, show fullMc.mask = allMask from rfl, projA_methodBegin, projA_methodFlags, projA_methodEnd, methodCfgOfA] <;>
    cases cfg.cls <;> cases cfg.methodsI <;> try rfl
  all_goals cases cfg.method i <;> rfl

theorem accept_proj (cfg : Cfg) (t : ClassTree) : accept cfg t = (accept full t).filterMap (projA cfg) := by
  obtain ⟨hk, hu⟩ := emit_proj (mk := Ev.cAttr) (projA cfg) cfg.cls (fun _ _ _ => rfl) classOrder t.slots
  simp only [accept, show full.cls = some allMask from rfl, show full.fieldsI = true from rfl,
    show full.methodsI = true from rfl, allMask_apply, if_true, List.filterMap_cons,
    List.filterMap_append, List.filterMap_nil, hk, hu, acceptRecs_eq, acceptFields_eq, acceptMethods_eq,
    seqEv_gate _ _ (acceptRec_proj cfg), seqEv_gate _ _ (acceptField_proj cfg), seqEv_gate _ _ (acceptMethod_proj cfg),
    projA_classBegin, projA_classFlags, projA_classEnd]
  cases cfg.cls with
  | none => rfl
  | some m => cases cfg.fieldsI <;> cases cfg.methodsI <;> rfl

theorem codeMaskOfA_eq (cfg : Cfg) (i : Nat) : codeMaskOfA cfg i = codeMaskOf cfg i := by
  simp only [codeMaskOfA, methodCfgOfA, codeMaskOf]
  cases cfg.cls <;> cases cfg.method i <;> cases cfg.methodsI <;> simp

/-- a `visit_local_variables` event -/
def Ev.isLocals : Ev → Bool
  | .codeLocals _ _ => true
  | _ => false

theorem projA_eq_proj_of_not_locals (cfg : Cfg) (e : Ev) (hl : e.isLocals = false) : projA cfg e = proj cfg e := by
  cases e with
  | fAttr i | fieldFlags i | fieldEnd i =>
    simp only [projA, proj, fieldMaskOfA]
    cases cfg.cls <;> cases cfg.field i <;> cases cfg.fieldsI <;> simp [keepIf]
  | mAttr i | methodFlags i | methodEnd i | codeBegin i =>
    simp only [projA, proj, methodCfgOfA]
    cases cfg.cls <;> cases cfg.method i <;> cases cfg.methodsI <;> simp [keepIf]
  | codeMaxs | codeExc | codeEnd => simp only [projA, proj, codeMaskOfA_eq]
  | kAttr i | codeLines i | codeInsns i =>
    simp only [projA, proj, codeMaskOfA_eq]
    cases codeMaskOf cfg i <;> rfl
  | codeLocals => cases hl
  | _ => rfl

theorem of_mem_lvProj {cm : Mask} {p : List LvPart} {y : LvPart} (h : y ∈ lvProj cm p) : ∃ x ∈ p, x.2 = y.2 := by
  obtain ⟨x, hx, hy⟩ := List.mem_filterMap.mp h
  obtain ⟨_, -, rfl⟩ := Option.map_eq_some_iff.mp hy
  exact ⟨x, hx, rfl⟩

theorem lvNone_lvProj (cm : Mask) : ∀ p : List LvPart, lvNone p = true → lvNone (lvProj cm p) = true := by
  intro p h
  refine List.all_eq_true.mpr fun y hy => ?_
  obtain ⟨x, hx, e⟩ := of_mem_lvProj hy
  exact e ▸ List.all_eq_true.mp h x hx

theorem lvProj_no_interest {cm : Mask} (h1 : cm .lvt = false) (h2 : cm .lvtt = false) (p : List LvPart) :
    lvProj cm p = [] :=
  List.filterMap_eq_nil_iff.mpr fun x _ => by cases x.1 <;> simp [LvK.strip, h1, h2]

theorem lvNone_lvProj_of_entries (cm : Mask) : ∀ p : List LvPart, (∀ x ∈ p, x.2.sum ≠ 0) →
    lvNone (lvProj cm p) = (lvProj cm p).isEmpty := by
  intro p h
  cases hl : lvProj cm p with
  | nil => rfl
  | cons y ys =>
    obtain ⟨x, hx, e⟩ := of_mem_lvProj (hl ▸ List.mem_cons_self)
    simp [lvNone, ← e, h x hx]

theorem lvProj_interest {cm : Mask} {p : List LvPart} (h : (lvProj cm p).isEmpty = false) :
    (cm .lvt || cm .lvtt) = true := by
  cases h1 : cm .lvt <;> cases h2 : cm .lvtt <;> try rfl
  rw [lvProj_no_interest h1 h2] at h
  cases h

theorem projA_eq_proj_up_to_vacuous (cfg : Cfg) (e : Ev) :
    (projA cfg e).filter (fun e' => !e'.vacuous) = (proj cfg e).filter (fun e' => !e'.vacuous) := by
  cases e with
  | codeLocals i parts =>
    simp only [projA_codeLocals, proj_codeLocals, codeMaskOfA_eq]
    cases codeMaskOf cfg i with
    | none => rfl
    | some cm =>
      simp only []
      cases hq : lvNone (lvProj cm parts) with
      | true => split <;> split <;> simp [Option.filter, Ev.vacuous, hq]
      | false =>
        have hne : (lvProj cm parts).isEmpty = false := by
          cases h : lvProj cm parts with
          | nil => rw [h] at hq; cases hq
          | cons _ _ => rfl
        simp [hne, lvProj_interest hne]
  | _ => rw [projA_eq_proj_of_not_locals cfg _ rfl]

/-- replay and read project alike every event of a list in which each local variable vector has entries, part by part.
A vector without entries (an empty `Some(vec![])`, or parts that count no entry) does not say which table it came from. -/
theorem projA_eq_proj (cfg : Cfg) {evs : List Ev} (hne : localsHaveEntries evs = true) {e : Ev} (he : e ∈ evs) :
    projA cfg e = proj cfg e := by
  cases e with
  | codeLocals i parts =>
    have h := List.all_eq_true.mp hne _ he
    simp only [Bool.and_eq_true, Bool.not_eq_true', List.isEmpty_eq_false_iff, List.all_eq_true, bne_iff_ne, ne_eq] at h
    obtain ⟨hp, hx⟩ := h
    have hnp : lvNone parts = false := by
      cases parts with
      | nil => exact absurd rfl hp
      | cons y ys => simp [lvNone, hx y (by simp)]
    simp only [projA_codeLocals, proj_codeLocals, codeMaskOfA_eq]
    cases codeMaskOf cfg i with
    | none => rfl
    | some cm =>
      simp only []
      rw [hnp, lvNone_lvProj_of_entries cm parts hx]
      cases hq : (lvProj cm parts).isEmpty with
      | true => simp
      | false => simp [lvProj_interest hq]
  | _ => exact projA_eq_proj_of_not_locals cfg _ rfl

end Visit
