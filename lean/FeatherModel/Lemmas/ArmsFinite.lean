/-!
# Finite checks over position-indexed tables

Three devices that keep a kernel evaluation over the generated tables linear: a walk over one table with its companions
(`allRows`), a tree for indexed access (`Tab`), and a walk for list inclusion (`covered`).

A table `T` with one entry per index is checked in one walk, together with a second table `B` indexed the same way and
an association list `A` with increasing keys; the kernel evaluates the walk in time linear in `T`, where an indexed
access (`getD`, `[i]?`, `lookup`) per row is linear in the index each time. `allRows_getD` turns the walk into the
pointwise statement.
-/

namespace Arms

/-- the keys of an association list increase, starting at `k` or later -/
def sortedFrom {γ : Type} : Nat → List (Nat × γ) → Bool
  | _, [] => true
  | k, (a, _) :: A => decide (k ≤ a) && sortedFrom (a + 1) A

theorem lookup_of_sortedFrom {γ : Type} {j : Nat} : ∀ {k : Nat} {A : List (Nat × γ)}, sortedFrom k A = true → j < k →
    A.lookup j = none
  | _, [], _, _ => rfl
  | k, (a, c) :: A, h, hj => by
    simp only [sortedFrom, Bool.and_eq_true, decide_eq_true_eq] at h
    have hne : (j == a) = false := by simp; omega
    simp only [List.lookup, hne]
    exact lookup_of_sortedFrom h.2 (by omega)

/-- `p i t b? c?` at every position `i` of `T` (counted from `k`): `b?` the entry of `B` at that position, `c?` the entry
of the association list `A` (keys increasing) for `i` -/
def allRows {α β γ : Type} (p : Nat → α → Option β → Option γ → Bool) : Nat → List α → List β → List (Nat × γ) → Bool
  | _, [], _, _ => true
  | k, t :: T, B, [] => p k t B.head? none && allRows p (k + 1) T B.tail []
  | k, t :: T, B, (a, c) :: A =>
    if a = k then p k t B.head? (some c) && allRows p (k + 1) T B.tail A
    else p k t B.head? none && allRows p (k + 1) T B.tail ((a, c) :: A)

theorem allRows_getElem {α β γ : Type} (p : Nat → α → Option β → Option γ → Bool) :
    ∀ (T : List α) (B : List β) (A : List (Nat × γ)) (k : Nat), allRows p k T B A = true → sortedFrom k A = true →
      ∀ i (h : i < T.length), p (k + i) T[i] B[i]? (A.lookup (k + i)) = true
  | [], _, _, _, _, _, _, h => absurd h (Nat.not_lt_zero _)
  | t :: T, B, [], k, hp, _, i, h => by
    simp only [allRows, Bool.and_eq_true] at hp
    cases i with
    | zero => simpa [List.head?_eq_getElem?] using hp.1
    | succ i =>
      have := allRows_getElem p T B.tail [] (k + 1) hp.2 rfl i (Nat.lt_of_succ_lt_succ h)
      simpa [Nat.add_assoc, Nat.add_comm 1 i] using this
  | t :: T, B, (a, c) :: A, k, hp, hs, i, h => by
    simp only [sortedFrom, Bool.and_eq_true, decide_eq_true_eq] at hs
    simp only [allRows] at hp
    split at hp
    · rename_i hak
      subst hak
      simp only [Bool.and_eq_true] at hp
      cases i with
      | zero => simpa [List.head?_eq_getElem?] using hp.1
      | succ i =>
        have := allRows_getElem p T B.tail A (a + 1) hp.2 hs.2 i (Nat.lt_of_succ_lt_succ h)
        have hne : (a + (i + 1) == a) = false := by simp
        simpa [Nat.add_assoc, Nat.add_comm 1 i, List.lookup, hne] using this
    · rename_i hak
      simp only [Bool.and_eq_true] at hp
      cases i with
      | zero =>
        have hne : (k == a) = false := by simp; omega
        simpa [List.head?_eq_getElem?, List.lookup, hne, lookup_of_sortedFrom hs.2 (show k < a + 1 by omega)] using hp.1
      | succ i =>
        have := allRows_getElem p T B.tail ((a, c) :: A) (k + 1) hp.2
          (by simp only [sortedFrom, Bool.and_eq_true, decide_eq_true_eq]; exact ⟨by omega, hs.2⟩) i (Nat.lt_of_succ_lt_succ h)
        simpa [Nat.add_assoc, Nat.add_comm 1 i] using this

theorem allRows_getD {α β γ : Type} {p : Nat → α → Option β → Option γ → Bool} {T : List α} {B : List β}
    {A : List (Nat × γ)} {n : Nat} (d : α) (hlen : T.length = n) (hs : sortedFrom 0 A = true) (h : allRows p 0 T B A = true)
    (i : Nat) (hi : i < n) : p i (T.getD i d) B[i]? (A.lookup i) = true := by
  have hi' : i < T.length := hlen ▸ hi
  have := allRows_getElem p T B A 0 h hs i hi'
  rwa [Nat.zero_add, show T[i] = T.getD i d by simp [List.getD, hi']] at this

/-- the walk over one table -/
def allFrom {α : Type} (p : Nat → α → Bool) (T : List α) : Bool :=
  allRows (fun i t (_ _ : Option Unit) => p i t) 0 T [] []

theorem allFrom_getD {α : Type} {p : Nat → α → Bool} {T : List α} {n : Nat} (d : α)
    (hlen : T.length = n) (h : allFrom p T = true) (i : Nat) (hi : i < n) : p i (T.getD i d) = true :=
  allRows_getD d hlen rfl h i hi

/-! ## indexed access in a number of steps logarithmic in the index

Where the rows of one table point into another (a constructor index, an opcode) no walk applies. `Tab.ofList d l` lays `l`
out as a binary tree on the index, least significant bit first, so `get?` takes `d` steps plus a walk in a list of
`l.length / 2 ^ d` entries; the kernel builds the tree once and shares it between the rows, since it remembers the weak
head normal form of a closed term. A proof rewrites the accesses with `← Tab.get?_ofList d T` / `← Tab.getD_ofList d T`
before it evaluates. -/

def evens {α : Type} : List α → List α
  | a :: _ :: l => a :: evens l
  | l => l

theorem evens_getElem? {α : Type} : ∀ (l : List α) (i : Nat), (evens l)[i]? = l[2 * i]?
  | [], i => by simp [evens]
  | [a], i => by cases i <;> simp [evens]
  | a :: _ :: l, 0 => by simp [evens]
  | a :: _ :: l, i + 1 => by simp [evens, evens_getElem? l i, Nat.mul_add]

/-- a list as a binary tree on the index: `node even odd` holds the entries at even positions in `even` (each at half its
position) and those at odd positions in `odd`; a `leaf` is an ordinary list -/
inductive Tab (α : Type) where
  | leaf (l : List α)
  | node (even odd : Tab α)

def Tab.ofList {α : Type} : Nat → List α → Tab α
  | 0, l => .leaf l
  | d + 1, l => .node (ofList d (evens l)) (ofList d (evens l.tail))

def Tab.get? {α : Type} : Tab α → Nat → Option α
  | .leaf l, i => l[i]?
  | .node e o, i => if i % 2 = 0 then e.get? (i / 2) else o.get? (i / 2)

theorem Tab.get?_ofList {α : Type} : ∀ (d : Nat) (l : List α) (i : Nat), (Tab.ofList d l).get? i = l[i]?
  | 0, _, _ => rfl
  | d + 1, l, i => by
    simp only [Tab.ofList, Tab.get?, Tab.get?_ofList d, evens_getElem?]
    split
    · congr 1; omega
    · cases l with
      | nil => simp
      | cons a l => rw [List.tail_cons, show i = 2 * (i / 2) + 1 by omega, List.getElem?_cons_succ]; congr 1; omega

theorem Tab.getD_ofList {α : Type} (d : Nat) (l : List α) (i : Nat) (a : α) :
    ((Tab.ofList d l).get? i).getD a = l.getD i a := by
  rw [Tab.get?_ofList, List.getD_eq_getElem?_getD]

/-- drop `a` from the front of the first of the lists that starts with it -/
def popHead {α : Type} [BEq α] (a : α) : List (List α) → Option (List (List α))
  | [] => none
  | [] :: ls => (popHead a ls).map ([] :: ·)
  | (b :: l) :: ls => if b == a then some (l :: ls) else (popHead a ls).map ((b :: l) :: ·)

/-- every element of `as` occurs in `all`, checked without searching `all` where possible: the lists `ls` (in the use:
pieces whose concatenation is `all`, `covered_sound`'s hypothesis) are consumed from their fronts, an element of `as` that
is at the front of one of them is dropped there, and only one that is at no front is looked up in `all`. Linear when
the pieces keep the order of `as`. -/
def covered {α : Type} [BEq α] (all : List α) : List α → List (List α) → Bool
  | [], _ => true
  | a :: as, ls =>
    match popHead a ls with
    | some ls' => covered all as ls'
    | none => all.contains a && covered all as ls

theorem popHead_sub {α : Type} [BEq α] [LawfulBEq α] {a : α} : ∀ {ls ls' : List (List α)}, popHead a ls = some ls' →
    a ∈ ls.flatten ∧ ∀ x ∈ ls'.flatten, x ∈ ls.flatten
  | [] :: ls, ls', h => by
    simp only [popHead, Option.map_eq_some_iff] at h
    obtain ⟨l1, h1, rfl⟩ := h
    simpa using popHead_sub h1
  | (b :: l) :: ls, ls', h => by
    simp only [popHead] at h
    split at h
    · rename_i hb
      cases h
      cases eq_of_beq hb
      simp only [List.flatten_cons, List.mem_append, List.mem_cons]
      exact ⟨.inl (.inl trivial), fun x hx => hx.elim (fun h => .inl (.inr h)) .inr⟩
    · simp only [Option.map_eq_some_iff] at h
      obtain ⟨l1, h1, rfl⟩ := h
      have := popHead_sub h1
      simp only [List.flatten_cons, List.mem_append, List.mem_cons]
      exact ⟨Or.inr this.1, fun x hx => by rcases hx with (hx | hx) | hx; exact .inl (.inl hx); exact .inl (.inr hx); exact .inr (this.2 x hx)⟩

theorem covered_sound {α : Type} [BEq α] [LawfulBEq α] {all : List α} : ∀ {as : List α} {ls : List (List α)},
    covered all as ls = true → (∀ x ∈ ls.flatten, x ∈ all) → ∀ a ∈ as, a ∈ all
  | a :: as, ls, h, hs, x, hx => by
    simp only [covered] at h
    split at h
    · rename_i ls' hp
      obtain ⟨h1, h2⟩ := popHead_sub hp
      rcases List.mem_cons.mp hx with rfl | hx
      · exact hs _ h1
      · exact covered_sound h (fun y hy => hs y (h2 y hy)) x hx
    · simp only [Bool.and_eq_true, List.contains_iff_mem] at h
      rcases List.mem_cons.mp hx with rfl | hx
      · exact h.1
      · exact covered_sound h.2 hs x hx

end Arms
