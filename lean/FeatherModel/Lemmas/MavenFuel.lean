import FeatherModel.Model.Maven
import FeatherModel.Spec.MavenPom

/-! Every step of the Maven model (C19) has the shape `x.bind k` on `Res`: the equations that say so, and what follows
for all of them at once — an `ok` or `err` answer is the answer for every larger amount of fuel (`Res.le a b` = "`a` ran
out of fuel, or `a = b`"), and on an acyclic (ranked) universe the fuel `rank + 2` suffices. -/

namespace Maven

variable {α β : Type}

theorem Res.bind_eq_ok {a : Res α} {k : α → Res β} {y : β} : a.bind k = .ok y ↔ ∃ x, a = .ok x ∧ k x = .ok y := by
  cases a <;> simp [Res.bind]

theorem Res.bind_ne_fuel {a : Res α} {k : α → Res β} (ha : a ≠ .fuel) (hk : ∀ x, a = .ok x → k x ≠ .fuel) :
    a.bind k ≠ .fuel := by
  cases a with
  | ok x => exact hk x rfl
  | err => nofun
  | fuel => exact absurd rfl ha

def Res.le (a b : Res α) : Prop := a = .fuel ∨ a = b

theorem Res.le_refl (a : Res α) : a.le a := Or.inr rfl

theorem Res.fuel_le (b : Res α) : Res.fuel.le b := Or.inl rfl

theorem Res.le_ok {a b : Res α} {x : α} (h : a.le b) (e : a = .ok x) : b = .ok x := by
  subst e
  exact Or.elim h nofun Eq.symm

theorem Res.le_err {a b : Res α} (h : a.le b) (e : a = .err) : b = .err := by
  subst e
  exact Or.elim h nofun Eq.symm

theorem Res.bind_le {a a' : Res α} {k k' : α → Res β} (h : a.le a') (hk : ∀ x, (k x).le (k' x)) :
    (a.bind k).le (a'.bind k') := by
  rcases h with rfl | rfl
  · exact Res.fuel_le _
  · cases a with
    | ok x => exact hk x
    | err => exact Res.le_refl _
    | fuel => exact Res.le_refl _

/-- sequential map that stops at the first failure -/
def mapRes {β γ : Type} (f : β → Res γ) : List β → Res (List γ)
  | [] => .ok []
  | x :: xs =>
    match f x with
    | .ok y =>
      match mapRes f xs with
      | .ok ys => .ok (y :: ys)
      | .err => .err
      | .fuel => .fuel
    | .err => .err
    | .fuel => .fuel

/- The model writes every step as a three-arm `match`; the lemmas `*_cons`, `*_succ`, `*_eq` below restate the steps with
`Res.bind`. They are proved the way the header of `Lemmas/Ladder.lean` describes for `Option` ladders: rewrite the binds
with `Res.bind_eq_match`, then `rfl` with `smartUnfolding` off. -/
theorem Res.bind_eq_match (a : Res α) (k : α → Res β) :
    a.bind k = match a with | .ok x => k x | .err => .err | .fuel => .fuel := by
  cases a <;> rfl

theorem Res.bind_assoc {γ : Type} (a : Res α) (f : α → Res β) (g : β → Res γ) :
    (a.bind f).bind g = a.bind fun x => (f x).bind g := by
  cases a <;> rfl

theorem mapRes_cons {β γ : Type} (f : β → Res γ) (x : β) (xs : List β) :
    mapRes f (x :: xs) = (f x).bind fun y => (mapRes f xs).bind fun ys => .ok (y :: ys) := by
  simp only [Res.bind_eq_match]
  set_option smartUnfolding false in rfl

theorem mapRes_le {β γ : Type} {f f' : β → Res γ} (h : ∀ x, (f x).le (f' x)) :
    ∀ l, (mapRes f l).le (mapRes f' l) := by
  intro l
  induction l with
  | nil => exact Res.le_refl _
  | cons x xs ih =>
    rw [mapRes_cons, mapRes_cons]
    exact Res.bind_le (h x) fun _ => Res.bind_le ih fun _ => Res.le_refl _

theorem mapRes_ne_fuel {β γ : Type} {f : β → Res γ} : ∀ {l : List β}, (∀ x ∈ l, f x ≠ .fuel) → mapRes f l ≠ .fuel
  | [], _ => nofun
  | x :: xs, h => by
    rw [mapRes_cons]
    exact Res.bind_ne_fuel (h x List.mem_cons_self) fun _ _ =>
      Res.bind_ne_fuel (mapRes_ne_fuel fun y hy => h y (List.mem_cons_of_mem _ hy)) fun _ _ => nofun

/-- the translated scope table read through the documented one; lets `depChildren` be read as `transitive` below -/
theorem scope_table_spec (l t : Scope) :
    theScopeTable l t = (Spec.MavenScope.table l.toSpec t.toSpec).map Scope.ofSpec := by
  cases l <;> cases t <;> decide +kernel

theorem depChildren_eq (rec : Coord → Scope → Res (Tree Found)) (scope : Scope) :
    ∀ deps, depChildren rec scope deps = mapRes (fun p => rec p.1 p.2) (transitive scope deps) := by
  intro deps
  induction deps with
  | nil => rfl
  | cons d rest ih =>
    rw [depChildren, transitive, List.filterMap_cons, ← transitive, ih, scope_table_spec]
    by_cases ho : d.optional = some true
    · simp only [ho, Option.getD_some, if_true]
    · have hb : d.optional.getD false = false := by
        cases hd : d.optional with
        | none => rfl
        | some b =>
          cases b with
          | false => rfl
          | true => exact absurd hd ho
      simp only [ho, hb, Bool.false_eq_true, if_false]
      cases Spec.MavenScope.table scope.toSpec (d.scope.getD .compile).toSpec with
      | none => rfl
      | some s =>
        set_option smartUnfolding false in rfl

variable (U : Universe) (rs : List Resolver)

/-- `depForest` is a textual copy of `mapRes` -/
theorem depForest_eq (n : Nat) : depForest U rs n = mapRes (fun p => depTree U rs n p.1 p.2) := by
  set_option smartUnfolding false in rfl

theorem collectParents_none (n : Nat) : collectParents U rs n none = .ok [] := by
  cases n <;> rfl

theorem collectParents_succ (n : Nat) (c : Coord) :
    collectParents U rs (n + 1) (some c) =
      (tryGetPom U rs c).bind fun p => (collectParents U rs n p.2.parentCoord).bind fun rest => .ok (p.2 :: rest) := by
  simp only [Res.bind_eq_match]
  set_option smartUnfolding false in rfl

theorem makeDMOwn_cons (imp : Coord → Res PomDone) (x : RawDep (Option Scope)) (rest : List (RawDep (Option Scope))) :
    makeDMOwn imp (x :: rest) =
      match x.version with
      | none => .err
      | some v =>
        if x.scope = some none then
          (imp (depCoord x.group x.artifact v x.type_ x.classifier)).bind fun bom =>
            (makeDMOwn imp rest).bind fun r => .ok (bom.depMgmt ++ r)
        else (makeDMOwn imp rest).bind fun r => .ok (managedEntry x v :: r) := by
  rw [makeDMOwn]
  cases x.version with
  | none => rfl
  | some v =>
    simp only [Res.bind_eq_match]
    split
    · rename_i hs
      rw [if_pos hs]
      set_option smartUnfolding false in rfl
    · rename_i hs
      rw [if_neg (fun e => hs e)]
      set_option smartUnfolding false in rfl

theorem mergeParent_eq (imp : Coord → Res PomDone) (par : Option PomDone) (child : Pom) :
    mergeParent imp par child =
      match inheritCoord par child with
      | none => .err
      | some coord =>
        (makeDMOwn imp child.depMgmt).bind fun own =>
          match fillDeps (own ++ parDM par) child.deps with
          | some deps => .ok { coord := coord, depMgmt := own ++ parDM par, deps := deps ++ parDeps par }
          | none => .err := by
  cases par with
  | some p =>
    by_cases ht : p.coord.type_ = jstr "pom"
    · simp only [mergeParent, inheritCoord, ht, ne_eq, not_true_eq_false, if_false, if_true, makeDM, makeDeps,
        parDM, parDeps, Option.map_some, Option.getD_some, packagingToType]
      cases makeDMOwn imp child.depMgmt with
      | err => rfl
      | fuel => rfl
      | ok own =>
        simp only [Res.bind]
        cases fillDeps (own ++ p.depMgmt) child.deps <;> rfl
    · -- a parent that is no `pom`: both sides are `err`
      rw [mergeParent, if_pos ht, inheritCoord, if_neg ht]
  | none =>
    simp only [mergeParent, inheritCoord]
    cases child.group with
    | none => rfl
    | some g =>
      cases child.version with
      | none => rfl
      | some v =>
        simp only [makeDM, makeDeps, parDM, parDeps, Option.map_none, Option.getD_none, packagingToType]
        cases makeDMOwn imp child.depMgmt with
        | err => rfl
        | fuel => rfl
        | ok own =>
          simp only [Res.bind]
          cases fillDeps (own ++ []) child.deps <;> rfl

theorem mergeChain_cons (imp : Coord → Res PomDone) (acc : Option PomDone) (p : Pom) (rest : List Pom) :
    mergeChain imp acc (p :: rest) = (mergeParent imp acc p).bind fun m => mergeChain imp (some m) rest := by
  rw [Res.bind_eq_match]
  set_option smartUnfolding false in rfl

omit U rs in
theorem mergeChain_append (imp : Coord → Res PomDone) :
    ∀ (a b : List Pom) (acc : Option PomDone),
      mergeChain imp acc (a ++ b) = (mergeChain imp acc a).bind fun acc' => mergeChain imp acc' b := by
  intro a
  induction a with
  | nil => intro b acc; rfl
  | cons p rest ih =>
    intro b acc
    rw [List.cons_append, mergeChain_cons, mergeChain_cons, Res.bind_assoc]
    exact congrArg _ (funext fun m => ih b (some m))

/-- The parent's effective POM as `get_merged_pom` computes it: the stack of ancestors, merged from the root ancestor
downwards. `parentOf_some` is the same computation without the stack (the parent's document merged into what `parentOf`
gives for *its* parent); nothing after it mentions the stack again. -/
def parentOf (imp : Coord → Res PomDone) (n : Nat) (oc : Option Coord) : Res (Option PomDone) :=
  (collectParents U rs n oc).bind fun stack => mergeChain imp none stack.reverse

theorem parentOf_none (imp : Coord → Res PomDone) (n : Nat) : parentOf U rs imp n none = .ok none := by
  rw [parentOf, collectParents_none]
  rfl

theorem parentOf_some (imp : Coord → Res PomDone) (n : Nat) (c : Coord) :
    parentOf U rs imp (n + 1) (some c) =
      (tryGetPom U rs c).bind fun p => (parentOf U rs imp n p.2.parentCoord).bind fun acc =>
        (mergeParent imp acc p.2).bind fun m => .ok (some m) := by
  simp only [parentOf, collectParents_succ, Res.bind_assoc]
  -- under the binders: the chain over `(p :: rest).reverse` is the chain over `rest.reverse`, then one `mergeParent`
  refine congrArg _ (funext fun p => congrArg _ (funext fun rest => ?_))
  rw [Res.bind, List.reverse_cons, mergeChain_append]
  refine congrArg _ (funext fun acc => ?_)
  rw [mergeChain_cons]
  rfl

/-- the `imp` closure of `getMergedPom` -/
def impOf (n : Nat) (c : Coord) : Res PomDone := (getMergedPom U rs n c).bind fun p => .ok p.2

theorem getMergedPom_succ (n : Nat) (c : Coord) :
    getMergedPom U rs (n + 1) c =
      (tryGetPom U rs c).bind fun p =>
        (parentOf U rs (impOf U rs n) n p.2.parentCoord).bind fun parent =>
          (mergeParent (impOf U rs n) parent p.2).bind fun merged => .ok (p.1, merged) := by
  simp only [parentOf, Res.bind_assoc]
  simp only [Res.bind_eq_match]
  set_option smartUnfolding false in rfl

theorem depTree_succ (n : Nat) (c : Coord) (s : Scope) :
    depTree U rs (n + 1) c s =
      (getMergedPom U rs n c).bind fun p =>
        (mapRes (fun q => depTree U rs n q.1 q.2) (transitive s p.2.deps)).bind fun cs =>
          .ok (.node { resolver := p.1, coord := c, scope := s } cs) := by
  simp only [← depChildren_eq, Res.bind_eq_match]
  set_option smartUnfolding false in rfl

theorem resolve_eq (n : Nat) (roots : List (Coord × Scope)) :
    resolve U rs n roots =
      (mapRes (fun p => depTree U rs n p.1 p.2) roots).bind fun forest => .ok (bfs (cleanUp forest)) := by
  rw [← depForest_eq, Res.bind_eq_match]
  set_option smartUnfolding false in rfl

omit U rs in
theorem makeDMOwn_le {imp imp' : Coord → Res PomDone} (h : ∀ c, (imp c).le (imp' c)) :
    ∀ l, (makeDMOwn imp l).le (makeDMOwn imp' l) := by
  intro l
  induction l with
  | nil => exact Res.le_refl _
  | cons x rest ih =>
    rw [makeDMOwn_cons, makeDMOwn_cons]
    cases x.version with
    | none => exact Res.le_refl _
    | some v =>
      simp only []
      split
      · exact Res.bind_le (h _) fun _ => Res.bind_le ih fun _ => Res.le_refl _
      · exact Res.bind_le ih fun _ => Res.le_refl _

omit U rs in
theorem mergeParent_le {imp imp' : Coord → Res PomDone} (h : ∀ c, (imp c).le (imp' c)) (parent) (child : Pom) :
    (mergeParent imp parent child).le (mergeParent imp' parent child) := by
  rw [mergeParent_eq, mergeParent_eq]
  cases inheritCoord parent child with
  | none => exact Res.le_refl _
  | some coord => exact Res.bind_le (makeDMOwn_le h _) fun _ => Res.le_refl _

theorem parentOf_le {imp imp' : Coord → Res PomDone} (h : ∀ c, (imp c).le (imp' c)) {n m : Nat} (hnm : n ≤ m)
    (oc : Option Coord) : (parentOf U rs imp n oc).le (parentOf U rs imp' m oc) := by
  induction n generalizing m oc with
  | zero =>
    cases oc with
    | none => rw [parentOf_none, parentOf_none]; exact Res.le_refl _
    | some c => exact Res.fuel_le _
  | succ n ih =>
    cases oc with
    | none => rw [parentOf_none, parentOf_none]; exact Res.le_refl _
    | some c =>
      cases m with
      | zero => exact absurd hnm (Nat.not_succ_le_zero n)
      | succ m =>
        rw [parentOf_some, parentOf_some]
        exact Res.bind_le (Res.le_refl _) fun p => Res.bind_le (ih (Nat.le_of_succ_le_succ hnm) _) fun acc =>
          Res.bind_le (mergeParent_le h acc p.2) fun _ => Res.le_refl _

theorem impOf_le {n m : Nat} (h : ∀ c, (getMergedPom U rs n c).le (getMergedPom U rs m c)) (c : Coord) :
    (impOf U rs n c).le (impOf U rs m c) :=
  Res.bind_le (h c) fun _ => Res.le_refl _

theorem getMergedPom_mono {n m : Nat} (h : n ≤ m) (c : Coord) :
    (getMergedPom U rs n c).le (getMergedPom U rs m c) := by
  induction n generalizing m c with
  | zero => exact Res.fuel_le _
  | succ n ih =>
    cases m with
    | zero => exact absurd h (Nat.not_succ_le_zero n)
    | succ m =>
      have h := Nat.le_of_succ_le_succ h
      have himp := impOf_le U rs (ih h)
      rw [getMergedPom_succ, getMergedPom_succ]
      exact Res.bind_le (Res.le_refl _) fun p => Res.bind_le (parentOf_le U rs himp h _) fun parent =>
        Res.bind_le (mergeParent_le himp _ _) fun _ => Res.le_refl _

theorem impOf_mono {n m : Nat} (h : n ≤ m) (c : Coord) : (impOf U rs n c).le (impOf U rs m c) :=
  impOf_le U rs (getMergedPom_mono U rs h) c

theorem depTree_mono {n m : Nat} (h : n ≤ m) (c : Coord) (s : Scope) :
    (depTree U rs n c s).le (depTree U rs m c s) := by
  induction n generalizing m c s with
  | zero => exact Res.fuel_le _
  | succ n ih =>
    cases m with
    | zero => exact absurd h (Nat.not_succ_le_zero n)
    | succ m =>
      have h := Nat.le_of_succ_le_succ h
      rw [depTree_succ, depTree_succ]
      exact Res.bind_le (getMergedPom_mono U rs h c) fun p =>
        Res.bind_le (mapRes_le (fun q : Coord × Scope => ih h q.1 q.2) _) fun _ => Res.le_refl _

theorem resolve_mono {n m : Nat} (h : n ≤ m) (roots) : (resolve U rs n roots).le (resolve U rs m roots) := by
  rw [resolve_eq, resolve_eq]
  exact Res.bind_le (mapRes_le (fun p : Coord × Scope => depTree_mono U rs h p.1 p.2) _) fun _ => Res.le_refl _

omit rs in
/-- `try_resolvers` stops at the first repository that serves the URL, whatever it serves -/
theorem tryGetPom_eq (c : Coord) : ∀ rs : List Resolver, tryGetPom U rs c =
    match rs.find? (fun r => (AList.lookup (c.pomUrl r) U).isSome) with
    | none => .err
    | some r =>
      match AList.lookup (c.pomUrl r) U with
      | some (some pom) => if pom.modelVersion = jstr "4.0.0" then .ok (r, pom) else .err
      | _ => .err := by
  intro rs
  induction rs with
  | nil => rfl
  | cons q qs ih =>
    rw [tryGetPom, List.find?_cons]
    cases h : AList.lookup (c.pomUrl q) U with
    | none => simpa using ih
    | some o => cases o <;> simp [h]

omit rs in
theorem tryGetPom_ne_fuel (c : Coord) (rs : List Resolver) : tryGetPom U rs c ≠ .fuel := by
  rw [tryGetPom_eq]
  split
  · nofun
  · split
    · split <;> nofun
    · nofun

theorem makeDMOwn_ne_fuel {imp : Coord → Res PomDone} : ∀ {l : List (RawDep (Option Scope))},
    (∀ x ∈ l, ∀ v, x.scope = some none → x.version = some v →
      imp (depCoord x.group x.artifact v x.type_ x.classifier) ≠ .fuel) → makeDMOwn imp l ≠ .fuel
  | [], _ => nofun
  | x :: rest, h => by
    have ih := makeDMOwn_ne_fuel fun y hy => h y (List.mem_cons_of_mem _ hy)
    rw [makeDMOwn_cons]
    cases hv : x.version with
    | none => nofun
    | some v =>
      simp only []
      split
      · rename_i hs
        exact Res.bind_ne_fuel (h x List.mem_cons_self v hs hv) fun _ _ => Res.bind_ne_fuel ih fun _ _ => nofun
      · exact Res.bind_ne_fuel ih fun _ _ => nofun

theorem mergeParent_ne_fuel {imp : Coord → Res PomDone} {par : Option PomDone} {child : Pom}
    (h : makeDMOwn imp child.depMgmt ≠ .fuel) : mergeParent imp par child ≠ .fuel := by
  rw [mergeParent_eq]
  cases inheritCoord par child with
  | none => nofun
  | some coord => exact Res.bind_ne_fuel h fun own _ => by split <;> nofun

variable (rank : Coord → Nat) (hr : Ranked U rs rank)
include hr

theorem parentOf_ne_fuel {imp : Coord → Res PomDone} : ∀ (n : Nat) (oc : Option Coord),
    (∀ q r p, tryGetPom U rs q = .ok (r, p) → rank q < n → makeDMOwn imp p.depMgmt ≠ .fuel) →
      (∀ pc, oc = some pc → rank pc < n) → parentOf U rs imp n oc ≠ .fuel
  | _, none, _, _ => by rw [parentOf_none]; nofun
  | 0, some pc, _, h => absurd (h pc rfl) (Nat.not_lt_zero _)
  | n + 1, some pc, himp, h => by
    rw [parentOf_some]
    refine Res.bind_ne_fuel (tryGetPom_ne_fuel U pc rs) fun p hp =>
      Res.bind_ne_fuel (parentOf_ne_fuel n _ (fun q r p hq hqn => himp q r p hq (Nat.lt_succ_of_lt hqn)) fun pc2 h2 => ?_)
        fun _ _ => Res.bind_ne_fuel (mergeParent_ne_fuel (himp pc p.1 p.2 hp (h pc rfl))) fun _ _ => nofun
    have := hr.parent pc p.1 p.2 pc2 hp h2
    have := h pc rfl
    omega

theorem getMergedPom_ne_fuel : ∀ (n : Nat) (c : Coord), rank c < n → getMergedPom U rs n c ≠ .fuel
  | 0, _, h => absurd h (Nat.not_lt_zero _)
  | k + 1, c, hc => by
    -- the BOMs a POM of rank at most `k` imports have rank below `k`
    have himp : ∀ (q : Coord) (r : Resolver) (p : Pom), tryGetPom U rs q = .ok (r, p) → rank q < k + 1 →
        makeDMOwn (impOf U rs k) p.depMgmt ≠ .fuel := fun q r p hq hqk =>
      makeDMOwn_ne_fuel fun x hx v h1 h2 => by
        have := hr.imports q r p x v hq hx h1 h2
        exact Res.bind_ne_fuel (getMergedPom_ne_fuel k _ (by omega)) fun _ _ => nofun
    rw [getMergedPom_succ]
    refine Res.bind_ne_fuel (tryGetPom_ne_fuel U c rs) fun p h1 =>
      Res.bind_ne_fuel (parentOf_ne_fuel U rs rank hr k _ (fun q r p hq hqk => himp q r p hq (Nat.lt_succ_of_lt hqk))
          fun pc hp => ?_) fun _ _ =>
        Res.bind_ne_fuel (mergeParent_ne_fuel (himp c p.1 p.2 h1 hc)) fun _ _ => nofun
    have := hr.parent c p.1 p.2 pc h1 hp
    omega

theorem depTree_ne_fuel : ∀ (k : Nat) (c : Coord) (s : Scope), rank c + 1 < k → depTree U rs k c s ≠ .fuel
  | 0, _, _, h => absurd h (Nat.not_lt_zero _)
  | j + 1, c, s, hc => by
    rw [depTree_succ]
    refine Res.bind_ne_fuel (getMergedPom_ne_fuel U rs rank hr j c (by omega)) fun p h1 =>
      Res.bind_ne_fuel (mapRes_ne_fuel fun q hq => ?_) fun _ _ => nofun
    simp only [transitive, List.mem_filterMap] at hq
    obtain ⟨d, hd, hq⟩ := hq
    have := hr.deps c p.1 p.2 d ⟨j, h1⟩ hd
    split at hq
    · cases hq
    · simp only [Option.map_eq_some_iff] at hq
      obtain ⟨_, _, rfl⟩ := hq
      exact depTree_ne_fuel j d.coord _ (by omega)

end Maven
