import FeatherModel.Model.TotalBase

/-!
# C16 — reasoning principles for the `TM` monad

`Spec S B m Q`: whatever state `m` is started in,
* a panic of `m` is at a site of `S`,
* if the `alloc` account was at most `B` before, it is at most `B` afterwards (every request of `m` is `≤ B`),
* a result `ok a` satisfies `Q a`.

Every audited site is closed, so `S` is `[]` at every use (`Code.openSites`; `Thm.C16.open_sites` says the same of the audit table, `Sites.openIds = []`). It is a
parameter all the same: a checked operation that turns out able to fail is then a member of `S` (`Spec.crash`,
`Spec.check_mem`, `Spec.addU8_mem`, `Spec.addU16_mem`, widened by `Spec.mono`), and the theorems say "panics at most
there" and stay true.

A reader's `Spec` is built along its `do` block: `Spec.bind` for `←`, `Spec.ite` / `Spec.byCases` for a conditional,
`Spec.ret` / `Spec.fail` / `Spec.crash` at the leaves, `Spec.conseq` to change the postcondition.

The readers of bytes are stated with a bound `N` on the unread input, for every `N`: `s.length ≤ N` before,
`rest.length ≤ N` after (`Spec.u8I` … `Spec.loopNI`). What one step leaves is what the next step needs, so `Spec.bind`
composes them as they are; `N := s.length` says that a reader returns no more than it was given, and `N := B` bounds the
buffer `takeVec` asks for.

The last lemmas (`bnd_apply` … `bind_ok_inv`) evaluate a computation step by step, for the witnesses.
-/

namespace Total

def Spec {α : Type} (S : List Nat) (B : Nat) (m : TM α) (Q : α → Prop) : Prop :=
  ∀ st, (st.alloc ≤ B → (m st).2.alloc ≤ B) ∧
    (match (m st).1 with
     | .ok a => Q a
     | .err => True
     | .panic s => s ∈ S)

/-- the unread input, which a reader returns beside its result, is under the bound `N` -/
abbrev Fits {α : Type} (N : Nat) (r : α × Bytes) : Prop := r.2.length ≤ N

namespace Spec

variable {α β : Type} {S : List Nat} {B N : Nat}

theorem ret (a : α) {Q : α → Prop} (h : Q a) : Spec S B (Pure.pure a : TM α) Q := by
  intro st; exact ⟨fun h => h, h⟩

theorem bind {m : TM α} {f : α → TM β} {Q : α → Prop} {R : β → Prop}
    (hm : Spec S B m Q) (hf : ∀ a, Q a → Spec S B (f a) R) : Spec S B (m >>= f) R := by
  intro st
  have h1 := hm st
  show (_ → (TM.bnd m f st).2.alloc ≤ B) ∧ (match (TM.bnd m f st).1 with | .ok a => R a | .err => True | .panic s => s ∈ S)
  unfold TM.bnd
  cases hr : m st with
  | mk o st1 =>
    rw [hr] at h1
    cases o with
    | ok a =>
      have h2 := hf a h1.2 st1
      exact ⟨fun h => h2.1 (h1.1 h), h2.2⟩
    | err => exact ⟨h1.1, trivial⟩
    | panic s => exact ⟨h1.1, h1.2⟩

theorem byCases {c : Prop} [Decidable c] {m m' : TM α} {Q : α → Prop}
    (h : c → Spec S B m Q) (h' : ¬ c → Spec S B m' Q) : Spec S B (if c then m else m') Q := by
  by_cases hc : c
  · rw [if_pos hc]; exact h hc
  · rw [if_neg hc]; exact h' hc

theorem ite {c : Prop} [Decidable c] {m m' : TM α} {Q : α → Prop}
    (h : Spec S B m Q) (h' : Spec S B m' Q) : Spec S B (if c then m else m') Q :=
  byCases (fun _ => h) (fun _ => h')

theorem fail {Q : α → Prop} : Spec S B (TM.fail : TM α) Q := by
  intro st; exact ⟨fun h => h, trivial⟩

theorem crash {site : Nat} {Q : α → Prop} (h : site ∈ S) : Spec S B (TM.crash site : TM α) Q := by
  intro st; exact ⟨fun h => h, h⟩

theorem conseq {S' : List Nat} {m : TM α} {Q R : α → Prop} (h : Spec S B m Q) (hs : ∀ x, x ∈ S → x ∈ S')
    (hq : ∀ a, Q a → R a) : Spec S' B m R := by
  intro st
  have h1 := h st
  refine ⟨h1.1, ?_⟩
  cases hr : (m st).1 with
  | ok a => rw [hr] at h1; exact hq a h1.2
  | err => trivial
  | panic s => rw [hr] at h1; exact hs s h1.2

theorem weaken {m : TM α} {Q R : α → Prop} (h : Spec S B m Q) (hq : ∀ a, Q a → R a) : Spec S B m R :=
  h.conseq (fun _ hx => hx) hq

theorem mono {S' : List Nat} {m : TM α} {Q : α → Prop} (h : Spec S B m Q) (hs : ∀ x, x ∈ S → x ∈ S') : Spec S' B m Q :=
  h.conseq hs (fun _ hq => hq)

theorem bind_congr {m : TM α} {f g : α → TM β} {Q : α → Prop} (h : Spec S B m Q) (hfg : ∀ a, Q a → f a = g a) :
    m >>= f = m >>= g := by
  funext st
  have hs := (h st).2
  show TM.bnd m f st = TM.bnd m g st
  unfold TM.bnd
  cases hr : m st with
  | mk o st1 =>
    rw [hr] at hs
    cases o with
    | ok a => exact congrFun (hfg a hs) st1
    | err => rfl
    | panic s => rfl

theorem ofOption (o : Option α) : Spec S B (TM.ofOption o) (fun a => o = some a) := by
  cases o with
  | none => exact fail
  | some a => exact ret a rfl

theorem of_ok {m : TM α} {Q : α → Prop} {st : Acct} {a : α} (h : Spec S B m Q) (e : (m st).1 = .ok a) : Q a := by
  have := (h st).2
  rw [e] at this
  exact this

theorem guard (c : Bool) : Spec S B (TM.guard c) (fun _ => c = true) := by
  unfold TM.guard
  cases c with
  | true => exact ret () rfl
  | false => exact fail

theorem check_mem {site : Nat} (c : Bool) (h : site ∈ S) : Spec S B (TM.check site c) (fun _ => c = true) := by
  unfold TM.check
  cases c with
  | true => exact ret () rfl
  | false => exact crash h

theorem check_true {site : Nat} {c : Bool} (h : c = true) : Spec S B (TM.check site c) (fun _ => True) := by
  subst h; exact ret () trivial

theorem request {n : Nat} (h : n ≤ B) : Spec S B (TM.request n) (fun _ => True) := by
  intro st
  refine ⟨fun h' => ?_, trivial⟩
  show max st.alloc n ≤ B
  exact Nat.max_le.mpr ⟨h', h⟩

theorem addU8_mem {site a b : Nat} (h : site ∈ S) : Spec S B (addU8 site a b) (fun r => r = a + b ∧ r ≤ 255) := by
  unfold addU8; split
  · exact ret _ ⟨rfl, by assumption⟩
  · exact crash h

theorem addU8_le {site a b : Nat} (h : a + b ≤ 255) : Spec S B (addU8 site a b) (fun r => r = a + b) := by
  unfold addU8; rw [if_pos h]; exact ret _ rfl

theorem addU16_mem {site a b : Nat} (h : site ∈ S) : Spec S B (addU16 site a b) (fun r => r = a + b ∧ r ≤ 65535) := by
  unfold addU16; split
  · exact ret _ ⟨rfl, by assumption⟩
  · exact crash h

theorem subU_le {site a b : Nat} (h : b ≤ a) : Spec S B (subU site a b) (fun r => r = a - b) := by
  unfold subU; rw [if_pos h]; exact ret _ rfl

theorem byte_le (a : Nat) : byte a ≤ 255 := by unfold byte; omega

theorem u8 (s : Bytes) : Spec S B (Total.u8 s) (fun r => s.length = r.2.length + 1 ∧ r.1 ≤ 255) := by
  unfold Total.u8; split
  · exact ret _ ⟨by simp, byte_le _⟩
  · exact fail

theorem u16 (s : Bytes) : Spec S B (Total.u16 s) (fun r => s.length = r.2.length + 2 ∧ r.1 ≤ 65535) := by
  unfold Total.u16; split
  · rename_i a b r
    exact ret _ ⟨by simp, by have := byte_le a; have := byte_le b; show byte a * 256 + byte b ≤ 65535; omega⟩
  · exact fail

theorem u32 (s : Bytes) : Spec S B (Total.u32 s) (fun r => s.length = r.2.length + 4 ∧ r.1 ≤ 4294967295) := by
  unfold Total.u32; split
  · rename_i a b c d r
    refine ret _ ⟨by simp, ?_⟩
    have := byte_le a; have := byte_le b; have := byte_le c; have := byte_le d
    show ((byte a * 256 + byte b) * 256 + byte c) * 256 + byte d ≤ 4294967295
    omega
  · exact fail

/- The suffix `I` marks the form with the bound `N` on the unread input: `u8I` … `u32I` take the reader in front of its
continuation (so that a `do` block is walked without naming the intermediate `Spec`), `takeVecI` and `loopNI` stand alone. -/
theorem u8I {m : Nat × Bytes → TM β} {R : β → Prop} {s : Bytes} (hs : s.length ≤ N)
    (h : ∀ a s', s'.length ≤ N → a ≤ 255 → Spec S B (m (a, s')) R) : Spec S B (Total.u8 s >>= m) R :=
  bind (u8 s) (fun r hr => h r.1 r.2 (by have := hr.1; omega) hr.2)

theorem u16I {m : Nat × Bytes → TM β} {R : β → Prop} {s : Bytes} (hs : s.length ≤ N)
    (h : ∀ a s', s'.length ≤ N → a ≤ 65535 → Spec S B (m (a, s')) R) : Spec S B (Total.u16 s >>= m) R :=
  bind (u16 s) (fun r hr => h r.1 r.2 (by have := hr.1; omega) hr.2)

theorem u32I {m : Nat × Bytes → TM β} {R : β → Prop} {s : Bytes} (hs : s.length ≤ N)
    (h : ∀ a s', s'.length ≤ N → a ≤ 4294967295 → Spec S B (m (a, s')) R) : Spec S B (Total.u32 s >>= m) R :=
  bind (u32 s) (fun r hr => h r.1 r.2 (by have := hr.1; omega) hr.2)

/-- the buffer holds bytes that are present: the request is at most the unread input -/
theorem takeVecI {n : Nat} {s : Bytes} (hs : s.length ≤ B) :
    Spec S B (Total.takeVec n s) (fun r => r.1.length = n ∧ Fits B r) := by
  unfold Total.takeVec
  refine bind (request (Nat.le_trans (Nat.min_le_right _ _) hs)) (fun _ _ => ?_)
  split
  · exact fail
  · refine ret _ ⟨?_, ?_⟩
    · simp only [List.length_take]; omega
    · show (s.drop n).length ≤ B
      rw [List.length_drop]; omega

theorem loopNI {body : Rd Unit} (h : ∀ s, s.length ≤ N → Spec S B (body s) (Fits N)) :
    ∀ n s, s.length ≤ N → Spec S B (Total.loopN body n s) (Fits N)
  | 0, s, hs => ret _ hs
  | n + 1, s, hs => by
    unfold Total.loopN
    exact bind (h s hs) (fun ⟨_, s'⟩ h1 => loopNI h n s' h1)

end Spec

theorem Spec.not_panic {α : Type} {B : Nat} {m : TM α} {Q : α → Prop} (h : Spec [] B m Q) (st : Acct) (s : Nat) :
    (m st).1 ≠ .panic s := by
  intro e
  have h1 := (h st).2
  rw [e] at h1
  exact List.not_mem_nil h1

theorem Spec.alloc_le {α : Type} {S : List Nat} {B : Nat} {m : TM α} {Q : α → Prop} (h : Spec S B m Q) :
    (m.run).2.alloc ≤ B :=
  (h {}).1 (Nat.zero_le _)

theorem bnd_apply {α β : Type} (m : TM α) (f : α → TM β) (st : Acct) :
    (m >>= f) st = (match m st with
      | (.ok a, st') => f a st'
      | (.err, st') => (.err, st')
      | (.panic s, st') => (.panic s, st')) := rfl
theorem ret_apply {α : Type} (a : α) (st : Acct) : (Pure.pure a : TM α) st = (.ok a, st) := rfl
theorem fail_apply {α : Type} (st : Acct) : (TM.fail : TM α) st = (.err, st) := rfl
theorem crash_apply {α : Type} (s : Nat) (st : Acct) : (TM.crash s : TM α) st = (.panic s, st) := rfl
theorem bind_ok {α β : Type} {m : TM α} {f : α → TM β} {st : Acct} {a : α} (h : (m st).1 = .ok a) :
    (m >>= f) st = f a (m st).2 := by
  rw [bnd_apply]
  cases hr : m st with
  | mk o st1 => rw [hr] at h; dsimp only at h; subst h; rfl

theorem bind_err {α β : Type} {m : TM α} {f : α → TM β} {st : Acct} (h : (m st).1 = .err) :
    ((m >>= f) st).1 = .err := by
  rw [bnd_apply]
  cases hr : m st with
  | mk o st1 => rw [hr] at h; dsimp only at h; subst h; rfl

theorem bind_panic {α β : Type} {m : TM α} {f : α → TM β} {st : Acct} {s : Nat} (h : (m st).1 = .panic s) :
    ((m >>= f) st).1 = .panic s := by
  rw [bnd_apply]
  cases hr : m st with
  | mk o st1 => rw [hr] at h; dsimp only at h; subst h; rfl

theorem bind_ok_inv {α β : Type} {m : TM α} {f : α → TM β} {st : Acct} {b : β}
    (h : ((m >>= f) st).1 = .ok b) : ∃ a st1, m st = (.ok a, st1) ∧ (f a st1).1 = .ok b := by
  rw [bnd_apply] at h
  cases hm : m st with
  | mk o st1 =>
    rw [hm] at h
    cases o with
    | ok a => exact ⟨a, st1, rfl, h⟩
    | err | panic _ => simp at h

end Total
