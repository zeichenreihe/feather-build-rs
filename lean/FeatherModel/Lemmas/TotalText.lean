import FeatherModel.Lemmas.TotalBase
import FeatherModel.Model.TotalText
import FeatherModel.Model.TotalWriter

/-!
# C16 — text parsers and descriptors: the slice at the leading TABs is always on a char boundary; the `[` counter
never overflows; `get_arguments_size` never panics (since cf30e8c more than 255 argument slots are an error); the writer's
`if_helper` with a known target never panics (since 136eeb3 a jump that leaves `u16` is an error)
-/

namespace Total.Text

open TM

variable {S : List Nat} {B : Nat}

theorem utf8Len_tab : utf8Len 9 = 1 := by decide

/-- the number of leading TAB characters is a char boundary (TAB is one byte) — for *every* list of code points -/
theorem isCharBoundary_leadingTabs : ∀ l : List Nat, isCharBoundary l (leadingTabs l) = true
  | [] => by simp [leadingTabs, isCharBoundary]
  | c :: rest => by
    by_cases h : c = 9
    · subst h
      have ih := isCharBoundary_leadingTabs rest
      have : leadingTabs (9 :: rest) = leadingTabs rest + 1 := by simp [leadingTabs, List.takeWhile]
      rw [this]
      unfold isCharBoundary
      simp [utf8Len_tab, ih]
    · have : leadingTabs (c :: rest) = 0 := by simp [leadingTabs, h]
      rw [this]
      simp [isCharBoundary]

theorem sliceChecks_spec (site : Nat) : ∀ ls, Spec S B (sliceChecks site ls) (fun _ => True)
  | [] => Spec.ret _ trivial
  | l :: ls => by
    unfold sliceChecks
    exact Spec.bind (Spec.check_true (isCharBoundary_leadingTabs l)) (fun _ _ => sliceChecks_spec site ls)

theorem unitOf_spec {α : Type} (o : Option α) : Spec S B (unitOf o) (fun _ => True) := by
  unfold unitOf; split
  · exact Spec.ret _ trivial
  · exact Spec.fail

theorem tinyOp_spec (n : Nat) (b : Bytes) : Spec S B (tinyOp n b) (fun _ => True) := by
  unfold tinyOp; split
  · exact Spec.fail
  · refine Spec.bind (sliceChecks_spec _ _) (fun _ _ => ?_)
    split
    · exact unitOf_spec _
    · exact Spec.fail

theorem tinyDiffOp_spec (b : Bytes) : Spec S B (tinyDiffOp b) (fun _ => True) := by
  unfold tinyDiffOp; split
  · exact Spec.fail
  · exact Spec.bind (sliceChecks_spec _ _) (fun _ _ => unitOf_spec _)

theorem enigmaOp_spec (b : Bytes) : Spec S B (enigmaOp b) (fun _ => True) := by
  unfold enigmaOp; split
  · exact Spec.fail
  · exact Spec.bind (sliceChecks_spec _ _) (fun _ _ => unitOf_spec _)

theorem nestsOp_spec (b : Bytes) : Spec S B (nestsOp b) (fun _ => True) := by
  unfold nestsOp; split
  · exact Spec.fail
  · exact unitOf_spec _

theorem maxTabRun_le : ∀ (t : List Nat) (cur best : Nat), maxTabRun t cur best ≤ max best (cur + t.length)
  | [], cur, best => by simp [maxTabRun]; omega
  | c :: rest, cur, best => by
    unfold maxTabRun
    split
    · have := maxTabRun_le rest (cur + 1) best
      simp only [List.length_cons]
      omega
    · have := maxTabRun_le rest 0 (max cur best)
      simp only [List.length_cons]
      omega

/-- the checked `[` counter never overflows: the `== 255` test comes first -/
theorem bracketsChecked_spec : ∀ (s : JStr) (n : Nat), n ≤ 255 → Spec [] 0 (bracketsChecked n s) (fun r => r.1 ≤ 255)
  | [], n, h => Spec.ret _ h
  | c :: rest, n, h => by
    unfold bracketsChecked
    split
    · split
      · exact Spec.fail
      · rename_i hn
        refine Spec.bind (Spec.addU8_le (by omega)) (fun n' hn' => ?_)
        have : n' = n + 1 := hn'
        exact bracketsChecked_spec rest n' (by omega)
    · exact Spec.ret _ h

theorem bracketsChecked_eq : ∀ (s : JStr) (n : Nat) (st : Acct), n ≤ 255 →
    bracketsChecked n s st = (match Descriptor.readBrackets n s with
      | some r => (.ok r, st)
      | none => (.err, st))
  | [], n, st, _ => by simp [bracketsChecked, Descriptor.readBrackets, ret_apply]
  | c :: rest, n, st, h => by
    unfold bracketsChecked Descriptor.readBrackets
    simp only [Descriptor.LBRACKET]
    split
    · split
      · simp [fail_apply]
      · rename_i hn
        have h1 : n + 1 ≤ 255 := by omega
        rw [bnd_apply]
        simp only [addU8, if_pos h1, ret_apply]
        exact bracketsChecked_eq rest (n + 1) st h1
    · rename_i hc
      simp [ret_apply, hc]

/-- by the case tree of `argsLoop`: it has no checked operation and no request; every leaf is an error, the result, or a
guard in front of the recursive call -/
theorem argsLoop_spec (fuel size : Nat) (s : JStr) : Spec S B (argsLoop fuel size s) (fun _ => True) := by
  fun_induction argsLoop fuel size s
  all_goals first
    | exact Spec.fail
    | exact Spec.ret _ trivial
    | exact Spec.bind (Spec.guard _) (fun _ _ => by assumption)

theorem argSizeOp_spec (s : JStr) : Spec S B (argSizeOp s) (fun _ => True) := by
  unfold argSizeOp argsSize
  refine Spec.bind (Q := fun _ => True) ?_ (fun _ _ => Spec.ret _ trivial)
  split
  · split
    · exact argsLoop_spec _ _ _
    · exact Spec.fail
  · exact Spec.fail

end Total.Text

namespace Total.Writer

open TM

variable {S : List Nat} {B : Nat}

theorem ifHelperKnown_spec (p t : Nat) : Spec S B (ifHelperKnown p t) (fun _ => True) := by
  unfold ifHelperKnown
  dsimp only
  split
  · exact Spec.ret _ trivial
  · exact Spec.bind (Spec.guard _) (fun _ _ => Spec.ret _ trivial)

theorem growOp_spec (nops nitf : Nat) : Spec S B (growOp nops nitf) (fun _ => True) := by
  unfold growOp
  refine Spec.bind (Spec.guard _) (fun _ _ => ?_)
  dsimp only
  refine Spec.bind (ifHelperKnown_spec _ _) (fun _ _ => ?_)
  exact Spec.weaken (Spec.guard _) (fun _ _ => trivial)

end Total.Writer
