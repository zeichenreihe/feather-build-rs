import FeatherModel.Lemmas.ClassWriteFullShared
import FeatherModel.Lemmas.ClassWriteFullCode
import FeatherModel.Lemmas.ClassReadMembers

/-!
# C02 (whole writer) — the members: `write_field`, `write_record_component`, `write_module`, `write_method`, each as
the encoding of a legal layout that denotes the member
-/

namespace ClassWriteFull
open PoolWrite (Entry)
open FramePool (Good Le)
open ClassRead ClassRead.Spec

theorem putConstantValue_sound {p p' : Pool} {v : ConstantValue} {i : Nat} (hg : Good p)
    (h : putConstantValue p v = .ok (i, p')) :
    Step p p' ∧ Sound p' (fun rp => rp.getConstantValue i = .ok v) ∧ i < 65536 := by
  cases v with
  | str s =>
    obtain ⟨st, ⟨u, a, b⟩, hi⟩ := putString_spec hg h
    exact ⟨st, fun q hq => by
      simp [Pool.getConstantValue, rget_of_get hq.good.1 (hq.le _ _ a), conv, b.read hq, bind, Outcome.bind], hi⟩
  | _ =>
    obtain ⟨st, a, hi⟩ := put_spec hg h
    exact ⟨st, fun q hq => by simp [Pool.getConstantValue, rget_of_get hq.good.1 (hq.le _ _ a), conv, bind, Outcome.bind], hi⟩

def SFieldAttr.frame (a : SFieldAttr) : Bytes := attrFrame a.raw.1 a.raw.2

def ownField : Own SFieldAttr FieldFacts :=
  ⟨SFieldAttr.frame, fun q a => Sound q (fun rp => a.Legal rp), fun hl h => h.mono hl, SFieldAttr.apply⟩

/-- conditions on a field of the proved fragment that do not depend on the pool: flags within the mask, a valid name,
well-typed annotations within the reader's nesting limit, unknown attributes not named like a known one -/
structure FieldOk (f : FieldFacts) : Prop where
  rva : AnnosOk f.rva
  ria : AnnosOk f.ria
  rvta : TypeAnnosOk .field f.rvta
  rita : TypeAnnosOk .field f.rita
  access : f.access < 65536
  mask : f.access &&& maskField = f.access
  name : validUnqualified f.name = true
  unknown : ∀ a ∈ f.attrs, a.name ∉ fieldAttrNames

theorem fblock_deprecated (f : FieldFacts) : WBlock ownField (flagAttr f.deprecated sDeprecated) (fun _ => True)
    (fun c => { c with deprecated := c.deprecated || f.deprecated }) :=
  wblock_flag (O := ownField) SFieldAttr.deprecated (fun _ => rfl) (fun _ _ h => h) (fun hf st nc => by simp [ownField, SFieldAttr.apply, hf])
    (fun hf st => by simp [hf])

theorem fblock_synthetic (f : FieldFacts) : WBlock ownField (flagAttr f.synthetic sSynthetic) (fun _ => True)
    (fun c => { c with synthetic := c.synthetic || f.synthetic }) :=
  wblock_flag (O := ownField) SFieldAttr.synthetic (fun _ => rfl) (fun _ _ h => h) (fun hf st nc => by simp [ownField, SFieldAttr.apply, hf])
    (fun hf st => by simp [hf])

theorem fblock_constant (f : FieldFacts) :
    WBlock ownField (ifSome f.constant (fun v => attrFix sConstantValue 2 (fun p => idx16 (putConstantValue p v))))
      (fun c => c.constant = none) (fun c => { c with constant := f.constant }) :=
  wblock_fix2 (O := ownField) (put1 := putConstantValue) (At := fun q i v => Sound q (fun rp => rp.getConstantValue i = .ok v))
    putConstantValue_sound SFieldAttr.constantValue (fun _ _ _ => rfl)
    (fun q nc cp v _ hn a hc ac q' hq => ⟨hn, a.read hq, hc, ac q' hq⟩)
    (fun v hf st nc cp hst => by simp [ownField, SFieldAttr.apply, hst, hf]) (fun hf c hc => by rw [hf, ← hc])

def fieldView : View ownField .field fieldAttrNames where
  embed
    | .signature nc cp s => .signature nc cp s
    | .annotations nc v as => .annotations nc v as
    | .typeAnnotations nc v as => .typeAnnotations nc v as
    | .unknown nc n b => .unknown nc n b
  get f := ⟨f.name, f.desc, f.signature, f.rva, f.ria, f.rvta, f.rita, f.attrs⟩
  set f r := { f with signature := r.signature, rva := r.rva, ria := r.ria, rvta := r.rvta, rita := r.rita, attrs := r.attrs }
  set_get _ := rfl
  frame a := by cases a <;> rfl
  sound q a h := by cases a <;> exact h
  apply st r a := by cases a <;> simp [ownField, SFieldAttr.apply, SRecordAttr.apply, apply_ite (Option.map _)]

theorem writeField_row : Row writeField FieldLayout.encode FieldLayout.facts some FieldLayout.Legal FieldOk := by
  intro p p' f b hg hok h
  obtain ⟨⟨ni, p1⟩, h1, h⟩ := Except.bind_eq_ok.mp h
  obtain ⟨⟨di, p2⟩, h2, h⟩ := Except.bind_eq_ok.mp h
  obtain ⟨⟨as, p3⟩, h3, h⟩ := Except.bind_eq_ok.mp h
  obtain ⟨ab, h4, h⟩ := Except.bind_eq_ok.mp h
  have := Except.ok.inj h
  cases this
  obtain ⟨s1, a1, hni⟩ := putUtf8_spec hg h1
  obtain ⟨s2, a2, hdi⟩ := putUtf8_spec s1.good h2
  obtain ⟨s3, attrs, rfl, hsound, hfacts⟩ :=
    (((WBlocks.cons (fblock_deprecated f) (WBlocks.cons (fblock_synthetic f) (WBlocks.cons (fblock_constant f)
      ((sblocks_signature f.signature).embed fieldView)))).append
      ((sblocks_annos writeTargetField_eq hok.rva hok.ria hok.rvta hok.rita).embed fieldView)).append
      ((sblocks_unknown hok.unknown).embed fieldView)) _ _ _ s2.good h3
  obtain ⟨hcount, rfl⟩ := attrsBytes_frames SFieldAttr.raw h4
  refine ⟨s1.trans (s2.trans s3), ⟨f.access, ni, f.name, di, f.desc, attrs⟩, rfl, ?_, ?_⟩
  · refine (hfacts _ ⟨⟨⟨trivial, trivial, rfl, rfl⟩, trivial⟩, trivial⟩).trans ?_
    have hm := hok.mask
    cases f
    simp only at hm
    simp [hm, fieldView]
  · intro q hq
    exact ⟨hok.access, hni, hdi, a1.read (hq.of_le (s2.trans s3).le), hok.name,
      a2.read (hq.of_le s3.le), hcount, fun a ha => hsound a ha q hq⟩

/-- conditions on a record component of the proved fragment that do not depend on the pool: well-typed annotations
within the reader's nesting limit, type annotations with the target a record component admits (`field`), unknown
attributes not named like a known one (the reader does not validate the component's name) -/
structure RecordOk (r : RecordComponent) : Prop where
  rva : AnnosOk r.rva
  ria : AnnosOk r.ria
  rvta : TypeAnnosOk .field r.rvta
  rita : TypeAnnosOk .field r.rita
  unknown : ∀ a ∈ r.attrs, a.name ∉ recordAttrNames

theorem writeRecordComponent_row :
    Row writeRecordComponent RecordLayout.encode RecordLayout.facts some RecordLayout.Legal RecordOk := by
  intro p p' f b hg hok h
  obtain ⟨⟨ni, p1⟩, h1, h⟩ := Except.bind_eq_ok.mp h
  obtain ⟨⟨di, p2⟩, h2, h⟩ := Except.bind_eq_ok.mp h
  obtain ⟨⟨as, p3⟩, h3, h⟩ := Except.bind_eq_ok.mp h
  obtain ⟨ab, h4, h⟩ := Except.bind_eq_ok.mp h
  have := Except.ok.inj h
  cases this
  obtain ⟨s1, a1, hni⟩ := putUtf8_spec hg h1
  obtain ⟨s2, a2, hdi⟩ := putUtf8_spec s1.good h2
  -- a record component is the shared owner itself, as a field with the names `recordAttrNames`: no view in between
  obtain ⟨s3, attrs, rfl, hsound, hfacts⟩ :=
    ((sblocks_signature (own := .field) (names := recordAttrNames) f.signature).append
      (sblocks_annos writeTargetField_eq hok.rva hok.ria hok.rvta hok.rita)).append
      (sblocks_unknown hok.unknown) _ _ _ s2.good h3
  obtain ⟨hcount, rfl⟩ := attrsBytes_frames SRecordAttr.raw h4
  refine ⟨s1.trans (s2.trans s3), ⟨ni, f.name, di, f.desc, attrs⟩, rfl, ?_, ?_⟩
  · refine (hfacts _ ⟨⟨rfl, trivial⟩, trivial⟩).trans ?_
    cases f
    simp
  · intro q hq
    exact ⟨hni, hdi, a1.read (hq.of_le (s2.trans s3).le), a2.read (hq.of_le s3.le), hcount,
      fun a ha => SRecordAttr.legalFor_field.mp (hsound a ha q hq)⟩

/-- the `Record` block of `write`: written exactly when there are components -/
theorem recordAttr_spec {rs : List RecordComponent} {p p' : Pool} {o : Option Bytes} (hg : Good p)
    (hok : ∀ r ∈ rs, RecordOk r)
    (h : onlyIf (!rs.isEmpty) (attrBuf sRecord (fun p => writeSlice16 writeRecordComponent p rs)) p = .ok (o, p')) :
    Step p p' ∧ ((rs = [] ∧ o = none) ∨
      (rs ≠ [] ∧ ∃ ls : List RecordLayout, Present o p' sRecord (be16 ls.length ++ ls.flatMap RecordLayout.encode) ∧
        ls.length < 65536 ∧ (be16 ls.length ++ ls.flatMap RecordLayout.encode).length < 4294967296 ∧
        (∀ l ∈ ls, Sound p' (fun rp => l.Legal rp)) ∧ mapOpt RecordLayout.facts ls = some rs)) := by
  rcases onlyIf_inv h with ⟨hc, b, hb, rfl⟩ | ⟨hc, rfl, rfl⟩
  · obtain ⟨bb, p1, i, h1, h2, hlen, rfl⟩ := attrBuf_inv hb
    obtain ⟨s1, ls, rfl, hm, hlt, hs⟩ := rowTable_spec writeRecordComponent_row hok hg h1
    obtain ⟨s2, a2, hi⟩ := putUtf8_spec s1.good h2
    refine ⟨s1.trans s2, Or.inr ⟨?_, ls, ⟨i, rfl, hi, a2⟩, hlt, by omega, fun l hl' q hq => hs q (hq.of_le s2.le) l hl',
      (mapOpt_eq _ _).trans (List.mapM_eq_some_iff.mpr hm)⟩⟩
    intro hnil; subst hnil; simp at hc
  · refine ⟨Step.refl hg, Or.inl ⟨?_, rfl⟩⟩
    cases rs with
    | nil => rfl
    | cons _ _ => simp at hc

/-- conditions on a module description of the proved fragment that do not depend on the pool: flags within the masks
the tree can hold, valid class names where the reader validates them (`uses`, `provides … with …`; module and package
names are not validated by the reader) -/
structure ModuleOk (m : Module) : Prop where
  flags : m.flags < 65536 ∧ m.flags &&& maskModule = m.flags
  requires : ∀ r ∈ m.requires, r.flags < 65536 ∧ r.flags &&& maskRequires = r.flags
  exports : ∀ e ∈ m.exports, e.flags < 65536 ∧ e.flags &&& maskExports = e.flags
  opens : ∀ e ∈ m.opens, e.flags < 65536 ∧ e.flags &&& maskExports = e.flags
  uses : ∀ c ∈ m.uses, validClassName c = true
  provides : ∀ e ∈ m.provides, validClassName e.name = true ∧ ∀ c ∈ e.with_, validClassName c = true

def RequiresAt (p : Pool) (r : ModuleRequires) (l : SRequires) : Prop :=
  l.name = r.name ∧ l.flags = r.flags ∧ l.version = r.version ∧ l.cp < 65536 ∧ l.vcp < 65536 ∧ ModAt p l.cp r.name ∧
    ((r.version = none ∧ l.vcp = 0) ∨ ∃ v, r.version = some v ∧ Utf8At p l.vcp v ∧ 1 ≤ l.vcp)

theorem RequiresAt.mono {p q : Pool} (h : Le p q) {r : ModuleRequires} {l : SRequires} (a : RequiresAt p r l) :
    RequiresAt q r l := by
  obtain ⟨a1, a2, a3, a4, a5, a6, a7⟩ := a
  exact ⟨a1, a2, a3, a4, a5, a6.mono h, optAt_mono Utf8At.mono h a7⟩

theorem writeRequires_spec {p p' : Pool} {r : ModuleRequires} {b : Bytes} (hg : Good p)
    (h : writeRequires p r = .ok (b, p')) : Step p p' ∧ ∃ l : SRequires, b = l.encode ∧ RequiresAt p' r l := by
  obtain ⟨⟨n, p1⟩, h1, h⟩ := Except.bind_eq_ok.mp h
  obtain ⟨⟨v, p2⟩, h2, h⟩ := Except.bind_eq_ok.mp h
  have := Except.ok.inj h
  cases this
  obtain ⟨s1, a1, hn⟩ := putModule_spec hg h1
  obtain ⟨s2, hv, c2⟩ := putOptional_spec Utf8At (fun hg a => one_le_of_get hg a) putUtf8_spec s1.good h2
  exact ⟨s1.trans s2, ⟨n, r.name, r.flags, v, r.version⟩, rfl, rfl, rfl, rfl, hn, hv, a1.mono s2.le, c2⟩

theorem requires_legal {q : Pool} (hq : Good q) {r : ModuleRequires} {l : SRequires} (a : RequiresAt q r l)
    (hok : r.flags < 65536) : l.Legal (rpool q) := by
  obtain ⟨a1, a2, a3, a4, a5, a6, a7⟩ := a
  exact ⟨a4, by rw [a2]; exact hok, a5, by rw [a1]; exact getModule_of hq a6,
    by rw [a3]; exact getOptional_of a7 fun _ _ hu => getUtf8_of hq hu⟩

def ExportsAt (p : Pool) (e : ModuleExports) (l : SExports) : Prop :=
  l.name = e.name ∧ l.flags = e.flags ∧ l.to.map (·.2) = e.to ∧ l.cp < 65536 ∧ PkgAt p l.cp e.name ∧
    l.to.length < 65536 ∧ ∀ x ∈ l.to, x.1 < 65536 ∧ ModAt p x.1 x.2

theorem ExportsAt.mono {p q : Pool} (h : Le p q) {e : ModuleExports} {l : SExports} (a : ExportsAt p e l) :
    ExportsAt q e l := by
  obtain ⟨a1, a2, a3, a4, a5, a6, a7⟩ := a
  exact ⟨a1, a2, a3, a4, a5.mono h, a6, fun x hx => ⟨(a7 x hx).1, (a7 x hx).2.mono h⟩⟩

theorem writeExports_spec {p p' : Pool} {e : ModuleExports} {b : Bytes} (hg : Good p)
    (h : writeExports p e = .ok (b, p')) : Step p p' ∧ ∃ l : SExports, b = l.encode ∧ ExportsAt p' e l := by
  obtain ⟨⟨n, p1⟩, h1, h⟩ := Except.bind_eq_ok.mp h
  obtain ⟨⟨bb, p2⟩, h2, h⟩ := Except.bind_eq_ok.mp h
  have := Except.ok.inj h
  cases this
  obtain ⟨s1, a1, hn⟩ := putPackage_spec hg h1
  obtain ⟨s2, ls, rfl, hm, hlt, hr⟩ := refList_spec @putModule_spec @ModAt.mono s1.good h2
  exact ⟨s1.trans s2, ⟨n, e.name, e.flags, ls⟩, rfl, rfl, rfl, hm, hn, a1.mono s2.le, hlt, hr⟩

theorem exports_legal {q : Pool} (hq : Good q) {e : ModuleExports} {l : SExports} (a : ExportsAt q e l)
    (hok : e.flags < 65536) : l.Legal (rpool q) := by
  obtain ⟨a1, a2, a3, a4, a5, a6, a7⟩ := a
  exact ⟨a4, by rw [a2]; exact hok, by rw [a1]; exact getPackage_of hq a5, a6,
    fun x hx => ⟨(a7 x hx).1, getModule_of hq (a7 x hx).2⟩⟩

def ProvidesAt (p : Pool) (e : ModuleProvides) (l : SProvides) : Prop :=
  l.name = e.name ∧ l.with_.map (·.2) = e.with_ ∧ l.cp < 65536 ∧ ClsAt p l.cp e.name ∧
    l.with_.length < 65536 ∧ ∀ x ∈ l.with_, x.1 < 65536 ∧ ClsAt p x.1 x.2

theorem ProvidesAt.mono {p q : Pool} (h : Le p q) {e : ModuleProvides} {l : SProvides} (a : ProvidesAt p e l) :
    ProvidesAt q e l := by
  obtain ⟨a1, a3, a4, a5, a6, a7⟩ := a
  exact ⟨a1, a3, a4, a5.mono h, a6, fun x hx => ⟨(a7 x hx).1, (a7 x hx).2.mono h⟩⟩

theorem writeProvides_spec {p p' : Pool} {e : ModuleProvides} {b : Bytes} (hg : Good p)
    (h : writeProvides p e = .ok (b, p')) : Step p p' ∧ ∃ l : SProvides, b = l.encode ∧ ProvidesAt p' e l := by
  obtain ⟨⟨n, p1⟩, h1, h⟩ := Except.bind_eq_ok.mp h
  obtain ⟨⟨bb, p2⟩, h2, h⟩ := Except.bind_eq_ok.mp h
  have := Except.ok.inj h
  cases this
  obtain ⟨s1, a1, hn⟩ := putClass_spec hg h1
  obtain ⟨s2, ls, rfl, hm, hlt, hr⟩ := refList_spec @putClass_spec @ClsAt.mono s1.good h2
  exact ⟨s1.trans s2, ⟨n, e.name, ls⟩, rfl, rfl, hm, hn, a1.mono s2.le, hlt, hr⟩

theorem provides_legal {q : Pool} (hq : Good q) {e : ModuleProvides} {l : SProvides} (a : ProvidesAt q e l)
    (hok : validClassName e.name = true ∧ ∀ c ∈ e.with_, validClassName c = true) : l.Legal (rpool q) := by
  obtain ⟨a1, a3, a4, a5, a6, a7⟩ := a
  refine ⟨a4, by rw [a1]; exact getClass_of hq a5 hok.1, a6, fun x hx => ⟨(a7 x hx).1, getClass_of hq (a7 x hx).2 (hok.2 x.2 ?_)⟩⟩
  rw [← a3]
  exact List.mem_map_of_mem hx

/-- what the indices of a written `Module` body denote -/
structure ModuleAt (p : Pool) (m : Module) (l : SModule) : Prop where
  name : l.name = m.name
  flags : l.flags = m.flags
  version : l.version = m.version
  cp : l.cp < 65536
  vcp : l.vcp < 65536
  nameAt : ModAt p l.cp m.name
  versionAt : (m.version = none ∧ l.vcp = 0) ∨ ∃ v, m.version = some v ∧ Utf8At p l.vcp v ∧ 1 ≤ l.vcp
  nRequires : l.requires.length = m.requires.length ∧ l.requires.length < 65536
  requires : ∀ x ∈ l.requires.zip m.requires, RequiresAt p x.2 x.1
  nExports : l.exports.length = m.exports.length ∧ l.exports.length < 65536
  exports : ∀ x ∈ l.exports.zip m.exports, ExportsAt p x.2 x.1
  nOpens : l.opens.length = m.opens.length ∧ l.opens.length < 65536
  opens : ∀ x ∈ l.opens.zip m.opens, ExportsAt p x.2 x.1
  usesEq : l.uses.map (·.2) = m.uses
  uses : l.uses.length < 65536 ∧ ∀ x ∈ l.uses, x.1 < 65536 ∧ ClsAt p x.1 x.2
  nProvides : l.provides.length = m.provides.length ∧ l.provides.length < 65536
  provides : ∀ x ∈ l.provides.zip m.provides, ProvidesAt p x.2 x.1

theorem ModuleAt.mono {p q : Pool} (h : Le p q) {m : Module} {l : SModule} (a : ModuleAt p m l) : ModuleAt q m l :=
  { name := a.name, flags := a.flags, version := a.version, cp := a.cp, vcp := a.vcp, nameAt := a.nameAt.mono h,
    versionAt := optAt_mono Utf8At.mono h a.versionAt,
    nRequires := a.nRequires, requires := fun x hx => (a.requires x hx).mono h,
    nExports := a.nExports, exports := fun x hx => (a.exports x hx).mono h,
    nOpens := a.nOpens, opens := fun x hx => (a.opens x hx).mono h,
    usesEq := a.usesEq, uses := ⟨a.uses.1, fun x hx => ⟨(a.uses.2 x hx).1, (a.uses.2 x hx).2.mono h⟩⟩,
    nProvides := a.nProvides, provides := fun x hx => (a.provides x hx).mono h }

theorem writeModule_spec {m : Module} {p p' : Pool} {b : Bytes} (hg : Good p) (h : writeModule m p = .ok (b, p')) :
    Step p p' ∧ ∃ l : SModule, b = l.encode ∧ ModuleAt p' m l := by
  obtain ⟨⟨n, p1⟩, h1, h⟩ := Except.bind_eq_ok.mp h
  obtain ⟨⟨v, p2⟩, h2, h⟩ := Except.bind_eq_ok.mp h
  obtain ⟨⟨rq, p3⟩, h3, h⟩ := Except.bind_eq_ok.mp h
  obtain ⟨⟨ex, p4⟩, h4, h⟩ := Except.bind_eq_ok.mp h
  obtain ⟨⟨op, p5⟩, h5, h⟩ := Except.bind_eq_ok.mp h
  obtain ⟨⟨us, p6⟩, h6, h⟩ := Except.bind_eq_ok.mp h
  obtain ⟨⟨pr, p7⟩, h7, h⟩ := Except.bind_eq_ok.mp h
  have := Except.ok.inj h
  cases this
  obtain ⟨s1, a1, hn⟩ := putModule_spec hg h1
  obtain ⟨s2, hv, c2⟩ := putOptional_spec Utf8At (fun hg a => one_le_of_get hg a) putUtf8_spec s1.good h2
  obtain ⟨s3, rqs, rfl, hrl, hrlt, hrr⟩ := table_spec writeRequires SRequires.encode RequiresAt RequiresAt.mono writeRequires_spec s2.good h3
  obtain ⟨s4, exs, rfl, hel, helt, her⟩ := table_spec writeExports SExports.encode ExportsAt ExportsAt.mono writeExports_spec s3.good h4
  obtain ⟨s5, ops, rfl, hol, holt, hor⟩ := table_spec writeExports SExports.encode ExportsAt ExportsAt.mono writeExports_spec s4.good h5
  obtain ⟨s6, uss, rfl, hum, hult, hur⟩ := refList_spec @putClass_spec @ClsAt.mono s5.good h6
  obtain ⟨s7, prs, rfl, hpl, hplt, hpr⟩ := table_spec writeProvides SProvides.encode ProvidesAt ProvidesAt.mono writeProvides_spec s6.good h7
  have l7 := s7.le
  have l6 := s6.le.trans l7
  have l5 := s5.le.trans l6
  have l4 := s4.le.trans l5
  have l3 := s3.le.trans l4
  have l2 := s2.le.trans l3
  refine ⟨s1.trans (s2.trans (s3.trans (s4.trans (s5.trans (s6.trans s7))))),
    ⟨n, m.name, m.flags, v, m.version, rqs, exs, ops, uss, prs⟩, ?_, ?_⟩
  · simp [SModule.encode, List.append_assoc]
  · exact
      { name := rfl, flags := rfl, version := rfl, cp := hn, vcp := hv, nameAt := a1.mono l2,
        versionAt := optAt_mono Utf8At.mono l3 c2,
        nRequires := ⟨hrl, hrlt⟩, requires := fun x hx => (hrr x hx).mono l4,
        nExports := ⟨hel, helt⟩, exports := fun x hx => (her x hx).mono l5,
        nOpens := ⟨hol, holt⟩, opens := fun x hx => (hor x hx).mono l6,
        usesEq := hum, uses := ⟨hult, fun x hx => ⟨(hur x hx).1, (hur x hx).2.mono l7⟩⟩,
        nProvides := ⟨hpl, hplt⟩, provides := hpr }

theorem module_legal {q : Pool} (hq : Good q) {m : Module} {l : SModule} (a : ModuleAt q m l) (hok : ModuleOk m) :
    l.Legal (rpool q) := by
  refine ⟨a.cp, by rw [a.flags]; exact hok.flags.1, a.vcp, by rw [a.name]; exact getModule_of hq a.nameAt, ?_,
    a.nRequires.2, forall_of_zip a.nRequires.1 fun x hx =>
      requires_legal hq (a.requires x hx) (hok.requires x.2 (List.of_mem_zip hx).2).1,
    a.nExports.2, forall_of_zip a.nExports.1 fun x hx =>
      exports_legal hq (a.exports x hx) (hok.exports x.2 (List.of_mem_zip hx).2).1,
    a.nOpens.2, forall_of_zip a.nOpens.1 fun x hx =>
      exports_legal hq (a.opens x hx) (hok.opens x.2 (List.of_mem_zip hx).2).1,
    ⟨a.uses.1, fun x hx => ⟨(a.uses.2 x hx).1, getClass_of hq (a.uses.2 x hx).2 (hok.uses x.2 ?_)⟩⟩,
    a.nProvides.2, forall_of_zip a.nProvides.1 fun x hx =>
      provides_legal hq (a.provides x hx) (hok.provides x.2 (List.of_mem_zip hx).2)⟩
  · rw [a.version]
    exact getOptional_of a.versionAt fun _ _ hu => getUtf8_of hq hu
  · rw [← a.usesEq]
    exact List.mem_map_of_mem hx

theorem requires_fact {q : Pool} {r : ModuleRequires} {l : SRequires} (a : RequiresAt q r l)
    (hok : r.flags &&& maskRequires = r.flags) : (⟨l.name, l.flags &&& maskRequires, l.version⟩ : ModuleRequires) = r := by
  obtain ⟨h1, h2, h3, _⟩ := a
  rw [h1, h2, h3, hok]

theorem exports_fact {q : Pool} {e : ModuleExports} {l : SExports} (a : ExportsAt q e l)
    (hok : e.flags &&& maskExports = e.flags) : (⟨l.name, l.flags &&& maskExports, l.to.map (·.2)⟩ : ModuleExports) = e := by
  obtain ⟨h1, h2, h3, _⟩ := a
  rw [h1, h2, h3, hok]

theorem provides_fact {q : Pool} {e : ModuleProvides} {l : SProvides} (a : ProvidesAt q e l) :
    (⟨l.name, l.with_.map (·.2)⟩ : ModuleProvides) = e := by
  obtain ⟨h1, h2, _⟩ := a
  rw [h1, h2]

theorem module_fact {q : Pool} {m : Module} {l : SModule} (a : ModuleAt q m l) (hok : ModuleOk m) : l.fact = m := by
  have h1 : l.requires.map (fun r => (⟨r.name, r.flags &&& maskRequires, r.version⟩ : ModuleRequires)) = m.requires :=
    map_eq_of_zip _ _ _ a.nRequires.1 fun x hx => requires_fact (a.requires x hx) (hok.requires x.2 (List.of_mem_zip hx).2).2
  have h2 : l.exports.map (fun e => (⟨e.name, e.flags &&& maskExports, e.to.map (·.2)⟩ : ModuleExports)) = m.exports :=
    map_eq_of_zip _ _ _ a.nExports.1 fun x hx => exports_fact (a.exports x hx) (hok.exports x.2 (List.of_mem_zip hx).2).2
  have h3 : l.opens.map (fun e => (⟨e.name, e.flags &&& maskExports, e.to.map (·.2)⟩ : ModuleExports)) = m.opens :=
    map_eq_of_zip _ _ _ a.nOpens.1 fun x hx => exports_fact (a.opens x hx) (hok.opens x.2 (List.of_mem_zip hx).2).2
  have h4 : l.provides.map (fun e => (⟨e.name, e.with_.map (·.2)⟩ : ModuleProvides)) = m.provides :=
    map_eq_of_zip _ _ _ a.nProvides.1 fun x hx => provides_fact (a.provides x hx)
  have h5 := hok.flags.2
  have h6 := a.name
  have h7 := a.flags
  have h8 := a.version
  have h9 := a.usesEq
  simp only [SModule.fact, h1, h2, h3, h4, h6, h7, h8, h9, h5]

theorem moduleAttr_spec {x : Option Module} {p p' : Pool} {o : Option Bytes} (hg : Good p)
    (h : ifSome x (fun m => attrBuf sModule (writeModule m)) p = .ok (o, p')) :
    Step p p' ∧ ((x = none ∧ o = none) ∨
      (∃ (m : Module) (l : SModule), x = some m ∧ Present o p' sModule l.encode ∧ l.encode.length < 4294967296 ∧
        ModuleAt p' m l)) := by
  rcases ifSome_inv h with ⟨m, b, rfl, hb, rfl⟩ | ⟨rfl, rfl, rfl⟩
  · obtain ⟨bb, p1, i, h1, h2, hlen, rfl⟩ := attrBuf_inv hb
    obtain ⟨s1, l, rfl, ha⟩ := writeModule_spec hg h1
    obtain ⟨s2, a2, hi⟩ := putUtf8_spec s1.good h2
    exact ⟨s1.trans s2, Or.inr ⟨m, l, rfl, ⟨i, rfl, hi, a2⟩, by omega, ha.mono s2.le⟩⟩
  · exact ⟨Step.refl hg, Or.inl ⟨rfl, rfl⟩⟩

def SMethodAttr.frame (a : SMethodAttr) : Bytes := attrFrame a.raw.1 a.raw.2

/-- conditions on a method of the proved fragment (a `Code` attribute, if any, as in `CodeOk`) -/
structure MethodOk (m : MethodFacts) : Prop where
  code : ∀ c, m.code = some c → CodeOk c
  rva : AnnosOk m.rva
  ria : AnnosOk m.ria
  rvta : TypeAnnosOk .method m.rvta
  rita : TypeAnnosOk .method m.rita
  annotationDefault : ∀ v, m.annotationDefault = some v → v.ok ∧ v.depth ≤ 255
  access : m.access < 65536
  mask : m.access &&& maskMethod = m.access
  name : validMethodName m.name = true
  exceptions : ∀ es, m.exceptions = some es → ∀ e ∈ es, validClassName e = true
  params : ∀ ps, m.params = some ps → ∀ q ∈ ps, q.flags < 65536 ∧ q.flags &&& maskParam = q.flags ∧
    ∀ n, q.name = some n → validUnqualified n = true
  unknown : ∀ a ∈ m.attrs, a.name ∉ methodAttrNames

/-- methods, with the bootstrap rows collected so far: an attribute is sound when it is legal for every later pool and
every later bootstrap table -/
def ownMethodAt (bs : List Bsm) : Own SMethodAttr MethodFacts :=
  ⟨SMethodAttr.frame, fun q a => Sound2 q bs (fun rp bsms => a.Legal rp bsms), fun hl h => h.mono hl (BsExt.refl _),
   SMethodAttr.apply⟩

theorem Sound.at {q : Pool} {P : ClassRead.Pool → Prop} (h : Sound q P) (bs : List Bsm) : Sound2 q bs (fun rp _ => P rp) :=
  Sound2.of_all fun q' hq _ => h q' hq

def methodView (bs : List Bsm) : View (ownMethodAt bs) .method methodAttrNames where
  embed
    | .signature nc cp s => .signature nc cp s
    | .annotations nc v as => .annotations nc v as
    | .typeAnnotations nc v as => .typeAnnotations nc v as
    | .unknown nc n b => .unknown nc n b
  get m := ⟨m.name, m.desc, m.signature, m.rva, m.ria, m.rvta, m.rita, m.attrs⟩
  set m r := { m with signature := r.signature, rva := r.rva, ria := r.ria, rvta := r.rvta, rita := r.rita, attrs := r.attrs }
  set_get _ := rfl
  frame a := by cases a <;> rfl
  sound q a h := by cases a <;> exact h.at bs
  apply st r a := by cases a <;> simp [ownMethodAt, SMethodAttr.apply, SRecordAttr.apply, apply_ite (Option.map _)]

section
variable {bs : List Bsm}

theorem mblock_deprecated (m : MethodFacts) : WBlock (ownMethodAt bs) (flagAttr m.deprecated sDeprecated) (fun _ => True)
    (fun c => { c with deprecated := c.deprecated || m.deprecated }) :=
  wblock_flag (O := ownMethodAt bs) SMethodAttr.deprecated (fun _ => rfl) (fun _ _ h => h.at bs)
    (fun hf st nc => by simp [ownMethodAt, SMethodAttr.apply, hf]) (fun hf st => by simp [hf])

theorem mblock_synthetic (m : MethodFacts) : WBlock (ownMethodAt bs) (flagAttr m.synthetic sSynthetic) (fun _ => True)
    (fun c => { c with synthetic := c.synthetic || m.synthetic }) :=
  wblock_flag (O := ownMethodAt bs) SMethodAttr.synthetic (fun _ => rfl) (fun _ _ h => h.at bs)
    (fun hf st nc => by simp [ownMethodAt, SMethodAttr.apply, hf]) (fun hf st => by simp [hf])

theorem mblock_exceptions (m : MethodFacts) (hok : ∀ es, m.exceptions = some es → ∀ e ∈ es, validClassName e = true) :
    WBlock (ownMethodAt bs) (ifSome m.exceptions (fun es => attrBuf sExceptions (writeClassList es)))
      (fun c => c.exceptions = none) (fun c => { c with exceptions := m.exceptions }) :=
  wblock_classList (O := ownMethodAt bs) SMethodAttr.exceptions hok (fun _ _ _ => rfl) (fun _ _ _ _ h => h.at bs)
    (fun cs hf st nc cps hst => by simp [ownMethodAt, SMethodAttr.apply, hst, hf]) (fun hf c hc => by rw [hf, ← hc])

theorem mblock_annotationDefault (m : MethodFacts) (hok : ∀ v, m.annotationDefault = some v → v.ok ∧ v.depth ≤ 255) :
    WBlock (ownMethodAt bs) (ifSome m.annotationDefault (fun v => attrBuf sAnnotationDefault (fun p => writeElemVal p v)))
      (fun c => c.annotationDefault = none) (fun c => { c with annotationDefault := m.annotationDefault }) := by
  intro p q o hg h
  rcases ifSome_inv h with ⟨v, b, hf, hb, rfl⟩ | ⟨hf, rfl, rfl⟩
  · obtain ⟨bb, p1, i, h1, h2, hlen, rfl⟩ := attrBuf_inv hb
    obtain ⟨s1, se, rfl, hfact, hn, hleg⟩ := writeElemVal_spec v hg (hok v hf).1 h1
    obtain ⟨s2, a2, hi⟩ := putUtf8_spec s1.good h2
    exact ⟨s1.trans s2, gblock_present (O := ownMethodAt bs) (.annotationDefault i se)
      (fun q' _ hq _ => ⟨hi, a2.read hq,
        ⟨hleg q' (hq.of_le s2.le), by rw [hn]; exact (hok v hf).2⟩, by omega⟩)
      (fun st _ => by simp [ownMethodAt, SMethodAttr.apply, hf, hfact])⟩
  · exact ⟨Step.refl hg, gblock_absent (fun c hc => by rw [hf, ← hc])⟩

/-- one row of `MethodParameters`: `(name index, name, flags)` -/
theorem writeMethodParam_row :
    Row writeMethodParam (fun q : Nat × Option JStr × Nat => be16 q.1 ++ be16 q.2.2)
      (fun q => (⟨q.2.1, q.2.2 &&& maskParam⟩ : MethodParam)) id
      (fun rp q => q.1 < 65536 ∧ q.2.2 < 65536 ∧
        rp.getOptional q.1 (fun p i => do let n ← p.getUtf8 i; checked validUnqualified n) = .ok q.2.1)
      (fun q => q.flags < 65536 ∧ q.flags &&& maskParam = q.flags ∧ ∀ n, q.name = some n → validUnqualified n = true) := by
  intro p p' a b hg hok h
  obtain ⟨⟨i, p1⟩, h1, h2⟩ := Except.bind_eq_ok.mp h
  cases Except.ok.inj h2
  obtain ⟨s, hi, hs⟩ := putOptional_sound (Q := fun n => validUnqualified n = true)
    (g := fun p i => do let n ← p.getUtf8 i; checked validUnqualified n) (fun hg hn h => by
      obtain ⟨s, h1, h2, a⟩ := putUtf8_sound hg h
      exact ⟨s, h1, h2, fun q hq => by simp [a q hq, checked, hn, bind, Outcome.bind]⟩) hg hok.2.2 h1
  refine ⟨s, (i, a.name, a.flags), rfl, ?_, fun q hq => ⟨hi, hok.1, hs q hq⟩⟩
  show (⟨a.name, a.flags &&& maskParam⟩ : MethodParam) = a
  rw [hok.2.1]

theorem mblock_params (m : MethodFacts)
    (hok : ∀ ps, m.params = some ps → ∀ q ∈ ps, q.flags < 65536 ∧ q.flags &&& maskParam = q.flags ∧
      ∀ n, q.name = some n → validUnqualified n = true) :
    WBlock (ownMethodAt bs) (ifSome m.params (fun ps => attrBuf sMethodParameters (fun p => do
        let c ← cnt8 ps.length
        let (b, p) ← writeList writeMethodParam p ps
        pure (c ++ b, p))))
      (fun c => c.params = none) (fun c => { c with params := m.params }) := by
  intro p q o hg h
  rcases ifSome_inv h with ⟨ps, b, hf, hb, rfl⟩ | ⟨hf, rfl, rfl⟩
  · obtain ⟨bb, p1', nc, hb1, hb2, _, rfl⟩ := attrBuf_inv hb
    obtain ⟨c, hc1, hc2⟩ := Except.bind_eq_ok.mp hb1
    obtain ⟨hl8, rfl⟩ := cnt8_eq_ok.mp hc1
    obtain ⟨⟨rows, p2'⟩, hc3, hc4⟩ := Except.bind_eq_ok.mp hc2
    cases Except.ok.inj hc4
    obtain ⟨u1, ls, rfl, hm, hs⟩ := rowList_spec writeMethodParam_row (hok ps hf) hg hc3
    rw [List.map_id] at hm
    have hl : ls.length = ps.length := by rw [← hm, List.length_map]
    obtain ⟨u2, a, hn⟩ := putUtf8_spec u1.good hb2
    have hframe : attrFrame nc ([ps.length] ++ ls.flatMap (fun q => be16 q.1 ++ be16 q.2.2)) =
        (ownMethodAt bs).frame (.methodParameters nc ls) := by
      have : ps.length % 256 = ps.length := Nat.mod_eq_of_lt (by omega)
      simp [ownMethodAt, SMethodAttr.frame, SMethodAttr.raw, be8, hl, this]
    rw [hframe]
    exact ⟨u1.trans u2, gblock_present (O := ownMethodAt bs) (.methodParameters nc ls)
      (fun q' _ hq _ => ⟨hn, a.read hq, by omega, hs q' (hq.of_le u2.le)⟩)
      (fun st hst => by simp only [ownMethodAt, SMethodAttr.apply, hst, Option.isNone_none, if_true, hf, hm])⟩
  · exact ⟨Step.refl hg, gblock_absent (fun c hc => by rw [hf, ← hc])⟩

end

theorem CodeOk.resolves {c : Code} (h : CodeOk c) : ∃ c', c.resolve = some c' ∧ RCodeOk c' := by
  unfold CodeOk at h
  cases hr : c.resolve with
  | none => rw [hr] at h; exact h.elim
  | some c' => rw [hr] at h; exact ⟨c', rfl, h⟩

theorem resolve_of_codeOk {m : MethodFacts} (hok : ∀ c, m.code = some c → CodeOk c) :
    m.resolve = some { m with code := m.code.bind Code.resolve } := by
  unfold MethodFacts.resolve
  cases hc : m.code with
  | none =>
    show some m = some { m with code := none }
    rw [← hc]
  | some c =>
    obtain ⟨c', hr, _⟩ := (hok c hc).resolves
    simp [hr, bind, Option.bind]

theorem codeAttr_spec {code : Option Code} {p p' : Pool} {bs bs' : List Bsm} {as : List Bytes} (hg : Good p) (hb : BsOk bs)
    (hok : ∀ c, code = some c → CodeOk c) (h : codeAttr code p bs = .ok (as, p', bs')) :
    (Step p p' ∧ BsExt bs bs' ∧ BsOk bs') ∧ ∃ o : Option Bytes, as = o.toList ∧
      GBlock (ownMethodAt bs') o p' (fun st => st.code = none) (fun st => { st with code := code.bind Code.resolve }) := by
  cases code with
  | none =>
    have := Except.ok.inj (show (Except.ok ([], p, bs) : Except Fail _) = .ok (as, p', bs') from h)
    simp only [Prod.mk.injEq] at this
    obtain ⟨rfl, rfl, rfl⟩ := this
    exact ⟨⟨Step.refl hg, BsExt.refl _, hb⟩, none, rfl, gblock_absent (fun st hst => by show { st with code := none } = st; rw [← hst])⟩
  | some c =>
    obtain ⟨⟨b, p1, bs1⟩, h1, h⟩ := Except.bind_eq_ok.mp h
    obtain ⟨⟨i, p2⟩, h2, h⟩ := Except.bind_eq_ok.mp h
    obtain ⟨l, h3, h⟩ := Except.bind_eq_ok.mp h
    obtain ⟨hl, rfl⟩ := cnt32_eq_ok.mp h3
    have := Except.ok.inj h
    simp only [Prod.mk.injEq] at this
    obtain ⟨rfl, rfl, rfl⟩ := this
    obtain ⟨c', hr, hc⟩ := (hok c rfl).resolves
    have hc' := code_resolve_eq hr
    rw [hc'] at hc
    obtain ⟨⟨s1, e1, o1⟩, cl, rfl, hsd, hf⟩ := writeCode_spec rfl hg hb hc h1
    obtain ⟨s2, a2, hi⟩ := putUtf8_spec s1.good h2
    exact ⟨⟨s1.trans s2, e1, o1⟩, some (attrFrame i cl.encode), rfl, gblock_present (O := ownMethodAt bs1) (.code i cl)
      (fun q' bs'' hq hbs => ⟨hi, a2.read hq, hsd q' bs'' (hq.of_le s2.le) hbs, by omega⟩)
      (fun st hst => by simp [ownMethodAt, SMethodAttr.apply, hst, hr, hc', hf])⟩

theorem writeMethod_spec {p p' : Pool} {bs bs' : List Bsm} {m : MethodFacts} {b : Bytes} (hg : Good p) (hb : BsOk bs)
    (hok : MethodOk m) (h : writeMethod p bs m = .ok (b, p', bs')) :
    (Step p p' ∧ BsExt bs bs' ∧ BsOk bs') ∧
      ∃ l : MethodLayout, b = l.encode ∧ Sound2 p' bs' (fun rp bsms => l.Legal rp bsms) ∧
        l.facts = some { m with code := m.code.bind Code.resolve } := by
  obtain ⟨⟨ni, p1⟩, h1, h⟩ := Except.bind_eq_ok.mp h
  obtain ⟨⟨di, p2⟩, h2, h⟩ := Except.bind_eq_ok.mp h
  obtain ⟨⟨as1, p3⟩, h3, h⟩ := Except.bind_eq_ok.mp h
  obtain ⟨⟨as2, p4, bs2⟩, h4, h⟩ := Except.bind_eq_ok.mp h
  obtain ⟨⟨as3, p5⟩, h5, h⟩ := Except.bind_eq_ok.mp h
  obtain ⟨ab, h6, h⟩ := Except.bind_eq_ok.mp h
  have := Except.ok.inj h
  cases this
  obtain ⟨s1, a1, hni⟩ := putUtf8_spec hg h1
  obtain ⟨s2, a2, hdi⟩ := putUtf8_spec s1.good h2
  obtain ⟨t1, g1⟩ := WBlocks.cons (mblock_deprecated m) (WBlocks.cons (mblock_synthetic m) (WBlocks.nil _)) _ _ _ s2.good h3
  obtain ⟨⟨tc, ebs, obs⟩, oc, rfl, gc⟩ := codeAttr_spec t1.good hb hok.code h4
  obtain ⟨t3, g3⟩ :=
    ((((WBlocks.cons (mblock_exceptions m hok.exceptions) ((sblocks_signature m.signature).embed (methodView bs'))).append
      ((sblocks_annos writeTargetMethod_eq hok.rva hok.ria hok.rvta hok.rita).embed (methodView bs'))).append
      (WBlocks.cons (mblock_annotationDefault m hok.annotationDefault) (WBlocks.cons (mblock_params m hok.params)
        (WBlocks.nil _)))).append ((sblocks_unknown hok.unknown).embed (methodView bs'))) _ _ _ tc.good h5
  obtain ⟨attrs, hbytes, hsound, hfacts⟩ := GBlocks.append g1 (tc.trans t3).le (gc.blocks.append t3.le g3)
  rw [List.append_assoc as1, hbytes] at h6
  obtain ⟨hcount, rfl⟩ := attrsBytes_frames SMethodAttr.raw h6
  refine ⟨⟨s1.trans (s2.trans (t1.trans (tc.trans t3))), ebs, obs⟩, ⟨m.access, ni, m.name, di, m.desc, attrs⟩, rfl, ?_, ?_⟩
  · intro q bs'' hq hbs
    exact ⟨hok.access, hni, hdi, a1.read (hq.of_le (s2.trans (t1.trans (tc.trans t3))).le), hok.name,
      a2.read (hq.of_le (t1.trans (tc.trans t3)).le), hcount, fun a ha => hsound a ha q bs'' hq hbs⟩
  · have := hfacts ⟨m.access &&& maskMethod, m.name, m.desc, false, false, none, none, none, [], [], [], [], none, none, []⟩
      ⟨⟨trivial, trivial, trivial⟩, rfl,
        ⟨⟨⟨rfl, rfl⟩, trivial⟩, rfl, rfl, trivial⟩, trivial⟩
    refine this.trans ?_
    have hm := hok.mask
    cases m
    simp only at hm
    simp [hm, methodView]

end ClassWriteFull
