import FeatherModel.Model.Mutf8

/-! One step of `from_modified_utf8_internal` on the five byte shapes of an encoded code point (`Enc`), so that it reads
back the JVMS §4.4.7 encoding of every encodable string; strict UTF-8, tried first by `JavaString::from_modified_utf8`,
never delivers anything else on any input (`strict_internal`, `decode_of_internal`). -/

namespace Mutf8

/-! The payload digits (base 64) are variables and a byte is written `digit + offset`: `simp` then decides `x + k ≤ n`,
`x + k = n` and `x + k - n` for literals by itself, and `x + k < n` once `Nat.lt_sub_iff_add_lt` has made it `x < n - k`. -/

theorem internal1 (c : Nat) (r : Bytes) (h0 : 1 ≤ c) (h : c < 128) : internalStep (c :: r) = some (c, r) := by
  simp [internalStep, Nat.ne_of_gt h0, h]

theorem internalNul (r : Bytes) : internalStep (192 :: 128 :: r) = some (0, r) := by
  simp [internalStep]

theorem internal2 (x y : Nat) (r : Bytes) (h0 : 2 ≤ x) (h1 : x < 32) (h2 : y < 64) :
    internalStep ((x + 192) :: (y + 128) :: r) = some (x * 64 + y, r) := by
  have : x ≠ 0 := by omega
  simp [internalStep, isCont, ← Nat.lt_sub_iff_add_lt, h0, h1, h2, this]

/-- a three-byte form that is passed through: everything except the first half of a surrogate pair -/
theorem internal3 (x y z : Nat) (r : Bytes) (hx : x < 16) (hy : y < 64) (hz : z < 64) (h0 : x = 0 → 32 ≤ y)
    (hs : x = 13 → y < 32 ∨ 48 ≤ y) :
    internalStep ((x + 224) :: (y + 128) :: (z + 128) :: r) = some ((x * 64 + y) * 64 + z, r) := by
  have c' : (((x = 0 ∧ 32 ≤ y ∨ 1 ≤ x ∧ x ≤ 12) ∨ x = 13 ∧ y < 32) ∨ 14 ≤ x) ∨ x = 13 ∧ 48 ≤ y := by omega
  simp [internalStep, isCont, ← Nat.lt_sub_iff_add_lt, hx, hy, hz, c']

/-- the next bytes look like a three-byte low surrogate -/
def startsLow (r : Bytes) : Prop :=
  ∃ b4 b5 r', r = 237 :: b4 :: b5 :: r' ∧ 176 ≤ b4 ∧ b4 < 192 ∧ isCont b5 = true

/-- an unpaired high surrogate stays a single code point -/
theorem internal3_high (y z : Nat) (r : Bytes) (h2 : 32 ≤ y) (h3 : y < 48) (hz : z < 64) (hr : ¬ startsLow r) :
    internalStep (237 :: (y + 128) :: (z + 128) :: r) = some ((13 * 64 + y) * 64 + z, r) := by
  have n0 : y < 64 := by omega
  have n1 : ¬ y < 32 := by omega
  rcases r with _ | ⟨b3, _ | ⟨b4, _ | ⟨b5, r'⟩⟩⟩ <;> simp [internalStep, isCont, ← Nat.lt_sub_iff_add_lt, *]
  intro e3 l4 u4 l5 u5
  exact absurd ⟨b4, b5, r', by rw [e3], l4, u4, by simp [isCont, l5, u5]⟩ hr

/-- a surrogate pair becomes one supplementary code point -/
theorem internal6 (a b a' b' : Nat) (r : Bytes) (ha : a < 16) (hb : b < 64) (ha' : a' < 16) (hb' : b' < 64) :
    internalStep (237 :: (a + 32 + 128) :: (b + 128) :: 237 :: (a' + 48 + 128) :: (b' + 128) :: r) =
      some (0x10000 + ((a * 64 + b) * 1024 + (a' * 64 + b')), r) := by
  have n1 : a < 32 := by omega
  have n2 : ¬ 16 ≤ a := by omega
  simp [internalStep, isCont, ← Nat.lt_sub_iff_add_lt, *]
  omega

/-- The five shapes of `encCp`, with the payload digits (base 64) as variables: every fact below about an encoded code
point is linear arithmetic in these digits. -/
inductive Enc : Nat → Bytes → Prop
  | nul : Enc 0 [192, 128]
  | b1 (c : Nat) : 1 ≤ c → c < 128 → Enc c [c]
  | b2 (x y : Nat) : 2 ≤ x → x < 32 → y < 64 → Enc (x * 64 + y) [x + 192, y + 128]
  | b3 (x y z : Nat) : x < 16 → y < 64 → z < 64 → (x = 0 → 32 ≤ y) →
      Enc ((x * 64 + y) * 64 + z) [x + 224, y + 128, z + 128]
  | b6 (a b a' b' : Nat) : a < 16 → b < 64 → a' < 16 → b' < 64 →
      Enc (0x10000 + ((a * 64 + b) * 1024 + (a' * 64 + b')))
        [237, a + 32 + 128, b + 128, 237, a' + 48 + 128, b' + 128]

/-- the two low base-64 digits of a surrogate `0xd000 + k * 64 + u` -/
theorem surrogate_digits (k u : Nat) (hk : k ≤ 48) (hu : u < 1024) :
    (u + (13 * 64 + k) * 64) / 64 % 64 = u / 64 + k ∧ (u + (13 * 64 + k) * 64) % 64 = u % 64 := by
  omega

theorem encCp_enc (c : Nat) (hc : c < 0x110000) : Enc c (encCp c) := by
  simp only [encCp, Nat.add_comm _ (_ / _), Nat.add_comm _ (_ % _)]
  split
  · next h => subst h; exact .nul
  split
  · exact .b1 c (by omega) ‹_›
  split
  · have h := Enc.b2 (c / 64) (c % 64) (by omega) (by omega) (by omega)
    rwa [Nat.div_add_mod'] at h
  split
  · have h := Enc.b3 (c / 64 / 64) (c / 64 % 64) (c % 64) (by omega) (by omega) (by omega) (by omega)
    rwa [Nat.div_add_mod', Nat.div_add_mod', Nat.div_div_eq_div_mul] at h
  · -- `c = 0x10000 + (u * 1024 + v)` is written as the surrogates `0xd800 + u`, `0xdc00 + v`
    have hu : (c - 65536) / 1024 < 1024 := by omega
    have hv : (c - 65536) % 1024 < 1024 := Nat.mod_lt _ (by decide)
    have hc' : 0x10000 + ((c - 65536) / 1024 * 1024 + (c - 65536) % 1024) = c := by omega
    generalize (c - 65536) / 1024 = u at hu hc' ⊢
    generalize (c - 65536) % 1024 = v at hv hc' ⊢
    have h := Enc.b6 (u / 64) (u % 64) (v / 64) (v % 64) (by omega) (by omega) (by omega) (by omega)
    rw [Nat.div_add_mod' u 64, Nat.div_add_mod' v 64, hc'] at h
    obtain ⟨e1, e2⟩ := surrogate_digits 32 u (by decide) hu
    obtain ⟨e3, e4⟩ := surrogate_digits 48 v (by decide) hv
    rwa [e1, e2, e3, e4]

theorem enc_not_startsLow {d : Nat} {bs : Bytes} (h : Enc d bs) (hl : isLow d = false) (r : Bytes) : ¬ startsLow (bs ++ r) := by
  intro ⟨b4, b5, r', he, h4, _, _⟩
  simp only [isLow, Bool.and_eq_false_iff, decide_eq_false_iff_not] at hl
  -- only a three-byte form starts with 237, and its second byte is `≥ 176` exactly for a low surrogate
  cases h <;> simp only [List.cons_append, List.nil_append, List.cons.injEq] at he <;> omega

theorem internalStep_enc {c : Nat} {bs : Bytes} (h : Enc c bs) (r : Bytes) (hr : isHigh c = true → ¬ startsLow r) :
    internalStep (bs ++ r) = some (c, r) := by
  cases h with
  | nul => exact internalNul r
  | b1 c h0 h1 => exact internal1 c r h0 h1
  | b2 x y h0 h1 h2 => exact internal2 x y r h0 h1 h2
  | b3 x y z hx hy hz h0 =>
    by_cases hs : x = 13 ∧ 32 ≤ y ∧ y < 48
    · -- a high surrogate: no low one follows
      obtain ⟨rfl, hy1, hy2⟩ := hs
      exact internal3_high y z r hy1 hy2 hz (hr (by simp only [isHigh, Bool.and_eq_true, decide_eq_true_eq]; omega))
    · exact internal3 x y z r hx hy hz h0 (by omega)
  | b6 a b a' b' ha hb ha' hb' => exact internal6 a b a' b' r ha hb ha' hb'

theorem enc_ne_nil {c : Nat} {bs : Bytes} (h : Enc c bs) (r : Bytes) : bs ++ r ≠ [] := by
  cases h <;> exact List.cons_ne_nil _ _

theorem encode_cons (c : Nat) (s : JStr) : encode (c :: s) = encCp c ++ encode s := by
  simp [encode, List.flatMap_cons]

theorem decodeAll_succ (step : Bytes → Option (Nat × Bytes)) (n : Nat) {s : Bytes} (hs : s ≠ []) :
    decodeAll step (n + 1) s = match step s with
      | none => none
      | some (c, r) => (decodeAll step n r).map (c :: ·) := by
  cases s with
  | nil => exact absurd rfl hs
  | cons _ _ => rfl

theorem encodable_lt (s : JStr) (hs : Encodable s = true) : ∀ c ∈ s, c < 0x110000 := by
  induction s with
  | nil => simp
  | cons c s ih =>
    intro d hd
    cases s with
    | nil => simp [Encodable] at hs; simp at hd; omega
    | cons e s' =>
      simp only [Encodable, Bool.and_eq_true, decide_eq_true_eq] at hs
      rcases List.mem_cons.mp hd with rfl | hd
      · exact hs.1.1
      · exact ih hs.2 d hd

theorem decodeAll_internal (s : JStr) (hs : Encodable s = true) (fuel : Nat) (hf : s.length ≤ fuel) :
    decodeAll internalStep fuel (encode s) = some s := by
  induction s generalizing fuel with
  | nil => cases fuel <;> simp [encode, decodeAll]
  | cons c s ih =>
    cases fuel with
    | zero => simp at hf
    | succ fuel =>
      have hlt := encodable_lt _ hs
      have hc : Encodable s = true ∧ (isHigh c = true → ¬ startsLow (encode s)) := by
        cases s with
        | nil => exact ⟨rfl, fun _ => by simp [encode, startsLow]⟩
        | cons d s' =>
          simp only [Encodable, Bool.and_eq_true, decide_eq_true_eq, Bool.not_eq_true'] at hs
          refine ⟨hs.2, fun hh => ?_⟩
          rw [encode_cons]
          apply enc_not_startsLow (encCp_enc d (hlt d (by simp)))
          have := hs.1.2
          simp only [Bool.and_eq_false_iff] at this
          rcases this with h | h
          · rw [hh] at h; simp at h
          · exact h
      have he := encCp_enc c (hlt c (by simp))
      rw [encode_cons, decodeAll_succ _ _ (enc_ne_nil he _), internalStep_enc he (encode s) hc.2]
      simp only [ih hc.1 fuel (by simp at hf; omega), Option.map_some]

theorem encode_length_ge (s : JStr) (hs : ∀ c ∈ s, c < 0x110000) : s.length ≤ (encode s).length := by
  induction s with
  | nil => simp [encode]
  | cons c s ih =>
    have := ih fun d hd => hs d (.tail _ hd)
    have := List.length_pos_iff.mpr (List.append_nil _ ▸ enc_ne_nil (encCp_enc c (hs c (.head _))) [])
    rw [encode_cons, List.length_append, List.length_cons]; omega

/-- Wherever strict UTF-8 reads a scalar value, `from_modified_utf8_internal` reads the same one or stops: the raw NUL
and the four-byte forms are what strict UTF-8 has beyond modified UTF-8, and its three-byte forms exclude the surrogates,
so it never takes the branch that peeks for a second half. -/
theorem strict_internal : ∀ (s : Bytes) (p : Nat × Bytes),
    strictStep s = some p → internalStep s = none ∨ internalStep s = some p
  | [], _, h => by simp [strictStep] at h
  | b0 :: r, p, h => by
    by_cases h1 : b0 < 128
    · by_cases h0 : b0 = 0
      · simp [internalStep, h0]
      · simp [strictStep, h1] at h
        simp [internalStep, h0, h1, h]
    by_cases h2 : b0 < 194
    · simp [strictStep, h1, show ¬ 224 ≤ b0 by omega, show ¬ 240 ≤ b0 by omega] at h
      omega
    have n0 : b0 ≠ 0 ∧ b0 ≠ 192 := by omega
    by_cases h3 : b0 < 224
    · rcases r with _ | ⟨b1, r⟩ <;> simp [strictStep, h1, h3, Nat.le_of_not_lt h2] at h
      obtain ⟨hc, rfl⟩ := h
      simp [internalStep, h1, h3, hc, n0, Nat.le_of_not_lt h2]
    by_cases h4 : b0 < 240
    · rcases r with _ | ⟨b1, _ | ⟨b2, r⟩⟩ <;> simp [strictStep, h1, h3, h4, Nat.le_of_not_lt h3] at h
      obtain ⟨⟨hb, hc⟩, rfl⟩ := h
      -- strict UTF-8's condition on the second byte is one of the pass-through arms
      have : isCont b1 = true ∧ ((((b0 = 224 ∧ 160 ≤ b1 ∨ 225 ≤ b0 ∧ b0 ≤ 236) ∨ b0 = 237 ∧ b1 < 160) ∨ 238 ≤ b0) ∨
          b0 = 237 ∧ 176 ≤ b1) := by
        simp only [isCont, Bool.and_eq_true, decide_eq_true_eq] at hb ⊢
        split at hb
        · omega
        split at hb <;> omega
      simp [internalStep, h1, h3, h4, hc, n0, this]
    · rcases r with _ | ⟨b1, r⟩ <;> simp [internalStep, h1, h3, h4, n0]

theorem decodeAll_agree {f g : Bytes → Option (Nat × Bytes)} (h : ∀ s p, f s = some p → g s = none ∨ g s = some p) :
    ∀ n s x, decodeAll f n s = some x → decodeAll g n s = none ∨ decodeAll g n s = some x
  | _, [], x, hx => by cases ‹Nat› <;> exact .inr hx
  | 0, _ :: _, x, hx => nomatch hx
  | n + 1, b :: s, x, hx => by
    rw [decodeAll_succ _ _ (List.cons_ne_nil _ _)] at hx ⊢
    cases hf : f (b :: s) with
    | none => rw [hf] at hx; cases hx
    | some p =>
      obtain ⟨c, r⟩ := p
      rw [hf] at hx
      obtain ⟨y, hy, rfl⟩ := Option.map_eq_some_iff.1 hx
      rcases h _ _ hf with hg | hg <;> rw [hg]
      · exact .inl rfl
      · exact (decodeAll_agree h n r y hy).imp (congrArg (Option.map (c :: ·))) (congrArg (Option.map (c :: ·)))

/-- the strict first attempt of `JavaString::from_modified_utf8` never changes what the second would deliver -/
theorem decode_of_internal (b : Bytes) (s : JStr) (h : mutf8Internal b = some s) : decode b = some s := by
  unfold decode
  cases hu : utf8Strict b with
  | none => exact h
  | some s' =>
    rcases decodeAll_agree strict_internal _ _ _ hu with e | e
    · cases h.symm.trans e
    · exact e.symm.trans h

theorem decode_encode (s : JStr) (hs : Encodable s = true) : decode (encode s) = some s :=
  decode_of_internal _ _ (decodeAll_internal s hs _ (encode_length_ge s (encodable_lt s hs)))

end Mutf8
