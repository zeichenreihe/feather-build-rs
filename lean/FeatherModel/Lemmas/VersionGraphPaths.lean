import FeatherModel.Model.VersionGraph

/-! Paths, shortest paths and the loop walk of the version graph (helper lemmas for `Thm/C05.lean`). -/

namespace VG

theorem IsPath.mono {g1 g2 : Graph} (h : ∀ e, e ∈ g1.edges → e ∈ g2.edges) {s d : JStr} {p : List Edge}
    (hp : IsPath g1 s d p) : IsPath g2 s d p := by
  induction hp with
  | nil n => exact IsPath.nil n
  | cons he _ ih => exact IsPath.cons (h _ he) ih

theorem IsPath.append {g : Graph} {a b c : JStr} {p q : List Edge}
    (hp : IsPath g a b p) (hq : IsPath g b c q) : IsPath g a c (p ++ q) := by
  induction hp with
  | nil n => simpa using hq
  | cons he _ ih => exact IsPath.cons he (ih hq)

theorem IsPath.snoc {g : Graph} {a : JStr} {p : List Edge} {e : Edge}
    (hp : IsPath g a e.parent p) (he : e ∈ g.edges) : IsPath g a e.child (p ++ [e]) :=
  hp.append (IsPath.cons he (IsPath.nil _))

theorem IsPath.split {g : Graph} {p q : List Edge} : ∀ {a c : JStr}, IsPath g a c (p ++ q) →
    ∃ b, IsPath g a b p ∧ IsPath g b c q := by
  induction p with
  | nil => intro a c h; exact ⟨a, IsPath.nil a, by simpa using h⟩
  | cons e p ih =>
    intro a c h
    cases h with
    | cons he hrest =>
      obtain ⟨b, h1, h2⟩ := ih hrest
      exact ⟨b, IsPath.cons he h1, h2⟩

theorem IsPath.nil_inv {g : Graph} {a b : JStr} (h : IsPath g a b []) : a = b := by
  cases h; rfl

theorem IsPath.cons_inv {g : Graph} {a c : JStr} {e : Edge} {p : List Edge} (h : IsPath g a c (e :: p)) :
    a = e.parent ∧ e ∈ g.edges ∧ IsPath g e.child c p := by
  cases h with
  | cons he hrest => exact ⟨rfl, he, hrest⟩

theorem IsPath.snoc_cases {g : Graph} {a c : JStr} {p : List Edge} (h : IsPath g a c p) :
    p = [] ∧ a = c ∨ ∃ p' e, p = p' ++ [e] ∧ IsPath g a e.parent p' ∧ e ∈ g.edges ∧ e.child = c := by
  rcases List.eq_nil_or_concat p with rfl | ⟨p', e, rfl⟩
  · exact Or.inl ⟨rfl, h.nil_inv⟩
  · rw [List.concat_eq_append] at h ⊢
    obtain ⟨b, h1, h2⟩ := h.split
    obtain ⟨rfl, he, h3⟩ := h2.cons_inv
    exact Or.inr ⟨p', e, rfl, h1, he, h3.nil_inv⟩

theorem IsPath.mem_edges {g : Graph} {a b : JStr} {p : List Edge} (hp : IsPath g a b p) :
    ∀ e, e ∈ p → e ∈ g.edges := by
  induction hp with
  | nil n => intro e he; simp at he
  | cons he _ ih =>
    intro e' he'
    rcases List.mem_cons.mp he' with h | h
    · subst h; exact he
    · exact ih _ h

theorem mem_liveEdges {g : Graph} {e : Edge} :
    e ∈ liveEdges g ↔ e ∈ g.edges ∧ findEdge g e.parent e.child = some e := by
  simp only [liveEdges, List.mem_filter, decide_eq_true_eq]

theorem IsPath.of_live {g : Graph} {s d : JStr} {p : List Edge} (hp : IsPath (live g) s d p) : IsPath g s d p :=
  hp.mono (fun _ he => (mem_liveEdges.mp he).1)

theorem findEdge_of_mem {g : Graph} {e : Edge} (he : e ∈ g.edges) :
    ∃ e', findEdge g e.parent e.child = some e' ∧ e' ∈ g.edges ∧ e'.parent = e.parent ∧ e'.child = e.child := by
  have hmem : e ∈ g.edges.filter (fun x => x.parent == e.parent && x.child == e.child) := by
    simp [List.mem_filter, he]
  have hl := List.getLast?_eq_some_getLast (List.ne_nil_of_mem hmem)
  obtain ⟨h1, h2⟩ := List.mem_filter.mp (List.mem_of_getLast? hl)
  exact ⟨_, hl, h1, by simpa using h2⟩

theorem live_rep {g : Graph} {e : Edge} (he : e ∈ g.edges) :
    ∃ e', e' ∈ liveEdges g ∧ e'.parent = e.parent ∧ e'.child = e.child := by
  obtain ⟨e', hf, h1, hp, hc⟩ := findEdge_of_mem he
  exact ⟨e', mem_liveEdges.mpr ⟨h1, by rw [hp, hc, hf]⟩, hp, hc⟩

theorem IsPath.to_live {g : Graph} {s d : JStr} {q : List Edge} (hq : IsPath g s d q) :
    ∃ q', IsPath (live g) s d q' ∧ q'.length = q.length := by
  induction hq with
  | nil n => exact ⟨[], IsPath.nil n, rfl⟩
  | cons he _ ih =>
    obtain ⟨q', h1, h2⟩ := ih
    obtain ⟨e', hl, hp, hc⟩ := live_rep he
    refine ⟨e' :: q', ?_, by simp [h2]⟩
    rw [← hp]
    exact IsPath.cons (g := live g) hl (by rw [hc]; exact h1)

theorem mem_pathsOfLen {g : Graph} : ∀ (len : Nat) (src dst : JStr) (p : List Edge),
    p ∈ pathsOfLen g len src dst ↔ (IsPath (live g) src dst p ∧ p.length = len) := by
  intro len
  induction len with
  | zero =>
    intro src dst p
    rw [pathsOfLen, List.length_eq_zero_iff]
    constructor
    · intro hp
      split at hp
      · rename_i h
        rw [List.mem_singleton.mp hp, eq_of_beq h]
        exact ⟨IsPath.nil _, rfl⟩
      · cases hp
    · rintro ⟨hp, rfl⟩
      rw [hp.nil_inv]
      simp
  | succ n ih =>
    intro src dst p
    simp only [pathsOfLen, List.mem_flatMap, List.mem_map, List.mem_filter]
    constructor
    · intro ⟨e, ⟨he, hpar⟩, q, hq, hpq⟩
      subst hpq
      have hpar' : e.parent = src := by simpa using hpar
      obtain ⟨h1, h2⟩ := (ih e.child dst q).mp hq
      subst hpar'
      exact ⟨IsPath.cons (g := live g) he h1, by simp [h2]⟩
    · intro ⟨hp, hl⟩
      cases hp with
      | nil => simp at hl
      | cons he hrest =>
        rename_i e q
        refine ⟨e, ⟨he, by simp⟩, q, (ih e.child dst q).mpr ⟨hrest, by simpa using hl⟩, rfl⟩

/-- the path search returns the first non-empty level below its bound, or nothing when all of them are empty -/
theorem shortestPaths.go_spec {g : Graph} {src dst : JStr} : ∀ (fuel len : Nat),
    (shortestPaths.go g src dst fuel len = [] ∧ ∀ l, len ≤ l → l < len + fuel → pathsOfLen g l src dst = []) ∨
    ∃ l, len ≤ l ∧ l < len + fuel ∧ shortestPaths.go g src dst fuel len = pathsOfLen g l src dst ∧
      pathsOfLen g l src dst ≠ [] ∧ ∀ l', len ≤ l' → l' < l → pathsOfLen g l' src dst = [] := by
  intro fuel
  induction fuel with
  | zero => intro len; exact Or.inl ⟨rfl, fun l h1 h2 => by omega⟩
  | succ f ih =>
    intro len
    rw [shortestPaths.go]
    cases hps : pathsOfLen g len src dst with
    | cons x xs => exact Or.inr ⟨len, Nat.le_refl _, by omega, by rw [hps], by rw [hps]; nofun, fun l' h1 h2 => by omega⟩
    | nil =>
      have hlen : ∀ l, len ≤ l → ¬ len + 1 ≤ l → pathsOfLen g l src dst = [] := fun l h1 h2 => by
        rw [show l = len by omega, hps]
      rcases ih (len + 1) with ⟨h1, h2⟩ | ⟨l, h1, h2, h3, h4, h5⟩
      · exact Or.inl ⟨h1, fun l hl1 hl2 => if h : len + 1 ≤ l then h2 l h (by omega) else hlen l hl1 h⟩
      · exact Or.inr ⟨l, by omega, by omega, h3, h4,
          fun l' hl1 hl2 => if h : len + 1 ≤ l' then h5 l' h hl2 else hlen l' hl1 h⟩

/-- the result of the path search, characterised without reference to the order of the edge list: the live paths of
minimal length (the length bound is the search bound; it is never reached in a resolved graph) -/
theorem mem_shortestPaths_iff {g : Graph} {src dst : JStr} {p : List Edge} :
    p ∈ shortestPaths g src dst ↔
      (IsPath (live g) src dst p ∧ (∀ q, IsPath (live g) src dst q → p.length ≤ q.length) ∧
        p.length ≤ g.edges.length) := by
  have hne : ∀ q, IsPath (live g) src dst q → pathsOfLen g q.length src dst ≠ [] :=
    fun q hq => List.ne_nil_of_mem ((mem_pathsOfLen _ _ _ _).mpr ⟨hq, rfl⟩)
  unfold shortestPaths
  rcases shortestPaths.go_spec (g := g) (src := src) (dst := dst) (g.edges.length + 1) 0 with ⟨h1, h2⟩ | ⟨l, _, hl, h3, h4, h5⟩
  · rw [h1]
    exact ⟨nofun, fun ⟨hp, _, hb⟩ => absurd (h2 _ (Nat.zero_le _) (by omega)) (hne p hp)⟩
  · rw [h3, mem_pathsOfLen]
    constructor
    · rintro ⟨hp, rfl⟩
      exact ⟨hp, fun q hq => Nat.le_of_not_lt fun hlt => hne q hq (h5 _ (Nat.zero_le _) hlt), by omega⟩
    · rintro ⟨hp, hmin, _⟩
      refine ⟨hp, Nat.le_antisymm ?_ (Nat.le_of_not_lt fun hlt => hne p hp (h5 _ (Nat.zero_le _) hlt))⟩
      obtain ⟨x, hx⟩ := List.exists_mem_of_ne_nil _ h4
      obtain ⟨hx1, hx2⟩ := (mem_pathsOfLen _ _ _ _).mp hx
      exact hx2 ▸ hmin x hx1

theorem shortestPaths_ne_nil {g : Graph} {src dst : JStr} {q : List Edge} (hq : IsPath (live g) src dst q)
    (hlen : q.length ≤ g.edges.length) : shortestPaths g src dst ≠ [] := by
  unfold shortestPaths
  rcases shortestPaths.go_spec (g := g) (src := src) (dst := dst) (g.edges.length + 1) 0 with ⟨_, h2⟩ | ⟨l, _, _, h3, h4, _⟩
  · exact absurd (h2 _ (Nat.zero_le _) (by omega)) (List.ne_nil_of_mem ((mem_pathsOfLen _ _ _ _).mpr ⟨hq, rfl⟩))
  · rw [h3]; exact h4

theorem mem_children {g : Graph} {n v : JStr} : v ∈ children g n ↔ ∃ e, e ∈ g.edges ∧ e.parent = n ∧ e.child = v := by
  simp only [children, List.mem_map, List.mem_filter]
  constructor
  · intro ⟨e, ⟨h1, h2⟩, h3⟩; exact ⟨e, h1, by simpa using h2, h3⟩
  · intro ⟨e, h1, h2, h3⟩; exact ⟨e, ⟨h1, by simpa using h2⟩, h3⟩

theorem walkOk_iff {g : Graph} : ∀ (fuel : Nat) (path : List JStr) (head : JStr),
    walkOk g fuel path head = true ↔ ∀ dst p, IsPath g head dst p →
      p.length < fuel ∧ (p.map (·.child)).Nodup ∧ ∀ e, e ∈ p → e.child ∉ path := by
  intro fuel
  induction fuel with
  | zero => exact fun path head => ⟨nofun, fun h => absurd (h head [] (IsPath.nil _)).1 (Nat.lt_irrefl 0)⟩
  | succ f ih =>
    intro path head
    simp only [walkOk, List.all_eq_true, Bool.and_eq_true, Bool.not_eq_true', ih, mem_children]
    constructor
    · intro h dst p hp
      cases hp with
      | nil => simp
      | cons he hrest =>
        obtain ⟨h1, h2⟩ := h _ ⟨_, he, rfl, rfl⟩
        obtain ⟨h3, h4, h5⟩ := h2 _ _ hrest
        simp only [List.mem_append, List.mem_singleton, not_or] at h5
        simp only [List.contains_eq_mem, decide_eq_false_iff_not] at h1
        simp only [List.length_cons, List.map_cons, List.nodup_cons, List.mem_map, List.forall_mem_cons]
        exact ⟨Nat.succ_lt_succ h3, ⟨fun ⟨e', he', hc⟩ => (h5 e' he').2 hc, h4⟩, h1, fun e' he' => (h5 e' he').1⟩
    · rintro h v ⟨e, he, rfl, rfl⟩
      refine ⟨?_, fun dst q hq => ?_⟩
      · simpa using (h _ [e] (IsPath.cons he (IsPath.nil _))).2.2 e
      · obtain ⟨h3, h4, h5⟩ := h _ (e :: q) (IsPath.cons he hq)
        simp only [List.map_cons, List.nodup_cons, List.mem_map, List.forall_mem_cons] at h4 h5
        simp only [List.mem_append, List.mem_singleton, not_or]
        exact ⟨Nat.lt_of_succ_lt_succ h3, h4.2, fun e' he' => ⟨h5.2 e' he', fun hc => h4.1 ⟨e', he', hc⟩⟩⟩

theorem walkOk_congr {g g' : Graph} (h : ∀ e, e ∈ g'.edges ↔ e ∈ g.edges) (fuel : Nat) (path : List JStr) (head : JStr) :
    walkOk g' fuel path head = walkOk g fuel path head := by
  rw [Bool.eq_iff_iff, walkOk_iff, walkOk_iff]
  exact ⟨fun H dst p hp => H dst p (hp.mono fun e => (h e).mpr), fun H dst p hp => H dst p (hp.mono fun e => (h e).mp)⟩

theorem cycle_unbounded {g : Graph} {root v : JStr} {p q : List Edge}
    (hp : IsPath g root v p) (hq : IsPath g v v q) (hne : q ≠ []) :
    ∀ n, ∃ p', IsPath g root v p' ∧ n ≤ p'.length := by
  intro n
  induction n with
  | zero => exact ⟨p, hp, Nat.zero_le _⟩
  | succ n ih =>
    obtain ⟨p', h1, h2⟩ := ih
    refine ⟨p' ++ q, h1.append hq, ?_⟩
    have := List.length_pos_iff.mpr hne
    rw [List.length_append]
    omega

theorem IsPath.children_nodup {g : Graph} {root : JStr} (hac : ¬ ReachableCycle g root) {a dst : JStr} {p : List Edge}
    (hp : IsPath g a dst p) : ∀ {pre : List Edge}, IsPath g root a pre → (p.map (·.child)).Nodup := by
  induction hp with
  | nil n => exact fun _ => List.nodup_nil
  | cons he hrest ih =>
    rename_i e dst q
    intro pre hpre
    refine List.nodup_cons.mpr ⟨fun hmem => hac ?_, ih (hpre.snoc he)⟩
    -- `e.child` comes again as the child of `e'`: the part of the chain up to `e'` is a cycle
    obtain ⟨e', he', (hch : e'.child = e.child)⟩ := List.mem_map.mp hmem
    obtain ⟨s, t, rfl⟩ := List.append_of_mem he'
    obtain ⟨b, h1, h2⟩ := hrest.split
    obtain ⟨rfl, he'', _⟩ := h2.cons_inv
    exact ⟨e.child, pre ++ [e], s ++ [e'], hpre.snoc he, hch ▸ h1.snoc he'', by simp⟩

/-- **the loop check is exact**: it fails iff a cycle can be reached from the root. A cycle gives chains of every length;
without one the children along a chain are pairwise different children of edges, so there are at most `edges.length` of
them (pigeonhole), which is why `edges.length + 1` is enough fuel. -/
theorem walk_false_cycle {g : Graph} {root : JStr} :
    walkOk g (g.edges.length + 1) [] root = false ↔ ReachableCycle g root := by
  rw [← Bool.not_eq_true, walkOk_iff]
  constructor
  · refine fun h => Classical.byContradiction fun hac => h fun dst p hp => ?_
    have hnd := hp.children_nodup hac (IsPath.nil root)
    have := hnd.length_le_of_subset (List.map_subset _ hp.mem_edges)
    rw [List.length_map, List.length_map] at this
    exact ⟨by omega, hnd, nofun⟩
  · rintro ⟨v, p, q, hp, hq, hne⟩ h
    obtain ⟨p', hp', hlen⟩ := cycle_unbounded hp hq hne (g.edges.length + 1)
    exact absurd (h _ _ hp').1 (by omega)

theorem liveEdges_of_noParallel {g : Graph} (h : NoParallel g) : liveEdges g = g.edges := by
  unfold liveEdges
  rw [List.filter_eq_self]
  intro e he
  obtain ⟨e', hf, h1, hp, hc⟩ := findEdge_of_mem he
  rw [hf, h e' h1 e he hp hc]
  simp

end VG
