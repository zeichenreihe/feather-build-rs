import FeatherModel.Model.MergeJar
import FeatherModel.Lemmas.ListFacts

/-!
`merge_preserve_order`. One iteration of the outer loop of the three-loop model is described once (`mpoLoop_succ`).
From it, a call of `mergePreserveOrder` is a derivation in the single-step relation `Run`, and the fuel suffices.
The properties are rule inductions over `Run`: the client list is a sublist (`Run.client_sublist`), the result is a
permutation of the client list followed by the server-only elements (`Run.perm`), and the server list is a sublist when
the common elements come in the same order (`Run.server_sublist`). All three hold for lists with duplicates.
-/
namespace MergeJar
variable {α : Type}

/-- no inner loop can fire: heads differ, the client head is known to the server, the server head to the client -/
def Stalled (a b ra rb : List α) : Prop :=
  (∀ x, ra.head? = some x → rb.head? = some x → False) ∧
  (∀ x, ra.head? = some x → x ∈ b) ∧ (∀ y, rb.head? = some y → y ∈ a)

variable [BEq α]

/-- runs of the algorithm as single steps: a common element, a client-only one, a server-only one, or the stall tail -/
inductive Run (a b : List α) : List α → List α → List α → Prop where
  | stop (ra rb) : Stalled a b ra rb → Run a b ra rb (mpoTail a ra rb)
  | both (x ra rb out) : Run a b ra rb out → Run a b (x :: ra) (x :: rb) (x :: out)
  | left (x ra rb out) : x ∉ b → Run a b ra rb out → Run a b (x :: ra) rb (x :: out)
  | right (y ra rb out) : y ∉ a → Run a b ra rb out → Run a b ra (y :: rb) (y :: out)

theorem Run.segments {a b : List α} (p1 p2 p3 : List α) (h2 : ∀ x ∈ p2, x ∉ b) (h3 : ∀ y ∈ p3, y ∉ a) {ra rb out}
    (h : Run a b ra rb out) : Run a b (p1 ++ (p2 ++ ra)) (p1 ++ (p3 ++ rb)) (p1 ++ (p2 ++ (p3 ++ out))) := by
  induction p1 with
  | cons x p ih => exact Run.both x _ _ _ ih
  | nil =>
    induction p2 with
    | cons x p ih =>
      exact Run.left x _ _ _ (h2 x List.mem_cons_self) (ih fun y hy => h2 y (List.mem_cons_of_mem _ hy))
    | nil =>
      induction p3 with
      | cons y p ih =>
        exact Run.right y _ _ _ (h3 y List.mem_cons_self) (ih fun z hz => h3 z (List.mem_cons_of_mem _ hz))
      | nil => exact h

theorem Run.client_sublist {a b : List α} {ra rb out} (h : Run a b ra rb out) : ra.Sublist out := by
  induction h with
  | stop ra rb _ => exact List.sublist_append_left _ _
  | both x ra rb out _ ih => exact List.Sublist.cons_cons x ih
  | left x ra rb out _ _ ih => exact List.Sublist.cons_cons x ih
  | right y ra rb out _ _ ih => exact List.Sublist.cons y ih

variable [LawfulBEq α]

theorem nodupB_nodup (l : List α) : nodupB l = true ↔ l.Nodup := by
  induction l with
  | nil => simp [nodupB]
  | cons x xs ih => simp [nodupB, ih]

theorem loop1_spec (ra rb : List α) :
    ∃ p ra' rb', loop1 ra rb = (p, ra', rb') ∧ ra = p ++ ra' ∧ rb = p ++ rb' ∧
      ∀ x, ra'.head? = some x → rb'.head? = some x → False := by
  induction ra generalizing rb with
  | nil => exact ⟨[], [], rb, rfl, rfl, rfl, fun _ h => nomatch h⟩
  | cons x ra ih =>
    cases rb with
    | nil => exact ⟨[], x :: ra, [], rfl, rfl, rfl, fun _ _ h => nomatch h⟩
    | cons y rb =>
      by_cases h : y = x
      · subst h
        obtain ⟨p, ra', rb', hl, h1, h2, h3⟩ := ih rb
        exact ⟨y :: p, ra', rb', by rw [loop1, if_pos (beq_self_eq_true y), hl], congrArg _ h1, congrArg _ h2, h3⟩
      · refine ⟨[], x :: ra, y :: rb, by rw [loop1, if_neg (mt eq_of_beq h)], rfl, rfl, fun z hx hy => ?_⟩
        exact h ((Option.some.inj hy).trans (Option.some.inj hx).symm)

theorem span_not_contains (c l : List α) :
    ∃ p r, l.takeWhile (fun x => !c.contains x) = p ∧ l.dropWhile (fun x => !c.contains x) = r ∧ l = p ++ r ∧
      (∀ x ∈ p, x ∉ c) ∧ ∀ x, r.head? = some x → x ∈ c := by
  refine ⟨_, _, rfl, rfl, List.takeWhile_append_dropWhile.symm, fun x hx => ?_, fun x hx => ?_⟩
  · simpa using List.all_eq_true.mp List.all_takeWhile x hx
  · have := List.head?_dropWhile_not (fun x => !c.contains x) l
    rw [hx] at this
    simpa using this

/-- One iteration of the outer loop, whatever fuel is left: either it stalls and the tail is emitted, or it pushes a
common segment, a client-only segment and a server-only segment and goes on from strictly shorter cursors. -/
theorem mpoLoop_succ (a b ra rb : List α) :
    (Stalled a b ra rb ∧ ∀ f, mpoLoop a b (f + 1) ra rb = mpoTail a ra rb) ∨
    ∃ p1 p2 p3 ra' rb', ra = p1 ++ (p2 ++ ra') ∧ rb = p1 ++ (p3 ++ rb') ∧ (∀ x ∈ p2, x ∉ b) ∧ (∀ y ∈ p3, y ∉ a) ∧
      ra'.length + rb'.length < ra.length + rb.length ∧
      ∀ f, mpoLoop a b (f + 1) ra rb = p1 ++ (p2 ++ (p3 ++ mpoLoop a b f ra' rb')) := by
  by_cases he : (ra.isEmpty && rb.isEmpty) = true
  · obtain ⟨h1, h2⟩ : ra = [] ∧ rb = [] := by simpa using he
    subst h1 h2
    exact Or.inl ⟨⟨by simp, by simp, by simp⟩, fun f => by simp only [mpoLoop, he, if_true]⟩
  · obtain ⟨p1, ra1, rb1, hl, h1, h2, h3⟩ := loop1_spec ra rb
    obtain ⟨p2, ra2, e2, e2', ha2, hp2, hd2⟩ := span_not_contains b ra1
    obtain ⟨p3, rb3, e3, e3', hb3, hp3, hd3⟩ := span_not_contains a rb1
    simp only [mpoLoop, he, Bool.false_eq_true, if_false, hl, e2, e2', e3, e3']
    subst ha2 hb3
    by_cases hs : (p1.isEmpty && p2.isEmpty && p3.isEmpty) = true
    · obtain ⟨⟨q1, q2⟩, q3⟩ : (p1 = [] ∧ p2 = []) ∧ p3 = [] := by simpa using hs
      subst q1 q2 q3 h1 h2
      exact Or.inl ⟨⟨h3, hd2, hd3⟩, fun f => by simp only [hs, if_true]⟩
    · refine Or.inr ⟨p1, p2, p3, ra2, rb3, h1, h2, hp2, hp3, ?_, fun f => by simp only [hs, Bool.false_eq_true, if_false]⟩
      simp only [Bool.and_eq_true, List.isEmpty_iff_length_eq_zero] at hs
      simp only [h1, h2, List.length_append]
      omega

/-- Each pair of cursors has one output: it is a run, and every fuel above the two lengths computes it (the fuel is never
exhausted). Induction on the two lengths, which `mpoLoop_succ` says go down. -/
theorem mpoLoop_run (a b ra rb : List α) :
    ∃ out, Run a b ra rb out ∧ ∀ f, ra.length + rb.length < f → mpoLoop a b f ra rb = out := by
  induction hn : ra.length + rb.length using Nat.strongRecOn generalizing ra rb with
  | ind n ih =>
    subst hn
    rcases mpoLoop_succ a b ra rb with ⟨hs, he⟩ | ⟨p1, p2, p3, ra', rb', h1, h2, hp2, hp3, hlt, he⟩
    · exact ⟨_, Run.stop _ _ hs, fun | f + 1, _ => he f⟩
    · obtain ⟨out, hr, ho⟩ := ih _ hlt ra' rb' rfl
      refine ⟨_, h1 ▸ h2 ▸ hr.segments p1 p2 p3 hp2 hp3, fun | f + 1, hf => ?_⟩
      rw [he, ho f (Nat.lt_of_lt_of_le hlt (Nat.le_of_lt_succ hf))]

theorem mpo_run (a b : List α) : Run a b a b (mergePreserveOrder a b) := by
  obtain ⟨_, h, e⟩ := mpoLoop_run a b a b
  cases e _ (Nat.lt_succ_self _)
  exact h

/-- A run only reorders: its output is the client cursor followed by what the client does not have of the server
cursor (which is literally what a stall emits). -/
theorem Run.perm {a b : List α} {ra rb out} (h : Run a b ra rb out) (hs : ∀ x ∈ ra, x ∈ a) :
    out.Perm (ra ++ rb.filter (fun y => !a.contains y)) := by
  induction h with
  | stop ra rb _ => exact .refl _
  | both x ra rb out _ ih =>
    have hx : a.contains x = true := List.contains_iff_mem.mpr (hs x List.mem_cons_self)
    rw [List.filter_cons, hx]
    exact (ih fun y hy => hs y (List.mem_cons_of_mem _ hy)).cons x
  | left x ra rb out _ _ ih => exact (ih fun y hy => hs y (List.mem_cons_of_mem _ hy)).cons x
  | right y ra rb out hy _ ih =>
    have hy' : a.contains y = false := by simpa using hy
    rw [List.filter_cons, hy']
    exact ((ih hs).cons y).trans List.perm_middle.symm

theorem mpo_perm (a b : List α) : (mergePreserveOrder a b).Perm (a ++ b.filter (fun y => !a.contains y)) :=
  (mpo_run a b).perm fun _ h => h

theorem mem_mergePreserveOrder {a b : List α} {x : α} : x ∈ mergePreserveOrder a b ↔ x ∈ a ∨ x ∈ b :=
  (mpo_perm a b).mem_iff.trans List.mem_append_filter_not

/-- The server order. The common elements, read off either cursor with respect to the *whole* lists, agree: this is
`compatibleB` at the start, every step keeps it, and at a stall with a non-empty server cursor the two filtered lists
would start differently. No duplicate-freeness is involved. -/
theorem Run.server_sublist {a b : List α} {ra rb out} (h : Run a b ra rb out)
    (hsa : ∀ x ∈ ra, x ∈ a) (hsb : ∀ y ∈ rb, y ∈ b)
    (hc : ra.filter (fun x => b.contains x) = rb.filter (fun y => a.contains y)) : rb.Sublist out := by
  induction h with
  | stop ra rb hs =>
    obtain ⟨s1, s2, s3⟩ := hs
    cases rb with
    | nil => exact List.nil_sublist _
    | cons y rb' =>
      exfalso
      have hy : a.contains y = true := List.contains_iff_mem.mpr (s3 y rfl)
      rw [List.filter_cons, hy] at hc
      cases ra with
      | nil => cases hc
      | cons x ra' =>
        have hx : b.contains x = true := List.contains_iff_mem.mpr (s2 x rfl)
        rw [List.filter_cons, hx] at hc
        exact s1 x rfl (by rw [List.head_eq_of_cons_eq hc]; rfl)
  | both x ra rb out _ ih =>
    have hxa : a.contains x = true := List.contains_iff_mem.mpr (hsa x List.mem_cons_self)
    have hxb : b.contains x = true := List.contains_iff_mem.mpr (hsb x List.mem_cons_self)
    rw [List.filter_cons, List.filter_cons, hxa, hxb] at hc
    exact (ih (fun y hy => hsa y (List.mem_cons_of_mem _ hy)) (fun y hy => hsb y (List.mem_cons_of_mem _ hy))
      (List.tail_eq_of_cons_eq hc)).cons_cons x
  | left x ra rb out hx _ ih =>
    have hxb : b.contains x = false := by simpa using hx
    rw [List.filter_cons, hxb] at hc
    exact (ih (fun y hy => hsa y (List.mem_cons_of_mem _ hy)) hsb hc).cons x
  | right y ra rb out hy _ ih =>
    have hya : a.contains y = false := by simpa using hy
    rw [List.filter_cons, hya] at hc
    exact (ih hsa (fun z hz => hsb z (List.mem_cons_of_mem _ hz)) hc).cons_cons y

theorem mpo_server_sublist (a b : List α) (hc : compatibleB a b = true) : b.Sublist (mergePreserveOrder a b) :=
  (mpo_run a b).server_sublist (fun _ h => h) (fun _ h => h) (by simpa [compatibleB] using hc)

end MergeJar
