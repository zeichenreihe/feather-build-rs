import FeatherModel.Lemmas.ArmsReader

/-!
# The small tag dispatches of the reader: constant pool, verification types, stack-map frames

Generated tables (`Gen/ReaderArms.lean`) against the hand-written model: the pool entry dispatch by evaluation on every tag
byte, `read_verification_type_info` and `read_stack_map_frame` for all inputs. (Against the JVMS tables:
`Thm.C01.tag_arms_are_jvms`.)
-/

namespace Arms

open ClassRead ClassRead.Outcome JvmsTables

theorem pool_arms_match_model (tag : Nat) (h : tag < 256) :
    poolProbe tag = (Gen.ReaderArms.poolArms.lookup tag).map fun a => (a.1, a.2.1.sum, a.2.2.2) := by
  revert tag
  delta poolProbe poolEntryName
  simp -index only [jstr_ofList]
  decide +kernel

/-- both halves in one statement, so that the dispatch of `readVType` is walked once -/
theorem readVType_kind (p : Pool) (l : Labels) (t : Nat) (s : Bytes) :
    Holds (fun r => ∃ extra, Gen.ReaderArms.vtypeArms.lookup t = some (vtypeName r.1, extra)) (readVType p l (t :: s)) ∧
    (Gen.ReaderArms.vtypeArms.lookup t = none → readVType p l (t :: s) = err) := by
  unfold readVType
  simp only [u8, ok_bind]
  match t with
  | 0 | 1 | 2 | 3 | 4 | 5 | 6 => exact ⟨.pure ⟨_, by simp -index only [vtypeName, jstr_ofList]; rfl⟩, nofun⟩
  | 7 | 8 => exact ⟨.bind' fun _ => .bind' fun _ => .pure ⟨_, by simp -index only [vtypeName, jstr_ofList]; rfl⟩, nofun⟩
  | _ + 9 => exact ⟨.err, fun _ => rfl⟩

/-- the model's `readFrame` dispatch as a table -/
def frameModel (t : Nat) : Option (JStr × Option Nat) :=
  if t ≤ 63 then some (jstr "Same", some 0)
  else if t ≤ 127 then some (jstr "SameLocals1StackItem", some 64)
  else if t ≤ 246 then none
  else if t = 247 then some (jstr "SameLocals1StackItem", none)
  else if t ≤ 250 then some (jstr "Chop", none)
  else if t = 251 then some (jstr "Same", none)
  else if t ≤ 254 then some (jstr "Append", none)
  else some (jstr "Full", none)

theorem frame_model_agree : ∀ t, t < 256 → frameModel t = frameArm? t := by
  delta frameModel frameArm?
  simp -index only [jstr_ofList]
  decide +kernel

theorem readFrame_kind (p : Pool) (l : Labels) (t : Nat) (s : Bytes) :
    Holds (fun r => ∃ b, frameModel t = some (frameName r.1.2, b) ∧ (∀ k, b = some k → r.1.1 = t - k) ∧
      (∀ k, r.1.2 = .chop k → k = Gen.ReaderArms.chopFrom - t)) (readFrame p l (t :: s)) ∧
    (frameModel t = none → readFrame p l (t :: s) = err) := by
  unfold readFrame frameModel
  simp only [u8, ok_bind]
  by_cases c1 : t ≤ 63
  · rw [if_pos c1, if_pos c1]
    exact ⟨.pure ⟨_, rfl, (fun | _, rfl => rfl), nofun⟩, nofun⟩
  rw [if_neg c1, if_neg c1]
  by_cases c2 : t ≤ 127
  · rw [if_pos c2, if_pos c2]
    exact ⟨.bind' fun _ => .pure ⟨_, rfl, (fun | _, rfl => rfl), nofun⟩, nofun⟩
  rw [if_neg c2, if_neg c2]
  by_cases c3 : t ≤ 246
  · rw [if_pos c3, if_pos c3]
    exact ⟨.err, fun _ => rfl⟩
  rw [if_neg c3, if_neg c3]
  by_cases c4 : t = 247
  · rw [if_pos c4, if_pos c4]
    exact ⟨.bind' fun _ => .bind' fun _ => .pure ⟨_, rfl, nofun, nofun⟩, nofun⟩
  rw [if_neg c4, if_neg c4]
  by_cases c5 : t ≤ 250
  · rw [if_pos c5, if_pos c5]
    exact ⟨.bind' fun _ => .pure ⟨_, rfl, nofun, (fun | _, rfl => rfl)⟩, nofun⟩
  rw [if_neg c5, if_neg c5]
  by_cases c6 : t = 251
  · rw [if_pos c6, if_pos c6]
    exact ⟨.bind' fun _ => .pure ⟨_, rfl, nofun, nofun⟩, nofun⟩
  rw [if_neg c6, if_neg c6]
  by_cases c7 : t ≤ 254
  · rw [if_pos c7, if_pos c7]
    exact ⟨.bind' fun _ => .bind' fun _ => .pure ⟨_, rfl, nofun, nofun⟩, nofun⟩
  rw [if_neg c7, if_neg c7]
  exact ⟨.bind' fun _ => .bind' fun _ => .bind' fun _ => .pure ⟨_, rfl, nofun, nofun⟩, nofun⟩

theorem vtype_frame_arms_match_model (p : Pool) (l l' : Labels) (t : Nat) (s s' : Bytes) (ht : t < 256) :
    (∀ v, readVType p l (t :: s) = ok (v, l', s') → ∃ extra, Gen.ReaderArms.vtypeArms.lookup t = some (vtypeName v, extra)) ∧
    (Gen.ReaderArms.vtypeArms.lookup t = none → readVType p l (t :: s) = err) ∧
    (∀ d f, readFrame p l (t :: s) = ok ((d, f), l', s') →
      ∃ b, frameArm? t = some (frameName f, b) ∧ (∀ k, b = some k → d = t - k) ∧ (∀ k, f = .chop k → k = Gen.ReaderArms.chopFrom - t)) ∧
    (frameArm? t = none → readFrame p l (t :: s) = err) := by
  refine ⟨fun v h => (readVType_kind p l t s).1 _ h, (readVType_kind p l t s).2, ?_, ?_⟩
  · intro d f h
    obtain ⟨b, h1, h2, h3⟩ := (readFrame_kind p l t s).1 _ h
    exact ⟨b, by rw [← frame_model_agree t ht]; exact h1, h2, h3⟩
  · intro h
    exact (readFrame_kind p l t s).2 (by rw [frame_model_agree t ht]; exact h)

end Arms
