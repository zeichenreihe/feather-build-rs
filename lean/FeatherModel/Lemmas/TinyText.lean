import FeatherModel.Model.Tiny
import FeatherModel.Lemmas.Str

/-! Text-level lemmas for the Tiny v2 round trip (C03): escaping, cell and line splitting, decimal numbers. -/

namespace Tiny

theorem escape_nil : escape [] = [] := rfl

/-- the piece `escape` writes for one character: the function under the `flatMap` of `Tiny.escape`, named so that
`escape_cons` can state the recursion -/
def escChar (c : Nat) : JStr :=
  if c = 92 then [92, 92] else if c = 10 then [92, 110] else if c = 13 then [92, 114] else if c = 9 then [92, 116] else [c]

theorem escape_cons (c : Nat) (r : JStr) : escape (c :: r) = escChar c ++ escape r := by
  simp only [escape, List.flatMap_cons, escChar]

/-- a cell of a written line: no TAB, LF or CR -/
abbrev CellClean (s : JStr) : Prop := 9 ∉ s ∧ 10 ∉ s ∧ 13 ∉ s

theorem escChar_clean (c : Nat) : CellClean (escChar c) := by
  unfold CellClean escChar
  split
  · simp
  · split
    · simp
    · split
      · simp
      · split
        · simp
        · rename_i h1 h2 h3 h4
          simp only [List.mem_singleton]
          exact ⟨fun h => h4 h.symm, fun h => h2 h.symm, fun h => h3 h.symm⟩

theorem escape_clean (d : JStr) : CellClean (escape d) := by
  unfold CellClean
  induction d with
  | nil => simp [escape]
  | cons c r ih =>
    rw [escape_cons]
    have hc := escChar_clean c
    simp only [List.mem_append, not_or]
    exact ⟨⟨hc.1, ih.1⟩, ⟨hc.2.1, ih.2.1⟩, ⟨hc.2.2, ih.2.2⟩⟩

theorem escape_no_lf (d : JStr) : 10 ∉ escape d := (escape_clean d).2.1

theorem unescape_cons_of_ne (a : Nat) (h : a ≠ 92) : ∀ t : JStr, unescape (a :: t) = a :: unescape t
  | [] => rfl
  | b :: r => by simp [unescape, h]

/-- **`unescape` undoes `escape` on every comment** -/
theorem unescape_escape : ∀ d : JStr, unescape (escape d) = d
  | [] => rfl
  | c :: r => by
    have ih := unescape_escape r
    rw [escape_cons]
    unfold escChar
    split
    · rename_i h; subst h
      simp [unescape, ih]
    · rename_i h92
      split
      · rename_i h; subst h
        simp [unescape, ih]
      · split
        · rename_i h; subst h
          simp [unescape, ih]
        · split
          · rename_i h; subst h
            simp [unescape, ih]
          · simp only [List.singleton_append]
            rw [unescape_cons_of_ne c h92, ih]

theorem escape_injective {a b : JStr} (h : escape a = escape b) : a = b := by
  rw [← unescape_escape a, ← unescape_escape b, h]

theorem escape_getLast (d : JStr) : (escape d).getLast? ≠ some 13 :=
  fun h => (escape_clean d).2.2 (List.mem_of_getLast? h)

/-- `str::split` is `JavaStr::split` (facts: `Lemmas/Str.lean`): the model has the same recursion twice -/
theorem splitOn_eq : splitOn = Descriptor.splitOn := by
  set_option smartUnfolding false in rfl

theorem splitOn_ne_nil (sep : Nat) : ∀ l : List Nat, splitOn sep l ≠ [] :=
  splitOn_eq ▸ Descriptor.splitOn_ne_nil sep

theorem splitOn_append (sep : Nat) (f : List Nat) (hf : sep ∉ f) (rest : List Nat) :
    splitOn sep (f ++ sep :: rest) = f :: splitOn sep rest :=
  splitOn_eq ▸ Descriptor.splitOn_append rest hf

theorem splitOn_single (sep : Nat) (f : List Nat) (hf : sep ∉ f) : splitOn sep f = [f] :=
  splitOn_eq ▸ Descriptor.splitOn_no_sep hf

theorem splitOn_cells (sep : Nat) (f : List Nat) (hf : sep ∉ f) :
    ∀ cs : List (List Nat), (∀ c ∈ cs, sep ∉ c) → splitOn sep (f ++ cs.flatMap (sep :: ·)) = f :: cs
  | [], _ => by simp [splitOn_single sep f hf]
  | c :: cs, h => by
    simp only [List.flatMap_cons, List.cons_append]
    rw [splitOn_append sep f hf]
    rw [splitOn_cells sep c (h c List.mem_cons_self) cs (fun x hx => h x (List.mem_cons_of_mem _ hx))]

/-- a written line: indentation, first field, TAB-prefixed cells -/
def mkLine (indent : Nat) (first : JStr) (cells : List JStr) : List Nat :=
  List.replicate indent 9 ++ (first ++ cells.flatMap (9 :: ·))

theorem not_mem_mkLine {x indent : Nat} {first : JStr} {cells : List JStr} (h9 : x ≠ 9) (h1 : x ∉ first)
    (h2 : ∀ c ∈ cells, x ∉ c) : x ∉ mkLine indent first cells := by
  simp only [mkLine, List.mem_append, List.mem_replicate, List.mem_flatMap, List.mem_cons]
  rintro (h | h | ⟨c, hc, h | h⟩)
  · exact h9 h.2
  · exact h1 h
  · exact h9 h
  · exact h2 c hc h

theorem takeWhile_replicate_append (c n : Nat) (rest : List Nat) (h : rest.head? ≠ some c) :
    (List.replicate n c ++ rest).takeWhile (· == c) = List.replicate n c := by
  induction n with
  | zero =>
    cases rest with
    | nil => rfl
    | cons x r =>
      have : x ≠ c := by simpa using h
      simp [this]
  | succ n ih => simp [List.replicate_succ, ih]

theorem tinyLine_mkLine (indent : Nat) (first : JStr) (cells : List JStr)
    (h1 : first ≠ []) (h2 : 9 ∉ first) (h3 : ∀ c ∈ cells, 9 ∉ c) :
    tinyLine (mkLine indent first cells) = { indent := indent, first := first, fields := cells } := by
  have hh : (first ++ cells.flatMap (9 :: ·)).head? ≠ some 9 := by
    cases first with
    | nil => exact absurd rfl h1
    | cons c r =>
      simp only [List.mem_cons, not_or] at h2
      simpa using fun h => h2.1 h.symm
  unfold tinyLine mkLine
  simp only [takeWhile_replicate_append 9 _ _ hh, List.length_replicate]
  have : (List.replicate indent 9 ++ (first ++ cells.flatMap (9 :: ·))).drop indent = first ++ cells.flatMap (9 :: ·) := by
    rw [List.drop_append]
    simp
  rw [this, splitOn_cells 9 first h2 cells h3]

/-- a line that `BufRead::lines` gives back unchanged -/
def LineOk (l : List Nat) : Prop := 10 ∉ l ∧ l.getLast? ≠ some 13

theorem lines_append : ∀ (l : List Nat), LineOk l → ∀ rest : List Nat, lines (l ++ 10 :: rest) = l :: lines rest
  | [], _, [] => by simp [lines]
  | [], _, b :: r => by simp [lines]
  | [a], h, rest => by
    have h10 : ¬ a = 10 := by simpa using fun h' : a = 10 => h.1 (by simp [h'])
    have h13 : ¬ a = 13 := by simpa [LineOk] using h.2
    have := lines_append [] (by simp [LineOk]) rest
    simp only [List.nil_append] at this
    simp only [List.cons_append, List.nil_append, lines, if_neg h10, h13, false_and, if_false, this]
  | a :: b :: l, h, rest => by
    have h10 : ¬ a = 10 := fun h' => h.1 (by simp [h'])
    have hb10 : ¬ b = 10 := fun h' => h.1 (by simp [h'])
    have hrest : LineOk (b :: l) := ⟨fun h' => h.1 (List.mem_cons_of_mem _ h'), by simpa [List.getLast?_cons_cons] using h.2⟩
    have := lines_append (b :: l) hrest rest
    simp only [List.cons_append] at this
    simp only [List.cons_append, lines, if_neg h10, hb10, and_false, if_false, this]

theorem lines_write : ∀ ls : List (List Nat), (∀ l ∈ ls, LineOk l) → lines (ls.flatMap (· ++ [10])) = ls
  | [], _ => rfl
  | l :: ls, h => by
    simp only [List.flatMap_cons, List.append_assoc, List.singleton_append]
    rw [lines_append l (h l List.mem_cons_self), lines_write ls (fun x hx => h x (List.mem_cons_of_mem _ hx))]

def isDigit (c : Nat) : Prop := 48 ≤ c ∧ c ≤ 57

theorem digitsAux_eq_toDigitsCore : ∀ (fuel n : Nat) (acc : List Char),
    digitsAux fuel n (acc.map Char.toNat) = (Nat.toDigitsCore 10 fuel n acc).map Char.toNat
  | 0, _, _ => rfl
  | fuel + 1, n, acc => by
    simp only [digitsAux, Nat.toDigitsCore]
    by_cases h : n < 10
    · have h0 : n / 10 = 0 := Nat.div_eq_of_lt h
      simp [h, h0, Nat.toNat_digitChar_of_lt_ten h, Nat.mod_eq_of_lt h]
    · have h0 : n / 10 ≠ 0 := by omega
      rw [if_neg h, if_neg h0, ← digitsAux_eq_toDigitsCore fuel (n / 10)]
      simp [Nat.toNat_digitChar_of_lt_ten (Nat.mod_lt n (by decide : 0 < 10))]

theorem natDigits_eq (n : Nat) : natDigits n = (Nat.toDigits 10 n).map Char.toNat :=
  digitsAux_eq_toDigitsCore (n + 1) n []

theorem natDigits_digits (n : Nat) : ∀ c ∈ natDigits n, isDigit c := by
  intro c hc
  obtain ⟨ch, hch, rfl⟩ := List.mem_map.mp (natDigits_eq n ▸ hc)
  have := Nat.isDigit_of_mem_toDigits (b := 10) (by decide) (by decide) hch
  simp only [Char.isDigit, Bool.and_eq_true, decide_eq_true_eq, ge_iff_le, UInt32.le_iff_toNat_le] at this
  exact this

theorem digits_clean (n : Nat) : CellClean (natDigits n) := by
  have h := natDigits_digits n
  unfold isDigit at h
  exact ⟨fun h' => by have := h 9 h'; omega, fun h' => by have := h 10 h'; omega, fun h' => by have := h 13 h'; omega⟩

theorem natDigits_ne_nil (n : Nat) : natDigits n ≠ [] := by
  simp [natDigits_eq, Nat.toDigits_ne_nil]

theorem natDigits_value (n : Nat) : (natDigits n).foldl (fun a c => a * 10 + (c - 48)) 0 = n := by
  rw [natDigits_eq, List.foldl_map]
  have := Nat.ofDigitChars_ten_toDigits (n := n)
  rw [Nat.ofDigitChars_eq_foldl] at this
  have hf : (fun (a : Nat) (c : Char) => a * 10 + (c.toNat - 48)) =
      (fun sofar c => 10 * sofar + (c.toNat - '0'.toNat)) := by
    funext a c
    rw [Nat.mul_comm]
    rfl
  rw [hf]
  exact this

theorem parseUsize_natDigits (n : Nat) (h : n < USIZE_LIMIT) : parseUsize (natDigits n) = some n := by
  have hd := natDigits_digits n
  have hne := natDigits_ne_nil n
  obtain ⟨c, r, hcr⟩ := List.exists_cons_of_ne_nil hne
  have hc : isDigit c := hd c (by rw [hcr]; exact List.mem_cons_self)
  have h43 : c ≠ 43 := by unfold isDigit at hc; omega
  have hall : (natDigits n).all (fun c => decide (48 ≤ c) && decide (c ≤ 57)) = true := by
    simp only [List.all_eq_true, Bool.and_eq_true, decide_eq_true_eq]
    exact hd
  have hv := natDigits_value n
  have hs : stripPlus (c :: r) = c :: r := by
    unfold stripPlus
    split
    · rename_i heq; simp only [List.cons.injEq] at heq; exact absurd heq.1 h43
    · rfl
  unfold parseUsize
  rw [hcr] at hall hv ⊢
  rw [hs]
  simp only [List.isEmpty_cons, Bool.false_eq_true, if_false, hall, if_true, hv, h]

end Tiny
