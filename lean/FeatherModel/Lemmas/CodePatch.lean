import FeatherModel.Model.CodeWrite

/-!
# Patching reserved branch bytes

List-level view of `put_i16_at` / `put_i32_at` and of the `for unwritten` loop. `Patched` says what the loop makes of the
bytes one encoder step wrote, wherever they stand: one reservation is replaced by its offset (`Patched.slot`), and steps
written one behind the other are patched one by one (`Patched.seq`). What one instruction emits: how many bytes, and
which unwritten labels (`encInsn_emits`).
-/

namespace CodeWrite

/-- list version of `putBytes` -/
def patchL : Bytes → Nat → Bytes → Bytes
  | bs, _, [] => bs
  | bs, at_, v :: vs => patchL (bs.set at_ v) (at_ + 1) vs

theorem putBytes_toList (v : Bytes) : ∀ (w : Array Nat) (at_ : Nat), (putBytes w at_ v).toList = patchL w.toList at_ v := by
  induction v with
  | nil => intro w at_; rfl
  | cons b bs ih =>
    intro w at_
    simp only [putBytes, patchL]
    rw [ih]
    simp

theorem patchL_length (v : Bytes) : ∀ (bs : Bytes) (at_ : Nat), (patchL bs at_ v).length = bs.length := by
  induction v with
  | nil => intro bs at_; rfl
  | cons b v ih => intro bs at_; simp only [patchL]; rw [ih]; simp

theorem patchL_append_right (v : Bytes) : ∀ (A B : Bytes) (off : Nat),
    patchL (A ++ B) (A.length + off) v = A ++ patchL B off v := by
  induction v with
  | nil => intro A B off; rfl
  | cons b v ih =>
    intro A B off
    simp only [patchL]
    rw [List.set_append_right _ _ (Nat.le_add_right _ _), Nat.add_sub_cancel_left, Nat.add_assoc, ih]

theorem patchL_exact (v : Bytes) : ∀ (X B : Bytes), X.length = v.length → patchL (X ++ B) 0 v = v ++ B := by
  induction v with
  | nil => intro X B h; simp at h; subst h; rfl
  | cons b v ih =>
    intro X B h
    cases X with
    | nil => simp at h
    | cons x X =>
      simp only [patchL, List.cons_append, List.set_cons_zero]
      have := patchL_append_right v [b] (X ++ B) 0
      simp only [List.length_cons, List.length_nil, Nat.zero_add, List.cons_append, List.nil_append] at this
      rw [this, ih X B (by simpa using h)]

/-- the value patched in for an unwritten label -/
def patchVal (lp : Nat → Option Nat) (u : Unwritten) : Option Bytes :=
  match lp u.label with
  | none => none
  | some tp =>
    if u.wide then some (i32b (offs u.opcodePos tp))
    else if fitsI16 (offs u.opcodePos tp) then some (i16b (offs u.opcodePos tp))
    else none

/-- the `for unwritten` loop when it runs to completion; positions are relative to `base` -/
def resolveAt (base : Nat) (lp : Nat → Option Nat) : List Unwritten → Bytes → Option Bytes
  | [], bs => some bs
  | u :: us, bs =>
    match patchVal lp u with
    | none => none
    | some v => resolveAt base lp us (patchL bs (u.writePos - base) v)

theorem resolveAt_nil (base : Nat) (lp : Nat → Option Nat) (bs : Bytes) : resolveAt base lp [] bs = some bs := rfl

theorem resolve_done (lp : Nat → Option Nat) (us : List Unwritten) :
    ∀ (w w' : Array Nat), resolve lp us w = .done w' → resolveAt 0 lp us w.toList = some w'.toList := by
  induction us with
  | nil => intro w w' h; simp only [resolve] at h; cases h; rfl
  | cons u us ih =>
    intro w w' h
    simp only [resolve] at h
    simp only [resolveAt, patchVal]
    split at h
    · cases h
    · rename_i tp htp
      rw [htp]
      simp only []
      split at h
      · rename_i hw
        simp only [hw, if_true]
        rw [← putBytes_toList]
        exact ih _ _ h
      · rename_i hw
        split at h
        · rename_i hf
          simp only [hw, hf, if_true]
          simp only [Bool.false_eq_true, if_false]
          rw [← putBytes_toList]
          exact ih _ _ h
        · cases h

theorem resolveAt_append (base : Nat) (lp : Nat → Option Nat) (us1 us2 : List Unwritten) :
    ∀ bs, resolveAt base lp (us1 ++ us2) bs = (resolveAt base lp us1 bs).bind (resolveAt base lp us2) := by
  induction us1 with
  | nil => intro bs; rfl
  | cons u us ih =>
    intro bs
    simp only [List.cons_append, resolveAt]
    cases patchVal lp u with
    | none => rfl
    | some v => exact ih _

theorem resolveAt_length (base : Nat) (lp : Nat → Option Nat) (us : List Unwritten) :
    ∀ bs c, resolveAt base lp us bs = some c → c.length = bs.length := by
  induction us with
  | nil => intro bs c h; simp only [resolveAt] at h; cases h; rfl
  | cons u us ih =>
    intro bs c h
    simp only [resolveAt] at h
    split at h
    · cases h
    · have := ih _ _ h
      rw [this, patchL_length]

def Unwritten.width (u : Unwritten) : Nat := if u.wide then 4 else 2

theorem Unwritten.width_wide {u : Unwritten} (h : u.wide = true) : u.width = 4 := by simp [Unwritten.width, h]
theorem Unwritten.width_narrow {u : Unwritten} (h : u.wide = false) : u.width = 2 := by simp [Unwritten.width, h]

theorem patchVal_length {lp : Nat → Option Nat} {u : Unwritten} {v : Bytes} (h : patchVal lp u = some v) :
    v.length = u.width := by
  unfold patchVal at h
  split at h
  · cases h
  · split at h
    · rename_i hw; cases h; rw [Unwritten.width_wide hw]; rfl
    · rename_i hw
      split at h
      · cases h; rw [Unwritten.width_narrow (by simpa using hw)]; rfl
      · cases h

theorem i16b_length (v : Int) : (i16b v).length = 2 := rfl
theorem i32b_length (v : Int) : (i32b v).length = 4 := rfl

theorem patchVal_wide (lp : Nat → Option Nat) {u : Unwritten} (h : u.wide = true) :
    patchVal lp u = (lp u.label).map fun tp => i32b (offs u.opcodePos tp) := by
  unfold patchVal
  cases lp u.label <;> simp only [h, if_true, Option.map_none, Option.map_some]

theorem patchVal_narrow {lp : Nat → Option Nat} {u : Unwritten} {v : Bytes} (h : u.wide = false)
    (hv : patchVal lp u = some v) :
    ∃ tp, lp u.label = some tp ∧ fitsI16 (offs u.opcodePos tp) = true ∧ v = i16b (offs u.opcodePos tp) := by
  unfold patchVal at hv
  cases hl : lp u.label with
  | none => rw [hl] at hv; cases hv
  | some tp =>
    simp only [hl, h, Bool.false_eq_true, if_false] at hv
    split at hv
    · cases hv; exact ⟨tp, rfl, ‹_›, rfl⟩
    · cases hv

/-- two final forms one after the other; a label without address in either leaves none -/
def finSeq (F G : Option Bytes) : Option Bytes := F.bind fun a => G.map (a ++ ·)

theorem finSeq_some {F G : Option Bytes} {c : Bytes} (h : finSeq F G = some c) :
    ∃ a b, F = some a ∧ G = some b ∧ c = a ++ b := by
  cases F <;> cases G <;> cases h
  exact ⟨_, _, rfl, rfl, rfl⟩

/-- the patch loop turns what an encoder step wrote at `wp` (bytes `r.1`, reservations `r.2`) into `F`, whatever stands
in front and behind; positions are relative to `base` -/
def Patched (base : Nat) (lp : Nat → Option Nat) (wp : Nat) (r : Bytes × List Unwritten) (F : Option Bytes) : Prop :=
  ∀ X Y : Bytes, X.length + base = wp → resolveAt base lp r.2 (X ++ r.1 ++ Y) = F.map (fun b => X ++ b ++ Y)

theorem Patched.const {base wp : Nat} {lp : Nat → Option Nat} (bs : Bytes) : Patched base lp wp (bs, []) (some bs) :=
  fun _ _ _ => rfl

theorem Patched.slot (base : Nat) (lp : Nat → Option Nat) (u : Unwritten) {V : Bytes} (hv : V.length = u.width) :
    Patched base lp u.writePos (V, [u]) (patchVal lp u) := by
  intro X Y hx
  simp only [resolveAt]
  cases h : patchVal lp u with
  | none => rfl
  | some v =>
    simp only [Option.map_some]
    rw [show u.writePos - base = X.length + 0 by omega, List.append_assoc, patchL_append_right,
      patchL_exact _ _ _ (hv.trans (patchVal_length h).symm), List.append_assoc]

theorem Patched.length {base wp : Nat} {lp : Nat → Option Nat} {r : Bytes × List Unwritten} {a : Bytes}
    (h : Patched base lp wp r (some a)) (hb : base ≤ wp) : a.length = r.1.length := by
  have := resolveAt_length _ _ _ _ _ (h (List.replicate (wp - base) 0) [] (by rw [List.length_replicate]; omega))
  simp only [List.length_append, List.length_replicate, List.length_nil] at this
  omega

theorem Patched.seq {base wp n : Nat} {lp : Nat → Option Nat} {r s : Bytes × List Unwritten} {F G : Option Bytes}
    (h1 : Patched base lp wp r F) (hn : r.1.length = n) (h2 : Patched base lp (wp + n) s G) :
    Patched base lp wp (r.1 ++ s.1, r.2 ++ s.2) (finSeq F G) := by
  intro X Y hx
  rw [resolveAt_append, ← List.append_assoc X, List.append_assoc _ s.1 Y, h1 X _ hx]
  cases F with
  | none => rfl
  | some a =>
    -- patching keeps the length, so the second step still starts at `wp + n`
    have hl := h1.length (by omega)
    rw [Option.map_some, Option.bind_some, ← List.append_assoc, h2 (X ++ a) Y (by rw [List.length_append]; omega)]
    cases G with
    | none => rfl
    | some b => simp only [finSeq, Option.bind_some, Option.map_some, List.append_assoc]

theorem Patched.fin {p : Nat} {lp : Nat → Option Nat} {r : Bytes × List Unwritten} {F : Option Bytes} {fin : Bytes}
    (h : Patched p lp p r F) (hres : resolveAt p lp r.2 r.1 = some fin) : F = some fin := by
  have := h [] [] (Nat.zero_add p)
  rw [List.nil_append, List.append_nil, hres] at this
  cases F with
  | none => cases this
  | some b => simpa using this.symm

/-- an unwritten label pushed while instruction `k` is emitted: it names `k`, it is narrow only when `k` is not marked
wide, the opcode its offset is computed from lies in front of the space reserved for the offset, and that space ends
at `hi` or before -/
structure Unwritten.Ok (k : Nat) (isWide : Bool) (hi : Nat) (u : Unwritten) : Prop where
  idx : u.insnIdx = k
  narrow : u.wide = false → isWide = false
  op : u.opcodePos < u.writePos
  hi : u.writePos + u.width ≤ hi

theorem Unwritten.Ok.mono {k : Nat} {b : Bool} {hi hi' : Nat} {u : Unwritten} (h : u.Ok k b hi) (h2 : hi ≤ hi') :
    u.Ok k b hi' :=
  ⟨h.idx, h.narrow, h.op, Nat.le_trans h.hi h2⟩

theorem swLabel_len (lbl : Nat → Option Nat) (p k wp t : Nat) : (swLabel lbl p k wp t).1.length = 4 := by
  unfold swLabel; cases lbl t <;> rfl

theorem swLabel_ok (lbl : Nat → Option Nat) (p k wp t : Nat) (b : Bool) (hp : p < wp) :
    ∀ u ∈ (swLabel lbl p k wp t).2, u.Ok k b (wp + 4) := by
  unfold swLabel
  cases lbl t with
  | some tp => nofun
  | none =>
    intro u hu
    cases List.mem_singleton.mp hu
    exact ⟨rfl, nofun, hp, Nat.le_refl _⟩

theorem swTable_emits (lbl : Nat → Option Nat) (p k : Nat) (b : Bool) (ts : List Nat) :
    ∀ wp, p < wp → (swTable lbl p k wp ts).1.length = 4 * ts.length ∧
      ∀ u ∈ (swTable lbl p k wp ts).2, u.Ok k b (wp + 4 * ts.length) := by
  induction ts with
  | nil => intro wp _; exact ⟨rfl, nofun⟩
  | cons t ts ih =>
    intro wp hp
    simp only [swTable, List.length_append, swLabel_len, (ih _ (Nat.lt_add_right 4 hp)).1, List.length_cons]
    refine ⟨by omega, fun u hu => ?_⟩
    rcases List.mem_append.mp hu with h | h
    · exact (swLabel_ok lbl p k wp t b hp u h).mono (by omega)
    · exact ((ih (wp + 4) (Nat.lt_add_right 4 hp)).2 u h).mono (by omega)

theorem swPairs_emits (lbl : Nat → Option Nat) (p k : Nat) (b : Bool) (ps : List (Int × Nat)) :
    ∀ wp, p < wp → (swPairs lbl p k wp ps).1.length = 8 * ps.length ∧
      ∀ u ∈ (swPairs lbl p k wp ps).2, u.Ok k b (wp + 8 * ps.length) := by
  induction ps with
  | nil => intro wp _; exact ⟨rfl, nofun⟩
  | cons t ts ih =>
    intro wp hp
    simp only [swPairs, List.length_append, swLabel_len, i32b_length, (ih _ (Nat.lt_add_right 8 hp)).1, List.length_cons]
    refine ⟨by omega, fun u hu => ?_⟩
    rcases List.mem_append.mp hu with h | h
    · exact (swLabel_ok lbl p k (wp + 4) t.2 b (Nat.lt_add_right 4 hp) u h).mono (by omega)
    · exact ((ih (wp + 8) (Nat.lt_add_right 8 hp)).2 u h).mono (by omega)

theorem encTableSwitch_ok {lbl : Nat → Option Nat} {p k d : Nat} {lo hi : Int} {tb : List Nat}
    {r : Bytes × List Unwritten} (h : encTableSwitch lbl p k d lo hi tb = .ok r) :
    lo ≤ hi ∧ (tb.length : Int) = hi - lo + 1 ∧
      r = (0xaa :: List.replicate (padLen p) 0 ++ (swLabel lbl p k (p + 1 + padLen p) d).1 ++ i32b lo ++ i32b hi ++
            (swTable lbl p k (p + 1 + padLen p + 12) tb).1,
          (swLabel lbl p k (p + 1 + padLen p) d).2 ++ (swTable lbl p k (p + 1 + padLen p + 12) tb).2) := by
  revert h
  fun_cases encTableSwitch lbl p k d lo hi tb <;> intro h <;> cases h
  exact ⟨by omega, by omega, rfl⟩

theorem encLookupSwitch_ok {lbl : Nat → Option Nat} {p k d : Nat} {ps : List (Int × Nat)}
    {r : Bytes × List Unwritten} (h : encLookupSwitch lbl p k d ps = .ok r) :
    r = (0xab :: List.replicate (padLen p) 0 ++ (swLabel lbl p k (p + 1 + padLen p) d).1 ++ i32b ps.length ++
          (swPairs lbl p k (p + 1 + padLen p + 8) ps).1,
        (swLabel lbl p k (p + 1 + padLen p) d).2 ++ (swPairs lbl p k (p + 1 + padLen p + 8) ps).2) := by
  revert h
  fun_cases encLookupSwitch lbl p k d ps <;> intro h <;> cases h
  rfl

theorem padLen_le (p : Nat) : padLen p ≤ 3 := by unfold padLen; omega

/-- the longest encoding the writer may choose for an instruction; for the switches: opcode, up to 3 bytes of padding,
then 12 bytes (default, low, high) and 4 per arm, resp. 8 bytes (default, count) and 8 per pair -/
def maxLen : Insn → Nat
  | .simple _ => 1
  | .bipush _ => 2
  | .sipush _ => 3
  | .ldc _ _ => 3
  | .load _ _ => 4
  | .store _ _ => 4
  | .iinc _ _ => 6
  | .ret _ => 4
  | .ifc _ _ => 8
  | .goto _ => 5
  | .jsr _ => 5
  | .tableswitch _ _ _ tb => 16 + 4 * tb.length
  | .lookupswitch _ ps => 12 + 8 * ps.length
  | .cp _ _ => 3
  | .invokeinterface _ _ => 5
  | .newarray _ => 2
  | .multianewarray _ _ => 4
  | .invokedynamic _ => 5

def maxSize (is : List Insn) : Nat := (is.map maxLen).sum

/-- bounds on the length of a byte list of known shape, by evaluation -/
theorem len_bounds {bs : Bytes} {n : Nat} (h1 : Nat.ble 1 bs.length = true) (h2 : Nat.ble bs.length n = true) :
    1 ≤ bs.length ∧ bs.length ≤ n := ⟨Nat.le_of_ble_eq_true h1, Nat.le_of_ble_eq_true h2⟩

theorem encLdc_len (idx : Nat) (two : Bool) : 1 ≤ (encLdc idx two).length ∧ (encLdc idx two).length ≤ 3 := by
  unfold encLdc; split
  · exact len_bounds rfl rfl
  · split <;> exact len_bounds rfl rfl

theorem encLocal_len (base base0 kind idx : Nat) :
    1 ≤ (encLocal base base0 kind idx).length ∧ (encLocal base base0 kind idx).length ≤ 4 := by
  unfold encLocal; split
  · exact len_bounds rfl rfl
  · split <;> exact len_bounds rfl rfl

theorem encIinc_len (idx : Nat) (v : Int) : 1 ≤ (encIinc idx v).length ∧ (encIinc idx v).length ≤ 6 := by
  unfold encIinc; split <;> exact len_bounds rfl rfl

theorem encRet_len (idx : Nat) : 1 ≤ (encRet idx).length ∧ (encRet idx).length ≤ 4 := by
  unfold encRet; split <;> exact len_bounds rfl rfl

/-- the three facts of `encInsn_emits` from the length `m` of the bytes, for bytes whose length needs computing -/
theorem emits_of_len {k p n m : Nat} {isWide : Bool} {bs : Bytes} {us : List Unwritten} (hl : bs.length = m)
    (h1 : 1 ≤ m) (h2 : m ≤ n) (hu : ∀ u ∈ us, u.Ok k isWide (p + m)) :
    1 ≤ bs.length ∧ bs.length ≤ n ∧ ∀ u ∈ us, u.Ok k isWide (p + bs.length) := by
  subst hl; exact ⟨h1, h2, hu⟩

theorem emits_none {k p n : Nat} {isWide : Bool} {bs : Bytes} (hl : 1 ≤ bs.length ∧ bs.length ≤ n) :
    1 ≤ bs.length ∧ bs.length ≤ n ∧ ∀ v ∈ ([] : List Unwritten), v.Ok k isWide (p + bs.length) :=
  ⟨hl.1, hl.2, nofun⟩

theorem emits_one {k p n : Nat} {isWide : Bool} {bs : Bytes} {u : Unwritten} (hl : 1 ≤ bs.length ∧ bs.length ≤ n)
    (hu : u.Ok k isWide (p + bs.length)) :
    1 ≤ bs.length ∧ bs.length ≤ n ∧ ∀ v ∈ [u], v.Ok k isWide (p + bs.length) :=
  ⟨hl.1, hl.2, fun v hv => by cases List.mem_singleton.mp hv; exact hu⟩

theorem encGoto_emits {op wop : Nat} {isWide : Bool} {lbl : Nat → Option Nat} {p k t : Nat}
    {r : Bytes × List Unwritten} (h : encGoto op wop isWide lbl p k t = .ok r) :
    1 ≤ r.1.length ∧ r.1.length ≤ 5 ∧ ∀ u ∈ r.2, u.Ok k isWide (p + r.1.length) := by
  unfold encGoto at h
  split at h
  · split at h <;> (cases h; exact emits_none (len_bounds rfl rfl))
  · split at h
    · cases h
      exact emits_one (len_bounds rfl rfl)
        ⟨rfl, nofun, Nat.lt_succ_self _, by simp [Unwritten.width_wide, i32b_length]⟩
    · rename_i hw
      cases h
      exact emits_one (len_bounds rfl rfl)
        ⟨rfl, fun _ => by simpa using hw, Nat.lt_succ_self _, by simp [Unwritten.width_narrow, i16b_length]⟩

theorem encInsn_emits {isWide : Bool} {lbl : Nat → Option Nat} {p k : Nat} {i : Insn} {r : Bytes × List Unwritten}
    (h : encInsn isWide lbl p k i = .ok r) :
    1 ≤ r.1.length ∧ r.1.length ≤ maxLen i ∧ ∀ u ∈ r.2, u.Ok k isWide (p + r.1.length) := by
  cases i with
  | ifc c t =>
    simp only [encInsn, encIf] at h
    split at h
    · split at h
      · cases h; exact emits_none (len_bounds rfl rfl)
      · split at h
        · cases h
        · cases h; exact emits_none (len_bounds rfl rfl)
    · split at h
      · split at h
        · cases h
        · cases h
          exact emits_one (len_bounds rfl rfl)
            ⟨rfl, nofun, Nat.lt_succ_self _, by simp [Unwritten.width_wide, i16b_length, i32b_length]⟩
      · rename_i hw
        cases h
        exact emits_one (len_bounds rfl rfl)
          ⟨rfl, fun _ => by simpa using hw, Nat.lt_succ_self _, by simp [Unwritten.width_narrow, i16b_length]⟩
  | goto t => exact encGoto_emits h
  | jsr t => exact encGoto_emits h
  | tableswitch d lo hi tb =>
    obtain ⟨-, -, rfl⟩ := encTableSwitch_ok h
    have hp := padLen_le p
    -- 13 = opcode + default, low, high
    refine emits_of_len (m := padLen p + 4 * tb.length + 13) ?_ (by omega) (by simp only [maxLen]; omega) ?_
    · simp only [List.length_append, List.length_cons, List.length_replicate, swLabel_len,
        (swTable_emits lbl p k isWide tb (p + 1 + padLen p + 12) (by omega)).1, i32b_length]
      omega
    · intro u hu
      rcases List.mem_append.mp hu with hu | hu
      · exact (swLabel_ok lbl p k _ d isWide (by omega) u hu).mono (by omega)
      · exact ((swTable_emits lbl p k isWide tb _ (by omega)).2 u hu).mono (by omega)
  | lookupswitch d ps =>
    cases encLookupSwitch_ok h
    have hp := padLen_le p
    -- 9 = opcode + default, count
    refine emits_of_len (m := padLen p + 8 * ps.length + 9) ?_ (by omega) (by simp only [maxLen]; omega) ?_
    · simp only [List.length_append, List.length_cons, List.length_replicate, swLabel_len,
        (swPairs_emits lbl p k isWide ps (p + 1 + padLen p + 8) (by omega)).1, i32b_length]
      omega
    · intro u hu
      rcases List.mem_append.mp hu with hu | hu
      · exact (swLabel_ok lbl p k _ d isWide (by omega) u hu).mono (by omega)
      · exact ((swPairs_emits lbl p k isWide ps _ (by omega)).2 u hu).mono (by omega)
  | invokeinterface idx desc =>
    simp only [encInsn] at h
    split at h
    · cases h
    · cases h; exact emits_none (len_bounds rfl rfl)
  | ldc idx two => cases h; exact emits_none (encLdc_len idx two)
  | load kind idx => cases h; exact emits_none (encLocal_len ..)
  | store kind idx => cases h; exact emits_none (encLocal_len ..)
  | iinc idx v => cases h; exact emits_none (encIinc_len idx v)
  | ret idx => cases h; exact emits_none (encRet_len idx)
  | _ => cases h; exact emits_none (len_bounds rfl rfl)

theorem encInsn_len {isWide : Bool} {lbl : Nat → Option Nat} {p k : Nat} {i : Insn} {r : Bytes × List Unwritten}
    (h : encInsn isWide lbl p k i = .ok r) : r.1.length ≤ maxLen i := (encInsn_emits h).2.1

end CodeWrite
