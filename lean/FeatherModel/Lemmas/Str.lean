import FeatherModel.Model.Descriptor

/-!
# `str::split` on code points
`Descriptor.splitOn` on strings without the separator and on concatenations. Four more models write a `split` out:
`Tiny.splitOn` and `Maven.splitOn` are `Descriptor.splitOn` by an equation next to their users (`Tiny.splitOn_eq`,
`Maven.splitOn_eq`), `TinyDiff.splitOn` is `Tiny.splitOn` (`TinyDiff.splitOn_eq`), `Nest.splitOn` has no lemma and no
equation, and `Enigma.splitOn` splits at a predicate and has its own lemmas in `Lemmas/EnigmaLex.lean`. The master is this
copy because `Model/Descriptor.lean` imports nothing of the mapping models.

Likewise the split at the first `;`: the facts are about `Descriptor.readName`, `Spec.Desc.splitSemi` is `readName` by an
equation next to its user (`Spec.Desc.splitSemi_eq`), `Bridge.readName` has no lemma and no equation.
-/

namespace Descriptor

theorem splitOn_ne_nil (c : Nat) (s : JStr) : splitOn c s ≠ [] := by
  induction s with
  | nil => simp [splitOn]
  | cons x xs ih =>
    simp only [splitOn]
    split
    · simp
    · split <;> simp

theorem splitOn_no_sep {c : Nat} {s : JStr} (h : c ∉ s) : splitOn c s = [s] := by
  induction s with
  | nil => simp [splitOn]
  | cons x xs ih =>
    simp only [List.mem_cons, not_or] at h
    simp only [splitOn]
    rw [if_neg (fun e => h.1 e.symm), ih h.2]

theorem splitOn_append {c : Nat} {i : JStr} (rest : JStr) (h : c ∉ i) :
    splitOn c (i ++ c :: rest) = i :: splitOn c rest := by
  induction i with
  | nil => simp [splitOn]
  | cons x xs ih =>
    simp only [List.mem_cons, not_or] at h
    simp only [List.cons_append, splitOn]
    rw [if_neg (fun e => h.1 e.symm), ih h.2]

theorem readName_append (n r : JStr) (h : SEMI ∉ n) : readName (n ++ SEMI :: r) = some (n, r) := by
  induction n with
  | nil => simp [readName]
  | cons c n ih =>
    rw [List.mem_cons, not_or] at h
    simp only [List.cons_append, readName, if_neg (Ne.symm h.1), ih h.2]

theorem readName_some (s n r : JStr) (h : readName s = some (n, r)) : s = n ++ SEMI :: r ∧ SEMI ∉ n := by
  fun_induction readName s generalizing n r
  case case2 =>   -- `;` ends the name
    cases h
    exact ⟨rfl, List.not_mem_nil⟩
  case case3 c _ hc _ _ hr ih =>   -- a character of the name
    cases h
    obtain ⟨h1, h2⟩ := ih _ _ hr
    exact ⟨congrArg (c :: ·) h1, by simp [Ne.symm hc, h2]⟩
  all_goals cases h

end Descriptor
