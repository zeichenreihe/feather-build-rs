import FeatherModel.Lemmas.ClassReadCodeFinal
import FeatherModel.Lemmas.ClassReadPoolRead

/-! Attribute framing (skipping members, the generic attribute loop), then `read_field`, the attributes of
a method, `read_record_component` and `read_module` on their encodings.  The reader delivers label ids inside `Code`; `MRel`
relates its output to the label-free description. -/

namespace ClassRead
open Outcome Spec

/-- an attribute whose name index and length fit their fields -/
def FrameOk (a : Nat × Bytes) : Prop := a.1 < 65536 ∧ a.2.length < 4294967296

theorem skipAttributesLoop_enc (as : List (Nat × Bytes)) (h : ∀ a ∈ as, FrameOk a) (r : Bytes) :
    skipAttributesLoop as.length (as.flatMap (fun a => attrFrame a.1 a.2) ++ r) = ok ((), r) := by
  induction as with
  | nil => simp [skipAttributesLoop]
  | cons a as ih =>
    obtain ⟨h1, h2⟩ := h a (by simp)
    simp only [List.length_cons, skipAttributesLoop, List.flatMap_cons, attrFrame, List.append_assoc, u16_be16 _ h1,
      u32_be32 _ h2, ok_bind, skipN, List.drop_left']
    simpa [attrFrame] using ih (fun b hb => h b (by simp [hb]))

theorem skipAttributes_enc (as : List (Nat × Bytes)) (hn : as.length < 65536) (h : ∀ a ∈ as, FrameOk a) (r : Bytes) :
    skipAttributes (encAttrs as ++ r) = ok ((), r) := by
  simp only [skipAttributes, encAttrs, List.append_assoc, u16_be16 _ hn, ok_bind, skipAttributesLoop_enc as h r]

/-- members are `u16 u16 u16 attributes` -/
theorem skipMembersLoop_enc {α : Type} (enc : α → Bytes) (attrsOf : α → List (Nat × Bytes)) (hd : α → Bytes) (xs : List α)
    (henc : ∀ x ∈ xs, enc x = hd x ++ encAttrs (attrsOf x) ∧ (hd x).length = 6 ∧ (attrsOf x).length < 65536 ∧ ∀ a ∈ attrsOf x, FrameOk a)
    (r : Bytes) : skipMembersLoop xs.length (xs.flatMap enc ++ r) = ok ((), r) := by
  induction xs with
  | nil => simp [skipMembersLoop]
  | cons x xs ih =>
    obtain ⟨h1, h2, h3, h4⟩ := henc x (by simp)
    simp only [List.length_cons, skipMembersLoop, List.flatMap_cons, h1, List.append_assoc, skipN, ok_bind]
    rw [← h2, List.drop_left']
    · simp only [skipAttributes_enc _ h3 h4, ok_bind]
      exact ih (fun y hy => henc y (by simp [hy]))
    · rfl

theorem skipMembers_enc {α : Type} (enc : α → Bytes) (attrsOf : α → List (Nat × Bytes)) (hd : α → Bytes) (xs : List α)
    (hn : xs.length < 65536)
    (henc : ∀ x ∈ xs, enc x = hd x ++ encAttrs (attrsOf x) ∧ (hd x).length = 6 ∧ (attrsOf x).length < 65536 ∧ ∀ a ∈ attrsOf x, FrameOk a)
    (r : Bytes) : skipMembers (be16 xs.length ++ xs.flatMap enc ++ r) = ok ((), r) := by
  simp only [skipMembers, List.append_assoc, u16_be16 _ hn, ok_bind, skipMembersLoop_enc enc attrsOf hd xs henc r]

theorem ite_isNone_eq_some {α β : Type} {o : Option α} {x y : β} (h : (if o.isNone then some x else none) = some y) :
    o = none ∧ x = y := by
  cases o with
  | none => exact ⟨rfl, Option.some.inj h⟩
  | some _ => exact absurd h (by simp)

theorem readUnknown_enc (name : JStr) (b r : Bytes) : readUnknown name b.length (b ++ r) = ok (⟨name, b⟩, r) :=
  bind_ok (takeN_append b r) rfl

theorem u16_get_enc {α : Type} (get : Nat → Outcome α) (cp : Nat) (v : α) (r : Bytes) (hcp : cp < 65536) (hget : get cp = ok v) :
    (do let (i, s) ← u16 (be16 cp ++ r); let c ← get i; pure (c, s)) = ok (v, r) :=
  bind_ok (u16_be16 cp hcp r) (bind_ok hget rfl)

/-- `read_vec(u16, |r| pool.get_class(r.read_u16()?))` on a list of indices -/
theorem readClassRefs_enc (p : Pool) (cps : List Nat) (names : List JStr) (h : classRefsLegal p cps names) (r : Bytes) :
    readVec16 (readClassRef p) (be16 cps.length ++ cps.flatMap be16 ++ r) = ok (names, r) := by
  obtain ⟨hn, hlen, hall⟩ := h
  have := readVec16_flatMap (readClassRef p) (fun (x : Nat × JStr) => be16 x.1) (·.2) (cps.zip names)
    (by rw [List.length_zip, ← hlen, Nat.min_self]; exact hn)
    (fun x hx r => u16_get_enc p.getClass x.1 x.2 r (hall x hx).1 (hall x hx).2) r
  rwa [List.length_zip, ← hlen, Nat.min_self, ← List.flatMap_map (f := Prod.fst) (g := be16), List.map_fst_zip (by omega),
    List.map_snd_zip (by omega)] at this

theorem classRefs_length_lt {p : Pool} {cps : List Nat} {names : List JStr} (h : classRefsLegal p cps names) :
    (be16 cps.length ++ cps.flatMap be16).length < 4294967296 :=
  length_counted_lt be16 2 _ cps (Nat.le_refl 2) h.1 (by decide) (fun _ _ => rfl)

/-- The attribute loop of an owner (`loop` iterates `one`) on the framed attributes `as`: if every attribute moves related
states (`R`: reader state, description so far) to related states, so does the loop, following `applyAll step`. -/
theorem attrLoopRel_enc {σ τ α : Type} (loop : Nat → σ → Bytes → Outcome (σ × Bytes)) (one : σ → Bytes → Outcome (σ × Bytes))
    (hloop0 : ∀ st s, loop 0 st s = ok (st, s))
    (hloopS : ∀ n st s, loop (n + 1) st s = (do let (st, s) ← one st s; loop n st s))
    (raw : α → Nat × Bytes) (step : τ → α → Option τ) (R : σ → τ → Prop) (as : List α)
    (hone : ∀ a ∈ as, ∀ sr st st' r, R sr st → step st a = some st' →
      ∃ sr', one sr (attrFrame (raw a).1 (raw a).2 ++ r) = ok (sr', r) ∧ R sr' st')
    (sr : σ) (st st' : τ) (hR : R sr st) (hst : applyAll step st as = some st') (r : Bytes) :
    ∃ sr', loop as.length sr ((as.map raw).flatMap (fun a => attrFrame a.1 a.2) ++ r) = ok (sr', r) ∧ R sr' st' := by
  induction as generalizing sr st with
  | nil => simp only [applyAll, Option.some.injEq] at hst; subst hst; exact ⟨sr, by simp [hloop0], hR⟩
  | cons a as ih =>
    simp only [applyAll] at hst
    cases hs : step st a with
    | none => simp [hs] at hst
    | some st1 =>
      simp only [hs] at hst
      obtain ⟨sr1, h1, hR1⟩ := hone a (by simp) sr st st1 ((as.map raw).flatMap (fun a => attrFrame a.1 a.2) ++ r) hR hs
      obtain ⟨sr2, h2, hR2⟩ := ih (fun b hb => hone b (by simp [hb])) sr1 st1 hR1 hst
      refine ⟨sr2, ?_, hR2⟩
      simp only [List.length_cons, hloopS, List.map_cons, List.flatMap_cons, List.append_assoc, h1, ok_bind, h2]

theorem mapOpt_eq {α β : Type} (f : α → Option β) (l : List α) : mapOpt f l = l.mapM f := by
  induction l with
  | nil => rfl
  | cons a l ih =>
    rw [mapOpt, List.mapM_option_cons, ih]
    cases f a <;> cases l.mapM f <;> rfl

/-- elements whose facts exist (`mapOpt f xs = some ys`) are read back as values that `g` maps to those facts -/
theorem readVec_mapOpt {α β γ : Type} (elem : Rd γ) (enc : α → Bytes) (f : α → Option β) (g : γ → Option β) (xs : List α)
    (ys : List β) (h : mapOpt f xs = some ys)
    (helem : ∀ x ∈ xs, ∀ y, f x = some y → ∀ r, ∃ c, elem (enc x ++ r) = ok (c, r) ∧ g c = some y) (r : Bytes) :
    ∃ cs, readVec elem xs.length (xs.flatMap enc ++ r) = ok (cs, r) ∧ mapM' g cs = some ys := by
  rw [mapOpt_eq, List.mapM_eq_some_iff] at h
  simp only [mapM'_eq, List.mapM_eq_some_iff]
  induction xs generalizing ys with
  | nil => cases List.map_eq_nil_iff.mp h.symm; exact ⟨[], rfl, rfl⟩
  | cons x xs ih =>
    obtain ⟨y, ys', rfl, hy, hys⟩ := List.map_eq_cons_iff.mp h.symm
    obtain ⟨c, hc, hg⟩ := helem x (.head _) y hy.symm (xs.flatMap enc ++ r)
    obtain ⟨cs, hcs, hgs⟩ := ih ys' hys.symm (fun z hz => helem z (.tail _ hz))
    refine ⟨c :: cs, ?_, by rw [List.map_cons, List.map_cons, hg, hgs]⟩
    simp only [List.length_cons, List.flatMap_cons, List.append_assoc]
    exact bind_ok hc (bind_ok hcs rfl)

/-- the same when the values read are the facts themselves -/
theorem readVec_mapOpt_eq {α β : Type} (elem : Rd β) (enc : α → Bytes) (f : α → Option β) (xs : List α) (ys : List β)
    (h : mapOpt f xs = some ys) (helem : ∀ x ∈ xs, ∀ y, f x = some y → ∀ r, elem (enc x ++ r) = ok (y, r)) (r : Bytes) :
    readVec elem xs.length (xs.flatMap enc ++ r) = ok (ys, r) := by
  obtain ⟨cs, hcs, hg⟩ := readVec_mapOpt elem enc f some xs ys h (fun x hx y hy r => ⟨y, helem x hx y hy r, rfl⟩) r
  rw [mapM'_some] at hg; cases hg; exact hcs

theorem insertIfEmpty_none {α : Type} (a : α) : insertIfEmpty (none : Option α) a = ok (some a) := insertIfEmpty_of_none rfl a

theorem readFieldAttr_enc (p : Pool) (a : SFieldAttr) (ha : a.Legal p) (f f' : FieldFacts) (h : a.apply f = some f') (r : Bytes) :
    readFieldAttr p f (attrFrame a.raw.1 a.raw.2 ++ r) = ok (f', r) := by
  cases a with
  | deprecated nc | synthetic nc => cases h; exact attrHeader_bind ha.1 ha.2 (by decide : 0 < 4294967296) rfl
  | constantValue nc cp v =>
    obtain ⟨h1, h2, h3, h4⟩ := ha
    obtain ⟨hc, rfl⟩ := ite_isNone_eq_some h
    exact attrHeader_bind h1 h2 (by decide : 2 < 4294967296)
      (bind_ok (u16_be16 cp h3 r) (bind_ok h4 (bind_ok (insertIfEmpty_of_none hc v) rfl)))
  | signature nc cp sig =>
    obtain ⟨h1, h2, h3, h4⟩ := ha
    obtain ⟨hc, rfl⟩ := ite_isNone_eq_some h
    exact attrHeader_bind h1 h2 (by decide : 2 < 4294967296)
      (bind_ok (u16_get_enc p.getUtf8 cp sig r h3 h4) (bind_ok (insertIfEmpty_of_none hc sig) rfl))
  | annotations nc visible as =>
    obtain ⟨h1, h2, h3, h4, h5⟩ := ha
    cases visible <;> cases h <;> exact attrHeader_bind h1 h2 h5 (bind_ok (readAnnotations_enc p as h3 h4 r) rfl)
  | typeAnnotations nc visible as =>
    obtain ⟨h1, h2, h3, h4, h5⟩ := ha
    cases visible <;> cases h <;> exact attrHeader_bind h1 h2 h5 (bind_ok (readTypeAnnos_enc p .field as h3 h4 r) rfl)
  | unknown nc name b =>
    obtain ⟨h1, h2, hnot, hlen⟩ := ha
    cases h
    refine attrHeader_bind h1 h2 hlen ?_
    simp only [fieldAttrNames, List.mem_cons, List.not_mem_nil, or_false, not_or] at hnot
    simp only [hnot, ↓reduceIte]
    exact bind_ok (readUnknown_enc name b r) rfl

theorem fieldFrameOk (p : Pool) (a : SFieldAttr) (ha : a.Legal p) : FrameOk a.raw := by
  cases a with
  | annotations | typeAnnotations => exact ⟨ha.1, ha.2.2.2.2⟩
  | unknown => exact ⟨ha.1, ha.2.2.2⟩
  | _ => exact ⟨ha.1, by simp [SFieldAttr.raw, be16_length]⟩

theorem readField_enc (p : Pool) (f : FieldLayout) (hf : f.Legal p) (ff : FieldFacts) (hfacts : f.facts = some ff) (r : Bytes) :
    readField p (f.encode ++ r) = ok (ff, r) := by
  obtain ⟨h1, h2, h3, h4, h5, h6, h7, h8⟩ := hf
  obtain ⟨_, hloop, rfl⟩ := attrLoopRel_enc (readFieldAttrs p) (readFieldAttr p) (fun _ _ => rfl) (fun _ _ _ => rfl) SFieldAttr.raw
    SFieldAttr.apply Eq f.attrs (fun a ha _ st st' r hR hs => hR ▸ ⟨st', readFieldAttr_enc p a (h8 a ha) st st' hs r, rfl⟩)
    _ _ ff rfl hfacts r
  simp only [FieldLayout.encode, encAttrs, List.append_assoc]
  exact bind_ok (u16_be16 _ h1 _) (bind_ok (u16_be16 _ h2 _) (bind_ok h4 (bind_ok (if_pos h5) (bind_ok (u16_get_enc p.getUtf8 _ _ _ h3 h6)
    (bind_ok (u16_be16 _ (by rw [List.length_map]; exact h7) _) (by rw [List.length_map]; exact hloop))))))

/-- the reader's method description `mr` is the label-free description `mf` up to label resolution inside `Code` -/
def MRel (mr mf : MethodFacts) : Prop :=
  mr = { mf with code := mr.code } ∧
    ((mr.code = none ∧ mf.code = none) ∨ ∃ cr cf, mr.code = some cr ∧ mf.code = some cf ∧ cr.resolve = some cf)

theorem MRel.resolve {mr mf : MethodFacts} (h : MRel mr mf) : mr.resolve = some mf := by
  obtain ⟨h1, h2⟩ := h
  rcases h2 with ⟨a, b⟩ | ⟨cr, cf, a, b, c⟩
  · have e : mr = mf := by
      rw [h1, a]; cases mf; simp only [] at b; subst b; rfl
    unfold MethodFacts.resolve; rw [a]; simp only [e]
  · have e : ({ mr with code := some cf } : MethodFacts) = mf := by
      rw [h1]; cases mf; simp only [] at b; subst b; rfl
    unfold MethodFacts.resolve; rw [a]
    simp only [c, Option.bind_eq_bind, Option.bind_some, Option.pure_def, e]

theorem methodFrameOk (p : Pool) (bsms : Option (List Bsm)) (a : SMethodAttr) (ha : a.Legal p bsms) : FrameOk a.raw := by
  cases a with
  | deprecated nc | synthetic nc => exact ⟨ha.1, (by decide : 0 < 4294967296)⟩
  | signature nc cp sig => exact ⟨ha.1, (by decide : 2 < 4294967296)⟩
  | exceptions nc cps names => exact ⟨ha.1, classRefs_length_lt ha.2.2⟩
  | code nc c | unknown nc name b | annotationDefault nc e => exact ⟨ha.1, ha.2.2.2⟩
  | annotations nc visible as | typeAnnotations nc visible as => exact ⟨ha.1, ha.2.2.2.2⟩
  | methodParameters nc ps =>
    exact ⟨ha.1, length_counted_lt (fun q : Nat × Option JStr × Nat => be16 q.1 ++ be16 q.2.2) 4 (be8 ps.length) ps (Nat.le_succ 1)
      (Nat.lt_trans ha.2.2.1 (by decide)) (by decide) (fun _ _ => rfl)⟩

theorem readMethodAttr_enc (p : Pool) (bsms : Option (List Bsm)) (a : SMethodAttr) (ha : a.Legal p bsms)
    (mr m m' : MethodFacts) (r : Bytes) (hR : MRel mr m) (h : a.apply m = some m') :
    ∃ mr', readMethodAttr p bsms mr (attrFrame a.raw.1 a.raw.2 ++ r) = ok (mr', r) ∧ MRel mr' m' := by
  obtain ⟨hr1, hr2⟩ := hR
  -- `hr1` says `mr` is `m` except for its code: name the code and replace `mr` by that record
  generalize mr.code = cr at hr1 hr2
  subst hr1
  obtain ⟨hnc, hlen⟩ := methodFrameOk p bsms a ha
  cases a with
  | deprecated nc | synthetic nc => cases h; exact ⟨_, attrHeader_bind hnc ha.2 hlen rfl, rfl, hr2⟩
  | code nc c =>
    obtain ⟨_, h2, h3, _⟩ := ha
    obtain ⟨hc, rfl⟩ := ite_isNone_eq_some h
    have hcr : cr = none := by
      rcases hr2 with ⟨a, _⟩ | ⟨_, cf, _, b, _⟩
      · exact a
      · rw [hc] at b; cases b
    obtain ⟨raw, hread, hres⟩ := readCode_resolve p bsms c h3 r
    exact ⟨_, attrHeader_bind hnc h2 hlen (bind_ok hread (bind_ok (insertIfEmpty_of_none hcr raw) rfl)), rfl,
      .inr ⟨raw, c.facts, rfl, rfl, hres⟩⟩
  | exceptions nc cps names =>
    obtain ⟨_, h2, h3⟩ := ha
    obtain ⟨hc, rfl⟩ := ite_isNone_eq_some h
    exact ⟨_, attrHeader_bind hnc h2 hlen
      (bind_ok (readClassRefs_enc p cps names h3 r) (bind_ok (insertIfEmpty_of_none hc names) rfl)), rfl, hr2⟩
  | signature nc cp sig =>
    obtain ⟨_, h2, h3, h4⟩ := ha
    obtain ⟨hc, rfl⟩ := ite_isNone_eq_some h
    exact ⟨_, attrHeader_bind hnc h2 hlen
      (bind_ok (u16_get_enc p.getUtf8 cp sig r h3 h4) (bind_ok (insertIfEmpty_of_none hc sig) rfl)), rfl, hr2⟩
  | annotations nc visible as =>
    obtain ⟨_, h2, h3, h4, _⟩ := ha
    cases visible <;> cases h <;>
      exact ⟨_, attrHeader_bind hnc h2 hlen (bind_ok (readAnnotations_enc p as h3 h4 r) rfl), rfl, hr2⟩
  | typeAnnotations nc visible as =>
    obtain ⟨_, h2, h3, h4, _⟩ := ha
    cases visible <;> cases h <;>
      exact ⟨_, attrHeader_bind hnc h2 hlen (bind_ok (readTypeAnnos_enc p .method as h3 h4 r) rfl), rfl, hr2⟩
  | annotationDefault nc e =>
    obtain ⟨_, h2, h3, _⟩ := ha
    cases h
    exact ⟨_, attrHeader_bind hnc h2 hlen (bind_ok (readAnnotationDefault_enc p e h3 r) rfl), rfl, hr2⟩
  | methodParameters nc ps =>
    obtain ⟨_, h2, h3, h4⟩ := ha
    obtain ⟨hc, rfl⟩ := ite_isNone_eq_some h
    have hvec := readVec_flatMap (readMethodParam p) (fun q : Nat × Option JStr × Nat => be16 q.1 ++ be16 q.2.2)
      (fun q => (⟨q.2.1, q.2.2 &&& maskParam⟩ : MethodParam)) ps
      (fun q hq r => bind_ok (u16_be16 _ (h4 q hq).1 _) (bind_ok (h4 q hq).2.2 (bind_ok (u16_be16 _ (h4 q hq).2.1 r) rfl))) r
    exact ⟨_, attrHeader_bind hnc h2 hlen (bind_ok (u8_be8 ps.length (by omega) _)
      (bind_ok hvec (bind_ok (insertIfEmpty_of_none hc _) rfl))), rfl, hr2⟩
  | unknown nc name b =>
    obtain ⟨_, h2, hnot, _⟩ := ha
    cases h
    refine ⟨{ m with attrs := m.attrs ++ [⟨name, b⟩], code := cr }, attrHeader_bind hnc h2 hlen ?_, rfl, hr2⟩
    simp only [methodAttrNames, List.mem_cons, List.not_mem_nil, or_false, not_or] at hnot
    simp only [hnot, decide_false, Bool.or_self, Bool.false_eq_true, ↓reduceIte]
    exact bind_ok (readUnknown_enc name b r) rfl

theorem readRecordAttr_enc (p : Pool) (a : SRecordAttr) (ha : a.Legal p) (c c' : RecordComponent) (h : a.apply c = some c') (r : Bytes) :
    readRecordAttr p c (attrFrame a.raw.1 a.raw.2 ++ r) = ok (c', r) := by
  cases a with
  | signature nc cp sig =>
    obtain ⟨h1, h2, h3, h4⟩ := ha
    obtain ⟨hc, rfl⟩ := ite_isNone_eq_some h
    exact attrHeader_bind h1 h2 (by decide : 2 < 4294967296)
      (bind_ok (u16_get_enc p.getUtf8 cp sig r h3 h4) (bind_ok (insertIfEmpty_of_none hc sig) rfl))
  | annotations nc visible as =>
    obtain ⟨h1, h2, h3, h4, h5⟩ := ha
    cases visible <;> cases h <;> exact attrHeader_bind h1 h2 h5 (bind_ok (readAnnotations_enc p as h3 h4 r) rfl)
  | typeAnnotations nc visible as =>
    obtain ⟨h1, h2, h3, h4, h5⟩ := ha
    cases visible <;> cases h <;> exact attrHeader_bind h1 h2 h5 (bind_ok (readTypeAnnos_enc p .field as h3 h4 r) rfl)
  | unknown nc name b =>
    obtain ⟨h1, h2, hnot, hlen⟩ := ha
    cases h
    refine attrHeader_bind h1 h2 hlen ?_
    simp only [recordAttrNames, List.mem_cons, List.not_mem_nil, or_false, not_or] at hnot
    simp only [hnot, ↓reduceIte]
    exact bind_ok (readUnknown_enc name b r) rfl

theorem readRecordComponent_enc (p : Pool) (c : RecordLayout) (hc : c.Legal p) (cf : RecordComponent) (hfacts : c.facts = some cf)
    (r : Bytes) : readRecordComponent p (c.encode ++ r) = ok (cf, r) := by
  obtain ⟨h1, h2, h3, h4, h5, h6⟩ := hc
  obtain ⟨_, hloop, rfl⟩ := attrLoopRel_enc (readRecordAttrs p) (readRecordAttr p) (fun _ _ => rfl) (fun _ _ _ => rfl) SRecordAttr.raw
    SRecordAttr.apply Eq c.attrs (fun a ha _ st st' r hR hs => hR ▸ ⟨st', readRecordAttr_enc p a (h6 a ha) st st' hs r, rfl⟩)
    _ _ cf rfl hfacts r
  simp only [RecordLayout.encode, encAttrs, List.append_assoc]
  exact bind_ok (u16_get_enc p.getUtf8 _ _ _ h1 h3) (bind_ok (u16_get_enc p.getUtf8 _ _ _ h2 h4)
    (bind_ok (u16_be16 _ (by rw [List.length_map]; exact h5) _) (by rw [List.length_map]; exact hloop)))

/-- `read_vec(u16, |r| get(r.read_u16()?))` on `encRefs` -/
theorem readRefs_enc (get : Nat → Outcome JStr) (xs : List (Nat × JStr)) (h : refsLegal get xs) (r : Bytes) :
    readVec16 (fun s => do let (i, s) ← u16 s; let c ← get i; pure (c, s)) (encRefs xs ++ r) = ok (xs.map (·.2), r) :=
  readVec16_flatMap _ (fun x : Nat × JStr => be16 x.1) (·.2) xs h.1 (fun x hx r => u16_get_enc get x.1 x.2 r (h.2 x hx).1 (h.2 x hx).2) r

theorem readModule_enc (p : Pool) (m : SModule) (hm : m.Legal p) (r : Bytes) :
    readModule p (m.encode ++ r) = ok (m.fact, r) := by
  obtain ⟨h1, h2, h3, h4, h5, h6, h7, h8, h9, h10, h11, h12, h13, h14⟩ := hm
  have hexp : ∀ e : SExports, e.Legal p → ∀ r, (do
      let (n, s) ← readPackageRef p (e.encode ++ r)
      let (f, s) ← u16 s
      let (to, s) ← readVec16 (readModuleRef p) s
      pure ((⟨n, f &&& maskExports, to⟩ : ModuleExports), s)) = ok (⟨e.name, e.flags &&& maskExports, e.to.map (·.2)⟩, r) := by
    intro e ⟨q1, q2, q3, q4⟩ r
    simp only [SExports.encode, List.append_assoc]
    exact bind_ok (u16_get_enc p.getPackage e.cp e.name _ q1 q3) (bind_ok (u16_be16 _ q2 _) (bind_ok (readRefs_enc p.getModule e.to q4 r) rfl))
  simp only [SModule.encode, List.append_assoc]
  exact bind_ok (u16_get_enc p.getModule m.cp m.name _ h1 h4) (bind_ok (u16_be16 _ h2 _)
    (bind_ok (u16_get_enc (p.getOptional · Pool.getUtf8) m.vcp m.version _ h3 h5)
    (bind_ok (bind_ok (u16_be16 _ h6 _) (readVec_flatMap _ SRequires.encode
        (fun q => (⟨q.name, q.flags &&& maskRequires, q.version⟩ : ModuleRequires)) m.requires
      (fun q hq r => by
        obtain ⟨q1, q2, q3, q4, q5⟩ := h7 q hq
        simp only [SRequires.encode, List.append_assoc]
        exact bind_ok (u16_get_enc p.getModule q.cp q.name _ q1 q4) (bind_ok (u16_be16 _ q2 _)
          (bind_ok (u16_get_enc (p.getOptional · Pool.getUtf8) q.vcp q.version r q3 q5) rfl))) _))
    (bind_ok (bind_ok (u16_be16 _ h8 _) (readVec_flatMap _ SExports.encode _ m.exports (fun e he r => hexp e (h9 e he) r) _))
    (bind_ok (bind_ok (u16_be16 _ h10 _) (readVec_flatMap _ SExports.encode _ m.opens (fun e he r => hexp e (h11 e he) r) _))
    (bind_ok (readRefs_enc p.getClass m.uses h12 _)
    (bind_ok (bind_ok (u16_be16 _ h13 _) (readVec_flatMap _ SProvides.encode
        (fun e => (⟨e.name, e.with_.map (·.2)⟩ : ModuleProvides)) m.provides
      (fun e he r => by
        obtain ⟨q1, q2, q3⟩ := h14 e he
        simp only [SProvides.encode, List.append_assoc]
        exact bind_ok (u16_get_enc p.getClass e.cp e.name _ q1 q2) (bind_ok (readRefs_enc p.getClass e.with_ q3 r) rfl)) r))
    rfl)))))))

end ClassRead
