import FeatherModel.Lemmas.MergeJarClass

/-!
The entry table of `merge`: lookups in a jar, the `keys` map (`combine`), one row (`mergeEntry`: which names are dropped,
the value of each row, where it is `Ok`, that it cannot panic) and the result loop (`mergeEntries_eq_ok`: it is `Ok` iff
every row is, and then holds what the rows add; names and membership are read off that).
-/
namespace MergeJar
open Outcome

section Get
variable {T K : Type} [BEq K] [LawfulBEq K]

theorem get_none_iff (k : K) (m : List (K × T)) : get k m = none ↔ k ∉ m.map (·.1) := by
  rw [get_eq_lookup]
  exact AList.lookup_none_iff

theorem get_isNone (k : K) (m : List (K × T)) : (get k m).isNone = !(m.map (·.1)).contains k := by
  rw [Bool.eq_iff_iff, Option.isNone_iff_eq_none, get_none_iff]
  simp

theorem get_some_mem {k : JStr} {m : List (JStr × T)} {v : T} (h : get k m = some v) : (k, v) ∈ m :=
  AList.lookup_mem ((get_eq_lookup k m).symm.trans h)

theorem get_of_mem_nodup {k : K} {m : List (K × T)} {v : T} (hm : (k, v) ∈ m) (hnd : (m.map (·.1)).Nodup) :
    get k m = some v :=
  (get_eq_lookup k m).trans (AList.lookup_of_mem_nodup hnd hm)

end Get

theorem filter_map_fst {A B : Type} (l : List (A × B)) (p : A × B → Bool) (q : A → Bool)
    (h : ∀ e ∈ l, p e = q e.1) : (l.filter p).map (·.1) = (l.map (·.1)).filter q := by
  rw [List.filter_map]
  exact congrArg _ (List.filter_congr h)

theorem combine_names (client server : Jar) :
    (combine client server).map (·.1) = names client ++ (names server).filter (fun n => !(names client).contains n) := by
  simp only [combine, names, List.map_append, List.map_map]
  show client.map (·.1) ++ (server.filter fun e => (get e.1 client).isNone).map (·.1) = _
  rw [filter_map_fst server _ (fun n => !(client.map (·.1)).contains n) fun e _ => get_isNone e.1 client]

theorem combine_client_only {client server : Jar} {n : JStr} {e : Entry} (hm : (n, e) ∈ client)
    (hs : get n server = none) : (n, Comb.client e) ∈ combine client server :=
  List.mem_append_left _ (List.mem_map.mpr ⟨(n, e), hm, by simp only [hs]⟩)

theorem combine_both {client server : Jar} {n : JStr} {e es : Entry} (hm : (n, e) ∈ client)
    (hs : get n server = some es) : (n, Comb.both e es) ∈ combine client server :=
  List.mem_append_left _ (List.mem_map.mpr ⟨(n, e), hm, by simp only [hs]⟩)

theorem combine_server_only {client server : Jar} {n : JStr} {e : Entry} (hm : (n, e) ∈ server)
    (hc : get n client = none) : (n, Comb.server e) ∈ combine client server :=
  List.mem_append_right _ (List.mem_map.mpr ⟨(n, e), List.mem_filter.mpr ⟨hm, by simp only [hc]; rfl⟩, rfl⟩)

theorem combine_mem {client server : Jar} {n : JStr} {cmb : Comb} : (n, cmb) ∈ combine client server →
    match cmb with
    | Comb.client e => (n, e) ∈ client ∧ get n server = none
    | Comb.both e es => (n, e) ∈ client ∧ get n server = some es
    | Comb.server e => (n, e) ∈ server ∧ get n client = none := by
  intro h
  rcases List.mem_append.mp h with h | h
  · obtain ⟨⟨n', e⟩, he, heq⟩ := List.mem_map.mp h
    obtain ⟨rfl, rfl⟩ := Prod.mk.inj heq
    cases hg : get n' server <;> exact ⟨he, rfl⟩
  · obtain ⟨⟨n', e⟩, he, heq⟩ := List.mem_map.mp h
    obtain ⟨rfl, rfl⟩ := Prod.mk.inj heq
    obtain ⟨he, hnone⟩ := List.mem_filter.mp he
    exact ⟨he, Option.isNone_iff_eq_none.mp hnone⟩

def manifestAttr : Comb → Nat
  | Comb.client c => c.attr
  | Comb.server s => s.attr
  | Comb.both c _ => c.attr

theorem mergeEntry_manifest_row (cmb : Comb) :
    mergeEntry MANIFEST cmb = ok (some { attr := manifestAttr cmb, content := Content.other MANIFEST_BYTES }) := by
  unfold mergeEntry
  rw [if_pos (beq_self_eq_true _)]
  cases cmb <;> rfl

theorem mergeEntry_row {n : JStr} (cmb : Comb) (h1 : n ≠ MANIFEST) (h2 : isSig n = false) :
    mergeEntry n cmb = match cmb with
      | Comb.client c => ok (some (oneSided c Side.client))
      | Comb.server s => if isBundled n then ok none else ok (some (oneSided s Side.server))
      | Comb.both c s =>
        match c.content, s.content with
        | Content.dir, Content.dir => ok (some { attr := c.attr, content := Content.dir })
        | Content.cls rc cc, Content.cls _ cs =>
          mergeClassEntry rc cc cs >>= fun m => pure (some { attr := c.attr, content := m })
        | Content.other dc, Content.other _ => ok (some { attr := c.attr, content := Content.other dc })
        | _, _ => err := by
  unfold mergeEntry
  rw [if_neg (mt eq_of_beq h1), if_neg (ne_true_of_eq_false h2)]
  rfl

theorem MANIFEST_rules : isSig MANIFEST = false ∧ isBundled MANIFEST = false := by decide +kernel

theorem mergeEntry_kept {client server : Jar} {n : JStr} {cmb : Comb} {o : Option Entry}
    (hp : (n, cmb) ∈ combine client server) (h : mergeEntry n cmb = ok o) : o.isSome = kept client n := by
  unfold kept
  by_cases h1 : n = MANIFEST
  · rw [h1, mergeEntry_manifest_row] at h
    cases h
    rw [h1, MANIFEST_rules.1, MANIFEST_rules.2]
    rfl
  cases h2 : isSig n with
  | true =>
    unfold mergeEntry at h
    rw [if_neg (mt eq_of_beq h1), if_pos h2] at h
    cases h
    rfl
  | false =>
    rw [mergeEntry_row cmb h1 h2] at h
    have hm := combine_mem hp
    have hin (e : Entry) (he : (n, e) ∈ client) : (names client).contains n = true :=
      List.contains_iff_mem.mpr (List.mem_map.mpr ⟨(n, e), he, rfl⟩)
    cases cmb with
    | client c =>
      cases h
      rw [hin c hm.1, Bool.not_true, Bool.and_false]
      rfl
    | both c s =>
      -- the client has the name: bundled or not, the row adds an entry unless the kinds differ
      rw [hin c hm.1, Bool.not_true, Bool.and_false]
      simp only at h
      split at h
      · cases h; rfl
      · obtain ⟨m, _, h⟩ := bind_ok_iff.mp h
        cases h; rfl
      · cases h; rfl
      · cases h
    | server s =>
      have hout : (names client).contains n = false :=
        Bool.eq_false_iff.mpr fun hc => (get_none_iff n client).mp hm.2 (List.contains_iff_mem.mp hc)
      rw [hout, Bool.not_false, Bool.and_true]
      by_cases hb : isBundled n = true
      · simp only [hb, if_true] at h; cases h; rw [hb]; rfl
      · simp only [hb, Bool.false_eq_true, if_false] at h; cases h; rw [Bool.not_eq_true] at hb; rw [hb]; rfl

theorem mergeClassEntry_total {rc : ClsRepr} {cc cs : Class} (h : (cc == cs || mergeOk cc cs) = true) :
    ∃ m, mergeClassEntry rc cc cs = ok m := by
  unfold mergeClassEntry
  split
  · exact ⟨_, rfl⟩
  · obtain ⟨m, hm⟩ := mergeClass_total ((Bool.or_eq_true _ _).mp h |>.resolve_left ‹_›)
    exact ⟨Content.cls ClsRepr.parsed m, by rw [hm]; rfl⟩

theorem mergeEntry_total {client server : Jar} {n : JStr} {cmb : Comb} (hd : jarDomain client server = true)
    (hp : (n, cmb) ∈ combine client server) : ∃ o, mergeEntry n cmb = ok o := by
  unfold mergeEntry
  by_cases hm : (n == MANIFEST) = true
  · exact ⟨_, if_pos hm⟩
  by_cases hs : isSig n = true
  · exact ⟨_, (if_neg hm).trans (if_pos hs)⟩
  rw [if_neg hm, if_neg hs]
  have hc := combine_mem hp
  cases cmb with
  | client c => exact ⟨_, rfl⟩
  | server s => simp only; split <;> exact ⟨_, rfl⟩
  | both c s =>
    -- both jars have the name: `jarDomain` has checked the two kinds
    have hd := List.all_eq_true.mp hd (n, c) hc.1
    rw [Bool.not_eq_true] at hm hs
    simp only [hc.2, hm, hs, Bool.false_or] at hd
    cases hce : c.content <;> cases hcs : s.content <;> simp only [hce, hcs, Bool.false_eq_true] at hd ⊢
    · exact ⟨_, rfl⟩
    · exact ⟨_, rfl⟩
    · obtain ⟨m, hm⟩ := mergeClassEntry_total hd
      exact ⟨_, by rw [hm]; rfl⟩

theorem noPanic_mergeEntry (n : JStr) (cmb : Comb) : NoPanic (mergeEntry n cmb) := by
  unfold mergeEntry
  split
  · exact noPanic_ok _
  split
  · exact noPanic_ok _
  cases cmb with
  | client c => exact noPanic_ok _
  | server s => simp only; split <;> exact noPanic_ok _
  | both c s =>
    simp only
    split
    · exact noPanic_ok _
    · refine noPanic_bind ?_ fun _ => noPanic_ok _
      unfold mergeClassEntry
      split
      · exact noPanic_ok _
      · exact noPanic_bind (noPanic_mergeClass _ _) fun _ => noPanic_ok _
    · exact noPanic_ok _
    · exact noPanic_err

theorem mergeEntries_cons (n : JStr) (cmb : Comb) (rest : List (JStr × Comb)) :
    mergeEntries ((n, cmb) :: rest) = (mergeEntry n cmb >>= fun o => mergeEntries rest >>= fun r' =>
      pure (match o with | none => r' | some e => (n, e) :: r')) := by
  simp only [mergeEntries]
  cases mergeEntry n cmb with
  | ok o => cases o <;> cases mergeEntries rest <;> rfl
  | err => rfl
  | panic s => rfl

/-- what a row adds to the merged jar -/
def rowEntry (p : JStr × Comb) : Option (JStr × Entry) :=
  match mergeEntry p.1 p.2 with
  | ok (some e) => some (p.1, e)
  | _ => none

theorem mergeEntries_eq_ok {l : List (JStr × Comb)} {r : Jar} : mergeEntries l = ok r ↔
    (∀ p ∈ l, ∃ o, mergeEntry p.1 p.2 = ok o) ∧ l.filterMap rowEntry = r := by
  induction l generalizing r with
  | nil => simp [mergeEntries]
  | cons p rest ih =>
    rw [mergeEntries_cons, List.forall_mem_cons, List.filterMap_cons, rowEntry]
    cases mergeEntry p.1 p.2 with
    | ok o =>
      cases o <;>
      simp only [ok_bind, bind_ok_iff, ih, pure_eq_ok, Outcome.ok.injEq, exists_eq', true_and, and_assoc,
        exists_and_left, exists_eq_left']
    | err => simp
    | panic s => simp

theorem mergeEntries_names {l : List (JStr × Comb)} {r : Jar} {q : JStr → Bool} (h : mergeEntries l = ok r)
    (hq : ∀ p ∈ l, ∀ o, mergeEntry p.1 p.2 = ok o → o.isSome = q p.1) : r.map (·.1) = (l.map (·.1)).filter q := by
  obtain ⟨hok, rfl⟩ := mergeEntries_eq_ok.mp h
  clear h
  induction l with
  | nil => rfl
  | cons p rest ih =>
    obtain ⟨⟨o, ho⟩, hrest⟩ := List.forall_mem_cons.mp hok
    obtain ⟨hp, hq⟩ := List.forall_mem_cons.mp hq
    rw [List.filterMap_cons, List.map_cons, List.filter_cons, rowEntry, ho, ← hp o ho]
    cases o with
    | none => exact ih hq hrest
    | some e => exact congrArg _ (ih hq hrest)

theorem mergeEntries_mem_iff {l : List (JStr × Comb)} {r : Jar} (h : mergeEntries l = ok r) {n : JStr} {e : Entry} :
    (n, e) ∈ r ↔ ∃ cmb, (n, cmb) ∈ l ∧ mergeEntry n cmb = ok (some e) := by
  rw [← (mergeEntries_eq_ok.mp h).2, List.mem_filterMap]
  constructor
  · rintro ⟨⟨n', cmb⟩, hp, he⟩
    unfold rowEntry at he
    split at he
    · cases he; exact ⟨cmb, hp, ‹_›⟩
    · cases he
  · rintro ⟨cmb, hp, he⟩
    exact ⟨(n, cmb), hp, by simp only [rowEntry, he]⟩

theorem noPanic_mergeEntries (l : List (JStr × Comb)) : NoPanic (mergeEntries l) := by
  induction l with
  | nil => exact noPanic_ok _
  | cons e rest ih =>
    rw [mergeEntries_cons]
    exact noPanic_bind (noPanic_mergeEntry _ _) fun _ => noPanic_bind ih fun _ => noPanic_ok _

end MergeJar
