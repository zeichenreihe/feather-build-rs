import FeatherModel.Model.ClassWriteFull

/-!
# C02 — the branch opcodes `putInsn` accepts

`condOfOp` read as a table: an accepted opcode is the opcode of the condition it is turned into, one of the sixteen
conditional branches. Kept apart from the rest of the writer's lemmas because the translator tie of the writer arms
(`Lemmas/ArmsWriterModel.lean`) needs it too.
-/

namespace ClassWriteFull
open ClassRead

/-- an `if op = k₁ then some v₁ else if …` chain as a table look-up -/
def lookupIf {α : Type} : List (Nat × α) → Nat → Option α
  | [], _ => none
  | (k, v) :: rest, op => if op = k then some v else lookupIf rest op

theorem lookupIf_some {α : Type} : ∀ (tbl : List (Nat × α)) {op : Nat} {v : α}, lookupIf tbl op = some v → (op, v) ∈ tbl
  | [], _, _, h => by cases h
  | (k, w) :: rest, op, v, h => by
    simp only [lookupIf] at h
    by_cases hk : op = k
    · rw [if_pos hk] at h
      cases h
      subst hk
      exact List.mem_cons_self
    · rw [if_neg hk] at h
      exact List.mem_cons_of_mem _ (lookupIf_some rest h)

theorem condOfOp_table (op : Nat) : condOfOp op = lookupIf
    [(0x99, .eq), (0x9a, .ne), (0x9b, .lt), (0x9c, .ge), (0x9d, .gt), (0x9e, .le), (0x9f, .icmpeq), (0xa0, .icmpne),
     (0xa1, .icmplt), (0xa2, .icmpge), (0xa3, .icmpgt), (0xa4, .icmple), (0xa5, .acmpeq), (0xa6, .acmpne), (0xc6, .null),
     (0xc7, .nonnull)] op := rfl

theorem condOfOp_spec {op : Nat} {c : CodeWrite.Cond} (h : condOfOp op = some c) :
    c.opcode = op ∧ isCondBranchOp op = true := by
  rw [condOfOp_table] at h
  have hm := lookupIf_some _ h
  simp only [List.mem_cons, Prod.mk.injEq, List.not_mem_nil, or_false] at hm
  rcases hm with ⟨rfl, rfl⟩ | ⟨rfl, rfl⟩ | ⟨rfl, rfl⟩ | ⟨rfl, rfl⟩ | ⟨rfl, rfl⟩ | ⟨rfl, rfl⟩ | ⟨rfl, rfl⟩ | ⟨rfl, rfl⟩ |
    ⟨rfl, rfl⟩ | ⟨rfl, rfl⟩ | ⟨rfl, rfl⟩ | ⟨rfl, rfl⟩ | ⟨rfl, rfl⟩ | ⟨rfl, rfl⟩ | ⟨rfl, rfl⟩ | ⟨rfl, rfl⟩ <;> exact ⟨rfl, rfl⟩

end ClassWriteFull
