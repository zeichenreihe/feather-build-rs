import FeatherModel.Model.Reorder
import FeatherModel.Lemmas.MapDesc

/-!
# Descriptor lemmas for C08 / C14 on the token view of `Lemmas/MapDesc.lean`
An accepted descriptor is `render ts`; its image is `render (ts.map (Tok.map f))`; the classes it mentions are the names
of the `cls` tokens. Identity, composition and change of the class map are then facts about `List.map`.
-/

namespace Reorder
open MapDesc

theorem classesGo_name {nm : List Nat} (h : SEMI ∉ nm) (acc rest : List Nat) :
    classesGo (nm ++ SEMI :: rest) (.name acc) = (acc.reverse ++ nm) :: classesGo rest .copy := by
  induction nm generalizing acc with
  | nil => simp [classesGo]
  | cons c nm ih =>
    rw [List.mem_cons, not_or] at h
    simp [classesGo, Ne.symm h.1, ih h.2]

theorem classesGo_tok (t : Tok) (ht : t.WF) (rest : List Nat) :
    classesGo (t.render ++ rest) .copy = t.names ++ classesGo rest .copy := by
  cases t with
  | ch c =>
    have hc : ¬ c = CH_L := ht
    simp [Tok.render, Tok.names, classesGo, hc]
  | cls n =>
    obtain ⟨hne, hsemi⟩ := ht
    obtain ⟨c, n', rfl⟩ := List.exists_cons_of_ne_nil hne
    rw [List.mem_cons, not_or] at hsemi
    simp [Tok.render, Tok.names, classesGo, Ne.symm hsemi.1, classesGo_name hsemi.2]

theorem classesOf_render (ts : List Tok) (hts : ∀ t ∈ ts, t.WF) : classesOf (render ts) = ts.flatMap Tok.names := by
  induction ts with
  | nil => rfl
  | cons t ts ih =>
    rw [List.forall_mem_cons] at hts
    rw [render, classesOf, classesGo_tok t hts.1, List.flatMap_cons, ← ih hts.2, classesOf]

theorem classesOf_clean {f : JStr → JStr} {d x : JStr} (hd : (mapDesc f d).isSome = true) (hx : x ∈ classesOf d) :
    x ≠ [] ∧ SEMI ∉ x := by
  obtain ⟨ts, hwf, rfl⟩ := (mapDesc_isSome_iff f d).mp hd
  rw [classesOf_render ts hwf] at hx
  obtain ⟨t, ht, hxt⟩ := List.mem_flatMap.mp hx
  exact Tok.wf_names (hwf t ht) x hxt

theorem mapDesc_id_of_isSome {f : JStr → JStr} {d : JStr} (h : (mapDesc f d).isSome = true) :
    mapDesc id d = some d := by
  obtain ⟨ts, hwf, rfl⟩ := (mapDesc_isSome_iff f d).mp h
  rw [mapDesc_render id ts hwf, List.map_congr_left (g := id) fun t _ => t.map_id, List.map_id]

/-- rewriting back with a class map that inverts `f` on the mentioned classes restores the descriptor, provided the
names `f` produces can be written into a descriptor (non-empty, no `;`) -/
theorem mapDesc_roundtrip {f g : JStr → JStr} {d d' : JStr} (h : mapDesc f d = some d')
    (hgf : ∀ x ∈ classesOf d, g (f x) = x)
    (hclean : ∀ x ∈ classesOf d, f x ≠ [] ∧ SEMI ∉ f x) :
    mapDesc g d' = some d := by
  obtain ⟨ts, hwf, rfl, rfl⟩ := mapDesc_some h
  rw [classesOf_render ts hwf] at hgf hclean
  exact mapDesc_render_back hwf hgf hclean

end Reorder
