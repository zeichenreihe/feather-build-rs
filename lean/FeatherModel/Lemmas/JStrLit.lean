import FeatherModel.Base.Sexp

/-!
# `jstr` of a string literal, by theorem

The kernel reads a string literal as `String.ofList` of its characters, and `String.toList_ofList` is a theorem; evaluating
`jstr "…"` instead runs the UTF-8 decoder on the encoded bytes, which costs far more than anything done with the name
afterwards. So an evaluation over tables whose names are written `jstr "…"` first rewrites the literals:

    simp -index only [‹the tables›, jstr_ofList]
    decide +kernel

`-index` is needed: simp's discrimination tree files a literal under the literal itself, never under `String.ofList _`;
without the index simp tries `jstr_ofList` at every `jstr _` and unifies up to definitional equality, where the literal
unfolds. What is left, `List.map Char.toNat ['a', …]`, the kernel evaluates cheaply. Literals inside a recursive function
(one that `delta` does not lay open) are out of reach.
-/

theorem jstr_ofList (l : List Char) : jstr (String.ofList l) = l.map Char.toNat := by
  simp [jstr]
