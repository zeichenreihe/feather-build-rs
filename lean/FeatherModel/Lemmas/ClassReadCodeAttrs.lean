import FeatherModel.Lemmas.ClassReadFramesSM
import FeatherModel.Lemmas.ClassReadAnnoLemmas

/-! The attributes of `Code`: type annotations whose targets name instructions, one iteration of the attribute loop, the
whole loop, then `read_code` on an encoded `CodeLayout` (output in label ids, relative to the final label table). -/

namespace ClassRead
open Outcome Spec Labels

/-- a target as the reader delivers it: instruction indices replaced by the label ids of their offsets -/
def targetRaw (lf : Labels) (pos : Nat → Nat) : Target → Target
  | .localVar tag tbl => .localVar tag (tbl.map (fun e => (labOf lf pos e.1, labOf lf pos e.2.1, e.2.2)))
  | .offset tag t => .offset tag (labOf lf pos t)
  | .offsetArg tag t i => .offsetArg tag (labOf lf pos t) i
  | t => t

def targetRefs (pos : Nat → Nat) : Target → List Nat
  | .localVar _ tbl => tbl.flatMap (fun e => [pos e.1, pos e.2.1])
  | .offset _ t => [pos t]
  | .offsetArg _ t _ => [pos t]
  | _ => []

def typeAnnoRaw (lf : Labels) (pos : Nat → Nat) (a : SCodeTypeAnno) : TypeAnno :=
  ⟨targetRaw lf pos a.target, a.path, a.anno.fact⟩

theorem readTargetCode_steps (pos : Nat → Nat) (n cl : Nat) (hp : PosMono pos n cl)
    (t : Target) (ht : codeTargetOk n t) :
    Steps cl readTargetCode (encCodeTarget pos t) (targetRefs pos t) (fun lf => targetRaw lf pos t) := by
  intro l r hsz
  cases t with
  | localVar tag tbl =>
    obtain ⟨htag, hlen, hes⟩ := ht
    have htag' : (tag = 0x40 || tag = 0x41) = true := by rcases htag with rfl | rfl <;> rfl
    simp only [readTargetCode, encCodeTarget, List.cons_append, List.append_assoc, u8_cons, ok_bind, htag', if_true,
      u16_be16 _ hlen]
    refine (readVecS_steps _ (fun e : Nat × Nat × Nat => be16 (pos e.1) ++ be16 (pos e.2.1 - pos e.1) ++ be16 e.2.2)
      (fun lf e => (labOf lf pos e.1, labOf lf pos e.2.1, e.2.2)) (fun e => [pos e.1, pos e.2.1]) cl tbl
      (fun e he l r hsz => ?_) l r hsz).map (Target.localVar tag)
    obtain ⟨hs, hse, hen, hix⟩ := hes e he
    obtain ⟨b2, a, b, h1, hg1, hg2⟩ := getOrCreateRange_eq hp hs hse hen hsz
    simp only [List.append_assoc]
    exact step_range (fun a b => (a, b, e.2.2)) (bind_ok (u16_be16 _ (hp.lt16 hs) _) <| bind_ok (u16_be16 _ b2 _) <|
      bind_ok h1 <| bind_ok (u16_be16 _ hix r) rfl) hg1 hg2
  | exceptionParam i =>
    have e : readTargetCode l (encCodeTarget pos (.exceptionParam i) ++ r) = ok (.exceptionParam i, l, r) :=
      bind_ok (u8_cons 0x42 _) <| bind_ok (u16_be16 _ ht r) rfl
    rw [e]; exact step_pure l _ r
  | offset tag t =>
    obtain ⟨h1, h2, h3⟩ := ht
    obtain ⟨id, hc, hg⟩ := getOrCreate_eq hsz (hp.lt _ h3)
    exact step_label (Target.offset tag) (bind_ok (u8_cons tag _) <|
      (if_neg (by simp only [Bool.or_eq_true, decide_eq_true_eq]; omega)).trans <| (if_neg (by omega)).trans <|
      (if_pos (by simp only [Bool.and_eq_true, decide_eq_true_eq]; omega)).trans <|
      bind_ok (u16_be16 _ (hp.lt16 h3) r) <| bind_ok hc rfl) hg
  | offsetArg tag t i =>
    obtain ⟨h1, h2, h3, h4⟩ := ht
    obtain ⟨id, hc, hg⟩ := getOrCreate_eq hsz (hp.lt _ h3)
    simp only [encCodeTarget, List.cons_append, List.append_assoc]
    exact step_label (Target.offsetArg tag · i) (bind_ok (u8_cons tag _) <|
      (if_neg (by simp only [Bool.or_eq_true, decide_eq_true_eq]; omega)).trans <| (if_neg (by omega)).trans <|
      (if_neg (by simp only [Bool.and_eq_true, decide_eq_true_eq]; omega)).trans <|
      (if_pos (by simp only [Bool.and_eq_true, decide_eq_true_eq]; omega)).trans <|
      bind_ok (u16_be16 _ (hp.lt16 h3) _) <| bind_ok hc rfl) hg
  | _ => exact False.elim ht

theorem readTypeAnnosCode_steps (p : Pool) (pos : Nat → Nat) (n cl : Nat) (hp : PosMono pos n cl) (as : List SCodeTypeAnno) (hn : as.length < 65536)
    (has : ∀ a ∈ as, a.Legal p n) :
    Steps cl (readTypeAnnosCode p) (be16 as.length ++ as.flatMap (SCodeTypeAnno.encode pos))
      (as.flatMap (fun a => targetRefs pos a.target)) (fun lf => as.map (typeAnnoRaw lf pos)) := by
  intro l r hsz
  simp only [readTypeAnnosCode, List.append_assoc, u16_be16 _ hn, ok_bind]
  refine readVecS_steps _ (SCodeTypeAnno.encode pos) (fun lf a => typeAnnoRaw lf pos a)
    (fun a => targetRefs pos a.target) cl as (fun a ha l r hsz => ?_) l r hsz
  obtain ⟨h1, h2, h3⟩ := has a ha
  obtain ⟨v, e1, hr', hv'⟩ := readTargetCode_steps pos n cl hp a.target h1 l
    (encTypePath a.path ++ (a.anno.encode ++ r)) hsz
  refine ⟨⟨v, a.path, a.anno.fact⟩, ?_, hr', ?_⟩
  · simp only [SCodeTypeAnno.encode, List.append_assoc, e1, ok_bind, readTypePath_enc a.path h2,
      readAnnotation_enc p a.anno h3, pure_eq]
  · intro lf hlf
    simp only [typeAnnoRaw, hv' lf hlf]

/-- `acc` extended by what further attributes deliver (`get_or_insert_with(Vec::new)` then `push`) -/
def appendOpt {α : Type} (a b : Option (List α)) : Option (List α) :=
  match b with
  | none => a
  | some y => some (a.getD [] ++ y)

def linesRaw (lf : Labels) (pos : Nat → Nat) : List SCodeAttr → Option (List (Nat × Nat))
  | [] => none
  | .lines _ es :: r => some (es.map (fun e => (labOf lf pos e.1, e.2)) ++ (linesRaw lf pos r).getD [])
  | _ :: r => linesRaw lf pos r

def lvRaw (lf : Labels) (pos : Nat → Nat) (ty : Bool) (v : SLv) : Lv :=
  SLv.fact ty { v with start := labOf lf pos v.start, end_ := labOf lf pos v.end_ }

def localsRaw (lf : Labels) (pos : Nat → Nat) : List SCodeAttr → Option (List Lv)
  | [] => none
  | .lvt _ es :: r => some (es.map (lvRaw lf pos false) ++ (localsRaw lf pos r).getD [])
  | .lvtt _ es :: r => some (es.map (lvRaw lf pos true) ++ (localsRaw lf pos r).getD [])
  | _ :: r => localsRaw lf pos r

/-- the type annotations of one visibility as the reader delivers them (label ids for instruction indices) -/
def tAnnosRaw (lf : Labels) (pos : Nat → Nat) (visible : Bool) : List SCodeAttr → List TypeAnno
  | [] => []
  | .typeAnnos _ v as :: r => (if v = visible then as.map (typeAnnoRaw lf pos) else []) ++ tAnnosRaw lf pos visible r
  | _ :: r => tAnnosRaw lf pos visible r

/-- the offsets an attribute of the fragment refers to -/
def attrRefs (pos : Nat → Nat) : SCodeAttr → List Nat
  | .frames _ fs => fs.flatMap (fun f => f.kind.refs pos ++ [pos f.at_])
  | .lines _ es => es.flatMap (fun e => [pos e.1])
  | .lvt _ es => es.flatMap (fun v => [pos v.start, pos v.end_])
  | .lvtt _ es => es.flatMap (fun v => [pos v.start, pos v.end_])
  | .typeAnnos _ _ as => as.flatMap (fun a => targetRefs pos a.target)
  | .unknown _ _ _ => []

theorem appendOpt_none {α : Type} (a : Option (List α)) : appendOpt a none = a := rfl

theorem appendOpt_none_left {α : Type} (x : Option (List α)) : appendOpt none x = x := by
  cases x <;> simp [appendOpt]

theorem appendOpt_assoc {α : Type} (a : Option (List α)) (x : List α) (b : Option (List α)) :
    appendOpt (some (a.getD [] ++ x)) b = some (a.getD [] ++ (x ++ b.getD [])) := by
  cases b <;> simp [appendOpt]

theorem lvTable_steps (p : Pool) (pos : Nat → Nat) (n cl : Nat) (hp : PosMono pos n cl)
    (ty : Bool) (es : List SLv) (hlen : es.length < 65536) (hes : ∀ e ∈ es, e.Legal p n)
    (l : Labels) (r : Bytes) (hsz : Sz cl l) :
    (be16 es.length ++ es.flatMap (SLv.encode pos)).length < 4294967296 ∧
      Step l (readVecS (readLv p ty) es.length l (es.flatMap (SLv.encode pos) ++ r)) r
        (es.flatMap fun v => [pos v.start, pos v.end_]) (fun lf => es.map (lvRaw lf pos ty)) :=
  ⟨length_counted_lt (SLv.encode pos) 10 (be16 es.length) es (Nat.le_refl 2) hlen (by decide) (fun _ _ => rfl),
    readVecS_steps (readLv p ty) (SLv.encode pos) (fun lf e => lvRaw lf pos ty e) _ cl es
      (fun e he => readLv_steps p pos n cl hp ty e (hes e he)) l r hsz⟩

def framesCount (as : List SCodeAttr) : Nat := (as.filter SCodeAttr.isFrames).length

theorem framesCount_cons (a : SCodeAttr) (as : List SCodeAttr) : framesCount (a :: as) = framesCount [a] + framesCount as := by
  simp only [framesCount, List.filter_cons]
  cases a.isFrames <;> simp
  omega

theorem framesOf_cons (a : SCodeAttr) (as : List SCodeAttr) :
    framesOf (a :: as) = if framesCount [a] = 0 then framesOf as else framesOf [a] := by
  cases a <;> simp [framesOf, framesCount, SCodeAttr.isFrames]

theorem framesOf_none (as : List SCodeAttr) (h : framesCount as = 0) : framesOf as = [] := by
  induction as with
  | nil => rfl
  | cons a as ih =>
    rw [framesCount_cons] at h
    rw [framesOf_cons, if_pos (by omega)]
    exact ih (by omega)

/-- what the loop state `st'` holds when `st` has gone through the attributes `as` (at most one of them a
`StackMapTable`), its label ids read in a later table `lf` -/
def AttrsRead (lf : Labels) (pos : Nat → Nat) (as : List SCodeAttr) (st st' : CodeAttrState) : Prop :=
  st'.lines = appendOpt st.lines (linesRaw lf pos as) ∧ st'.locals = appendOpt st.locals (localsRaw lf pos as) ∧
    st'.frames = (if framesCount as = 0 then st.frames else some (framesRaw lf pos (framesOf as))) ∧
    st'.rvta = st.rvta ++ tAnnosRaw lf pos true as ∧ st'.ritva = st.ritva ++ tAnnosRaw lf pos false as ∧
    st'.attrs = st.attrs ++ unknownsOf as

theorem AttrsRead.cons {lf : Labels} {pos : Nat → Nat} {a : SCodeAttr} {as : List SCodeAttr} {st st1 st2 : CodeAttrState}
    (hone : framesCount (a :: as) ≤ 1) (h1 : AttrsRead lf pos [a] st st1) (h2 : AttrsRead lf pos as st1 st2) :
    AttrsRead lf pos (a :: as) st st2 := by
  obtain ⟨l1, c1, f1, v1, i1, u1⟩ := h1
  obtain ⟨l2, c2, f2, v2, i2, u2⟩ := h2
  rw [framesCount_cons] at hone
  refine ⟨?_, ?_, ?_, ?_, ?_, ?_⟩
  · rw [l2, l1]
    cases a <;> simp [linesRaw, appendOpt]
    case lines nc es => cases linesRaw lf pos as <;> simp
  · rw [c2, c1]
    cases a <;> simp [localsRaw, appendOpt]
    case lvt nc es => cases localsRaw lf pos as <;> simp
    case lvtt nc es => cases localsRaw lf pos as <;> simp
  · rw [f2, f1, framesCount_cons a as, framesOf_cons a as]
    by_cases h : framesCount [a] = 0
    · simp [h]
    · simp [h, show framesCount as = 0 by omega]
  · rw [v2, v1]
    cases a <;> simp [tAnnosRaw]
  · rw [i2, i1]
    cases a <;> simp [tAnnosRaw]
  · rw [u2, u1]
    cases a <;> simp [unknownsOf]

attribute [local simp] AttrsRead appendOpt linesRaw localsRaw tAnnosRaw unknownsOf framesCount SCodeAttr.isFrames in
/-- Under the local simp set `AttrsRead lf pos [a] st st'`
unfolds to six equations between fields of `st'` and `st`; the value equation `hv'` of the attribute's reader closes them. -/
theorem readCodeAttr_ok (p : Pool) (pos : Nat → Nat) (n cl : Nat) (hp : PosMono pos n cl) (a : SCodeAttr) (ha : a.Legal p n pos)
    (st : CodeAttrState) (r : Bytes) (hsz : Sz cl st.labels) (hfr : framesCount [a] + st.frames.isSome.toNat ≤ 1) :
    ∃ st', readCodeAttr p st (a.encode pos ++ r) = ok (st', r) ∧ st'.labels = st.labels.addAll (attrRefs pos a) ∧
      (∀ pc ∈ attrRefs pos a, (st'.labels.get pc).isSome = true) ∧
      ∀ lf, Labels.Le st'.labels lf → AttrsRead lf pos [a] st st' := by
  cases a with
  | frames nc fs =>
    obtain ⟨hnc, hname, hlen, hfl, hbody⟩ := ha
    have hnone : st.frames = none := by
      cases h : st.frames with
      | none => rfl
      | some _ => simp [h] at hfr
    obtain ⟨v, h1, hr', hv'⟩ := readFrames_steps p pos n cl hp fs none hfl st.labels r hsz
    simp only [Option.isNone_none, prevOff, Option.map_none] at h1
    refine ⟨{ st with labels := _, frames := some v }, ?_, rfl, hr', ?_⟩
    · exact attrHeader_bind hnc hname hbody <| bind_ok (u16_be16 _ hlen _) <| bind_ok h1 <|
        bind_ok (insertIfEmpty_of_none hnone v) rfl
    · intro lf hlf
      simp [hv' lf hlf, framesRaw, framesOf]
  | lines nc es =>
    obtain ⟨hnc, hname, hlen, hes⟩ := ha
    have hbody := length_counted_lt (fun e : Nat × Nat => be16 (pos e.1) ++ be16 e.2) 4 (be16 es.length) es (Nat.le_refl 2) hlen
      (by decide) (fun _ _ => rfl)
    obtain ⟨v, h1, hr', hv'⟩ := readVecS_steps readLine (fun e : Nat × Nat => be16 (pos e.1) ++ be16 e.2)
      (fun lf e => (labOf lf pos e.1, e.2)) (fun e => [pos e.1]) cl es (fun e he => readLine_steps pos n cl hp.toPosOk e (hes e he))
      st.labels r hsz
    refine ⟨{ st with labels := _, lines := some (st.lines.getD [] ++ v) }, ?_, rfl, hr', ?_⟩
    · exact attrHeader_bind hnc hname hbody <| bind_ok (u16_be16 _ hlen _) <| bind_ok h1 rfl
    · intro lf hlf
      simp [hv' lf hlf]
  | lvt nc es =>
    obtain ⟨hnc, hname, hlen, hes⟩ := ha
    obtain ⟨hbody, v, h1, hr', hv'⟩ := lvTable_steps p pos n cl hp false es hlen hes st.labels r hsz
    exact ⟨_, attrHeader_bind hnc hname hbody <| bind_ok (u16_be16 _ hlen _) <| bind_ok h1 rfl, rfl, hr',
      fun lf hlf => by simp [hv' lf hlf]⟩
  | lvtt nc es =>
    obtain ⟨hnc, hname, hlen, hes⟩ := ha
    obtain ⟨hbody, v, h1, hr', hv'⟩ := lvTable_steps p pos n cl hp true es hlen hes st.labels r hsz
    exact ⟨_, attrHeader_bind hnc hname hbody <| bind_ok (u16_be16 _ hlen _) <| bind_ok h1 rfl, rfl, hr',
      fun lf hlf => by simp [hv' lf hlf]⟩
  | typeAnnos nc visible as =>
    obtain ⟨hnc, hname, hlen, hes, hbody⟩ := ha
    obtain ⟨v, h1, hr', hv'⟩ := readTypeAnnosCode_steps p pos n cl hp as hlen hes st.labels r hsz
    cases visible <;>
      exact ⟨_, attrHeader_bind hnc hname hbody <| bind_ok h1 rfl, rfl, hr',
        fun lf hlf => by simp [hv' lf hlf]⟩
  | unknown nc name b =>
    obtain ⟨hnc, hname, hnot, hlen⟩ := ha
    simp only [codeAttrNames, List.mem_cons, List.not_mem_nil, or_false, not_or] at hnot
    refine ⟨{ st with attrs := st.attrs ++ [⟨name, b⟩] }, ?_, rfl, by simp [attrRefs], ?_⟩
    · refine attrHeader_bind hnc hname hlen ?_
      simp only [hnot, ↓reduceIte]
      exact bind_ok (takeN_append b r) rfl
    · intro lf _
      simp

/-- `hfr`: at most one `StackMapTable` among what has been read and what is still to come -/
theorem readCodeAttrs_ok (p : Pool) (pos : Nat → Nat) (n cl : Nat) (hp : PosMono pos n cl)
    (as : List SCodeAttr) (has : ∀ a ∈ as, a.Legal p n pos)
    (st : CodeAttrState) (r : Bytes) (hsz : Sz cl st.labels) (hfr : framesCount as + st.frames.isSome.toNat ≤ 1) :
    ∃ st', readCodeAttrs p as.length st (as.flatMap (SCodeAttr.encode pos) ++ r) = ok (st', r) ∧
      st'.labels = st.labels.addAll (as.flatMap (attrRefs pos)) ∧
      (∀ pc ∈ as.flatMap (attrRefs pos), (st'.labels.get pc).isSome = true) ∧
      ∀ lf, Labels.Le st'.labels lf → AttrsRead lf pos as st st' := by
  induction as generalizing st with
  | nil =>
    exact ⟨st, by simp [readCodeAttrs], rfl, by simp,
      fun lf _ => by simp [AttrsRead, linesRaw, localsRaw, appendOpt, framesCount, tAnnosRaw, unknownsOf]⟩
  | cons a as ih =>
    rw [framesCount_cons] at hfr
    obtain ⟨st1, h1, hl1', hr1, hl1⟩ := readCodeAttr_ok p pos n cl hp a (has a (by simp)) st
      (as.flatMap (SCodeAttr.encode pos) ++ r) hsz (by omega)
    have hfr1 : st1.frames.isSome.toNat ≤ framesCount [a] + st.frames.isSome.toNat := by
      rw [(hl1 st1.labels (Labels.Le.refl _)).2.2.1]
      split
      · omega
      · simp; omega
    obtain ⟨st2, h2, hl2', hr2, hl2⟩ := ih (fun b hb => has b (by simp [hb])) st1 (hl1' ▸ hsz.addAll _) (by omega)
    have hle2 : Labels.Le st1.labels st2.labels := hl2' ▸ le_addAll _ _
    refine ⟨st2, ?_, by rw [hl2', hl1', List.flatMap_cons, addAll_append], ?_,
      fun lf hlf => (hl1 lf (hle2.trans hlf)).cons (by rw [framesCount_cons]; omega) (hl2 lf hlf)⟩
    · simp only [List.length_cons, readCodeAttrs, List.flatMap_cons, List.append_assoc, h1, ok_bind, h2]
    · intro pc hpc
      simp only [List.flatMap_cons, List.mem_append] at hpc
      rcases hpc with hpc | hpc
      · exact isSome_of_le hle2 (hr1 pc hpc)
      · exact hr2 pc hpc

/-- the raw (label-id) form of what `read_code` delivers for a layout, relative to the final label table -/
def Spec.CodeLayout.raw (c : CodeLayout) (lf : Labels) : Code :=
  { maxStack := c.maxStack, maxLocals := c.maxLocals,
    insns := entriesFrom lf c.pos (framesOf c.attrs) 0 c.insns,
    exceptions := c.exceptions.map (fun e => ⟨labOf lf c.pos e.start, labOf lf c.pos e.end_, labOf lf c.pos e.handler, e.catch_⟩),
    lastLabel := lf.get (c.pos c.insns.length),
    lines := linesRaw lf c.pos c.attrs, locals := localsRaw lf c.pos c.attrs,
    rvta := tAnnosRaw lf c.pos true c.attrs, ritva := tAnnosRaw lf c.pos false c.attrs,
    attrs := unknownsOf c.attrs }

/-- every offset the layout refers to, in the order `read_code` asks for its label: branch targets (first pass), exception
ranges and handlers, then attribute by attribute the frames with their `Uninitialized` types, line and local entries and
type-annotation targets -/
def Spec.CodeLayout.refOffsets (c : CodeLayout) : List Nat :=
  targetOffsets c.pos c.insns ++ c.exceptions.flatMap (fun e => [c.pos e.start, c.pos e.end_, c.pos e.handler])
    ++ c.attrs.flatMap (attrRefs c.pos)

theorem legal_targets_lt (p : Pool) (bsms : Option (List Bsm)) (n : Nat) (pos : Nat → Nat) (a : Nat) (si : SInsn)
    (hl : si.Legal p bsms n pos a) (t : Nat) (ht : t ∈ targetsOf si.insn) : t < n := by
  obtain ⟨insn, form, cp, pad⟩ := si
  cases insn with
  | branch op t' => cases List.mem_singleton.mp ht; exact hl.2.1
  | goto t' | jsr t' =>
    cases List.mem_singleton.mp ht
    cases form with
    | short => exact hl.elim
    | plain => exact hl.1
    | wide => exact hl
  | tableswitch d lo hi tbl =>
    obtain ⟨hd, htb, _⟩ := SInsn.legal_tableswitch hl
    rcases List.mem_cons.mp ht with rfl | ht
    · exact hd
    · exact htb t ht
  | lookupswitch d pairs =>
    obtain ⟨hd, htb, _⟩ := SInsn.legal_lookupswitch hl
    rcases List.mem_cons.mp ht with rfl | ht
    · exact hd
    · obtain ⟨kt, hkt, rfl⟩ := List.mem_map.mp ht
      exact (htb kt hkt).1
  | _ => cases ht

theorem framesLegal_increasing (p : Pool) (n : Nat) (pos : Nat → Nat) (prev : Option Nat) (fs : List SFrame)
    (h : framesLegal p n pos prev fs) :
    Increasing (match prev with | none => 0 | some i => i + 1) fs ∧ ∀ f ∈ fs, f.at_ < n ∧ f.kind.Legal p n := by
  induction fs generalizing prev with
  | nil => exact ⟨trivial, by simp⟩
  | cons f fs ih =>
    obtain ⟨h1, h2, h3, _, h5⟩ := h
    obtain ⟨i1, i2⟩ := ih (some f.at_) h5
    refine ⟨⟨?_, i1⟩, ?_⟩
    · cases prev with
      | none => exact Nat.zero_le _
      | some i => exact h2
    · intro g hg
      rcases List.mem_cons.mp hg with rfl | hg
      · exact ⟨h1, h3⟩
      · exact i2 g hg

theorem framesOf_eq (as : List SCodeAttr) : framesOf as = [] ∨ ∃ nc, SCodeAttr.frames nc (framesOf as) ∈ as := by
  induction as with
  | nil => exact .inl rfl
  | cons a as ih =>
    cases a with
    | frames nc fs => exact .inr ⟨nc, .head _⟩
    | _ => exact ih.imp id fun ⟨nc, h⟩ => ⟨nc, .tail _ h⟩

theorem Spec.CodeLegal.posMono {p : Pool} {bsms : Option (List Bsm)} {insns : List SInsn} (h : CodeLegal p bsms insns) :
    PosMono (codePos insns) insns.length (codePos insns insns.length) :=
  ⟨⟨fun t ht => codePos_mono insns t _ ht (Nat.le_refl _), fun t ht => codePos_le_end insns t ht, h.small⟩, codePos_mono insns⟩

/-- `read_code` on an encoded layout, in label ids of the final table `lf`: the offsets the layout refers to, labelled in
the order the reader meets them.  The proof does not use `hleg.refs`: the table stays well-formed however many labels are
asked for (`Labels.wf_addAll`). -/
theorem readCode_encode (p : Pool) (bsms : Option (List Bsm)) (c : CodeLayout) (hleg : c.Legal p bsms) (r : Bytes) :
    ∃ lf, lf = (Labels.new (c.pos c.insns.length)).addAll c.refOffsets ∧ lf.WF ∧ lf.codeLength = c.pos c.insns.length ∧
      (∀ pc ∈ c.refOffsets, (lf.get pc).isSome = true) ∧ readCode p bsms (c.encode ++ r) = ok (c.raw lf, r) := by
  have hcode := hleg.code
  have hend : c.pos c.insns.length = endPos c.insns 0 := codePos_length c.insns
  have hge := endPos_ge c.insns 0
  have hclpos : 0 < c.pos c.insns.length := by have := hcode.nonempty; omega
  have hsmall : (c.pos c.insns.length) ≤ 65535 := hcode.small
  have hp : PosMono c.pos c.insns.length (c.pos c.insns.length) := hcode.posMono
  have hfuel : c.insns.length ≤ c.pos c.insns.length := by omega
  have hbytes : (encInsns c.pos c.insns 0).length = c.pos c.insns.length := by
    have := encInsns_length c.pos c.insns 0; omega
  obtain ⟨l0, hl0⟩ : ∃ l0, l0 = Labels.new (c.pos c.insns.length) := ⟨_, rfl⟩
  obtain ⟨l1, hl1⟩ : ∃ l1, l1 = l0.addAll (targetOffsets c.pos c.insns) := ⟨_, rfl⟩
  obtain ⟨l2, hl2⟩ : ∃ l2, l2 = l1.addAll (c.exceptions.flatMap fun e => [c.pos e.start, c.pos e.end_, c.pos e.handler]) := ⟨_, rfl⟩
  have hsz0 : Sz (c.pos c.insns.length) l0 := hl0 ▸ sz_new _
  have hsz1 : Sz (c.pos c.insns.length) l1 := hl1 ▸ hsz0.addAll _
  have htgt : ∀ pc ∈ targetOffsets c.pos c.insns, pc < c.pos c.insns.length := by
    intro pc hpc
    simp only [targetOffsets, List.mem_flatMap, List.mem_map] at hpc
    obtain ⟨si, hsi, t, ht, rfl⟩ := hpc
    obtain ⟨i, hi, rfl⟩ := List.getElem_of_mem hsi
    exact hp.lt t (legal_targets_lt p bsms _ _ _ _ (hcode.legal i hi) t ht)
  have hp1 : pass1 (c.pos c.insns.length) l0 (0, encInsns c.pos c.insns 0) = ok l1 := by
    have := pass1_suffix p bsms c.insns hcode 0 (c.pos c.insns.length) hfuel l0
    simp only [List.drop_zero, codePos_zero] at this
    exact hl1 ▸ this.trans (createAll_eq l0 _ fun pc h => hsz0.1.symm ▸ htgt pc h)
  have hall1 : ∀ pc ∈ targetOffsets c.pos c.insns, (l1.get pc).isSome = true :=
    hl1 ▸ get_addAll hsz0 _ fun pc h => Nat.le_of_lt (htgt pc h)
  obtain ⟨ex, h2, hr2, hv2⟩ := readVecS_steps (readException p) (SException.encode c.pos)
    (fun lf e => (⟨labOf lf c.pos e.start, labOf lf c.pos e.end_, labOf lf c.pos e.handler, e.catch_⟩ : ExceptionEntry))
    (fun e => [c.pos e.start, c.pos e.end_, c.pos e.handler]) (c.pos c.insns.length) c.exceptions
    (fun e he => readException_steps p c.pos _ _ hp.toPosOk e (hleg.exc e he)) l1
    (be16 c.attrs.length ++ c.attrs.flatMap (SCodeAttr.encode c.pos) ++ r) hsz1
  rw [← hl2] at h2 hr2 hv2
  obtain ⟨st, h3, hl3, hr3, hl3'⟩ := readCodeAttrs_ok p c.pos c.insns.length (c.pos c.insns.length) hp
    c.attrs hleg.attrs ⟨l2, none, none, none, [], [], []⟩ r (hl2 ▸ hsz1.addAll _)
    (by simpa [framesCount] using hleg.oneFrames)
  simp only [] at hl3 hl3' hr3
  have hlf : st.labels = (Labels.new (c.pos c.insns.length)).addAll c.refOffsets := by
    rw [hl3, hl2, hl1, hl0, CodeLayout.refOffsets, addAll_append, addAll_append]
  have hle3 : Labels.Le l2 st.labels := hl3 ▸ le_addAll l2 _
  have hle2 : Labels.Le l1 st.labels := (hl2 ▸ le_addAll l1 _ : Labels.Le l1 l2).trans hle3
  have hall : ∀ pc ∈ c.refOffsets, (st.labels.get pc).isSome = true := by
    intro pc hpc
    simp only [CodeLayout.refOffsets, List.mem_append] at hpc
    rcases hpc with (hpc | hpc) | hpc
    · exact isSome_of_le hle2 (hall1 pc hpc)
    · exact isSome_of_le hle3 (hr2 pc hpc)
    · exact hr3 pc hpc
  have hszf : Sz (c.pos c.insns.length) st.labels := hlf ▸ (sz_new _).addAll _
  -- no bound on the number of label references is needed: the counter only counts filled slots
  have hwf3 : st.labels.WF := hlf ▸ wf_addAll (Labels.wf_new _) (tight_new _) hsmall c.refOffsets fun pc hpc =>
    hszf.le_of_isSome (hall pc hpc)
  obtain ⟨hlines, hlocals, hfr3, hrvta, hritva, ha3⟩ := hl3' st.labels (Labels.Le.refl _)
  have hlab : ∀ i (h : i < c.insns.length), TargetsLabelled st.labels c.pos c.insns[i].insn := fun i hi t ht =>
    isSome_of_le hle2
      (hall1 _ (List.mem_flatMap.mpr ⟨c.insns[i], List.getElem_mem hi, List.mem_map.mpr ⟨t, ht, rfl⟩⟩))
  have hfrs : st.frames.getD [] = framesRaw st.labels c.pos (framesOf c.attrs) := by
    rw [hfr3]
    split
    · rw [framesOf_none c.attrs ‹_›]; rfl
    · rfl
  have hframes : Increasing 0 (framesOf c.attrs) ∧ ∀ f ∈ framesOf c.attrs, f.at_ < c.insns.length ∧ (st.labels.get (c.pos f.at_)).isSome = true := by
    rcases framesOf_eq c.attrs with h | ⟨nc, hm⟩
    · rw [h]; exact ⟨trivial, by simp⟩
    · obtain ⟨i1, i2⟩ := framesLegal_increasing p c.insns.length c.pos none _ (hleg.attrs _ hm).2.2.2.1
      exact ⟨i1, fun f hf => ⟨(i2 f hf).1, hr3 _ (List.mem_flatMap.mpr ⟨_, hm, List.mem_flatMap.mpr ⟨f, hf, by simp⟩⟩)⟩⟩
  have hp2 := pass2_suffix p bsms c.insns hcode st.labels hwf3 hlab 0 (c.pos c.insns.length) hfuel [] (framesOf c.attrs) hframes.1 hframes.2 st.frames hfrs
  simp only [List.drop_zero, codePos_zero, List.reverse_nil, List.nil_append] at hp2
  refine ⟨st.labels, hlf, hwf3, hszf.1, hall, ?_⟩
  have hcl32 : (c.pos c.insns.length) < 4294967296 := by omega
  simp only [List.append_assoc] at h2
  simp only [CodeLayout.encode, List.append_assoc]
  refine bind_ok (u16_be16 _ hleg.maxStack _) <| bind_ok (u16_be16 _ hleg.maxLocals _) <| bind_ok (u32_be32 _ hcl32 _) <|
    (if_neg (by simp only [Bool.or_eq_true, decide_eq_true_eq]; omega)).trans <| bind_ok (hbytes ▸ takeN_append _ _) <|
    bind_ok (hl0 ▸ hp1) <| bind_ok (u16_be16 _ hleg.nExc _) <| bind_ok h2 <| bind_ok (u16_be16 _ hleg.nAttrs _) <| bind_ok h3 <| bind_ok hp2 ?_
  simp only [CodeLayout.raw, hv2 st.labels hle3, hlines, hlocals, hrvta, hritva, ha3, appendOpt_none_left, List.nil_append, pure_eq]
  rfl

end ClassRead
