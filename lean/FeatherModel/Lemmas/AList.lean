import FeatherModel.Base.AListOps
import FeatherModel.Lemmas.OptionList
import FeatherModel.Lemmas.Ladder
import FeatherModel.Lemmas.ListFacts

/-!
# Association lists as `IndexMap`s
What the operations of `Base/AList.lean` and `Base/AListOps.lean` do to `lookup`, `keys` and membership (`lookup` is
`List.find?` on the keys, `lookup_eq_find?`, and takes its facts about `++`, `map` and `∈` from there), with key
uniqueness spelt `m.keys.Nodup` (`noDupKeys_iff` ties the model's `NoDupKeys` to it; several properties write
`(m.map Prod.fst).Nodup`, which is the same term once `keys` is unfolded); and three loops over maps that several
properties share: `IndexMap::insert` in a loop (`lookup_foldl_insert`: the last row of a key wins; under pairwise
different keys every row arrives, `lookup_foldl_insert_of_nodup`, and new ones are appended in order,
`foldl_insert_of_nodup`), collecting a value under every key of a list (`collect`), and a reader appending sibling
entries (`entries_run`). Four models write `IndexMap::insert` out again (`Enigma.mapInsert`, `Remapper.upsert`,
`MergeJar.upsert`, `Bridge.upsert`) and two the lookup (`MergeJar.get`, `PoolWrite.find`): each is `insert` or `lookup` by
an equation next to its users (`mapInsert_eq`, `upsert_eq_insert`; `get_eq_lookup`, `find_eq`).
-/

namespace AList
variable {K V W : Type}

theorem lookup_cons [BEq K] (k k' : K) (v : V) (m : AList K V) :
    lookup k ((k', v) :: m) = if k' == k then some v else lookup k m := rfl

theorem lookup_eq_find? [BEq K] (k : K) (m : AList K V) :
    lookup k m = (m.find? fun e => e.1 == k).map Prod.snd := by
  induction m with
  | nil => rfl
  | cons e rest ih =>
    rw [List.find?_cons, lookup_cons, ih]
    cases e.1 == k <;> rfl

theorem mem_keys_of_mem {m : AList K V} {k : K} {v : V} (h : (k, v) ∈ m) : k ∈ m.keys :=
  List.mem_map.mpr ⟨(k, v), h, rfl⟩

theorem eq_of_key_eq {m : AList K V} (hnd : m.keys.Nodup) {a b : K × V} (ha : a ∈ m) (hb : b ∈ m) (h : a.1 = b.1) :
    a = b :=
  List.eq_of_nodup_map hnd ha hb h

section
variable [BEq K] [LawfulBEq K] {m : AList K V} {k : K} {v : V}

theorem lookup_mem (h : lookup k m = some v) : (k, v) ∈ m := by
  obtain ⟨e, he, rfl⟩ := Option.map_eq_some_iff.mp (lookup_eq_find? k m ▸ h)
  exact eq_of_beq (List.find?_some (p := fun e : K × V => e.1 == k) he) ▸ List.mem_of_find?_eq_some he

/-- `contains k m` is `(lookup k m).isSome` by definition: this is also the lemma for that form -/
theorem contains_iff_mem_keys : contains k m = true ↔ k ∈ m.keys := by
  simp only [contains, lookup_eq_find?, Option.isSome_map, List.find?_isSome, keys, List.mem_map, beq_iff_eq]

theorem contains_eq_false_iff : contains k m = false ↔ k ∉ m.keys := by
  rw [← contains_iff_mem_keys, Bool.not_eq_true]

theorem contains_eq_keys_contains : contains k m = m.keys.contains k := by
  rw [Bool.eq_iff_iff, contains_iff_mem_keys, List.contains_iff_mem]

theorem lookup_none_iff : lookup k m = none ↔ k ∉ m.keys := by
  rw [← contains_iff_mem_keys, contains, Bool.not_eq_true, Option.isSome_eq_false_iff, Option.isNone_iff_eq_none]

theorem noDupKeys_iff : NoDupKeys m ↔ m.keys.Nodup := by
  induction m with
  | nil => simp [NoDupKeys, keys]
  | cons e rest ih =>
    obtain ⟨k0, v0⟩ := e
    simp only [NoDupKeys, ih, contains_eq_false_iff, keys, List.map_cons, List.nodup_cons]

theorem lookup_of_mem_nodup (hnd : m.keys.Nodup) (hmem : (k, v) ∈ m) :
    lookup k m = some v := by
  obtain ⟨w, hw⟩ := Option.isSome_iff_exists.mp (contains_iff_mem_keys.mpr (mem_keys_of_mem hmem))
  rw [hw, (Prod.mk.inj (eq_of_key_eq hnd (lookup_mem hw) hmem rfl)).2]

end

theorem lookup_mapVals [BEq K] (g : V → W) (m : AList K V) (k : K) :
    lookup k (mapVals g m) = (lookup k m).map g := by
  rw [lookup_eq_find?, lookup_eq_find?, mapVals, List.find?_map, Option.map_map, Option.map_map]
  rfl

theorem contains_cons [BEq K] (k k' : K) (v : V) (m : AList K V) :
    contains k ((k', v) :: m) = (k' == k || contains k m) := by
  rw [contains, lookup_cons]
  cases k' == k <;> rfl

theorem lookup_insert [BEq K] [LawfulBEq K] (k k' : K) (v : V) (m : AList K V) :
    lookup k (insert k' v m) = if k' == k then some v else lookup k m := by
  induction m with
  | nil => rfl
  | cons e rest ih =>
    obtain ⟨k0, v0⟩ := e
    rw [insert]
    split
    · rename_i h0
      rw [lookup, lookup, eq_of_beq h0]
      cases k' == k <;> rfl
    · rename_i h0
      rw [lookup, lookup, ih]
      cases hk : k0 == k
      · rfl
      · have : (k' == k) = false := by
          rw [← eq_of_beq hk]
          exact beq_false_of_ne fun e => h0 (beq_iff_eq.mpr e.symm)
        rw [this]
        rfl

section
variable [BEq K] [LawfulBEq K]

theorem lookup_cons_self {k : K} {v : V} {m : AList K V} : lookup k ((k, v) :: m) = some v := by
  rw [lookup_cons, beq_self_eq_true]
  rfl

theorem lookup_cons_of_ne {k k' : K} {v : V} {m : AList K V} (h : k' ≠ k) :
    lookup k ((k', v) :: m) = lookup k m := by
  rw [lookup_cons, beq_false_of_ne h]
  rfl

theorem lookup_insert_self {k : K} {v : V} {m : AList K V} : lookup k (insert k v m) = some v := by
  rw [lookup_insert, beq_self_eq_true]
  rfl

theorem lookup_insert_of_ne {k k' : K} {v : V} {m : AList K V} (h : k' ≠ k) :
    lookup k (insert k' v m) = lookup k m := by
  rw [lookup_insert, beq_false_of_ne h]
  rfl

end

theorem lookup_perm [BEq K] [LawfulBEq K] {m1 m2 : AList K V} (hp : List.Perm m1 m2) (hn : m1.keys.Nodup) (k : K) :
    lookup k m1 = lookup k m2 :=
  Option.ext fun _ =>
    ⟨fun h1 => lookup_of_mem_nodup ((hp.map Prod.fst).nodup_iff.mp hn) (hp.subset (lookup_mem h1)),
      fun h2 => lookup_of_mem_nodup hn (hp.symm.subset (lookup_mem h2))⟩

theorem lookup_append [BEq K] (k : K) (a b : AList K V) : lookup k (a ++ b) = (lookup k a).or (lookup k b) := by
  rw [lookup_eq_find?, List.find?_append, Option.map_or, ← lookup_eq_find?, ← lookup_eq_find?]

theorem contains_append [BEq K] (k : K) (a b : AList K V) : contains k (a ++ b) = (contains k a || contains k b) := by
  simp only [contains, lookup_append, Option.isSome_or]

theorem contains_append_single [BEq K] (m : AList K V) (k k' : K) (v : V) :
    contains k (m ++ [(k', v)]) = (contains k m || k' == k) := by
  rw [contains_append]
  simp only [contains, lookup]
  cases k' == k <;> rfl

theorem insert_of_not_mem [BEq K] [LawfulBEq K] {k : K} (v : V) {m : AList K V} (h : k ∉ m.keys) :
    insert k v m = m ++ [(k, v)] := by
  induction m with
  | nil => rfl
  | cons e rest ih =>
    obtain ⟨k0, v0⟩ := e
    simp only [keys, List.map_cons, List.mem_cons, not_or] at h
    have hne : ¬ (k0 == k) = true := fun hk => h.1 (eq_of_beq hk).symm
    simp only [insert, hne, Bool.false_eq_true, if_false, List.cons_append, ih h.2]

theorem foldl_insert_of_nodup [BEq K] [LawfulBEq K] : ∀ (es out : AList K V), ((out ++ es).map Prod.fst).Nodup →
    es.foldl (fun o e => insert e.1 e.2 o) out = out ++ es := by
  intro es
  induction es with
  | nil => intro out _; exact (List.append_nil out).symm
  | cons x rest ih =>
    intro out h
    rw [List.foldl_cons, insert_of_not_mem x.2 (List.key_not_mem_of_nodup h), ih _ (by rw [List.append_assoc]; exact h),
      List.append_assoc]
    rfl

theorem keys_insert [BEq K] [LawfulBEq K] (k : K) (v : V) (m : AList K V) :
    (insert k v m).keys = if k ∈ m.keys then m.keys else m.keys ++ [k] := by
  induction m with
  | nil => rfl
  | cons e rest ih =>
    rw [insert]
    split
    · next h => exact (if_pos (eq_of_beq h ▸ List.mem_cons_self)).symm
    · next h =>
      have hne : ¬ k = e.1 := fun e' => h (beq_iff_eq.mpr e'.symm)
      show e.1 :: keys (insert k v rest) = if k ∈ e.1 :: keys rest then e.1 :: keys rest else e.1 :: keys rest ++ [k]
      rw [ih]
      by_cases hm : k ∈ keys rest
      · rw [if_pos hm, if_pos (List.mem_cons_of_mem _ hm)]
      · rw [if_neg hm, if_neg fun h' => (List.mem_cons.mp h').elim hne hm]
        rfl

theorem nodup_keys_insert [BEq K] [LawfulBEq K] {k : K} {v : V} {m : AList K V} (h : m.keys.Nodup) :
    (insert k v m).keys.Nodup := by
  rw [keys_insert]
  split
  · exact h
  · next hk =>
    refine List.nodup_append.mpr ⟨h, List.pairwise_singleton _ k, fun a ha b hb e => hk ?_⟩
    rwa [← List.mem_singleton.mp hb, ← e]

theorem mem_insert [BEq K] [LawfulBEq K] {k : K} {v : V} {m : AList K V} {p : K × V} (h : p ∈ insert k v m) :
    p ∈ m ∨ p = (k, v) := by
  induction m with
  | nil => exact Or.inr (List.mem_singleton.mp h)
  | cons e rest ih =>
    rw [insert] at h
    split at h
    · next hk =>
      rcases List.mem_cons.mp h with h | h
      · exact Or.inr (h ▸ eq_of_beq hk ▸ rfl)
      · exact Or.inl (List.mem_cons_of_mem _ h)
    · rcases List.mem_cons.mp h with h | h
      · exact Or.inl (h ▸ List.mem_cons_self)
      · exact (ih h).imp (List.mem_cons_of_mem _) id

theorem lookup_foldl_insert [BEq K] [LawfulBEq K] {T : Type} (kf : T → K) (vf : T → V) (k : K) (xs : List T)
    (acc : AList K V) :
    lookup k (xs.foldl (fun m x => insert (kf x) (vf x) m) acc) =
      ((xs.reverse.find? fun x => kf x == k).map vf).or (lookup k acc) := by
  induction xs generalizing acc with
  | nil => rfl
  | cons x xs ih =>
    rw [List.foldl_cons, ih, lookup_insert, List.reverse_cons, List.find?_append, Option.map_or, Option.or_assoc]
    simp only [List.find?_cons, List.find?_nil]
    cases kf x == k <;> rfl

theorem lookup_foldl_insert_of_nodup [BEq K] [LawfulBEq K] (k : K) (es acc : AList K V) (hn : es.keys.Nodup) :
    lookup k (es.foldl (fun m e => insert e.1 e.2 m) acc) = (lookup k es).or (lookup k acc) := by
  rw [lookup_foldl_insert Prod.fst Prod.snd, ← lookup_eq_find?, ← lookup_perm (List.reverse_perm es).symm hn]

theorem insertNew_new [BEq K] (k : K) (v : V) (m : AList K V) (h : contains k m = false) :
    insertNew k v m = some (m ++ [(k, v)]) := by
  rw [insertNew, h]
  rfl

theorem insertNew_some [BEq K] {k : K} {v : V} {m m' : AList K V} (h : insertNew k v m = some m') :
    contains k m = false ∧ m' = m ++ [(k, v)] := by
  rw [insertNew] at h
  split at h
  · cases h
  · next hc => exact ⟨Bool.not_eq_true _ ▸ hc, (Option.some.inj h).symm⟩

theorem insertNew_eq_none [BEq K] {k : K} {v : V} {m : AList K V} : insertNew k v m = none ↔ contains k m = true := by
  rw [insertNew]
  split <;> simp [*]

theorem swapHead_perm (rest : AList K V) : List.Perm (swapHead rest) rest := by
  unfold swapHead
  cases h : rest.getLast? with
  | none =>
    have : rest = [] := List.getLast?_eq_none_iff.mp h
    subst this
    exact List.Perm.refl _
  | some l =>
    obtain ⟨ys, hys⟩ := List.getLast?_eq_some_iff.mp h
    subst hys
    simp only [List.dropLast_concat]
    exact (List.perm_append_comm (l₁ := ys) (l₂ := [l])).symm

section
variable [BEq K]

theorem swapRemove_none {k : K} {m : AList K V} (h : swapRemove k m = none) : lookup k m = none := by
  induction m with
  | nil => rfl
  | cons e rest ih =>
    obtain ⟨k0, v0⟩ := e
    rw [swapRemove] at h
    split at h
    · cases h
    · rename_i hk
      split at h
      · rw [lookup_cons, if_neg hk]
        exact ih ‹_›
      · cases h

variable [LawfulBEq K]

theorem swapRemove_some {k : K} {m m' : AList K V} {v : V}
    (h : swapRemove k m = some (v, m')) : lookup k m = some v ∧ List.Perm m ((k, v) :: m') := by
  induction m generalizing m' with
  | nil => cases h
  | cons e rest ih =>
    obtain ⟨k0, v0⟩ := e
    rw [swapRemove] at h
    split at h
    · rename_i hk
      cases h
      cases eq_of_beq hk
      exact ⟨lookup_cons_self, List.Perm.cons _ (swapHead_perm rest).symm⟩
    · rename_i hk
      split at h
      · cases h
      · rename_i hr
        cases h
        obtain ⟨hl, hp⟩ := ih hr
        exact ⟨(lookup_cons_of_ne fun e => hk (beq_iff_eq.mpr e)).trans hl,
          (List.Perm.cons _ hp).trans (List.Perm.swap _ _ _)⟩

theorem swapRemove_rest {k : K} {m m' : AList K V} {v : V}
    (h : swapRemove k m = some (v, m')) (hn : m.keys.Nodup) :
    m'.keys.Nodup ∧ lookup k m' = none ∧ ∀ k', k ≠ k' → lookup k' m' = lookup k' m := by
  obtain ⟨_, hp⟩ := swapRemove_some h
  obtain ⟨hk, hn'⟩ := List.nodup_cons.mp ((hp.map Prod.fst).nodup_iff.mp hn)
  exact ⟨hn', lookup_none_iff.mpr hk, fun k' hne => by rw [lookup_perm hp hn k', lookup_cons_of_ne hne]⟩

end

theorem mapValsM_cons (f : K → V → Option W) (k : K) (v : V) (rest : AList K V) :
    mapValsM f ((k, v) :: rest) = (f k v).bind fun w => (mapValsM f rest).map ((k, w) :: ·) := by
  simp only [Option.bind_eq_match, Option.map_eq_match]
  set_option smartUnfolding false in rfl

variable {f : K → V → Option W} {m : AList K V} {m' : AList K W}

theorem mapValsM_eq (f : K → V → Option W) (m : AList K V) :
    mapValsM f m = m.mapM fun e => (f e.1 e.2).map (e.1, ·) := by
  induction m with
  | nil => rfl
  | cons e rest ih =>
    rw [mapValsM_cons, ih, List.mapM_option_cons]
    cases f e.1 e.2 <;> rfl

theorem mapValsM_map
    {α : Type} (g : K × W → α) (h : K × V → α)
    (hm : mapValsM f m = some m')
    (hgh : ∀ k v w, (k, v) ∈ m → f k v = some w → g (k, w) = h (k, v)) :
    m'.map g = m.map h :=
  List.map_eq_of_mapM ((mapValsM_eq f m).symm.trans hm) fun e he _ hw =>
    let ⟨w, hf, ew⟩ := Option.map_eq_some_iff.mp hw
    ew ▸ hgh e.1 e.2 w he hf

theorem mapValsM_keys
    (hm : mapValsM f m = some m') : m'.keys = m.keys :=
  mapValsM_map Prod.fst Prod.fst hm (fun _ _ _ _ _ => rfl)

theorem mapValsM_none_iff :
    mapValsM f m = none ↔ ∃ k v, (k, v) ∈ m ∧ f k v = none := by
  simp only [mapValsM_eq, List.mapM_eq_none_iff, Option.map_eq_none_iff, Prod.exists]

theorem mapValsM_none_of_mem {k : K} {v : V}
    (hmem : (k, v) ∈ m) (hf : f k v = none) : mapValsM f m = none :=
  mapValsM_none_iff.mpr ⟨k, v, hmem, hf⟩

theorem mapValsM_lookup [BEq K] [LawfulBEq K]
    (h : mapValsM f m = some m') (k : K) : lookup k m' = (lookup k m).bind (f k) := by
  induction m generalizing m' with
  | nil => cases h; rfl
  | cons e rest ih =>
    obtain ⟨k0, v0⟩ := e
    simp only [mapValsM_cons, Option.bind_eq_some_iff, Option.map_eq_some_iff] at h
    obtain ⟨w, hf, rest', hr, rfl⟩ := h
    simp only [lookup]
    split
    · rename_i hk
      rw [← eq_of_beq hk, Option.bind_some, hf]
    · exact ih hr

theorem mapValsM_lookup_some [BEq K] [LawfulBEq K]
    (hm : mapValsM f m = some m') {k : K} {v : V} (hl : lookup k m = some v) :
    ∃ w, f k v = some w ∧ lookup k m' = some w := by
  have h := mapValsM_lookup hm k
  rw [hl, Option.bind_some] at h
  cases hf : f k v with
  | none => rw [mapValsM_none_of_mem (lookup_mem hl) hf] at hm; cases hm
  | some w => exact ⟨w, rfl, h.trans hf⟩

theorem mapVals_mapValsM {g : W → V}
    (hm : mapValsM f m = some m')
    (hg : ∀ k v w, (k, v) ∈ m → f k v = some w → g w = v) :
    mapVals g m' = m := by
  have := mapValsM_map (fun e : K × W => (e.1, g e.2)) (fun e : K × V => e) hm
    (fun k v w hmem hf => by simp [hg k v w hmem hf])
  simpa [mapVals] using this

section collect
variable {g : K → Option W} {ks : List K} {r : AList K W}

/-- `keys.map(|k| Ok((k, g(k)?))).collect::<Result<IndexMap<_,_>>>()`: `g k` under every key of the list, failing where `g`
fails -/
def collect (g : K → Option W) (ks : List K) : Option (AList K W) := ks.mapM fun k => (g k).map (k, ·)

theorem collect_cons (g : K → Option W) (k : K) (ks : List K) :
    collect g (k :: ks) = (g k).bind fun w => (collect g ks).map ((k, w) :: ·) := by
  rw [collect, List.mapM_option_cons]
  cases g k <;> rfl

theorem collect_keys (h : collect g ks = some r) : r.keys = ks :=
  (List.map_eq_of_mapM h fun k _ e he => by
    obtain ⟨w, _, rfl⟩ := Option.map_eq_some_iff.mp he
    rfl).trans (List.map_id _)

theorem collect_none_iff : collect g ks = none ↔ ∃ k, k ∈ ks ∧ g k = none := by
  simp only [collect, List.mapM_eq_none_iff, Option.map_eq_none_iff]

theorem collect_lookup [BEq K] [LawfulBEq K] (h : collect g ks = some r) (k : K) :
    lookup k r = if k ∈ ks then g k else none := by
  split
  · next hm =>
    obtain ⟨w, hw⟩ := Option.isSome_iff_exists.mp (contains_iff_mem_keys.mpr (collect_keys h ▸ hm))
    obtain ⟨k', _, hk⟩ := List.mem_of_mapM h (lookup_mem hw)
    obtain ⟨w', hg, e⟩ := Option.map_eq_some_iff.mp hk
    cases e
    rw [hw, hg]
  · next hm => exact lookup_none_iff.mpr (collect_keys h ▸ hm)

end collect

/-- `r s ls` is what some reader started in `s` makes of the lines `ls`; `S m s`: the state `s` holds the entries `m` at the
place the entries go to; `one`: reading the lines `L a` of one entry with a new key appends `(key a, val a)`. Then reading
the lines of all entries appends all of them, in order. Nothing is assumed of `r`; nesting comes from using the lemma again
inside `one`. -/
theorem entries_run {σ β Ln α : Type} [BEq K] [LawfulBEq K] (r : σ → List Ln → β)
    (S : AList K W → σ → Prop) (L : α → List Ln) (key : α → K) (val : α → W) (tail : List Ln) :
    ∀ (as : List α) (m : AList K W) (s : σ), S m s →
      (∀ a ∈ as, ∀ m₁ s₁ t, S m₁ s₁ → contains (key a) m₁ = false →
        ∃ s₂, S (m₁ ++ [(key a, val a)]) s₂ ∧ r s₁ (L a ++ t) = r s₂ t) →
      (as.map key).Nodup → (∀ a ∈ as, contains (key a) m = false) →
      ∃ s', S (m ++ as.map fun a => (key a, val a)) s' ∧ r s (as.flatMap L ++ tail) = r s' tail
  | [], m, s, hs, _, _, _ => ⟨s, by simpa using hs, rfl⟩
  | a :: rest, m, s, hs, one, hn, hc => by
    obtain ⟨s1, hs1, hrun⟩ := one a List.mem_cons_self m s (rest.flatMap L ++ tail) hs (hc a List.mem_cons_self)
    simp only [List.map_cons, List.nodup_cons] at hn
    obtain ⟨s2, hs2, hrun2⟩ := entries_run r S L key val tail rest _ s1 hs1
      (fun x hx => one x (List.mem_cons_of_mem _ hx)) hn.2
      (fun x hx => by
        rw [contains_append_single, hc x (List.mem_cons_of_mem _ hx)]
        have : key a ≠ key x := fun heq => hn.1 (heq ▸ List.mem_map_of_mem hx)
        simp [this])
    exact ⟨s2, by simpa using hs2, by rw [List.flatMap_cons, List.append_assoc, hrun, hrun2]⟩

end AList
