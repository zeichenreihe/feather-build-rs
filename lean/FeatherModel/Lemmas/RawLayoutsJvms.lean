import FeatherModel.Gen.RawLayouts
import FeatherModel.Spec.JvmsRaw
import FeatherModel.Lemmas.JStrLit

/-! C20: the variants of `AttributeInfo` and `CpInfo` as translated, and the translated layouts against the JVMS signature
tables, evaluated in one go: conformance of every definition, the slot table, and coverage of the predefined attributes
all look the attribute names up in `JvmsRaw.attrs`.  The names are in `Thm.C20` because the theorems of `Thm/C20.lean`
are stated with them. -/

namespace Thm.C20

open RawLayout JvmsRaw

/-- variants of `AttributeInfo` / `CpInfo` as translated -/
def attrVariants : List Variant :=
  match Gen.RawLayouts.defs[Gen.RawLayouts.attributeInfoId]? with
  | some (.enum _ _ _ vs _) => vs
  | _ => []
def cpVariants : List Variant :=
  match Gen.RawLayouts.defs[Gen.RawLayouts.cpInfoId]? with
  | some (.enum _ _ _ vs _) => vs
  | _ => []

theorem layouts_checked :
    (Gen.RawLayouts.defs.all (defConforms Gen.RawLayouts.nameCodes) = true ∧
      slotsConform cpVariants Gen.RawLayouts.env.wide = true) ∧
    attrsCovered attrVariants = true := by
  delta defConforms defConformsX attrVariantConforms attrItems attrsCovered
  simp -index only [structs, enums, attrs, unknownAttr, u1, u2, u4, tab, tabS, jstr_ofList]
  decide +kernel

end Thm.C20
