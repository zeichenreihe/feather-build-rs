import FeatherModel.Lemmas.ClassReadPasses

/-! The readers between the two passes thread the label table.  The table such a reader leaves behind is
`l.addAll refs` for the offsets `refs` it asks labels for, so a successful step (`Step`; `Steps`: on every table and rest of
input) says three things only: it consumed exactly its encoding, every offset of `refs` is labelled afterwards, and its
result is `val lf` in every later table `lf`.  `step_pure` / `step_label` / `step_range` / `Step.map` / `Step.seq` /
`readVecS_steps` build it up.  Exception table, line numbers, local variables, verification types, then `StackMapTable` (the
"SM" of the file name): one frame and the frame loop with its running offset.  Well-formedness of the table is no concern
of these lemmas (`Labels.wf_addAll`); `StepOk` is the form with the table's invariants spelt out. -/

namespace ClassRead
open Outcome Spec Labels

/-- a label-threading step succeeded: it consumed exactly its encoding, extended the table by at most `k` labels, and
its result is `val lf` for **every** later extension `lf` of the table (ids never change once handed out) -/
def StepOk {α : Type} (l : Labels) (out : Outcome (α × Labels × Bytes)) (r : Bytes) (k : Nat) (refs : List Nat)
    (val : Labels → α) : Prop :=
  ∃ v l', out = ok (v, l', r) ∧ l'.WF ∧ Labels.Le l l' ∧ l'.count ≤ l.count + k ∧
    (∀ pc ∈ refs, (l'.get pc).isSome = true) ∧ ∀ lf, Labels.Le l' lf → v = val lf

/-- A label-threading step succeeded.  Unlike `StepOk` it names the table afterwards (`l.addAll refs`: the labels of `refs`
were asked for in order) and says nothing of well-formedness or id counts, which are facts about `addAll` alone.
A reader that asks for several labels is the `Step.seq` of one `step_label` per request; the outcomes of those parts are
then the bare results `ok (id, l.add _, r)`, so their run hypotheses are `rfl` (`step_range`, `readException_steps`). -/
def Step {α : Type} (l : Labels) (out : Outcome (α × Labels × Bytes)) (r : Bytes) (refs : List Nat) (val : Labels → α) : Prop :=
  ∃ v, out = ok (v, l.addAll refs, r) ∧ (∀ pc ∈ refs, ((l.addAll refs).get pc).isSome = true) ∧
    ∀ lf, Labels.Le (l.addAll refs) lf → v = val lf

/-- `rd` reads `enc` off the front of any input, on any table for `cl` bytes of code -/
def Steps {α : Type} (cl : Nat) (rd : Labels → Bytes → Outcome (α × Labels × Bytes)) (enc : Bytes) (refs : List Nat)
    (val : Labels → α) : Prop :=
  ∀ l r, Sz cl l → Step l (rd l (enc ++ r)) r refs val

theorem isSome_of_le {l lf : Labels} (h : Labels.Le l lf) {pc : Nat} (hs : (l.get pc).isSome = true) :
    (lf.get pc).isSome = true := by
  obtain ⟨id, hg⟩ := Option.isSome_iff_exists.mp hs
  exact Option.isSome_of_eq_some (h.2 _ _ hg)

/-- positions of a layout with `n` instructions inside a code array of `cl` bytes -/
structure PosOk (pos : Nat → Nat) (n cl : Nat) : Prop where
  lt : ∀ t, t < n → pos t < cl
  le : ∀ t, t ≤ n → pos t ≤ cl
  small : cl ≤ 65535

theorem PosOk.lt16 {pos : Nat → Nat} {n cl : Nat} (hp : PosOk pos n cl) {t : Nat} (ht : t < n) : pos t < 65536 := by
  have := hp.lt _ ht; have := hp.small; omega

/-- positions that moreover increase with the instruction index, as those of a legal code array do -/
structure PosMono (pos : Nat → Nat) (n cl : Nat) : Prop extends PosOk pos n cl where
  mono : ∀ a b, a < b → b ≤ n → pos a < pos b

theorem labOf_of_le {l lf : Labels} (h : Labels.Le l lf) {pos : Nat → Nat} {t id : Nat} (hg : l.get (pos t) = some id) :
    labOf lf pos t = id := by
  unfold labOf; rw [h.2 _ _ hg]; rfl

theorem step_pure {α : Type} (l : Labels) (v : α) (r : Bytes) : Step l (ok (v, l, r)) r [] (fun _ => v) :=
  ⟨v, rfl, fun _ h => (List.not_mem_nil h).elim, fun _ _ => rfl⟩

/-- two steps in a row, the second (`o2`) on the table the first leaves behind; `out` is any computation that delivers
`g v w` once the two have delivered `v` and `w` -/
theorem Step.seq {α β γ : Type} {l : Labels} {o1 : Outcome (α × Labels × Bytes)} {r1 r : Bytes}
    {refs1 refs2 : List Nat} {val1 : Labels → α} {val2 : Labels → β} (h1 : Step l o1 r1 refs1 val1)
    {o2 : Outcome (β × Labels × Bytes)} (h2 : Step (l.addAll refs1) o2 r refs2 val2)
    (g : α → β → γ) {out : Outcome (γ × Labels × Bytes)}
    (hout : ∀ v w l2, o1 = ok (v, l.addAll refs1, r1) → o2 = ok (w, l2, r) → out = ok (g v w, l2, r)) :
    Step l out r (refs1 ++ refs2) (fun lf => g (val1 lf) (val2 lf)) := by
  obtain ⟨v, e1, hr1, hv1⟩ := h1
  obtain ⟨w, e2, hr2, hv2⟩ := h2
  unfold Step
  rw [addAll_append]
  refine ⟨g v w, hout v w _ e1 e2, fun pc hpc => ?_, fun lf hlf => by rw [hv1 lf ((le_addAll _ _).trans hlf), hv2 lf hlf]⟩
  rcases List.mem_append.mp hpc with hpc | hpc
  · exact isSome_of_le (le_addAll _ _) (hr1 pc hpc)
  · exact hr2 pc hpc

theorem Step.map {α β : Type} {l : Labels} {out : Outcome (α × Labels × Bytes)} {r : Bytes} {refs : List Nat}
    {val : Labels → α} (h : Step l out r refs val) (g : α → β) :
    Step l (do let (v, l', s) ← out; pure (g v, l', s)) r refs (fun lf => g (val lf)) := by
  obtain ⟨v, h1, h5, h6⟩ := h
  exact ⟨g v, by simp [h1], h5, fun lf hlf => by rw [h6 lf hlf]⟩

theorem step_label {α : Type} {pos : Nat → Nat} {t id : Nat} {l : Labels} {out : Outcome (α × Labels × Bytes)} {r : Bytes}
    (f : Nat → α) (hrun : out = ok (f id, l.add (pos t), r)) (hg : (l.add (pos t)).get (pos t) = some id) :
    Step l out r [pos t] (fun lf => f (labOf lf pos t)) := by
  refine ⟨f id, hrun, fun pc hpc => ?_, fun lf hlf => congrArg f (labOf_of_le hlf hg).symm⟩
  cases List.mem_singleton.mp hpc
  exact Option.isSome_of_eq_some hg

theorem step_range {α : Type} {pos : Nat → Nat} {s e a b : Nat} {l : Labels} {out : Outcome (α × Labels × Bytes)} {r : Bytes}
    (f : Nat → Nat → α) (hrun : out = ok (f a b, (l.add (pos s)).add (pos e), r))
    (hg1 : (l.add (pos s)).get (pos s) = some a) (hg2 : ((l.add (pos s)).add (pos e)).get (pos e) = some b) :
    Step l out r [pos s, pos e] (fun lf => f (labOf lf pos s) (labOf lf pos e)) :=
  (step_label (r := r) id rfl hg1).seq (step_label id rfl hg2) f fun _ _ _ e1 e2 => by cases e1; cases e2; exact hrun

theorem getOrCreateRange_eq {pos : Nat → Nat} {n cl : Nat} (hp : PosMono pos n cl)
    {s e : Nat} (hs : s < n) (hse : s ≤ e) (hen : e ≤ n) {l : Labels} (hsz : Sz cl l) :
    pos e - pos s < 65536 ∧ ∃ a b, l.getOrCreateRange (pos s) (pos e - pos s) = ok ((a, b), (l.add (pos s)).add (pos e)) ∧
      (l.add (pos s)).get (pos s) = some a ∧ ((l.add (pos s)).add (pos e)).get (pos e) = some b := by
  have hm : pos s ≤ pos e := (Nat.eq_or_lt_of_le hse).elim (fun h => h ▸ Nat.le_refl _) (fun h => Nat.le_of_lt (hp.mono s e h hen))
  have hle := hp.le _ hen
  have hsm := hp.small
  obtain ⟨a, h1, hg1⟩ := getOrCreate_eq hsz (hp.lt _ hs)
  obtain ⟨b, h2, hg2⟩ := getOrCreateExcl_eq (hsz.add (pos s)) hle
  refine ⟨by omega, a, b, ?_, hg1, hg2⟩
  rw [getOrCreateRange, show pos s + (pos e - pos s) = pos e by omega]
  exact bind_ok h1 ((if_neg (by omega)).trans (bind_ok h2 rfl))

theorem readVecS_steps {α β : Type} (elem : Labels → Bytes → Outcome (α × Labels × Bytes)) (enc : β → Bytes)
    (val : Labels → β → α) (refs : β → List Nat) (cl : Nat) (xs : List β)
    (h : ∀ x ∈ xs, Steps cl elem (enc x) (refs x) (fun lf => val lf x)) :
    Steps cl (readVecS elem xs.length) (xs.flatMap enc) (xs.flatMap refs) (fun lf => xs.map (val lf)) := by
  intro l r hsz
  induction xs generalizing l with
  | nil => exact step_pure l [] r
  | cons x xs ih =>
    simp only [List.flatMap_cons]
    refine (h x (by simp) l (xs.flatMap enc ++ r) hsz).seq (ih (fun y hy => h y (by simp [hy])) _ (hsz.addAll (refs x))) List.cons ?_
    intro v vs l2 h1 h2
    simp only [List.length_cons, readVecS, List.append_assoc, h1, ok_bind, h2, pure_eq]

theorem readException_steps (p : Pool) (pos : Nat → Nat) (n cl : Nat) (hp : PosOk pos n cl) (e : SException)
    (he : e.Legal p n) :
    Steps cl (readException p) (e.encode pos) [pos e.start, pos e.end_, pos e.handler]
      (fun lf => ⟨labOf lf pos e.start, labOf lf pos e.end_, labOf lf pos e.handler, e.catch_⟩) := by
  intro l r hsz
  obtain ⟨hs, hen, hh, hcp, hcatch⟩ := he
  have b2 : pos e.end_ < 65536 := by have := hp.le _ hen; have := hp.small; omega
  obtain ⟨ia, h1, hg1⟩ := getOrCreate_eq hsz (hp.lt _ hs)
  obtain ⟨ib, h2, hg2⟩ := getOrCreateExcl_eq (hsz.add (pos e.start)) (hp.le _ hen)
  obtain ⟨ih, h3, hg3⟩ := getOrCreate_eq ((hsz.add (pos e.start)).add (pos e.end_)) (hp.lt _ hh)
  refine (step_range (r := r) Prod.mk rfl hg1 hg2).seq (step_label id rfl hg3) (fun ab h => (⟨ab.1, ab.2, h, e.catch_⟩ : ExceptionEntry))
    fun _ _ _ e1 e2 => ?_
  cases e1; cases e2
  simp only [SException.encode, List.append_assoc]
  exact bind_ok (u16_be16 _ (hp.lt16 hs) _) <| bind_ok h1 <| bind_ok (u16_be16 _ b2 _) <| bind_ok h2 <|
    bind_ok (u16_be16 _ (hp.lt16 hh) _) <| bind_ok h3 <| bind_ok (u16_be16 _ hcp _) <| bind_ok hcatch rfl

theorem readLine_steps (pos : Nat → Nat) (n cl : Nat) (hp : PosOk pos n cl) (e : Nat × Nat) (he : e.1 < n ∧ e.2 < 65536) :
    Steps cl readLine (be16 (pos e.1) ++ be16 e.2) [pos e.1] (fun lf => (labOf lf pos e.1, e.2)) := by
  intro l r hsz
  obtain ⟨id, h1, hg⟩ := getOrCreate_eq hsz (hp.lt _ he.1)
  rw [List.append_assoc]
  exact step_label (·, e.2) (bind_ok (u16_be16 _ (hp.lt16 he.1) _) <| bind_ok h1 <| bind_ok (u16_be16 _ he.2 r) rfl) hg

theorem readLv_steps (p : Pool) (pos : Nat → Nat) (n cl : Nat) (hp : PosMono pos n cl)
    (ty : Bool) (v : SLv) (hv : v.Legal p n) :
    Steps cl (readLv p ty) (v.encode pos) [pos v.start, pos v.end_]
      (fun lf => (SLv.fact ty { v with start := labOf lf pos v.start, end_ := labOf lf pos v.end_ })) := by
  intro l r hsz
  obtain ⟨hs, hse, hen, hnc, hdc, hix, hname, hvalid, hdesc⟩ := hv
  obtain ⟨b2, a, b, h1, hg1, hg2⟩ := getOrCreateRange_eq hp hs hse hen hsz
  simp only [SLv.encode, List.append_assoc]
  exact step_range (fun a b => SLv.fact ty { v with start := a, end_ := b })
    (bind_ok (u16_be16 _ (hp.lt16 hs) _) <| bind_ok (u16_be16 _ b2 _) <| bind_ok h1 <| bind_ok (u16_be16 _ hnc _) <|
      bind_ok hname <| bind_ok (show checked validUnqualified v.name = ok v.name from if_pos hvalid) <|
      bind_ok (u16_be16 _ hdc _) <| bind_ok hdesc <| bind_ok (u16_be16 _ hix r) rfl) hg1 hg2

theorem readVType_steps (p : Pool) (pos : Nat → Nat) (n cl : Nat) (hp : PosOk pos n cl) (v : SVType) (hv : v.Legal p n) :
    Steps cl (readVType p) (v.encode pos) (v.refs pos) (fun lf => v.raw lf pos) := by
  intro l r hsz
  cases v with
  | object cp c =>
    have : readVType p l ((SVType.object cp c).encode pos ++ r) = ok (.object c, l, r) :=
      bind_ok (u8_cons 7 _) <| bind_ok (u16_be16 _ hv.1 r) <| bind_ok hv.2 rfl
    rw [this]; exact step_pure l _ r
  | uninit t =>
    obtain ⟨id, h1, hg⟩ := getOrCreate_eq hsz (hp.lt _ hv)
    exact step_label VType.uninit (bind_ok (u8_cons 8 _) <| bind_ok (u16_be16 _ (hp.lt16 hv) r) <| bind_ok h1 rfl) hg
  | _ => exact step_pure l _ r

theorem readVTypes_steps (p : Pool) (pos : Nat → Nat) (n cl : Nat) (hp : PosOk pos n cl) (vs : List SVType)
    (hv : ∀ v ∈ vs, v.Legal p n) :
    Steps cl (readVecS (readVType p) vs.length) (vs.flatMap (SVType.encode pos))
      (vs.flatMap (SVType.refs pos)) (fun lf => vs.map (SVType.raw lf pos)) :=
  readVecS_steps (readVType p) (SVType.encode pos) (fun lf v => v.raw lf pos) (SVType.refs pos) cl vs
    (fun v hvm => readVType_steps p pos n cl hp v (hv v hvm))

theorem readVTypes16_steps (p : Pool) (pos : Nat → Nat) (n cl : Nat) (hp : PosOk pos n cl) (vs : List SVType) (hlen : vs.length < 65536)
    (hv : ∀ v ∈ vs, v.Legal p n) :
    Steps cl (readVTypes16 p) (be16 vs.length ++ vs.flatMap (SVType.encode pos))
      (vs.flatMap (SVType.refs pos)) (fun lf => vs.map (SVType.raw lf pos)) := by
  intro l r hsz
  have := readVTypes_steps p pos n cl hp vs hv l r hsz
  simpa [readVTypes16, List.append_assoc, u16_be16 _ hlen] using this

theorem stepOk_map {α β : Type} {l : Labels} {out : Outcome (α × Labels × Bytes)} {r : Bytes} {k : Nat} {refs : List Nat}
    {val : Labels → α} (h : StepOk l out r k refs val) (g : α → β) :
    StepOk l (do let (v, l', s) ← out; pure (g v, l', s)) r k refs (fun lf => g (val lf)) := by
  obtain ⟨v, l', h1, h2, h3, h4, h5, h6⟩ := h
  exact ⟨g v, l', by simp [h1], h2, h3, h4, h5, fun lf hlf => by rw [h6 lf hlf]⟩

theorem readFrame_steps (p : Pool) (pos : Nat → Nat) (n cl : Nat) (hp : PosOk pos n cl) (prev : Option Nat) (f : SFrame)
    (hk : f.kind.Legal p n) (hd : frameDelta prev (pos f.at_) < 65536) (hext : f.ext = false → frameDelta prev (pos f.at_) ≤ 63) :
    Steps cl (readFrame p) (f.encode pos prev) (f.kind.refs pos)
      (fun lf => (frameDelta prev (pos f.at_), f.kind.raw lf pos)) := by
  intro l r hsz
  obtain ⟨at_, ext, kind⟩ := f
  simp only [SFrame.encode] at hk hd hext ⊢
  generalize frameDelta prev (pos at_) = d at hd hext ⊢
  cases kind with
  | same =>
    have e : readFrame p l ((if ext then 251 :: be16 d else [d]) ++ r) = ok ((d, .same), l, r) := by
      cases ext with
      | false => exact bind_ok (u8_cons _ r) (if_pos (hext rfl))
      | true => exact bind_ok (u8_cons 251 _) <| bind_ok (u16_be16 d hd r) rfl
    rw [e]; exact step_pure l _ r
  | same1 v =>
    have e : readFrame p l ((if ext then 247 :: (be16 d ++ v.encode pos) else (64 + d) :: v.encode pos) ++ r) =
        (do let (x, l, s) ← readVType p l (v.encode pos ++ r); pure ((d, Frame.same1 x), l, s)) := by
      cases ext with
      | false =>
        have h63 := hext rfl
        refine bind_ok (u8_cons _ _) <| (if_neg (by omega)).trans <| (if_pos (by omega)).trans ?_
        rw [Nat.add_sub_cancel_left]; rfl
      | true =>
        simp only [if_true, List.cons_append, List.append_assoc]
        exact bind_ok (u8_cons 247 _) <| bind_ok (u16_be16 d hd _) rfl
    rw [e]; exact (readVType_steps p pos n cl hp v hk l r hsz).map fun x => (d, Frame.same1 x)
  | chop k =>
    have e : readFrame p l ((251 - k) :: be16 d ++ r) = ok ((d, .chop k), l, r) := by
      have hk1 := hk.1; have hk2 := hk.2
      refine bind_ok (u8_cons _ _) <| (if_neg (by omega)).trans <| (if_neg (by omega)).trans <| (if_neg (by omega)).trans <|
        (if_neg (by omega)).trans <| (if_pos (by omega)).trans <| bind_ok (u16_be16 d hd r) ?_
      rw [show 251 - (251 - k) = k by omega]; rfl
    rw [e]; exact step_pure l _ r
  | append vs =>
    obtain ⟨hv1, hv2, hv3⟩ := hk
    have e : readFrame p l ((251 + vs.length) :: (be16 d ++ vs.flatMap (SVType.encode pos)) ++ r) =
        (do let (x, l, s) ← readVecS (readVType p) vs.length l (vs.flatMap (SVType.encode pos) ++ r); pure ((d, Frame.append x), l, s)) := by
      simp only [List.cons_append, List.append_assoc]
      refine bind_ok (u8_cons _ _) <| (if_neg (by omega)).trans <| (if_neg (by omega)).trans <| (if_neg (by omega)).trans <|
        (if_neg (by omega)).trans <| (if_neg (by omega)).trans <| (if_neg (by omega)).trans <| (if_pos (by omega)).trans <|
        bind_ok (u16_be16 d hd _) ?_
      rw [Nat.add_sub_cancel_left]
    rw [e]; exact (readVTypes_steps p pos n cl hp vs hv3 l r hsz).map fun x => (d, Frame.append x)
  | full ls ss =>
    obtain ⟨h1, h2, h3, h4⟩ := hk
    refine (readVTypes16_steps p pos n cl hp ls h1 h3 l (be16 ss.length ++ ss.flatMap (SVType.encode pos) ++ r) hsz).seq
      (readVTypes16_steps p pos n cl hp ss h2 h4 _ r (hsz.addAll (ls.flatMap (SVType.refs pos)))) (fun rl rs => (d, Frame.full rl rs)) ?_
    intro rl rs l2 e1 e2
    simp only [List.append_assoc] at e1 e2
    simp only [List.cons_append, List.append_assoc]
    exact bind_ok (u8_cons 255 _) <| bind_ok (u16_be16 d hd _) <| bind_ok e1 <| bind_ok e2 rfl

/-- offset of the previous frame, as the running sum sees it -/
def prevOff (pos : Nat → Nat) : Option Nat → Nat
  | none => 0
  | some i => pos i

theorem readFrames_steps (p : Pool) (pos : Nat → Nat) (n cl : Nat) (hp : PosMono pos n cl) (fs : List SFrame) (prev : Option Nat)
    (hleg : framesLegal p n pos prev fs) (l : Labels) (r : Bytes) (hsz : Sz cl l) :
    Step l (readFrames p fs.length prev.isNone (prevOff pos prev) l (encFrames pos (prev.map pos) fs ++ r)) r
      (fs.flatMap (fun f => f.kind.refs pos ++ [pos f.at_]))
      (fun lf => fs.map (fun f => (labOf lf pos f.at_, f.kind.raw lf pos))) := by
  induction fs generalizing prev l with
  | nil => exact step_pure l [] r
  | cons f fs ih =>
    simp only [framesLegal] at hleg
    obtain ⟨hat, hprev, hk, hext, hrest⟩ := hleg
    have hposf : pos f.at_ < cl := hp.lt _ hat
    have hsm := hp.small
    have hdelta : frameDelta (prev.map pos) (pos f.at_) < 65536 := by
      cases prev <;> simp [frameDelta] <;> omega
    -- the running offset reaches the offset of the frame's instruction
    have hoff : prevOff pos prev + (if prev.isNone = true then frameDelta (prev.map pos) (pos f.at_)
        else frameDelta (prev.map pos) (pos f.at_) + 1) = pos f.at_ := by
      cases prev with
      | none => simp [prevOff, frameDelta]
      | some i =>
        have := hp.mono i f.at_ hprev (Nat.le_of_lt hat)
        simp [prevOff, frameDelta]; omega
    obtain ⟨⟨d, fr⟩, h1, hr1, hv1⟩ := readFrame_steps p pos n cl hp.toPosOk (prev.map pos) f hk hdelta hext l
      (encFrames pos (some (pos f.at_)) fs ++ r) hsz
    have hvd := hv1 _ (Labels.Le.refl _)
    simp only [Prod.mk.injEq] at hvd
    rw [← hvd.1] at hoff
    have hsz1 := hsz.addAll (f.kind.refs pos)
    obtain ⟨id, h2, hg2⟩ := getOrCreate_eq hsz1 hposf
    obtain ⟨rest, h3, hr3, hv3⟩ := ih (some f.at_) hrest _ (hsz1.add (pos f.at_))
    have le2 := le_add (l.addAll (f.kind.refs pos)) (pos f.at_)
    have le3 := le_addAll ((l.addAll (f.kind.refs pos)).add (pos f.at_)) (fs.flatMap fun f => f.kind.refs pos ++ [pos f.at_])
    unfold Step
    simp only [List.flatMap_cons, addAll_append]
    refine ⟨(id, fr) :: rest, ?_, ?_, ?_⟩
    · simp only [Option.isNone_some, prevOff, Option.map_some] at h3
      have hinc' : ¬ pos f.at_ > 65535 := by omega
      simp only [List.length_cons, readFrames, encFrames, List.append_assoc, h1, ok_bind, hoff, hinc', if_false,
        h2, pure_eq]
      exact bind_ok h3 rfl
    · intro pc hpc
      simp only [List.mem_append, List.mem_singleton] at hpc
      rcases hpc with (hpc | rfl) | hpc
      · exact isSome_of_le (le2.trans le3) (hr1 pc hpc)
      · exact Option.isSome_of_eq_some (le3.2 _ _ hg2)
      · exact hr3 pc hpc
    · intro lf hlf
      have e1 := hv1 lf ((le2.trans le3).trans hlf)
      simp only [Prod.mk.injEq] at e1
      simp only [List.map_cons, hv3 lf hlf, labOf_of_le (le3.trans hlf) hg2, e1.2]

theorem SFrameKind.refs_length (pos : Nat → Nat) (k : SFrameKind) : (k.refs pos).length = k.labelRefs := by
  have hv : ∀ vs : List SVType, (vs.flatMap (SVType.refs pos)).length = (vs.map SVType.labelRefs).sum := fun vs => by
    rw [List.length_flatMap]; congr 1; exact List.map_congr_left fun v _ => by cases v <;> rfl
  cases k with
  | same1 v => cases v <;> rfl
  | append vs => exact hv vs
  | full ls ss => simp only [SFrameKind.refs, SFrameKind.labelRefs, List.length_append, hv]
  | _ => rfl

theorem readFrames_ok (p : Pool) (pos : Nat → Nat) (n cl : Nat) (hp : PosOk pos n cl)
    (hmonoS : ∀ a b, a < b → b ≤ n → pos a < pos b) (fs : List SFrame) (prev : Option Nat)
    (hleg : framesLegal p n pos prev fs) (l : Labels) (r : Bytes) (hwf : l.WF) (hcl : l.codeLength = cl)
    (hcnt : l.count + (fs.map (fun f => f.kind.labelRefs + 1)).sum < 65536) :
    StepOk l (readFrames p fs.length prev.isNone (prevOff pos prev) l (encFrames pos (prev.map pos) fs ++ r)) r
      (fs.map (fun f => f.kind.labelRefs + 1)).sum (fs.flatMap (fun f => f.kind.refs pos ++ [pos f.at_]))
      (fun lf => fs.map (fun f => (labOf lf pos f.at_, f.kind.raw lf pos))) := by
  have hlen : (fs.flatMap (fun f => f.kind.refs pos ++ [pos f.at_])).length = (fs.map (fun f => f.kind.labelRefs + 1)).sum := by
    rw [List.length_flatMap]; congr 1
    exact List.map_congr_left fun f _ => by rw [List.length_append, SFrameKind.refs_length]; rfl
  have hsz : Sz cl l := hcl ▸ hwf.sz
  obtain ⟨v, e, hr, hv⟩ := readFrames_steps p pos n cl ⟨hp, hmonoS⟩ fs prev hleg l r hsz
  obtain ⟨hwf', hc⟩ := wf_addAll_room hwf _ (fun pc hpc => hcl ▸ (hsz.addAll _).le_of_isSome (hr pc hpc)) (hlen ▸ hcnt)
  exact ⟨v, _, e, hwf', le_addAll l _, hlen ▸ hc, hr, hv⟩

end ClassRead
