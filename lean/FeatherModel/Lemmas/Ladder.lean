/-!
# `?` chains: a `match … | none => none | some x => …` ladder is a chain of `Option.bind`

`match` compiles to an auxiliary matcher per scrutinee type (`f.match_1`), so no rewrite rule stated for one `match`
applies to another, and elaboration keeps a matcher on a variable folded, so `rfl` does not relate two of them either.
With `set_option smartUnfolding false` it unfolds a matcher to `casesOn` like any other definition. Under that option every
ladder of a model function is, by `rfl`, the `match` on the right of `bind_eq_match` / `map_eq_match`: an equation
`f x = (g x).bind fun a => (h a).map fun b => …` is proved by rewriting its right-hand side with them, then `rfl`.
The option is set for that `rfl` only: under it `simp only [f]` would unfold a structural recursion to its `brecOn`.

The same `rfl` ties two structural recursions with the same skeleton: the models' textual copies of one function (`splitOn`,
`upsert` / `mapInsert` = `AList.insert`, `isort`, `mapSeq`, the member loops of the visitor replay = `seqEv`) are equal to their
master by `set_option smartUnfolding false in rfl`, with no induction. It does not relate a match-of-match or a sparse
multi-discriminant match to a nested ladder, nor a recursion to a `flatMap` / `foldl` that recurses differently.
-/

namespace Option
variable {α β : Type}

theorem bind_eq_match (o : Option α) (k : α → Option β) :
    o.bind k = match o with | none => none | some x => k x := by
  cases o <;> rfl

theorem map_eq_match (o : Option α) (f : α → β) :
    o.map f = match o with | none => none | some x => some (f x) := by
  cases o <;> rfl

end Option
