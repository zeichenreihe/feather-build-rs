import FeatherModel.Model.CodeWrite

/-!
# Long runs of one-byte instructions (to build witnesses at the 65535-byte limit without evaluating 65535 steps)
-/

namespace CodeWrite

theorem pass_append (wide : List Nat) (a b : List Insn) : ∀ s,
    pass wide (a ++ b) s = (match pass wide a s with | .error e => .error e | .ok s' => pass wide b s') := by
  induction a with
  | nil => intro s; rfl
  | cons i a ih =>
    intro s
    simp only [List.cons_append, pass]
    cases step wide i s with
    | error e => rfl
    | ok s1 => exact ih s1

theorem step_simple (wide : List Nat) (op : Nat) (s : St) (h : s.w.size ≤ 65535) :
    step wide (.simple op) s = .ok ⟨s.w ++ [op], s.pos.push s.w.size, s.unw⟩ := by
  obtain ⟨w, pos, unw⟩ := s
  simp only [step]
  have : ¬ w.size > 65535 := by simp at h; omega
  simp [this, encInsn]

theorem pass_replicate (wide : List Nat) (op : Nat) : ∀ (m : Nat) (s : St), s.w.size + m ≤ 65536 →
    pass wide (List.replicate m (.simple op)) s =
      .ok ⟨s.w ++ List.replicate m op, s.pos ++ List.range' s.w.size m, s.unw⟩ := by
  intro m
  induction m with
  | zero => intro s _; simp [pass]
  | succ m ih =>
    intro s h
    simp only [List.replicate_succ, pass]
    rw [step_simple wide op s (by omega)]
    simp only []
    rw [ih _ (by simp; omega)]
    simp [List.range'_succ]

theorem pass_nops (op m : Nat) (h : 1 + m ≤ 65536) :
    ∃ s', (∀ wide, pass wide (List.replicate (m + 1) (.simple op)) St.init = .ok s') ∧ s'.w.size = m + 1 ∧
      s'.pos.size = m + 1 ∧ s'.unw.toList = [] ∧ s'.pos[0]? = some 0 :=
  ⟨_, fun wide => pass_replicate wide op (m + 1) St.init (by simp [St.init]; omega),
    by simp [St.init], by simp [St.init], by simp [St.init], by simp [St.init, List.range'_succ]⟩

/-- a conditional branch at offset 65533 back to instruction 0: the first attempt is an error
(`Thm.C02.if_at_end_is_err`) -/
theorem if_end_err (pre : List Insn) (s : St) (hs : pass [] pre St.init = .ok s) (hw : s.w.size = 65533)
    (hp : 0 < s.pos.size) (h0 : s.pos[0]? = some 0) (c : Cond) :
    writeCode (pre ++ [.ifc c 0]) = .err := by
  rw [writeCode, write, pass_append, hs]
  obtain ⟨w, pos, unw⟩ := s
  simp only at hw hp h0
  have hlbl : (pos.push w.size)[0]? = some 0 := by
    rw [Array.getElem?_push]; simp [show ¬ (0 = pos.size) by omega, h0]
  have hle : ¬ (w.size > 65535) := by omega
  have hnf : fitsI16 (offs w.size 0) = false := by simp [fitsI16, offs, hw]
  have hgt : w.size + 3 > 65535 := by omega
  simp only [pass, step, hle, if_false, encInsn, encIf, hlbl, hnf, Bool.false_eq_true, hgt, if_true]

/-- a conditional branch at offset 65533 to the last label of a 65536-byte attempt: the label is truncated to 0,
the branch is marked wide, the second attempt is an error (`Thm.C02.truncated_last_label_is_err`). `hs` is asked for
every `wide` because the second attempt runs the prefix with the branch marked -/
theorem if_last_label_err (pre : List Insn) (s : St) (hs : ∀ wide, pass wide pre St.init = .ok s)
    (hw : s.w.size = 65533) {n : Nat} (hn : pre.length = n) (hp : s.pos.size = n) (hu : s.unw.toList = []) (c : Cond) :
    writeCode (pre ++ [.ifc c (n + 1)]) = .err := by
  subst hn
  rw [writeCode, List.length_append, List.length_singleton]
  obtain ⟨w, pos, unw⟩ := s
  simp only at hw hp hu
  have hnone : ∀ x, (pos.push x)[pre.length + 1]? = none := by
    intro x; apply Array.getElem?_eq_none; simp; omega
  have hle : ¬ (w.size > 65535) := by omega
  have hgt : w.size + 3 > 65535 := by omega
  let u : Unwritten := ⟨w.size, pos.size, pre.length + 1, w.size + 1, false⟩
  -- first attempt: narrow reservation, last label = 65536 % 65536 = 0, retry
  have h1 : pass [] (pre ++ [.ifc c (pre.length + 1)]) St.init =
      .ok (⟨w ++ (c.opcode :: i16b I16MAX), pos.push w.size, unw ++ [u]⟩ : St) := by
    rw [pass_append, hs []]
    simp only [pass, step, hle, if_false, encInsn, encIf, hnone, List.contains_nil, Bool.false_eq_true]
    rfl
  have hsz : (w ++ (c.opcode :: i16b I16MAX)).size = 65536 := by
    simp [i16b, u16b, hw]
  have hlp : labelPos (pos.push w.size) 65536 (pre.length + 1) = some 0 := by
    simp [labelPos, hp]
  have hnf : fitsI16 (offs w.size 0) = false := by simp [fitsI16, offs, hw]
  have h2 : resolve (labelPos (pos.push w.size) (w ++ (c.opcode :: i16b I16MAX)).size)
      (unw ++ [u]).toList (w ++ (c.opcode :: i16b I16MAX)) = .retry pos.size := by
    rw [hsz]
    simp only [Array.toList_appendList, hu, List.nil_append, resolve, u, hlp, Bool.false_eq_true, if_false, hnf]
  rw [write, h1]
  simp only [h2]
  -- second attempt: the instruction is in `wide`, its label still unknown during the pass
  rw [write, pass_append, hs [pos.size]]
  simp only [pass, step, hle, if_false, encInsn, encIf, hnone, List.contains_cons, beq_self_eq_true, Bool.true_or,
    if_true, hgt]

end CodeWrite
