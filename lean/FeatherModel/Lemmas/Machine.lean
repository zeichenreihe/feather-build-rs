/-!
# Loops that stop at the first error
`IsRun step run`: `run` folds the partial step function `step` over the input and gives up at the first element that
`step` refuses. The model writes this loop out once per machine (`Tiny.run`, `Enigma.run`, `Spec.applyAll`;
`Visit.run` is `List.foldlM` itself, `List.isRun_foldlM`). An instance is two lines: the first equation is `rfl`, the second
is `rfl` after a case split on `step s x`. What holds of every such loop is said here once: a run taken apart at its first
element and at an append, and induction along a successful run.
-/

structure IsRun {σ α : Type} (step : σ → α → Option σ) (run : σ → List α → Option σ) : Prop where
  nil : ∀ s, run s [] = some s
  cons : ∀ s x l, run s (x :: l) = (step s x).bind fun m => run m l

namespace IsRun
variable {σ α : Type} {step : σ → α → Option σ} {run : σ → List α → Option σ} (h : IsRun step run)
include h

theorem cons_some {s s' : σ} {x : α} {l : List α} (hr : run s (x :: l) = some s') :
    ∃ m, step s x = some m ∧ run m l = some s' :=
  Option.bind_eq_some_iff.mp (h.cons s x l ▸ hr)

theorem append : ∀ (a : List α) (s : σ) (b : List α), run s (a ++ b) = (run s a).bind fun m => run m b
  | [], s, b => by rw [h.nil]; rfl
  | x :: a, s, b => by
    rw [List.cons_append, h.cons, h.cons]
    cases step s x with
    | none => rfl
    | some m => exact append a m b

theorem append_some {a b : List α} {s s' : σ} (hr : run s (a ++ b) = some s') :
    ∃ m, run s a = some m ∧ run m b = some s' :=
  Option.bind_eq_some_iff.mp (h.append a s b ▸ hr)

theorem append_none {b : List α} (hb : ∀ s, run s b = none) (a : List α) (s : σ) : run s (a ++ b) = none := by
  rw [h.append]
  cases run s a with
  | none => rfl
  | some m => exact hb m

theorem induction {P : α → Prop} {R : σ → σ → Prop} (refl : ∀ s, R s s) (trans : ∀ {a b c}, R a b → R b c → R a c)
    (hstep : ∀ {s s' x}, P x → step s x = some s' → R s s') :
    ∀ {l : List α} {s s' : σ}, run s l = some s' → (∀ x ∈ l, P x) → R s s'
  | [], s, s', hr, _ => by cases (h.nil s).symm.trans hr; exact refl s
  | x :: l, s, s', hr, hP => by
    obtain ⟨m, h1, h2⟩ := h.cons_some hr
    exact trans (hstep (hP x List.mem_cons_self) h1)
      (induction refl trans hstep h2 fun y hy => hP y (List.mem_cons_of_mem _ hy))

theorem invariant {I : σ → Prop} (hstep : ∀ {s s' x}, I s → step s x = some s' → I s') {l : List α} {s s' : σ}
    (hr : run s l = some s') : I s → I s' :=
  h.induction (P := fun _ => True) (R := fun a b => I a → I b) (fun _ => id) (fun f g => g ∘ f)
    (fun _ hs hi => hstep hi hs) hr fun _ _ => trivial

end IsRun

theorem List.isRun_foldlM {σ α : Type} (step : σ → α → Option σ) : IsRun step fun s l => l.foldlM step s :=
  ⟨fun _ => rfl, fun _ _ _ => List.foldlM_cons⟩
