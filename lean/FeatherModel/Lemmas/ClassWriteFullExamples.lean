import FeatherModel.Lemmas.ClassWriteFullDecide

/-!
# C02 (whole writer) — the example class descriptions of `Thm/C02.lean`

`wrote t chk`: the writer succeeds on `t`, every entry of the pool it builds is `PoolEntryOk`, and the written file
passes `chk`. These are the three things the examples of `Thm/C02.lean` ask of a description; bundled, one evaluation of
`writeBody t` answers all three (`wrote_bytes`, `wrote_fragment`).
-/

namespace ClassWriteFull
open ClassRead ClassRead.Spec

def wrote (t : ClassFacts) (chk : Bytes → Bool) : Bool :=
  match writeBody t with
  | .ok (body, p) =>
    decide (PoolAllOk p) &&
      (match poolBytes p with
       | .ok pb => chk (be32 0xCAFEBABE ++ be16 t.minor ++ be16 t.major ++ pb ++ body)
       | .error _ => false)
  | .error _ => false

theorem wrote_bytes {t : ClassFacts} {chk : Bytes → Bool} (h : wrote t chk = true) :
    (∃ body p, writeBody t = .ok (body, p) ∧ PoolAllOk p) ∧ ∃ bytes, writeClass t = .ok bytes ∧ chk bytes = true := by
  unfold wrote at h
  unfold writeClass
  cases hb : writeBody t with
  | error e => rw [hb] at h; cases h
  | ok r =>
    obtain ⟨body, p⟩ := r
    rw [hb] at h
    simp only [Bool.and_eq_true, decide_eq_true_eq] at h
    cases hp : poolBytes p with
    | error e => rw [hp] at h; cases h.2
    | ok pb =>
      rw [hp] at h
      exact ⟨⟨body, p, rfl, h.1⟩, _, by simp only [bind, Except.bind, hp]; rfl, h.2⟩

theorem wrote_fragment {t : ClassFacts} {chk : Bytes → Bool} (hc : ClassOk t) (h : wrote t chk = true) :
    InWriterFragment t := by
  obtain ⟨⟨body, p, hb, hp⟩, _⟩ := wrote_bytes h
  unfold InWriterFragment PoolOkOf
  rw [hb]
  exact ⟨hc, hp⟩

end ClassWriteFull

namespace Thm.C02

/-- non-vacuity: an interface with two fields (constant values, signature, annotations with nested element values, a
type annotation with a type path, unknown attribute), an abstract method (`Exceptions`, `Signature`, annotations, type
annotations, `AnnotationDefault`, `MethodParameters`, unknown attribute) and the class attributes of the fragment except
`Synthetic`, the invisible (type) annotations and those of the examples below (`Module`, `Record`, `BootstrapMethods`); the
superclass is `java/lang/Object` -/
def exampleTree : ClassRead.ClassFacts :=
  { minor := 0, major := 61, access := 0x0601, name := [65],
    super := some [106, 97, 118, 97, 47, 108, 97, 110, 103, 47, 79, 98, 106, 101, 99, 116], interfaces := [[73]],
    fields := [⟨0x19, [102], [73], true, false, some (.int 7), some [73],
                 [.mk [76, 65, 59] [([118], .arr [.const 90 1, .str [120], .anno (.mk [76, 66, 59] [([119], .enum [76, 69, 59] [88])])]),
                                     ([100], .const 68 4607182418800017408)]], [],
                 [⟨.field, [(3, 1), (0, 0)], .mk [76, 84, 59] []⟩], [], [⟨[88], [1, 2]⟩]⟩,
               ⟨0x0a, [103], [74], false, true, some (.str [104, 105]), none, [], [], [], [], []⟩],
    methods := [⟨0x401, [109], [40, 41, 86], false, true, none, some [[69]], some [40, 41, 86], [], [.mk [76, 65, 59] []],
                 [⟨.throws 0, [], .mk [76, 84, 59] []⟩, ⟨.formalParam 1, [], .mk [76, 84, 59] [([118], .cls [73])]⟩], [],
                 some (.arr [.const 66 (-3), .const 67 65535]),
                 some [⟨some [112], 0x10⟩, ⟨none, 0⟩], [⟨[89], []⟩]⟩],
    deprecated := true, synthetic := false,
    innerClasses := some [⟨[65, 36, 66], some [65], some [66], 8⟩, ⟨[67], none, none, 0⟩],
    enclosingMethod := some ([79], some ([109], [40, 41, 86])), signature := some [76, 65, 59],
    sourceFile := some [65, 46, 106], sourceDebugExtension := some [120, 0, 0x10000],
    rva := [.mk [76, 65, 59] [([118], .const 74 (-5))]], ria := [],
    rvta := [⟨.extends_, [], .mk [76, 84, 59] []⟩, ⟨.typeParamBound 0x11 0 1, [(1, 0)], .mk [76, 84, 59] []⟩], rita := [],
    module := none, modulePackages := some [[112]], moduleMainClass := some [77],
    nestHost := some [78], nestMembers := some [[65, 36, 66]], permittedSubclasses := some [],
    recordComponents := [], attrs := [⟨[90], [9]⟩] }

/-- non-vacuity, `Record`: a record class with two components — the first with `Signature`, a visible annotation with a
nested element value, an invisible type annotation (target `field`, a type path) and an unknown attribute; the
superclass is `java/lang/Record` -/
def exampleRecord : ClassRead.ClassFacts :=
  { exampleTree with
    access := 0x0031, name := [82],
    super := some [106, 97, 118, 97, 47, 108, 97, 110, 103, 47, 82, 101, 99, 111, 114, 100], interfaces := [],
    fields := [], methods := [],
    recordComponents :=
      [⟨[120], [73], some [84, 73, 59], [.mk [76, 65, 59] [([118], .arr [.const 73 1, .str [115]])]], [],
         [], [⟨.field, [(3, 0)], .mk [76, 84, 59] []⟩], [⟨[88], [1, 2, 3]⟩]⟩,
       ⟨[121], [74], none, [], [], [], [], []⟩] }

/-- non-vacuity, `Module`: a `module-info` with a versioned and an unversioned `requires`, a qualified and an
unqualified `exports`, an `opens`, a `uses` and a `provides … with …`, plus `ModulePackages` / `ModuleMainClass` -/
def exampleModule : ClassRead.ClassFacts :=
  { minor := 0, major := 61, access := 0x8000, name := [109, 111, 100, 117, 108, 101, 45, 105, 110, 102, 111],
    super := none, interfaces := [], fields := [], methods := [],
    deprecated := false, synthetic := false, innerClasses := none, enclosingMethod := none, signature := none,
    sourceFile := some [109, 46, 106], sourceDebugExtension := none, rva := [], ria := [], rvta := [], rita := [],
    module := some
      { name := [109, 46, 97], flags := 0x0020, version := some [49, 46, 48],
        requires := [⟨[106, 97, 118, 97, 46, 98, 97, 115, 101], 0x8000, some [49, 55]⟩, ⟨[109, 46, 98], 0x0020, none⟩],
        exports := [⟨[112, 47, 97], 0, [[109, 46, 98], [109, 46, 99]]⟩, ⟨[112, 47, 98], 0x1000, []⟩],
        opens := [⟨[112, 47, 97], 0, [[109, 46, 98]]⟩],
        uses := [[112, 47, 83]],
        provides := [⟨[112, 47, 83], [[112, 47, 97, 47, 73], [112, 47, 97, 47, 74]]⟩] },
    modulePackages := some [[112, 47, 97], [112, 47, 98]], moduleMainClass := some [112, 47, 97, 47, 77],
    nestHost := none, nestMembers := none, permittedSubclasses := none, recordComponents := [], attrs := [] }

/-- non-vacuity, `Code`: a class with a method whose body has an `invokedynamic` (bootstrap arguments: an `int` and a
`Dynamic` constant with a `String` argument), an `ldc2_w` of a `Dynamic` constant of type `J`, a field access, an `ldc`
of a string, a method call, a conditional branch and a `goto` (labels 2 and 3), an `iinc`, a protected range with a handler (labels
1, 2, 4; the catch type `java/lang/Exception`), stack map frames on the branch target (`append [int]`), the handler
(`same_locals_1_stack_item [Object java/lang/Exception]`) and the `goto` target (`full` with an `Uninitialized(label 1)`),
a line table, a local variable with a descriptor and one with a signature (live to the end of the code: `last_label` 5),
an unknown attribute `Foo` of the `Code` attribute -/
def exampleCode : ClassRead.ClassFacts :=
  { exampleTree with
    access := 0x0021, name := [67], interfaces := [], fields := [],
    methods :=
      [⟨0x0009, [109], [40, 73, 41, 86], false, false,
         some
           { maxStack := 2, maxLocals := 2,
             insns :=
               [⟨none, none, .invokedynamic ⟨[114, 117, 110], [40, 41, 86], ⟨6, ⟨[66], [98], [40, 41, 86]⟩, false⟩,
                   [.int 7, .dyn [99] [73] ⟨6, ⟨[66], [98], [40, 41, 86]⟩, true⟩ [.str [115]]]⟩⟩,
                ⟨none, none, .ldc (.dyn [100] [74] ⟨2, ⟨[66], [102], [74]⟩, false⟩ [.long 5])⟩,
                ⟨none, none, .field 0xb2 ⟨[83], [111, 117, 116], [76, 80, 59]⟩⟩,
                ⟨none, none, .ldc (.str [104, 105])⟩,
                ⟨none, none, .invokevirtual ⟨[80], [112], [40, 76, 83, 59, 41, 86]⟩⟩,
                ⟨some 1, none, .load 0 0⟩,
                ⟨none, none, .branch 0x99 2⟩,
                ⟨none, none, .iinc 0 1⟩,
                ⟨some 2, some (.append [.int]), .goto 3⟩,
                ⟨some 4, some (.same1 (.object [106, 97, 118, 97, 47, 108, 97, 110, 103, 47, 69, 120, 99, 101, 112, 116, 105, 111, 110])),
                  .store 4 1⟩,
                ⟨some 3, some (.full [.int, .uninit 1] []), .simple 0xb1⟩],
             exceptions := [⟨1, 2, 4, some [106, 97, 118, 97, 47, 108, 97, 110, 103, 47, 69, 120, 99, 101, 112, 116, 105, 111, 110]⟩],
             lastLabel := some 5,
             lines := some [(1, 10), (3, 12)],
             locals := some [⟨1, 5, [120], some [73], none, 0⟩, ⟨4, 5, [101], none, some [84, 84, 59], 1⟩],
             rvta := [], ritva := [], attrs := [⟨[70, 111, 111], [1, 2, 3]⟩] },
         none, none, [], [], [], [], none, none, []⟩] }

theorem exampleTree_wrote : ClassWriteFull.wrote exampleTree (fun _ => true) = true := by decide +kernel
theorem exampleRecord_wrote : ClassWriteFull.wrote exampleRecord (fun _ => true) = true := by decide +kernel
theorem exampleModule_wrote : ClassWriteFull.wrote exampleModule (fun _ => true) = true := by decide +kernel
/-- the check: the file contains `00 00 00 03 01 02 03`, the `u32` length and the bytes of the unknown attribute `Foo` of
`Code` -/
theorem exampleCode_wrote :
    ClassWriteFull.wrote exampleCode (fun b => decide (([0, 0, 0, 3, 1, 2, 3] : Bytes) <:+: b)) = true := by decide +kernel

end Thm.C02
