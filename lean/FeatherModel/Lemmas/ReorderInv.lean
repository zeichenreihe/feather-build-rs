import FeatherModel.Lemmas.ReorderSpec
import FeatherModel.Lemmas.ReorderDesc
import FeatherModel.Lemmas.Mappings

/-!
# Lookup tables, name rows, the class map, and the relational inverse of `reorder`
-/

namespace Reorder
open MapDesc

theorem mapOpt_eq {α β : Type} (f : α → Option β) (l : List α) : mapOpt f l = l.mapM f := by
  induction l with
  | nil => rfl
  | cons a l ih =>
    rw [mapOpt, ih, List.mapM_option_cons]
    cases f a with
    | none => rfl
    | some b => cases l.mapM f <;> rfl

section
variable {m : Mappings} {req : List JStr} {table : List Nat}

theorem tableOf_eq (m : Mappings) (req : List JStr) : tableOf m req = req.mapM m.getNamespace := mapOpt_eq _ _

/-- the new namespace names are the requested names -/
theorem tableOf_ns (h : tableOf m req = some table) :
    table.map (fun i => m.ns.getD i []) = req := by
  refine (List.map_eq_of_mapM (k := id) (tableOf_eq m req ▸ h) fun x _ i hx => ?_).trans (List.map_id req)
  simp [List.getD_eq_getElem?_getD, Mappings.getNamespace_some hx]

theorem tableOf_length (h : tableOf m req = some table) : table.length = req.length :=
  List.length_of_mapM (tableOf_eq m req ▸ h)

theorem tableOf_exists (h : ∀ x ∈ req, x ∈ m.ns) : ∃ table, tableOf m req = some table :=
  Option.ne_none_iff_exists'.mp fun hn =>
    let ⟨x, hx, hnone⟩ := List.mapM_eq_none_iff.mp (tableOf_eq m req ▸ hn)
    Mappings.getNamespace_eq_none_iff.mp hnone (h x hx)

theorem tableOf_getElem? (h : tableOf m req = some table) (i : Nat) : table[i]? = (req[i]?).bind m.getNamespace := by
  -- entry `i` of `req.map m.getNamespace = table.map some`
  have := congrArg (·[i]?) (List.mapM_eq_some_iff.mp (tableOf_eq m req ▸ h))
  simp only [List.getElem?_map] at this
  cases hr : req[i]? <;> cases ht : table[i]? <;> simp_all

theorem tableOf_self (hnd : m.ns.Nodup) (h : tableOf m m.ns = some table) {i j : Nat} (hij : table[i]? = some j) :
    j = i := by
  rw [tableOf_getElem? h] at hij
  obtain ⟨x, hx, hg⟩ := Option.bind_eq_some_iff.mp hij
  exact Option.some.inj (hg.symm.trans (Mappings.getNamespace_of_nodup hnd hx))

end

theorem tableOf_inverse {m m' : Mappings} {req : List JStr} {table : List Nat} (hnd : m.ns.Nodup)
    (hreq : ∀ n ∈ m.ns, n ∈ req) (htab : tableOf m req = some table) (hns' : m'.ns = req) :
    ∃ table', tableOf m' m.ns = some table' ∧ ∀ i j : Nat, table'[i]? = some j → table[j]? = some i := by
  obtain ⟨table', htab2⟩ := tableOf_exists (m := m') (req := m.ns) (fun x hx => hns' ▸ hreq x hx)
  refine ⟨table', htab2, fun i j hij => ?_⟩
  -- `m.ns[i]` is the `j`-th namespace of `m'`, that is `req[j]`; its index in `m` is `i`
  rw [tableOf_getElem? htab2] at hij
  obtain ⟨x, hx, hg⟩ := Option.bind_eq_some_iff.mp hij
  rw [tableOf_getElem? htab, ← hns', Mappings.getNamespace_some hg]
  exact Mappings.getNamespace_of_nodup hnd hx

theorem getD_zero_of_head {names : Names} {o : Option JStr} (h : names.head? = some o) : names.getD 0 none = o := by
  cases names with
  | nil => simp at h
  | cons a l => simp at h; simp [h]

theorem reorderNames_ext {table : List Nat} {src names : Names} (hlen : table.length = names.length)
    (h : ∀ i j : Nat, table[i]? = some j → src.getD j none = names.getD i none) : reorderNames table src = names := by
  apply List.ext_getElem?
  intro i
  rw [reorderNames, List.getElem?_map]
  cases hi : table[i]? with
  | none => rw [List.getElem?_eq_none (hlen ▸ List.getElem?_eq_none_iff.mp hi)]; rfl
  | some j =>
    have hlt : i < names.length := hlen ▸ (List.getElem?_eq_some_iff.mp hi).1
    rw [Option.map_some, h i j hi, List.getD_eq_getElem?_getD, List.getElem?_eq_getElem hlt]
    rfl

theorem reorderNames_getD {table : List Nat} {names : Names} {j i : Nat} (h : table[j]? = some i) :
    (reorderNames table names).getD j none = names.getD i none := by
  simp [reorderNames, List.getD_eq_getElem?_getD, h]

theorem mem_rows {m : Mappings} {t : Nat} {x y : JStr} : (x, y) ∈ rows m t ↔
    ∃ e ∈ m.classes, e.2.names.getD 0 none = some x ∧ e.2.names.getD t none = some y := by
  simp only [rows, List.mem_filterMap]
  refine exists_congr fun e => and_congr_right fun _ => ?_
  cases e.2.names.getD 0 none <;> cases e.2.names.getD t none <;> simp

theorem mem_targets {m : Mappings} {t : Nat} {y : JStr} : y ∈ targets m t ↔
    ∃ e ∈ m.classes, e.2.names.getD t none = some y := by
  simp only [targets, List.mem_filterMap]

theorem mapClass_of {P : AList JStr JStr} {x y : JStr} (huniq : ∀ y', (x, y') ∈ P → y' = y)
    (h : (x, y) ∈ P ∨ y = x) : mapClass P x = y := by
  unfold mapClass
  cases hl : AList.lookup x P.reverse with
  | some b => exact huniq b (List.mem_reverse.mp (AList.lookup_mem hl))
  | none =>
    exact h.elim (fun hm => absurd (AList.mem_keys_of_mem (List.mem_reverse.mpr hm)) (AList.lookup_none_iff.mp hl))
      Eq.symm

theorem mapClass_rows_zero (m : Mappings) (x : JStr) : mapClass (rows m 0) x = x :=
  mapClass_of (h := .inr rfl) fun _ hy =>
    let ⟨_, _, h0, h1⟩ := mem_rows.mp hy
    Option.some.inj (h1.symm.trans h0)

section
variable {m : Mappings} {t : Nat}
  (hsrc : ∀ e ∈ m.classes, e.2.names.getD 0 none = some e.1)
include hsrc

theorem mapClass_rows_key (hnd : (AList.keys m.classes).Nodup) {e : JStr × Class} (he : e ∈ m.classes) {y : JStr}
    (hy : e.2.names.getD t none = some y) : mapClass (rows m t) e.1 = y :=
  mapClass_of (h := .inl (mem_rows.mpr ⟨e, he, hsrc e he, hy⟩)) fun y' hy' => by
    obtain ⟨e2, he2, h0, ht⟩ := mem_rows.mp hy'
    cases AList.eq_of_key_eq hnd he2 he (Option.some.inj ((hsrc e2 he2).symm.trans h0))
    exact Option.some.inj (ht.symm.trans hy)

theorem mapClass_rows_other {x : JStr} (hk : x ∉ AList.keys m.classes) : mapClass (rows m t) x = x :=
  mapClass_of (h := .inr rfl) fun _ hy => by
    obtain ⟨e, he, h0, _⟩ := mem_rows.mp hy
    exact absurd (List.mem_map.mpr ⟨e, he, Option.some.inj ((hsrc e he).symm.trans h0)⟩) hk

end

theorem mem_descsOf {m : Mappings} {d : JStr} : d ∈ descsOf m ↔
    ∃ e ∈ m.classes, (∃ x ∈ e.2.fields, x.2.desc = d) ∨ (∃ x ∈ e.2.methods, x.2.desc = d) := by
  simp only [descsOf, List.mem_flatMap, List.mem_append, List.mem_map]

section
variable {n : Nat} {f g : JStr → JStr} {table table' : List Nat}
  (hnames : ∀ names : Names, names.length = n → reorderNames table' (reorderNames table names) = names)
include hnames

theorem param_back {e e' : Nat × Param}
    (hwf : ParamWF n e)
    (h : ParamRel table e e') : ParamRel table' e' e := by
  refine ⟨by rw [hwf.2, h.index], h.index.symm, ?_, h.doc.symm⟩
  rw [h.names, hnames _ hwf.1]

theorem field_back {e e' : MemberKey × Field}
    (hwf : FieldWF n e)
    (hdesc : ∀ d', mapDesc f e.2.desc = some d' → mapDesc g d' = some e.2.desc)
    (h : FieldRel f table e e') : FieldRel g table' e' e := by
  refine ⟨hdesc _ h.desc, ?_, h.doc.symm, hwf.2.1, hwf.2.2⟩
  rw [h.names, hnames _ hwf.1]

theorem method_back {e e' : MemberKey × Method}
    (hwf : MethodWF n e)
    (hdesc : ∀ d', mapDesc f e.2.desc = some d' → mapDesc g d' = some e.2.desc)
    (h : MethodRel f table e e') : MethodRel g table' e' e := by
  refine ⟨hdesc _ h.desc, ?_, h.doc.symm, hwf.2.1, hwf.2.2.1, ?_, hwf.2.2.2.1⟩
  · rw [h.names, hnames _ hwf.1]
  · exact h.params.flip.imp_mem (fun b _ a ha hr => param_back hnames (hwf.2.2.2.2 a ha) hr)

theorem class_back {e e' : JStr × Class}
    (hwf : ClassWF n e)
    (hdescF : ∀ x ∈ e.2.fields, ∀ d', mapDesc f x.2.desc = some d' → mapDesc g d' = some x.2.desc)
    (hdescM : ∀ x ∈ e.2.methods, ∀ d', mapDesc f x.2.desc = some d' → mapDesc g d' = some x.2.desc)
    (h : ClassRel f table e e') : ClassRel g table' e' e := by
  obtain ⟨w1, w2, w3, w4, w5, w6⟩ := hwf
  refine ⟨?_, h.doc.symm, w2, ?_, w3, ?_, w5⟩
  · rw [h.names, hnames _ w1]
  · exact h.fields.flip.imp_mem (fun b _ a ha hr => field_back hnames (w4 a ha) (hdescF a ha) hr)
  · exact h.methods.flip.imp_mem (fun b _ a ha hr => method_back hnames (w6 a ha) (hdescM a ha) hr)

end

/-- reordering back: the relational core of `Thm.C08.reorder_inverse` -/
theorem spec_inverse {m m' : Mappings} {req : List JStr} {t0 : Nat} {rest : List Nat}
    (hwf : WF m) (hreq : ∀ n ∈ m.ns, n ∈ req) (htab : tableOf m req = some (t0 :: rest))
    (hinj : DescInjective m t0) (hs : Spec m req m') : Spec m' m.ns m := by
  have hlen := hs.1
  obtain ⟨hns, hdoc, hrel, hnd'⟩ := hs.of_table htab
  obtain ⟨hnsnd, hknd, hcwf⟩ := hwf
  have hns' : m'.ns = req := by rw [hns]; exact tableOf_ns htab
  obtain ⟨table', htab2, hperm⟩ := tableOf_inverse hnsnd hreq htab hns'
  have hnames : ∀ names : Names, names.length = m.ns.length →
      reorderNames table' (reorderNames (t0 :: rest) names) = names := fun names hn =>
    reorderNames_ext ((tableOf_length htab2).trans hn.symm) fun i j hij => reorderNames_getD (hperm i j hij)
  obtain ⟨t0', rest', rfl⟩ : ∃ t0' rest', table' = t0' :: rest' := by
    cases table' with
    | nil =>
      have h1 := tableOf_length htab2
      have h2 := tableOf_length htab
      simp only [List.length_nil, List.length_cons] at h1 h2
      omega
    | cons a b => exact ⟨a, b, rfl⟩
  have hback0 : (t0 :: rest)[t0']? = some 0 := hperm 0 t0' rfl
  -- every class and its image carry each other's key
  have hsrc : ∀ e ∈ m.classes, e.2.names.getD 0 none = some e.1 := fun e he => getD_zero_of_head (hcwf e he).2.1
  have hsrc' : ∀ e' ∈ m'.classes, e'.2.names.getD 0 none = some e'.1 := fun e' he' =>
    let ⟨_, _, hr⟩ := hrel.flip.mem_left he'
    getD_zero_of_head hr.head
  have hback : ∀ e ∈ m.classes, ∀ e', ClassRel (mapClass (rows m t0)) (t0 :: rest) e e' →
      e'.2.names.getD t0' none = some e.1 := fun e he e' hr => by
    rw [hr.names, reorderNames_getD hback0]
    exact hsrc e he
  -- the class map of the way back inverts the class map on every mentioned class
  have hmention : ∀ d ∈ descsOf m, (mapDesc (mapClass (rows m t0)) d).isSome = true → ∀ x ∈ classesOf d,
      mapClass (rows m' t0') (mapClass (rows m t0) x) = x ∧
      mapClass (rows m t0) x ≠ [] ∧ SEMI ∉ mapClass (rows m t0) x := by
    intro d hd hacc x hx
    by_cases hk : x ∈ AList.keys m.classes
    · obtain ⟨e, he, rfl⟩ := List.mem_map.mp hk
      obtain ⟨e', he', hr⟩ := hrel.mem_left he
      rw [mapClass_rows_key hsrc hknd he hr.key_eq, mapClass_rows_key hsrc' hnd' he' (hback e he e' hr)]
      exact ⟨rfl, hinj.2 _ (mem_targets.mpr ⟨e, he, hr.key_eq⟩)⟩
    · -- a key of `m'` is the namespace-`t0` name of a class of `m`, which `x` is not
      have hk' : x ∉ AList.keys m'.classes := fun hk' => by
        obtain ⟨e', he', rfl⟩ := List.mem_map.mp hk'
        obtain ⟨e, he, hr⟩ := hrel.flip.mem_left he'
        exact absurd (mem_targets.mpr ⟨e, he, hr.key_eq⟩) ((hinj.1 d hd _ hx).resolve_left hk)
      rw [mapClass_rows_other hsrc hk, mapClass_rows_other hsrc' hk']
      exact ⟨rfl, classesOf_clean hacc hx⟩
  have hdesc : ∀ d ∈ descsOf m, ∀ d', mapDesc (mapClass (rows m t0)) d = some d' →
      mapDesc (mapClass (rows m' t0')) d' = some d := by
    intro d hd d' h
    have hacc : (mapDesc (mapClass (rows m t0)) d).isSome = true := by rw [h]; rfl
    exact mapDesc_roundtrip h (fun x hx => (hmention d hd hacc x hx).1) (fun x hx => (hmention d hd hacc x hx).2)
  refine ⟨by rw [hns', hlen], t0', rest', htab2, ?_, hdoc.symm, ?_, hknd⟩
  · exact (tableOf_ns htab2).symm
  · refine hrel.flip.imp_mem (fun e' _ e he hr => ?_)
    refine class_back hnames (hcwf e he) ?_ ?_ hr
    · intro x hx
      exact hdesc _ (mem_descsOf.mpr ⟨e, he, Or.inl ⟨x, hx, rfl⟩⟩)
    · intro x hx
      exact hdesc _ (mem_descsOf.mpr ⟨e, he, Or.inr ⟨x, hx, rfl⟩⟩)

end Reorder
