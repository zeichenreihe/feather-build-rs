import FeatherModel.Lemmas.ClassReadLayout

/-! The two loops of `read_code`: one instruction (the first pass creates the labels of its targets and skips its bytes, the
second decodes it), then a whole legal code array. -/

namespace ClassRead
open Outcome Spec

/-- `labels.create` for a list of offsets, in order -/
def createAll : Labels → List Nat → Outcome Labels
  | l, [] => ok l
  | l, pc :: r => do let l ← l.create pc; createAll l r

/- The first-pass lemmas equate two computations: `createAll` fails on an offset outside the code and then so does the
pass, so they hold on every table; `createAll_eq` names the table when all offsets are inside. -/
theorem pass1Table_enc (pos : Nat → Nat) (a c : Nat) (ha : a ≤ 65535) (tbl : List Nat) (l : Labels)
    (ht : ∀ t ∈ tbl, pos t ≤ 65535) (r : Bytes) :
    pass1Table a tbl.length l (c, tbl.flatMap (fun t => be32 (ofI32 (relOff pos a t))) ++ r)
      = (do let l' ← createAll l (tbl.map pos); pure (l', (c + 4 * tbl.length, r))) := by
  induction tbl generalizing c l with
  | nil => simp [pass1Table, createAll]
  | cons t ts ih =>
    simp only [List.flatMap_cons, List.append_assoc, List.length_cons, pass1Table,
      cBranch32_rel pos a c t ha (ht t (.head _)), ok_bind, List.map_cons, createAll, bind_bind]
    congr 1
    funext l1
    rw [ih (c + 4) l1 (fun x hx => ht x (.tail _ hx)), show c + 4 + 4 * ts.length = c + 4 * (ts.length + 1) by omega]

theorem pass1Pairs_enc (pos : Nat → Nat) (a c : Nat) (ha : a ≤ 65535) (pairs : List (Int × Nat)) (l : Labels)
    (ht : ∀ kt ∈ pairs, pos kt.2 ≤ 65535 ∧ inI32 kt.1) (r : Bytes) :
    pass1Pairs a pairs.length l
        (c, pairs.flatMap (fun kt => be32 (ofI32 kt.1) ++ be32 (ofI32 (relOff pos a kt.2))) ++ r)
      = (do let l' ← createAll l (pairs.map (fun kt => pos kt.2)); pure (l', (c + 8 * pairs.length, r))) := by
  induction pairs generalizing c l with
  | nil => simp [pass1Pairs, createAll]
  | cons kt ts ih =>
    have h1 := ht kt (.head _)
    simp only [List.flatMap_cons, List.append_assoc, List.length_cons, pass1Pairs,
      cI32_of c kt.1 h1.2, cBranch32_rel pos a (c + 4) kt.2 ha h1.1, ok_bind, List.map_cons, createAll, bind_bind]
    congr 1
    funext l1
    rw [ih (c + 4 + 4) l1 (fun x hx => ht x (.tail _ hx)), show c + 4 + 4 + 8 * ts.length = c + 8 * (ts.length + 1) by omega]

/-- the reader computes the count as `high - low + 1` in `i32` with overflow checks: it must stay below `2^31 - 1` -/
theorem tableCount_ok (lo hi : Int) (n : Nat) (h1 : lo ≤ hi) (h2 : (n : Int) = hi - lo + 1)
    (hn : n < 2147483647) : tableCount lo hi = ok n := by
  unfold tableCount
  have a : ¬ lo > hi := by omega
  have b : ¬ hi - lo > 2147483646 := by omega
  simp only [a, b, if_false]
  congr 1; omega

theorem pass1Step_skip (l : Labels) (a op : Nat) (ops r : Bytes) (hk : p1Kind op = .skip ops.length) :
    pass1Step l (a, op :: (ops ++ r)) = ok (l, (a + (1 + ops.length), r)) := by
  cases ops with
  | nil => simp only [pass1Step, cU8_cons, ok_bind, hk]; rfl
  | cons b bs =>
    have hs : cSkip (bs.length + 1) (a + 1, b :: bs ++ r) = ok (a + 1 + (bs.length + 1), r) := cSkip_append _ _ (b :: bs) r rfl
    simp only [pass1Step, cU8_cons, ok_bind, hk, List.length_cons, hs, pure_eq, Nat.add_assoc]

theorem createAll_one (l : Labels) (pc : Nat) : createAll l [pc] = l.create pc := by
  simp only [createAll]; cases l.create pc <;> rfl

theorem pass1Step_branch16 (l : Labels) (pos : Nat → Nat) (a op t : Nat) (r : Bytes) (hk : p1Kind op = .branch16)
    (h : inI16 (relOff pos a t)) (ht : pos t ≤ 65535) :
    pass1Step l (a, op :: (be16 (ofI16 (relOff pos a t)) ++ r))
      = (do let l' ← createAll l [pos t]; pure (l', (a + 3, r))) := by
  simp only [pass1Step, cU8_cons, ok_bind, hk, cBranch16_rel pos a (a + 1) t h ht, createAll_one]

theorem pass1Step_branch32 (l : Labels) (pos : Nat → Nat) (a op t : Nat) (r : Bytes) (hk : p1Kind op = .branch32)
    (ha : a ≤ 65535) (ht : pos t ≤ 65535) :
    pass1Step l (a, op :: (be32 (ofI32 (relOff pos a t)) ++ r))
      = (do let l' ← createAll l [pos t]; pure (l', (a + 5, r))) := by
  simp only [pass1Step, cU8_cons, ok_bind, hk, cBranch32_rel pos a (a + 1) t ha ht, createAll_one]

/-- the `wide` arms of the model (both loops) as a table: bytes after the modified opcode -/
def wideSkipModel (w : Nat) : Option Nat :=
  if (0x15 ≤ w && w ≤ 0x19) || (0x36 ≤ w && w ≤ 0x3a) || w == 0xa9 then some 2
  else if w == 0x84 then some 4
  else none

theorem pass1Step_wideSkip (l : Labels) (pc w : Nat) (rest : Bytes) :
    pass1Step l (pc, 0xc4 :: w :: rest) =
      match wideSkipModel w with
      | some n => (do let c ← cSkip n (pc + 2, rest); pure (l, c))
      | none => err := by
  have hk : p1Kind 0xc4 = .wide := rfl
  simp only [pass1Step, cU8_cons, ok_bind, hk]
  unfold wideSkipModel
  split
  · rfl
  · split <;> rfl

theorem decodeWide_none (pc w : Nat) (rest : Bytes) (h : wideSkipModel w = none) : decodeWide (pc, w :: rest) = err := by
  simp only [decodeWide, cU8_cons, ok_bind]
  unfold wideSkipModel at h
  split at h; · cases h
  split at h; · cases h
  rename_i h1 h2
  simp only [Bool.or_eq_true, not_or] at h1
  simp only [h1, h2, Bool.false_eq_true, ↓reduceIte]

/-- `wide` in front of a load, store or `ret`: two operand bytes; in front of `iinc`: four -/
theorem pass1Step_wide (l : Labels) (a w : Nat) (ops r : Bytes)
    (hw : ((0x15 ≤ w && w ≤ 0x19) || (0x36 ≤ w && w ≤ 0x3a) || w == 0xa9) = true ∧ ops.length = 2 ∨ w = 0x84 ∧ ops.length = 4) :
    pass1Step l (a, 0xc4 :: w :: (ops ++ r)) = ok (l, (a + (2 + ops.length), r)) := by
  rw [pass1Step_wideSkip]
  rcases hw with ⟨hw, hn⟩ | ⟨rfl, hn⟩
  · simp only [wideSkipModel, hw, if_true, cSkip_append 2 _ ops r hn, ok_bind, pure_eq, hn, Nat.add_assoc]
  · exact bind_ok (cSkip_append 4 _ ops r hn) (by rw [hn, Nat.add_assoc]; rfl)

-- the operand readers are kept opaque here: matching an arm lemma against the concrete operand bytes would otherwise run them
attribute [local irreducible] cBranch16 cBranch32 cSkip in
theorem pass1Step_encode (p : Pool) (bsms : Option (List Bsm)) (l : Labels) (n : Nat) (pos : Nat → Nat) (a : Nat)
    (si : SInsn) (hleg : si.Legal p bsms n pos a) (ha : a ≤ 65535) (hpos : ∀ t, t < n → pos t ≤ 65535) (r : Bytes) :
    pass1Step l (a, si.encode pos a ++ r)
      = (do let l' ← createAll l ((targetsOf si.insn).map pos); pure (l', (a + si.size a, r))) := by
  obtain ⟨insn, form, cp, pad⟩ := si
  cases insn with
  | simple op => exact pass1Step_skip l a op [] r (p1Kind_simple op hleg)
  | ldc k => cases form <;> exact pass1Step_skip l a _ _ r rfl
  | load k i =>
    cases form with
    | short => exact pass1Step_skip l a _ [] r (p1Kind_loadN k hleg.1 i hleg.2)
    | plain => exact pass1Step_skip l a _ [i] r (p1Kind_load k hleg.1)
    | wide => exact pass1Step_wide l a _ (be16 i) r (.inl ⟨by rw [wideLoad_aux k hleg.1]; rfl, rfl⟩)
  | store k i =>
    cases form with
    | short => exact pass1Step_skip l a _ [] r (p1Kind_storeN k hleg.1 i hleg.2)
    | plain => exact pass1Step_skip l a _ [i] r (p1Kind_store k hleg.1)
    | wide => exact pass1Step_wide l a _ (be16 i) r (.inl ⟨by rw [(wideStore_aux k hleg.1).2]; simp, rfl⟩)
  | iinc i v =>
    cases form with
    | short => exact hleg.elim
    | plain => exact pass1Step_skip l a 0x84 [i, ofI8 v] r rfl
    | wide => exact pass1Step_wide l a 0x84 (be16 i ++ be16 (ofI16 v)) r (.inr ⟨rfl, rfl⟩)
  | branch op t => exact pass1Step_branch16 l pos a op t r (p1Kind_cond op hleg.1) hleg.2.2 (hpos t hleg.2.1)
  | goto t | jsr t =>
    cases form with
    | short => exact hleg.elim
    | plain => exact pass1Step_branch16 l pos a _ t r rfl hleg.2 (hpos t hleg.1)
    | wide => exact pass1Step_branch32 l pos a _ t r rfl ha (hpos t hleg)
  | ret i =>
    cases form with
    | short => exact hleg.elim
    | plain => exact pass1Step_skip l a 0xa9 [i] r rfl
    | wide => exact pass1Step_wide l a 0xa9 (be16 i) r (.inl ⟨rfl, rfl⟩)
  | tableswitch d lo hi tbl =>
    obtain ⟨hd, htb, hlo, hhi, hle, hlen, hsmall, _⟩ := SInsn.legal_tableswitch hleg
    rw [SInsn.tableswitch_eq, SInsn.tableswitch_size]
    have hk : p1Kind 0xaa = .tableswitch := rfl
    simp only [pass1Step, List.cons_append, List.append_assoc, cU8_cons, ok_bind, hk, cAlign_pad a pad,
      cBranch32_rel pos a _ d ha (hpos d hd), targetsOf, List.map_cons, createAll, bind_bind]
    congr 1
    funext l1
    simp only [cI32_of _ lo hlo, cI32_of _ hi hhi, tableCount_ok lo hi tbl.length hle hlen (by omega), ok_bind,
      pass1Table_enc pos a _ ha tbl l1 (fun t ht => hpos t (htb t ht))]
    rw [show a + 1 + padLen a + 4 + 4 + 4 + 4 * tbl.length = a + (1 + padLen a + 12 + 4 * tbl.length) by omega]
  | lookupswitch d pairs =>
    obtain ⟨hd, htb, hlen, _⟩ := SInsn.legal_lookupswitch hleg
    rw [SInsn.lookupswitch_eq, SInsn.lookupswitch_size]
    have hk : p1Kind 0xab = .lookupswitch := rfl
    have hneg : ¬ ((pairs.length : Int) < 0) := by omega
    simp only [pass1Step, List.cons_append, List.append_assoc, cU8_cons, ok_bind, hk, cAlign_pad a pad,
      cBranch32_rel pos a _ d ha (hpos d hd), targetsOf, List.map_cons, List.map_map, createAll, bind_bind]
    congr 1
    funext l1
    simp only [cI32_natCast _ _ (show pairs.length < 2147483648 by omega), hneg, if_false, Int.toNat_natCast, ok_bind,
      pass1Pairs_enc pos a _ ha pairs l1 (fun kt hkt => ⟨hpos kt.2 (htb kt hkt).1, (htb kt hkt).2⟩)]
    rw [show a + 1 + padLen a + 4 + 4 + 8 * pairs.length = a + (1 + padLen a + 8 + 8 * pairs.length) by omega]
    rfl
  | field op rf => exact pass1Step_skip l a op (be16 cp) r (p1Kind_field op hleg.2.1 hleg.1)
  | _ => exact pass1Step_skip l a _ _ r rfl

theorem pass2Table_enc (l : Labels) (pos : Nat → Nat) (a c : Nat) (ha : a ≤ 65535) (tbl : List Nat)
    (ht : ∀ t ∈ tbl, pos t ≤ 65535 ∧ (l.get (pos t)).isSome = true) (r : Bytes) :
    pass2Table l a tbl.length (c, tbl.flatMap (fun t => be32 (ofI32 (relOff pos a t))) ++ r)
      = ok (tbl.map (labOf l pos), (c + 4 * tbl.length, r)) := by
  induction tbl generalizing c with
  | nil => simp [pass2Table]
  | cons t ts ih =>
    have h1 := ht t (by simp)
    have ih' := ih (c + 4) (fun x hx => ht x (by simp [hx]))
    simp only [List.flatMap_cons, List.append_assoc, List.length_cons, pass2Table,
      cBranch32_rel pos a c t ha h1.1, ok_bind, tryGet_labOf l pos t h1.2, ih', pure_eq, List.map_cons]
    congr 3; omega

theorem pass2Pairs_enc (l : Labels) (pos : Nat → Nat) (a c : Nat) (ha : a ≤ 65535) (pairs : List (Int × Nat))
    (ht : ∀ kt ∈ pairs, pos kt.2 ≤ 65535 ∧ (l.get (pos kt.2)).isSome = true ∧ inI32 kt.1) (r : Bytes) :
    pass2Pairs l a pairs.length
        (c, pairs.flatMap (fun kt => be32 (ofI32 kt.1) ++ be32 (ofI32 (relOff pos a kt.2))) ++ r)
      = ok (pairs.map (fun kt => (kt.1, labOf l pos kt.2)), (c + 8 * pairs.length, r)) := by
  induction pairs generalizing c with
  | nil => simp [pass2Pairs]
  | cons kt ts ih =>
    have h1 := ht kt (by simp)
    have ih' := ih (c + 4 + 4) (fun x hx => ht x (by simp [hx]))
    simp only [List.flatMap_cons, List.append_assoc, List.length_cons, pass2Pairs,
      cI32_of c kt.1 h1.2.2, cBranch32_rel pos a (c + 4) kt.2 ha h1.1, ok_bind, tryGet_labOf l pos kt.2 h1.2.1, ih',
      pure_eq, List.map_cons]
    congr 3; omega

/-- what the second pass needs to know about the label table for one instruction: every target has a label -/
def TargetsLabelled (l : Labels) (pos : Nat → Nat) (i : Insn) : Prop :=
  ∀ t ∈ targetsOf i, (l.get (pos t)).isSome = true

theorem decodeInsn_encode (p : Pool) (bsms : Option (List Bsm)) (l : Labels) (n : Nat) (pos : Nat → Nat) (a : Nat)
    (si : SInsn) (hleg : si.Legal p bsms n pos a) (ha : a ≤ 65535) (hpos : ∀ t, t < n → pos t ≤ 65535)
    (hl : TargetsLabelled l pos si.insn) (r : Bytes) :
    decodeInsn p bsms l (a, si.encode pos a ++ r) = ok (mapT (labOf l pos) si.insn, (a + si.size a, r)) := by
  obtain ⟨insn, form, cp, pad⟩ := si
  cases insn with
  | simple op =>
    refine bind_ok (cU8_cons a _ _) ?_
    simp only [opKind_simple op hleg]
    rfl
  | bipush v => exact bind_ok (cU8_cons a _ _) <| bind_ok (cI8_of _ v hleg r) rfl
  | sipush v => exact bind_ok (cU8_cons a _ _) <| bind_ok (cI16_of _ v hleg r) rfl
  | ldc k =>
    cases form with
    | short => exact bind_ok (cU8_cons a _ _) <| bind_ok (cU8_cons _ cp r) <| bind_ok hleg.2 rfl
    | plain | wide => exact bind_ok (cU8_cons a _ _) <| bind_ok (cU16_be _ cp hleg.1 r) <| bind_ok hleg.2 rfl
  | load k i =>
    cases form with
    | short =>
      refine bind_ok (cU8_cons a _ _) ?_
      simp only [opKind_loadN k hleg.1 i hleg.2]
      rfl
    | plain =>
      refine bind_ok (cU8_cons a _ _) ?_
      simp only [opKind_load k hleg.1]
      rfl
    | wide =>
      refine bind_ok (cU8_cons a _ _) <| bind_ok (cU8_cons _ _ _) <| (if_pos (wideLoad_aux k hleg.1)).trans <|
        bind_ok (cU16_be _ i hleg.2 r) ?_
      rw [Nat.add_sub_cancel_left]
      rfl
  | store k i =>
    cases form with
    | short =>
      refine bind_ok (cU8_cons a _ _) ?_
      simp only [opKind_storeN k hleg.1 i hleg.2]
      rfl
    | plain =>
      refine bind_ok (cU8_cons a _ _) ?_
      simp only [opKind_store k hleg.1]
      rfl
    | wide =>
      refine bind_ok (cU8_cons a _ _) <| bind_ok (cU8_cons _ _ _) <|
        (if_neg (Bool.eq_false_iff.mp (wideStore_aux k hleg.1).1)).trans <| (if_pos (wideStore_aux k hleg.1).2).trans <|
        bind_ok (cU16_be _ i hleg.2 r) ?_
      rw [Nat.add_sub_cancel_left]
      rfl
  | iinc i v =>
    cases form with
    | short => exact hleg.elim
    | plain => exact bind_ok (cU8_cons a _ _) <| bind_ok (cU8_cons _ i _) <| bind_ok (cI8_of _ v hleg.2 r) rfl
    | wide =>
      exact bind_ok (cU8_cons a _ _) <| bind_ok (cU8_cons _ 0x84 _) <| bind_ok (cU16_be _ i hleg.1 _) <|
        bind_ok (cI16_of _ v hleg.2 r) rfl
  | branch op t =>
    refine bind_ok (cU8_cons a _ _) ?_
    simp only [opKind_cond op hleg.1]
    exact bind_ok (cBranch16_rel pos a _ t hleg.2.2 (hpos t hleg.2.1) r) <| bind_ok (tryGet_labOf l pos t (hl t (.head _))) rfl
  | goto t | jsr t =>
    cases form with
    | short => exact hleg.elim
    | plain =>
      exact bind_ok (cU8_cons a _ _) <| bind_ok (cBranch16_rel pos a _ t hleg.2 (hpos t hleg.1) r) <|
        bind_ok (tryGet_labOf l pos t (hl t (.head _))) rfl
    | wide =>
      exact bind_ok (cU8_cons a _ _) <| bind_ok (cBranch32_rel pos a _ t ha (hpos t hleg) r) <|
        bind_ok (tryGet_labOf l pos t (hl t (.head _))) rfl
  | ret i =>
    cases form with
    | short => exact hleg.elim
    | plain => rfl
    | wide => exact bind_ok (cU8_cons a _ _) <| bind_ok (cU8_cons _ 0xa9 _) <| bind_ok (cU16_be _ i hleg r) rfl
  | tableswitch d lo hi tbl =>
    obtain ⟨hd, htb, hlo, hhi, hle, hlen, hsmall, _⟩ := SInsn.legal_tableswitch hleg
    rw [SInsn.tableswitch_eq, SInsn.tableswitch_size]
    simp only [List.cons_append, List.append_assoc]
    refine bind_ok (cU8_cons a _ _) <| bind_ok (cAlign_pad a pad _) <| bind_ok (cBranch32_rel pos a _ d ha (hpos d hd) _) <|
      bind_ok (tryGet_labOf l pos d (hl d (.head _))) <| bind_ok (cI32_of _ lo hlo _) <| bind_ok (cI32_of _ hi hhi _) <|
      bind_ok (tableCount_ok lo hi tbl.length hle hlen (by omega)) <|
      bind_ok (pass2Table_enc l pos a _ ha tbl (fun t ht => ⟨hpos t (htb t ht), hl t (.tail _ ht)⟩) r) ?_
    rw [show a + 1 + padLen a + 4 + 4 + 4 + 4 * tbl.length = a + (1 + padLen a + 12 + 4 * tbl.length) by omega]; rfl
  | lookupswitch d pairs =>
    obtain ⟨hd, htb, hlen, _⟩ := SInsn.legal_lookupswitch hleg
    rw [SInsn.lookupswitch_eq, SInsn.lookupswitch_size]
    have hneg : ¬ ((pairs.length : Int) < 0) := by omega
    simp only [List.cons_append, List.append_assoc]
    refine bind_ok (cU8_cons a _ _) <| bind_ok (cAlign_pad a pad _) <| bind_ok (cBranch32_rel pos a _ d ha (hpos d hd) _) <|
      bind_ok (tryGet_labOf l pos d (hl d (.head _))) <|
      bind_ok (cI32_natCast _ _ (show pairs.length < 2147483648 by omega) _) <| (if_neg hneg).trans <|
      bind_ok (pass2Pairs_enc l pos a _ ha pairs (fun kt hkt =>
        ⟨hpos kt.2 (htb kt hkt).1, hl kt.2 (.tail _ (List.mem_map.mpr ⟨kt, hkt, rfl⟩)), (htb kt hkt).2⟩) r) ?_
    rw [show a + 1 + padLen a + 4 + 4 + 8 * pairs.length = a + (1 + padLen a + 8 + 8 * pairs.length) by omega]; rfl
  | field op rf =>
    refine bind_ok (cU8_cons a _ _) ?_
    simp only [opKind_field op hleg.2.1 hleg.1]
    exact bind_ok (cU16_be _ cp hleg.2.2.1 r) <| bind_ok hleg.2.2.2 rfl
  | invokevirtual x | invokespecial x y | invokestatic x y | new x | anewarray x | checkcast x | instanceof x =>
    exact bind_ok (cU8_cons a _ _) <| bind_ok (cU16_be _ cp hleg.1 r) <| bind_ok hleg.2 rfl
  | invokeinterface x | multianewarray x y =>
    exact bind_ok (cU8_cons a _ _) <| bind_ok (cU16_be _ cp hleg.1 _) <| bind_ok hleg.2.1 rfl
  | invokedynamic dd =>
    obtain ⟨hcp, d', hd', rfl⟩ := hleg
    exact bind_ok (cU8_cons a _ _) <| bind_ok (cU16_be _ cp hcp _) <| bind_ok hd' rfl
  | newarray at_ =>
    exact bind_ok (cU8_cons a _ _) <| bind_ok (cU8_cons _ at_ r) <|
      if_pos (by simp only [hleg.1, hleg.2, decide_true, Bool.and_self])

theorem createAll_append (l : Labels) (xs ys : List Nat) :
    createAll l (xs ++ ys) = (do let l' ← createAll l xs; createAll l' ys) := by
  induction xs generalizing l with
  | nil => simp [createAll]
  | cons x xs ih =>
    simp only [List.cons_append, createAll]
    cases l.create x <;> simp [ih]

theorem createAll_eq (l : Labels) (pcs : List Nat) (hpc : ∀ pc ∈ pcs, pc < l.codeLength) :
    createAll l pcs = ok (l.addAll pcs) := by
  induction pcs generalizing l with
  | nil => rfl
  | cons pc pcs ih =>
    simp only [createAll, Labels.create_eq (hpc pc (.head _)), ok_bind]
    exact ih _ fun q hq => (Labels.le_add l pc).1 ▸ hpc q (.tail _ hq)

/-- all branch targets of a list of instructions, as offsets, in first-pass order -/
def targetOffsets (pos : Nat → Nat) (xs : List SInsn) : List Nat :=
  xs.flatMap (fun si => (targetsOf si.insn).map pos)

theorem Spec.CodeLegal.pos_le {p : Pool} {bsms : Option (List Bsm)} {insns : List SInsn} (hleg : CodeLegal p bsms insns)
    (t : Nat) (ht : t < insns.length) : codePos insns t ≤ 65535 :=
  Nat.le_trans (codePos_le_end insns t (Nat.le_of_lt ht)) hleg.small

theorem SInsn.encode_isEmpty (pos : Nat → Nat) (a : Nat) (x : SInsn) (r : Bytes) : (x.encode pos a ++ r).isEmpty = false := by
  cases h : x.encode pos a with
  | nil => exact absurd h (SInsn.encode_ne_nil _ _ x)
  | cons b bs => rfl

theorem pass1_suffix (p : Pool) (bsms : Option (List Bsm)) (insns : List SInsn) (hleg : CodeLegal p bsms insns)
    (k fuel : Nat) (hfuel : insns.length - k ≤ fuel) (l : Labels) :
    pass1 fuel l (codePos insns k, encInsns (codePos insns) (insns.drop k) (codePos insns k))
      = createAll l (targetOffsets (codePos insns) (insns.drop k)) := by
  induction fuel generalizing k l with
  | zero => rw [List.drop_eq_nil_of_le (by omega)]; rfl
  | succ fuel ih =>
    by_cases hk : k < insns.length
    · have ih := ih (k + 1) (by omega)
      rw [codePos_succ insns k hk] at ih
      simp only [List.drop_eq_getElem_cons hk, pass1, encInsns, SInsn.encode_isEmpty, Bool.false_eq_true, if_false,
        pass1Step_encode p bsms l insns.length (codePos insns) _ _ (hleg.legal k hk) (hleg.pos_le k hk) hleg.pos_le,
        targetOffsets, List.flatMap_cons, createAll_append, bind_bind, pure_eq, ok_bind]
      congr 1
      funext l1
      exact ih l1
    · rw [List.drop_eq_nil_of_le (Nat.le_of_not_lt hk)]; rfl

/-- the instruction entries the second pass delivers for the instructions `xs` starting at index `k`; `rem` = the
frames not yet attached -/
def entriesFrom (l : Labels) (pos : Nat → Nat) : List SFrame → Nat → List SInsn → List InsnEntry
  | _, _, [] => []
  | [], k, x :: xs => ⟨l.get (pos k), none, mapT (labOf l pos) x.insn⟩ :: entriesFrom l pos [] (k + 1) xs
  | f :: rest, k, x :: xs =>
    if f.at_ = k then ⟨l.get (pos k), some (f.kind.raw l pos), mapT (labOf l pos) x.insn⟩ :: entriesFrom l pos rest (k + 1) xs
    else ⟨l.get (pos k), none, mapT (labOf l pos) x.insn⟩ :: entriesFrom l pos (f :: rest) (k + 1) xs

/-- frames describe instructions `≥ k`, in strictly increasing order -/
def Increasing : Nat → List SFrame → Prop
  | _, [] => True
  | k, f :: fs => k ≤ f.at_ ∧ Increasing (f.at_ + 1) fs

theorem Increasing.mono {k k' : Nat} (h : k' ≤ k) {fs : List SFrame} (hi : Increasing k fs) : Increasing k' fs := by
  cases fs with
  | nil => trivial
  | cons f fs => exact ⟨Nat.le_trans h hi.1, hi.2⟩

theorem takeFrame_none (frs : Option (List (Nat × Frame))) (label : Option Nat) (h : frs.getD [] = []) :
    takeFrame frs label = (none, frs) := by
  cases frs with
  | none => cases label <;> rfl
  | some l => simp at h; subst h; cases label <;> rfl

/-- the frames still to attach start with `f`, at a labelled instruction: `f` is taken at instruction `k` exactly when it
belongs there, since no two offsets share a label and no two instructions an offset -/
theorem takeFrame_raw {l : Labels} (hwf : l.WF) {pos : Nat → Nat} {f : SFrame} {k : Nat} (hinj : pos f.at_ = pos k → f.at_ = k)
    (hf : (l.get (pos f.at_)).isSome = true) {rest : List SFrame} {frs : Option (List (Nat × Frame))}
    (hfrs : frs.getD [] = framesRaw l pos (f :: rest)) :
    takeFrame frs (l.get (pos k)) =
      if f.at_ = k then (some (f.kind.raw l pos), some (framesRaw l pos rest)) else (none, frs) := by
  obtain ⟨id, hg⟩ := Option.isSome_iff_exists.mp hf
  cases frs with
  | none => cases hfrs
  | some v =>
    obtain rfl : v = (labOf l pos f.at_, f.kind.raw l pos) :: framesRaw l pos rest := hfrs
    rw [show labOf l pos f.at_ = id by rw [labOf, hg]; rfl]
    by_cases h : f.at_ = k
    · rw [← h, hg, if_pos rfl]; exact if_pos rfl
    · rw [if_neg h]
      cases hgk : l.get (pos k) with
      | none => rfl
      | some idk => exact if_neg fun e : id = idk => h (hinj (hwf.inj _ _ _ hg (e ▸ hgk)))

theorem pass2_suffix (p : Pool) (bsms : Option (List Bsm)) (insns : List SInsn) (hleg : CodeLegal p bsms insns)
    (l : Labels) (hwf : l.WF) (hlab : ∀ i (h : i < insns.length), TargetsLabelled l (codePos insns) insns[i].insn)
    (k fuel : Nat) (hfuel : insns.length - k ≤ fuel) (acc : List InsnEntry)
    (rem : List SFrame) (hinc : Increasing k rem)
    (hremlab : ∀ f ∈ rem, f.at_ < insns.length ∧ (l.get (codePos insns f.at_)).isSome = true)
    (frs : Option (List (Nat × Frame))) (hfrs : frs.getD [] = framesRaw l (codePos insns) rem) :
    pass2 p bsms l fuel frs acc (codePos insns k, encInsns (codePos insns) (insns.drop k) (codePos insns k))
      = ok (acc.reverse ++ entriesFrom l (codePos insns) rem k (insns.drop k)) := by
  induction fuel generalizing k acc rem frs with
  | zero => rw [List.drop_eq_nil_of_le (by omega)]; simp [pass2, encInsns, entriesFrom]
  | succ fuel ih =>
    by_cases hk : k < insns.length
    · have ih := ih (k + 1) (by omega)
      rw [codePos_succ insns k hk] at ih
      simp only [List.drop_eq_getElem_cons hk, pass2, encInsns, SInsn.encode_isEmpty, Bool.false_eq_true, if_false,
        decodeInsn_encode p bsms l insns.length (codePos insns) _ _ (hleg.legal k hk) (hleg.pos_le k hk) hleg.pos_le (hlab k hk),
        ok_bind]
      cases rem with
      | nil =>
        rw [takeFrame_none frs _ hfrs]
        simp only []
        rw [ih _ [] trivial (by simp) frs hfrs]
        simp [entriesFrom]
      | cons f rest =>
        obtain ⟨hfn, hfl⟩ := hremlab f (by simp)
        rw [takeFrame_raw hwf (codePos_inj insns _ _ (Nat.le_of_lt hfn) (Nat.le_of_lt hk)) hfl hfrs]
        by_cases hfk : f.at_ = k
        · rw [if_pos hfk, ih _ rest (hfk ▸ hinc.2) (fun g hg => hremlab g (by simp [hg])) _ rfl]
          simp [entriesFrom, hfk]
        · rw [if_neg hfk, ih _ (f :: rest) ⟨by have := hinc.1; omega, hinc.2⟩ hremlab frs hfrs]
          simp [entriesFrom, hfk]
    · rw [List.drop_eq_nil_of_le (Nat.le_of_not_lt hk)]; simp [pass2, encInsns, entriesFrom]

end ClassRead
