import FeatherModel.Lemmas.ClassWriteFullMembers
import FeatherModel.Lemmas.ClassReadFinal

/-!
# C02 (whole writer) — `write`: the class attribute blocks, the members and attributes assembled, and the file as
the encoding of a legal `ClassLayout` (`writeClass_layout`: what C01's `ClassRead.read_encode` reads back)
-/

namespace ClassWriteFull
open PoolWrite (Entry)
open FramePool (Good Le)
open ClassRead ClassRead.Spec

def SClassAttr.frame (a : SClassAttr) : Bytes := attrFrame a.raw.1 a.raw.2

/-- names and flags an `InnerClasses` row must have for the reader to accept it and give it back unchanged -/
def InnerOk (e : InnerClass) : Prop :=
  validClassName e.inner = true ∧ (∀ o, e.outer = some o → validClassName o = true) ∧ e.flags < 65536 ∧
    e.flags &&& maskInner = e.flags

/-- what an `InnerClasses` row denotes (`SClassAttr.apply` masks the flags) -/
def SInner.fact (e : SInner) : InnerClass := ⟨e.inner, e.outer, e.name, e.flags &&& maskInner⟩

theorem writeInnerClass_row : Row writeInnerClass SInner.encode SInner.fact id SInner.Legal InnerOk := by
  intro p p' e b hg hok h
  obtain ⟨hinner, houter, hflags, hmask⟩ := hok
  obtain ⟨⟨i, p1⟩, h1, h⟩ := Except.bind_eq_ok.mp h
  obtain ⟨⟨o, p2⟩, h2, h⟩ := Except.bind_eq_ok.mp h
  obtain ⟨⟨n, p3⟩, h3, h⟩ := Except.bind_eq_ok.mp h
  cases Except.ok.inj h
  obtain ⟨s1, _, hi, a1⟩ := putClass_sound hg hinner h1
  obtain ⟨s2, ho, a2⟩ := putOptional_sound putClass_sound s1.good houter h2
  obtain ⟨s3, hn, a3⟩ := putOptional_sound (Q := fun _ => True) (fun hg _ h => putUtf8_sound hg h) s2.good
    (fun _ _ => trivial) h3
  refine ⟨s1.trans (s2.trans s3), ⟨i, e.inner, o, e.outer, n, e.name, e.flags⟩, rfl, ?_, fun q hq =>
    ⟨hi, ho, hn, hflags, a1 q (hq.of_le (s2.trans s3).le), a2 q (hq.of_le s3.le), a3 q hq⟩⟩
  show (⟨e.inner, e.outer, e.name, e.flags &&& maskInner⟩ : InnerClass) = e
  rw [hmask]

/-- conditions on a class of the proved fragment that do not depend on the pool (`version`: the reader refuses a class
file version above 67.0) -/
structure ClassOk (t : ClassFacts) : Prop where
  version : t.minor < 65536 ∧ t.major < 65536 ∧ (t.major < 67 ∨ (t.major = 67 ∧ t.minor = 0))
  access : t.access < 65536
  mask : t.access &&& maskClass = t.access
  name : validObjClassName t.name = true
  super : ∀ s, t.super = some s → validObjClassName s = true
  interfaces : ∀ i ∈ t.interfaces, validObjClassName i = true
  fields : ∀ f ∈ t.fields, FieldOk f
  methods : ∀ m ∈ t.methods, MethodOk m
  inner : ∀ es, t.innerClasses = some es → ∀ e ∈ es, InnerOk e
  enclosing : ∀ em, t.enclosingMethod = some em →
    validClassName em.1 = true ∧ ∀ nd, em.2 = some nd → validMethodName nd.1 = true
  sde : ∀ s, t.sourceDebugExtension = some s → Mutf8.Encodable s = true
  rva : AnnosOk t.rva
  ria : AnnosOk t.ria
  rvta : TypeAnnosOk .cls t.rvta
  rita : TypeAnnosOk .cls t.rita
  module : ∀ m, t.module = some m → ModuleOk m
  mainClass : ∀ c, t.moduleMainClass = some c → validClassName c = true
  nestHost : ∀ c, t.nestHost = some c → validClassName c = true
  nestMembers : ∀ cs, t.nestMembers = some cs → ∀ c ∈ cs, validClassName c = true
  permitted : ∀ cs, t.permittedSubclasses = some cs → ∀ c ∈ cs, validClassName c = true
  record : ∀ r ∈ t.recordComponents, RecordOk r
  unknown : ∀ a ∈ t.attrs, a.name ∉ classAttrNames

theorem writeMethods_spec : ∀ (ms : List MethodFacts) {p p' : Pool} {bs bs' : List Bsm} {b : Bytes}, Good p → BsOk bs →
    (∀ m ∈ ms, MethodOk m) → writeMethods p bs ms = .ok (b, p', bs') →
    (Step p p' ∧ BsExt bs bs' ∧ BsOk bs') ∧ ∃ ls : List MethodLayout, b = ls.flatMap MethodLayout.encode ∧
      ls.length = ms.length ∧ (∀ l ∈ ls, Sound2 p' bs' (fun rp bsms => l.Legal rp bsms)) ∧
      mapOpt MethodLayout.facts ls = some (ms.map fun m => { m with code := m.code.bind Code.resolve }) := by
  intro ms
  induction ms with
  | nil =>
    intro p p' bs bs' b hg hb _ h
    have := Except.ok.inj h
    cases this
    exact ⟨⟨Step.refl hg, BsExt.refl _, hb⟩, [], rfl, rfl, by simp, rfl⟩
  | cons m ms ih =>
    intro p p' bs bs' b hg hb hok h
    obtain ⟨⟨b1, p1, bs1⟩, h1, h⟩ := Except.bind_eq_ok.mp h
    obtain ⟨⟨b2, p2, bs2⟩, h2, h⟩ := Except.bind_eq_ok.mp h
    have := Except.ok.inj h
    cases this
    obtain ⟨⟨s1, e1, o1⟩, l, rfl, sd, hf⟩ := writeMethod_spec hg hb (hok m (by simp)) h1
    obtain ⟨⟨s2, e2, o2⟩, ls, rfl, hl, sds, hfs⟩ := ih s1.good o1 (fun g hg' => hok g (by simp [hg'])) h2
    refine ⟨⟨s1.trans s2, e1.trans e2, o2⟩, l :: ls, by simp, by simp [hl], ?_, by simp [mapOpt, hf, hfs]⟩
    intro x hx
    rcases List.mem_cons.mp hx with rfl | hx
    · exact sd.mono s2.le e2
    · exact sds x hx

/-- the attribute fields of a class description that the attribute blocks set -/
def withAttrsOf (base t : ClassFacts) : ClassFacts :=
  { base with deprecated := base.deprecated || t.deprecated, synthetic := base.synthetic || t.synthetic,
              innerClasses := t.innerClasses, enclosingMethod := t.enclosingMethod, signature := t.signature,
              sourceFile := t.sourceFile, sourceDebugExtension := t.sourceDebugExtension,
              rva := base.rva ++ t.rva, ria := base.ria ++ t.ria, rvta := base.rvta ++ t.rvta, rita := base.rita ++ t.rita,
              module := t.module, modulePackages := t.modulePackages, moduleMainClass := t.moduleMainClass, nestHost := t.nestHost,
              nestMembers := t.nestMembers, permittedSubclasses := t.permittedSubclasses,
              recordComponents := base.recordComponents ++ t.recordComponents,
              attrs := base.attrs ++ t.attrs }

/-- the single-instance attribute fields are still unset -/
def Fresh (c : ClassFacts) : Prop :=
  c.innerClasses = none ∧ c.enclosingMethod = none ∧ c.signature = none ∧ c.sourceFile = none ∧
    c.sourceDebugExtension = none ∧ c.modulePackages = none ∧ c.moduleMainClass = none ∧ c.nestHost = none ∧
    c.nestMembers = none ∧ c.permittedSubclasses = none

/-- the class attributes: framing, legality, effect on the accumulator of `ClassLayout.facts` (the description so far,
the bootstrap table, whether a `Record` attribute was seen) -/
def ownClass : Own SClassAttr ClassAcc :=
  ⟨SClassAttr.frame, fun q a => Sound q (fun rp => a.Legal rp), fun hl h => h.mono hl, SClassAttr.apply⟩

/-- a class attribute writer whose block touches the description only (`pre`, `upd` on `ClassFacts`).  `Prod.map upd id st`
mentions `st` once: with `(upd st.1, st.2)` a chain of blocks doubles the composed update at every link -/
abbrev ClassWBlock (w : AttrW) (pre : ClassFacts → Prop) (upd : ClassFacts → ClassFacts) : Prop :=
  WBlock ownClass w (fun st => pre st.1) (Prod.map upd id)

/-- a single-instance attribute, held in the field (`get`, `set`) of the description: unset before, set to `x` after,
nothing else touched.  `hw`: when `x = some v`, what `w v` writes is the frame of a legal attribute that `apply` accepts
while the field is unset, setting it to `v` -/
theorem block_single {α : Type} {x : Option α} {w : α → Pool → W} (get : ClassFacts → Option α)
    (set : ClassFacts → Option α → ClassFacts) (hset : ∀ c, set c (get c) = c)
    (hw : ∀ v p q b, x = some v → Good p → w v p = .ok (b, q) → Step p q ∧ ∃ a : SClassAttr, b = SClassAttr.frame a ∧
      Sound q (fun rp => a.Legal rp) ∧ ∀ st : ClassAcc, get st.1 = none → a.apply st = some (set st.1 (some v), st.2)) :
    ClassWBlock (ifSome x w) (fun c => get c = none) (fun c => set c x) := by
  intro p q o hg h
  rcases ifSome_inv h with ⟨v, b, rfl, hb, rfl⟩ | ⟨rfl, rfl, rfl⟩
  · obtain ⟨s, a, rfl, hs, ha⟩ := hw v p q b rfl hg hb
    exact ⟨s, gblock_present (O := ownClass) a hs ha⟩
  · exact ⟨Step.refl hg, gblock_absent fun st hst => Prod.ext ((congrArg (set st.1) hst).symm.trans (hset st.1)) rfl⟩

theorem block_flag_deprecated (t : ClassFacts) : ClassWBlock (flagAttr t.deprecated sDeprecated) (fun _ => True)
    (fun c => { c with deprecated := c.deprecated || t.deprecated }) :=
  wblock_flag (O := ownClass) SClassAttr.deprecated (fun _ => rfl) (fun _ _ h => h)
    (fun hf st nc => by simp [ownClass, SClassAttr.apply, hf, Prod.map]) (fun hf st => by simp [hf, Prod.map])

theorem block_flag_synthetic (t : ClassFacts) : ClassWBlock (flagAttr t.synthetic sSynthetic) (fun _ => True)
    (fun c => { c with synthetic := c.synthetic || t.synthetic }) :=
  wblock_flag (O := ownClass) SClassAttr.synthetic (fun _ => rfl) (fun _ _ h => h)
    (fun hf st nc => by simp [ownClass, SClassAttr.apply, hf, Prod.map]) (fun hf st => by simp [hf, Prod.map])

theorem block_inner (t : ClassFacts)
    (hok : ∀ es, t.innerClasses = some es → ∀ e ∈ es, InnerOk e) :
    ClassWBlock (ifSome t.innerClasses (fun es => attrBuf sInnerClasses (fun p => writeSlice16 writeInnerClass p es)))
      (fun c => c.innerClasses = none) (fun c => { c with innerClasses := t.innerClasses }) :=
  block_single (·.innerClasses) (fun c v => { c with innerClasses := v }) (fun _ => rfl) fun es p q b hf hg hb => by
    obtain ⟨s, nc, ls, rfl, hm, hs⟩ := attrList_spec writeInnerClass_row (hok es hf) hg hb
    rw [List.map_id] at hm
    exact ⟨s, .innerClasses nc ls, rfl, fun q hq => ⟨(hs q hq).1, (hs q hq).2.1, (hs q hq).2.2.1, (hs q hq).2.2.2.1⟩,
      fun st hst => by simp only [SClassAttr.apply, hst, Option.isNone_none, if_true, ← hm]; rfl⟩

theorem block_enclosing (t : ClassFacts)
    (hok : ∀ em, t.enclosingMethod = some em →
      validClassName em.1 = true ∧ ∀ nd, em.2 = some nd → validMethodName nd.1 = true) :
    ClassWBlock (ifSome t.enclosingMethod (fun em => attrFix sEnclosingMethod 4 (fun p => do
      let (c, p) ← putClass p em.1
      let (m, p) ← putOptional (fun p (x : JStr × JStr) => putNameAndType p x.1 x.2) p em.2
      pure (be16 c ++ be16 m, p))))
      (fun c => c.enclosingMethod = none) (fun c => { c with enclosingMethod := t.enclosingMethod }) :=
  block_single (·.enclosingMethod) (fun c v => { c with enclosingMethod := v }) (fun _ => rfl) fun em p q b hf hg hb => by
    obtain ⟨nc, p1, bb, h1, h2, rfl⟩ := attrFix_inv hb
    obtain ⟨⟨clsCp, p2⟩, h3, h2⟩ := Except.bind_eq_ok.mp h2
    obtain ⟨⟨mCp, p3⟩, h4, h2⟩ := Except.bind_eq_ok.mp h2
    have := Except.ok.inj h2
    cases this
    obtain ⟨s1, a, hn⟩ := putUtf8_spec hg h1
    obtain ⟨s2, _, h1, ac⟩ := putClass_sound s1.good (hok em hf).1 h3
    obtain ⟨s3, h2, am⟩ := putOptional_sound (Q := fun nd : JStr × JStr => validMethodName nd.1 = true)
      (g := Pool.getMethodNameAndType) (fun hg hv h => by
        obtain ⟨s, a', hi'⟩ := putNameAndType_spec hg h
        obtain ⟨u, v, hu, _⟩ := id a'
        exact ⟨s, one_le_of_get s.good hu, hi', fun q hq => getMethodNameAndType_of hq.good (a'.mono hq.le) hv⟩)
      s2.good (hok em hf).2 h4
    exact ⟨s1.trans (s2.trans s3), .enclosingMethod nc clsCp em.1 mCp em.2,
      by simp [SClassAttr.frame, SClassAttr.raw, attrFrame, be16],
      fun q' hq => ⟨hn, a.read (hq.of_le (s2.trans s3).le), h1, h2, ac q' (hq.of_le s3.le), am q' hq⟩,
      fun st hst => by simp [SClassAttr.apply, hst]⟩

theorem block_sourceFile (t : ClassFacts) :
    ClassWBlock (ifSome t.sourceFile (fun s => attrFix sSourceFile 2 (fun p => idx16 (putUtf8 p s))))
      (fun c => c.sourceFile = none) (fun c => { c with sourceFile := t.sourceFile }) :=
  wblock_fix2 (O := ownClass) (At := Utf8At) putUtf8_spec SClassAttr.sourceFile
    (fun _ _ _ => rfl)
    (fun q nc cp v _ hn a hc ac q' hq => ⟨hn, a.read hq, hc, ac.read hq⟩)
    (fun v hf st nc cp hst => by simp [ownClass, SClassAttr.apply, hst, hf, Prod.map]) (fun hf c hc => by simp [hf, ← hc, Prod.map])

theorem block_sde (t : ClassFacts)
    (hok : ∀ s, t.sourceDebugExtension = some s → Mutf8.Encodable s = true) :
    ClassWBlock (ifSome t.sourceDebugExtension (fun s => fun p => do
      let (i, p) ← putUtf8 p sSourceDebugExtension
      let l ← cnt32 (Mutf8.encode s).length
      pure (be16 i ++ l ++ Mutf8.encode s, p)))
      (fun c => c.sourceDebugExtension = none) (fun c => { c with sourceDebugExtension := t.sourceDebugExtension }) :=
  block_single (·.sourceDebugExtension) (fun c v => { c with sourceDebugExtension := v }) (fun _ => rfl)
    fun s p q b hf hg hb => by
      obtain ⟨⟨nc, p1⟩, h1, hb⟩ := Except.bind_eq_ok.mp hb
      obtain ⟨l, h3, hb⟩ := Except.bind_eq_ok.mp hb
      obtain ⟨hl, rfl⟩ := cnt32_eq_ok.mp h3
      have := Except.ok.inj hb
      cases this
      obtain ⟨s1, a, hn⟩ := putUtf8_spec hg h1
      exact ⟨s1, .sourceDebugExtension nc s, rfl, fun q' hq => ⟨hn, a.read hq, hok s hf, by omega⟩,
        fun st hst => by simp [SClassAttr.apply, hst]⟩

theorem block_module (t : ClassFacts)
    (hok : ∀ m, t.module = some m → ModuleOk m) :
    ClassWBlock (ifSome t.module (fun m => attrBuf sModule (writeModule m)))
      (fun c => c.module = none) (fun c => { c with module := t.module }) := by
  intro p q o hg h
  obtain ⟨s, c⟩ := moduleAttr_spec hg h
  refine ⟨s, ?_⟩
  rcases c with ⟨hf, rfl⟩ | ⟨m, l, hf, ⟨nc, rfl, hn, a⟩, hl, ha⟩
  · exact gblock_absent (fun st hst => by simp [hf, ← hst, Prod.map])
  · exact gblock_present (O := ownClass) (.module nc l)
      (fun q' hq => ⟨hn, a.read hq, module_legal hq.good (ha.mono hq.le) (hok m hf), hl⟩)
      (fun st hst => by simp [ownClass, SClassAttr.apply, hst, hf, module_fact ha (hok m hf), Prod.map])

theorem block_packages (t : ClassFacts) :
    ClassWBlock (ifSome t.modulePackages (fun ps => attrBuf sModulePackages (fun p => writeSlice16 (fun p x => idx16 (putPackage p x)) p ps)))
      (fun c => c.modulePackages = none) (fun c => { c with modulePackages := t.modulePackages }) :=
  block_single (·.modulePackages) (fun c v => { c with modulePackages := v }) (fun _ => rfl) fun ps p q b hf hg hb => by
    obtain ⟨bb, p1, nc, h1, h2, _, rfl⟩ := attrBuf_inv hb
    obtain ⟨s1, ls, rfl, hm, hlt, hr⟩ := refList_spec @putPackage_spec @PkgAt.mono hg h1
    obtain ⟨s2, a, hn⟩ := putUtf8_spec s1.good h2
    exact ⟨s1.trans s2, .modulePackages nc ls, rfl,
      fun q' hq => ⟨hn, a.read hq, hlt,
        fun y hy => ⟨(hr y hy).1, getPackage_of hq.good ((hr y hy).2.mono (s2.le.trans hq.le))⟩⟩,
      fun st hst => by simp [SClassAttr.apply, hst, hm]⟩

theorem block_mainClass (t : ClassFacts) (hok : ∀ c, t.moduleMainClass = some c → validClassName c = true) :
    ClassWBlock (ifSome t.moduleMainClass (fun c => attrFix sModuleMainClass 2 (fun p => idx16 (putClass p c))))
      (fun c => c.moduleMainClass = none) (fun c => { c with moduleMainClass := t.moduleMainClass }) :=
  wblock_fix2 (O := ownClass) (At := ClsAt) putClass_spec
    SClassAttr.moduleMainClass (fun _ _ _ => rfl)
    (fun q nc cp v hf hn a hc ac q' hq =>
      ⟨hn, a.read hq, hc, getClass_of hq.good (ac.mono hq.le) (hok v hf)⟩)
    (fun v hf st nc cp hst => by simp [ownClass, SClassAttr.apply, hst, hf, Prod.map]) (fun hf c hc => by simp [hf, ← hc, Prod.map])

theorem block_nestHost (t : ClassFacts) (hok : ∀ c, t.nestHost = some c → validClassName c = true) :
    ClassWBlock (ifSome t.nestHost (fun c => attrFix sNestHost 2 (fun p => idx16 (putClass p c))))
      (fun c => c.nestHost = none) (fun c => { c with nestHost := t.nestHost }) :=
  wblock_fix2 (O := ownClass) (At := ClsAt) putClass_spec
    SClassAttr.nestHost (fun _ _ _ => rfl)
    (fun q nc cp v hf hn a hc ac q' hq =>
      ⟨hn, a.read hq, hc, getClass_of hq.good (ac.mono hq.le) (hok v hf)⟩)
    (fun v hf st nc cp hst => by simp [ownClass, SClassAttr.apply, hst, hf, Prod.map]) (fun hf c hc => by simp [hf, ← hc, Prod.map])

theorem block_nestMembers (t : ClassFacts) (hok : ∀ cs, t.nestMembers = some cs → ∀ c ∈ cs, validClassName c = true) :
    ClassWBlock (ifSome t.nestMembers (fun cs => attrBuf sNestMembers (writeClassList cs)))
      (fun c => c.nestMembers = none) (fun c => { c with nestMembers := t.nestMembers }) :=
  wblock_classList (O := ownClass) SClassAttr.nestMembers hok (fun _ _ _ => rfl) (fun _ _ _ _ h => h)
    (fun cs hf st nc cps hst => by simp [ownClass, SClassAttr.apply, hst, hf, Prod.map]) (fun hf c hc => by simp [hf, ← hc, Prod.map])

theorem block_permitted (t : ClassFacts)
    (hok : ∀ cs, t.permittedSubclasses = some cs → ∀ c ∈ cs, validClassName c = true) :
    ClassWBlock (ifSome t.permittedSubclasses (fun cs => attrBuf sPermittedSubclasses (writeClassList cs)))
      (fun c => c.permittedSubclasses = none) (fun c => { c with permittedSubclasses := t.permittedSubclasses }) :=
  wblock_classList (O := ownClass) SClassAttr.permittedSubclasses hok (fun _ _ _ => rfl) (fun _ _ _ _ h => h)
    (fun cs hf st nc cps hst => by simp [ownClass, SClassAttr.apply, hst, hf, Prod.map]) (fun hf c hc => by simp [hf, ← hc, Prod.map])

/-- the shared attributes of the class (no descriptor: `set` ignores the name and descriptor of the view) -/
def classView : View ownClass .cls classAttrNames where
  embed
    | .signature nc cp s => .signature nc cp s
    | .annotations nc v as => .annotations nc v as
    | .typeAnnotations nc v as => .typeAnnotations nc v as
    | .unknown nc n b => .unknown nc n b
  get st := ⟨st.1.name, [], st.1.signature, st.1.rva, st.1.ria, st.1.rvta, st.1.rita, st.1.attrs⟩
  set st r := ({ st.1 with signature := r.signature, rva := r.rva, ria := r.ria, rvta := r.rvta, rita := r.rita, attrs := r.attrs }, st.2)
  set_get _ := rfl
  frame a := by cases a <;> rfl
  sound q a h := by cases a <;> exact h
  apply st r a := by cases a <;> simp [ownClass, SClassAttr.apply, SRecordAttr.apply, apply_ite (Option.map _)]

theorem writeBsmRow_row {bs : List Bsm} (hb : BsOk bs) :
    Row writeBsmRow SBsm.encode (fun l => (⟨l.handle, l.args⟩ : ClassRead.Bsm)) rdBsm SBsm.Legal (· ∈ bs) := by
  intro p p' b bytes hg hm h
  obtain ⟨hd, hok, he⟩ := hb.handles b hm
  obtain ⟨⟨i, p1⟩, h1, h⟩ := Except.bind_eq_ok.mp h
  obtain ⟨c, h2, h⟩ := Except.bind_eq_ok.mp h
  obtain ⟨hl, rfl⟩ := cnt16_eq_ok.mp h2
  cases Except.ok.inj h
  rw [he] at h1
  obtain ⟨s, a, hi⟩ := putHandle_spec (h := hd) hg h1
  exact ⟨s, ⟨i, hd, b.args⟩, rfl, by rw [rdBsm, he, rdHandle_handleOf hok], fun q hq =>
    ⟨hi, getMethodHandle_of hq.good (a.mono hq.le) hok, by show b.args.length < 65536; omega, hb.args b hm⟩⟩

/-- the `BootstrapMethods` block: written exactly when a bootstrap method was put while the members were written; it
establishes the table `bsTable bs` for the reader -/
theorem ablock_bootstrap {bs : List Bsm} (hb : BsOk bs) {p p' : Pool} {o : Option Bytes} (hg : Good p)
    (h : onlyIf (!bs.isEmpty) (attrBuf sBootstrapMethods (fun p => writeSlice16 writeBsmRow p bs)) p = .ok (o, p')) :
    Step p p' ∧ GBlock ownClass o p' (fun st => st.2.1 = none) (fun st => (st.1, bsTable bs, st.2.2)) := by
  rcases onlyIf_inv h with ⟨hc, b, hbb, rfl⟩ | ⟨hc, rfl, rfl⟩
  · obtain ⟨s, nc, ls, rfl, hm, hs⟩ := attrList_spec (writeBsmRow_row hb) (fun _ h => h) hg hbb
    refine ⟨s, gblock_present (O := ownClass) (.bootstrapMethods nc ls) hs fun st hst => ?_⟩
    have hne : bs.isEmpty = false := by simpa using hc
    simp only [ownClass, SClassAttr.apply, hst, Option.isNone_none, if_true, hm, bsTable, hne, Bool.false_eq_true, if_false]
  · cases bs with
    | nil => exact ⟨Step.refl hg, gblock_absent (fun st hst => by obtain ⟨a, b, c⟩ := st; cases hst; rfl)⟩
    | cons _ _ => simp at hc

theorem ablock_record (t : ClassFacts) (hok : ∀ r ∈ t.recordComponents, RecordOk r) :
    WBlock ownClass (onlyIf (!t.recordComponents.isEmpty)
        (attrBuf sRecord (fun p => writeSlice16 writeRecordComponent p t.recordComponents)))
      (fun st => st.2.2 = false)
      (fun st => ({ st.1 with recordComponents := st.1.recordComponents ++ t.recordComponents }, st.2.1,
        st.2.2 || !t.recordComponents.isEmpty)) := by
  intro p q o hg h
  obtain ⟨s, c⟩ := recordAttr_spec hg hok h
  refine ⟨s, ?_⟩
  rcases c with ⟨hf, rfl⟩ | ⟨hne, ls, ⟨nc, rfl, hn, a⟩, hlt, hb, hs, hfacts⟩
  · exact gblock_absent (fun st _ => by rw [hf]; simp)
  · refine gblock_present (O := ownClass) (.record nc ls)
      (fun q' hq => ⟨hn, a.read hq, hlt, fun l hl => hs l hl q' hq, hb⟩) ?_
    intro st hst
    have hne' : t.recordComponents.isEmpty = false := by
      cases h : t.recordComponents with
      | nil => exact absurd h hne
      | cons _ _ => rfl
    simp [ownClass, SClassAttr.apply, hst, hfacts, hne']

/-- what the blocks of `write` ask of the accumulator they are folded into: the single-instance attribute fields are
still unset (`Fresh`, and `Module`), no `Record` attribute was seen, no bootstrap table -/
def FreshC (st : ClassAcc) : Prop := Fresh st.1 ∧ st.1.module = none ∧ st.2.2 = false ∧ st.2.1 = none

theorem classAttrs_spec {t : ClassFacts} {bsm : List Bsm} (hok : ClassOk t) (hb : BsOk bsm) :
    WBlocks ownClass (classAttrs t bsm) FreshC
      (fun st => (withAttrsOf st.1 t, bsTable bsm, st.2.2 || !t.recordComponents.isEmpty)) := by
  simp only [classAttrs, List.cons_append, List.nil_append, List.append_assoc]
  refine
    (WBlocks.consS (block_flag_deprecated t)
    (WBlocks.consS (block_flag_synthetic t)
    (WBlocks.consS (block_inner t hok.inner)
    (WBlocks.consS (block_enclosing t hok.enclosing)
    (WBlocks.appendS ((sblocks_signature t.signature).embed classView)
    (WBlocks.consS (block_sourceFile t)
    (WBlocks.consS (block_sde t hok.sde)
    (WBlocks.appendS ((sblocks_annos writeTargetClass_eq hok.rva hok.ria hok.rvta hok.rita).embed classView)
    (WBlocks.consS (block_module t hok.module)
    (WBlocks.consS (block_packages t)
    (WBlocks.consS (block_mainClass t hok.mainClass)
    (WBlocks.consS (block_nestHost t hok.nestHost)
    (WBlocks.consS (block_nestMembers t hok.nestMembers)
    (WBlocks.consS (block_permitted t hok.permitted)
    (WBlocks.consS (ablock_record t hok.record)
    (WBlocks.consS (fun _ _ _ hg h => ablock_bootstrap hb hg h)
      ((sblocks_unknown hok.unknown).embed classView)
      fun _ h => h) fun _ h => h) fun _ h => h) fun _ h => h) fun _ h => h) fun _ h => h) fun _ h => h) fun _ h => h)
      fun _ h => h) fun _ h => h) fun _ h => h) fun _ h => h) fun _ h => h) fun _ h => h) fun _ h => h) fun _ h => h).congr
    fun st ⟨⟨h1, h2, h3, h4, h5, h6, h7, h8, h9, h10⟩, hmod, hrec, hbsm⟩ =>
      -- the precondition of the chain: one conjunct per link, `True` for a link that asks nothing
      ⟨⟨trivial, trivial, h1, h2, h3, h4, h5, trivial, hmod, h6, h7, h8, h9, h10, hrec, hbsm, trivial⟩, ?_⟩
  simp [withAttrsOf, classView]

theorem entryBytes_eq {e : Entry} {b : Bytes} (h : entryBytes e = .ok b) : b = encPoolEntry (conv e) := by
  cases e with
  | utf8 s =>
    obtain ⟨c, h1, h2⟩ := Except.bind_eq_ok.mp h
    obtain ⟨_, rfl⟩ := cnt16_eq_ok.mp h1
    exact (Except.ok.inj h2).symm
  | _ => exact (Except.ok.inj h).symm

theorem entriesBytes_eq : ∀ (es : List Entry) {b : Bytes}, entriesBytes es = .ok b → b = (es.map conv).flatMap encPoolEntry := by
  intro es
  induction es with
  | nil => intro b h; exact (Except.ok.inj h).symm
  | cons e es ih =>
    intro b h
    obtain ⟨b1, h1, h⟩ := Except.bind_eq_ok.mp h
    obtain ⟨b2, h2, h⟩ := Except.bind_eq_ok.mp h
    have := Except.ok.inj h
    subst this
    simp [entryBytes_eq h1, ih h2]

theorem poolBytes_eq {p : Pool} (hw : p.WF) {b : Bytes} (h : poolBytes p = .ok b) : b = encPool (rentries p) := by
  obtain ⟨b1, h1, h⟩ := Except.bind_eq_ok.mp h
  have := Except.ok.inj h
  subst this
  rw [entriesBytes_eq _ h1, encPool, poolCount_rentries hw]
  rfl

/-- every entry of the written pool fits its fields and every string is encodable (the operand ranges of duke's tree
types, `JavaString`s) -/
def PoolAllOk (p : Pool) : Prop := ∀ e ∈ rentries p, PoolEntryOk e

/-- the semantic half of the fragment: every entry of the pool the writer builds for `t` is `PoolEntryOk` (vacuous when
the writer fails) -/
def PoolOkOf (t : ClassFacts) : Prop :=
  match writeBody t with
  | .ok (_, p) => PoolAllOk p
  | .error _ => True

/-- the proved fragment of class descriptions: `ClassOk` (syntactic: valid names, flags within their masks, operands in
range; `Code` as in `CodeOk`) and `PoolOkOf` -/
def InWriterFragment (t : ClassFacts) : Prop := ClassOk t ∧ PoolOkOf t

theorem class_resolve_eq {t : ClassFacts} {g : MethodFacts → MethodFacts} (h : ∀ m ∈ t.methods, m.resolve = some (g m)) :
    t.resolve = some { t with methods := t.methods.map g } := by
  have := mapM'_map MethodFacts.resolve id g t.methods h
  rw [List.map_id] at this
  simp [ClassFacts.resolve, this, bind, Option.bind]

theorem resolve_no_code (t : ClassFacts) (h : ∀ m ∈ t.methods, m.code = none) : t.resolve = some t := by
  rw [class_resolve_eq (g := id) fun m hm => by simp [MethodFacts.resolve, h m hm], List.map_id]

/-- `write` emits the JVMS encoding of a legal layout that denotes `t` with the labels of its method bodies resolved
(`ClassFacts.resolve`) -/
theorem writeClass_layout (t : ClassFacts) (hfrag : InWriterFragment t) (bytes : Bytes) (hw : writeClass t = .ok bytes) :
    ∃ c : ClassLayout, bytes = c.encode ∧ c.Legal ∧ ∃ t', t.resolve = some t' ∧ c.facts = some t' := by
  obtain ⟨hok, hpool⟩ := hfrag
  obtain ⟨⟨body, pf⟩, hbody, hw⟩ := Except.bind_eq_ok.mp hw
  obtain ⟨pb, hpb, hw⟩ := Except.bind_eq_ok.mp hw
  have := Except.ok.inj hw
  subst this
  have hpoolok : PoolAllOk pf := by
    unfold PoolOkOf at hpool
    rw [hbody] at hpool
    exact hpool
  obtain ⟨⟨ti, p1⟩, h1, h⟩ := Except.bind_eq_ok.mp hbody
  obtain ⟨⟨si, p2⟩, h2, h⟩ := Except.bind_eq_ok.mp h
  obtain ⟨⟨ib, p3⟩, h3, h⟩ := Except.bind_eq_ok.mp h
  obtain ⟨fc, h4, h⟩ := Except.bind_eq_ok.mp h
  obtain ⟨⟨fb, p4⟩, h5, h⟩ := Except.bind_eq_ok.mp h
  obtain ⟨mc, h6, h⟩ := Except.bind_eq_ok.mp h
  obtain ⟨⟨mb, p5, bs⟩, h7, h⟩ := Except.bind_eq_ok.mp h
  obtain ⟨⟨as, p6⟩, h8, h⟩ := Except.bind_eq_ok.mp h
  obtain ⟨ab, h9, h⟩ := Except.bind_eq_ok.mp h
  have := Except.ok.inj h
  cases this
  obtain ⟨hfl, rfl⟩ := cnt16_eq_ok.mp h4
  obtain ⟨hml, rfl⟩ := cnt16_eq_ok.mp h6
  obtain ⟨s1, a1, hti⟩ := putClass_spec FramePool.good_empty h1
  obtain ⟨s2, hsi, c2⟩ := putOptional_spec ClsAt (fun hg a => a.one_le hg) putClass_spec s1.good h2
  obtain ⟨s3, ils, rfl, him, hilt, hir⟩ := refList_spec @putClass_spec @ClsAt.mono s2.good h3
  obtain ⟨s4, fls, rfl, hfm, hfsd⟩ := rowList_spec writeField_row hok.fields s3.good h5
  have hfll : fls.length = t.fields.length := by simpa using congrArg List.length hfm
  have hff := (mapOpt_eq _ _).trans (List.mapM_eq_some_iff.mpr hfm)
  obtain ⟨⟨s5, _, hbs⟩, mls, rfl, hmll, hmsd, hmf⟩ := writeMethods_spec t.methods s4.good bsOk_nil hok.methods h7
  obtain ⟨s6, als, rfl, hasd, haf⟩ := classAttrs_spec hok hbs _ _ _ s5.good h8
  obtain ⟨hal, rfl⟩ := attrsBytes_frames SClassAttr.raw h9
  have hgf : Good pf := s6.good
  have e6 : Ext pf pf := Ext.refl hgf
  have e5 : Ext p5 pf := e6.of_le s6.le
  have e4 : Ext p4 pf := e5.of_le s5.le
  have e3 : Ext p3 pf := e4.of_le s4.le
  have e2 : Ext p2 pf := e3.of_le s3.le
  have e1 : Ext p1 pf := e2.of_le s2.le
  let c : ClassLayout :=
    { minor := t.minor, major := t.major, pool := rentries pf, access := t.access, thisCp := ti, name := t.name,
      superCp := si, super := t.super, interfaces := ils, fields := fls, methods := mls, attrs := als }
  have hbase : FreshC (c.base, none, false) := ⟨⟨rfl, rfl, rfl, rfl, rfl, rfl, rfl, rfl, rfl, rfl⟩, rfl, rfl, rfl⟩
  have hacc : applyAll SClassAttr.apply (c.base, none, false) als =
      some (withAttrsOf c.base t, bsTable bs, !t.recordComponents.isEmpty) := haf _ hbase
  have hresolve := class_resolve_eq fun m hm => resolve_of_codeOk (hok.methods m hm).code
  have hfacts : c.facts = t.resolve := by
    rw [hresolve]
    simp only [ClassLayout.facts, hacc, c, hff, hmf]
    simp only [ClassLayout.base, him]
    have hm := hok.mask
    revert hm
    generalize t = g
    intro hm
    cases g
    simp only at hm
    simp [withAttrsOf, hm]
  have hbsms : c.bsms = bsTable bs := by
    show (match applyAll SClassAttr.apply (c.base, none, false) als with | some (_, b, _) => b | none => none) = _
    rw [hacc]
  refine ⟨c, ?_, ?_, _, hresolve, hfacts.trans hresolve⟩
  · simp only [ClassLayout.encode, c, poolBytes_eq hgf.1 hpb, hfll, hmll, encRefs, List.append_assoc]
  · refine ⟨hok.version, hpoolok, ?_, hok.access, ⟨hti, getObjClass_of hgf (a1.mono e1.le) hok.name⟩,
      ⟨hsi, getOptional_of c2 fun x hx hc => getObjClass_of hgf (hc.mono e2.le) (hok.super x hx)⟩,
      hilt, ?_, (by show fls.length < 65536; omega), fun f hf => hfsd pf e4 f hf, (by show mls.length < 65536; omega),
      fun m hm => by rw [hbsms]; exact hmsd m hm pf bs e5 (BsExt.refl _), hal,
      fun a ha => hasd a ha pf e6, by simp [hfacts, hresolve]⟩
    · show poolCount (rentries pf) < 65536
      rw [poolCount_rentries hgf.1]
      have := hgf.2
      omega
    · intro i hi
      refine ⟨(hir i hi).1, getObjClass_of hgf ((hir i hi).2.mono e3.le) (hok.interfaces i.2 ?_)⟩
      rw [← him]
      exact List.mem_map_of_mem hi

end ClassWriteFull
