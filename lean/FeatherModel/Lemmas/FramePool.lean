import FeatherModel.Lemmas.PoolWrite
import FeatherModel.Spec.FrameDenote

/-!
# The pool as the writers thread it

`Good` / `Le` / `Grows`: the invariant, the extension order and what every writer that threads a pool concludes about
its output pool; what `put` and `put_class` guarantee in these terms (`put_class` returns an index that designates the
class, and keeps designating it while the pool grows).
-/

namespace FramePool
open PoolWrite FrameDenote

/-- a pool `write` can have produced: well formed, `constant_pool_count` a `u16` -/
def Good (p : Pool) : Prop := p.WF ∧ p.count ≤ 65535

/-- `q` extends `p`: every index keeps its meaning -/
def Le (p q : Pool) : Prop := ∀ j e, p.get j = some e → q.get j = some e

theorem Le.refl (p : Pool) : Le p p := fun _ _ h => h
theorem Le.trans {p q r : Pool} (h1 : Le p q) (h2 : Le q r) : Le p r := fun j e h => h2 j e (h1 j e h)

theorem good_empty : Good PoolWrite.empty := ⟨wf_empty, by simp [PoolWrite.empty]⟩

/-- the pool after a writer function: still good, every index keeps its meaning, `count` did not shrink -/
structure Grows (p p' : Pool) : Prop where
  good : Good p'
  le : Le p p'
  count : p.count ≤ p'.count

theorem Grows.refl {p : Pool} (hg : Good p) : Grows p p := ⟨hg, Le.refl _, Nat.le_refl _⟩

theorem Grows.trans {p q r : Pool} (h1 : Grows p q) (h2 : Grows q r) : Grows p r :=
  ⟨h2.good, h1.le.trans h2.le, Nat.le_trans h1.count h2.count⟩

theorem put_good {p p' : Pool} {e : Entry} {i : Nat} (hg : Good p) (h : put p e = some (i, p')) :
    Grows p p' ∧ p'.get i = some e ∧ 1 ≤ i ∧ i < 65535 := by
  obtain ⟨hw, hc⟩ := hg
  obtain ⟨a, b, c⟩ := put_range hw hc h
  have hs := slots_pos e
  refine ⟨⟨⟨put_wf hw h, c⟩, fun j e' hj => put_stable hw h hj, ?_⟩, put_get hw h, a, by omega⟩
  obtain ⟨_, rfl⟩ | ⟨_, _, _, rfl⟩ := put_cases h
  · exact Nat.le_refl _
  · exact Nat.le_add_right _ _

theorem put_count {p p' : Pool} {e : Entry} {i : Nat} (h : put p e = some (i, p')) : p'.count ≤ p.count + slots e := by
  obtain ⟨_, rfl⟩ | ⟨_, _, _, rfl⟩ := put_cases h
  · exact Nat.le_add_right _ _
  · exact Nat.le_refl _

theorem put_none {p : Pool} {e : Entry} (h : put p e = none) : find e p.entries = none ∧ 65535 < p.count + slots e := by
  unfold put at h
  split at h
  · cases h
  · split at h
    · exact ⟨‹_›, ‹_›⟩
    · cases h

theorem clsAt_le {p q : Pool} (h : Le p q) {c : JStr} {i : Nat} (hc : clsAt p c i = true) : clsAt q c i = true := by
  unfold clsAt at hc ⊢
  split at hc
  · rename_i u hu
    rw [h _ _ hu]
    simp only [beq_iff_eq] at hc ⊢
    exact h _ _ hc
  · cases hc

theorem putClass_good {p p' : Pool} {c : JStr} {i : Nat} (hg : Good p) (h : putClass p c = some (i, p')) :
    Grows p p' ∧ clsAt p' c i = true ∧ i ≤ 65535 := by
  unfold putClass putUtf8 at h
  split at h
  · cases h
  · rename_i u p1 h1
    obtain ⟨g1, e1, _, _⟩ := put_good hg h1
    obtain ⟨g2, e2, _, hi⟩ := put_good g1.good h
    refine ⟨g1.trans g2, ?_, by omega⟩
    unfold clsAt
    rw [e2]
    simp only [beq_iff_eq]
    exact g2.le _ _ e1

/-- `put_class` uses at most two slots (the name and the class) -/
theorem putClass_count {p p' : Pool} {c : JStr} {i : Nat} (h : putClass p c = some (i, p')) : p'.count ≤ p.count + 2 := by
  unfold putClass putUtf8 at h
  split at h
  · cases h
  · rename_i u p1 h1
    have := put_count h1
    have := put_count h
    simp only [slots] at *
    omega

theorem putClass_none {p : Pool} {c : JStr} (h : putClass p c = none) : 65535 < p.count + 2 := by
  unfold putClass putUtf8 at h
  split at h
  · rename_i h1
    have := (put_none h1).2
    simp only [slots] at this
    omega
  · rename_i u p1 h1
    have := put_count h1
    have := (put_none h).2
    simp only [slots] at *
    omega

end FramePool
