import FeatherModel.Model.CodeWrite

/-!
# `Labels::try_get_range`, from which the rows of a LocalVariable(Type)Table are written

The tables themselves (exception table, LineNumberTable, LocalVariable(Type)Table) are in `Thm/C02.lean` §4 and §7.
-/

namespace CodeWrite

theorem range_ok {lp : Nat → Option Nat} {a b : Nat} {r : Nat × Nat} (h : range lp a b = .ok r) :
    ∃ s e, lp a = some s ∧ lp b = some e ∧ s ≤ e ∧ r = (s, e - s) := by
  revert h
  fun_cases range lp a b <;> intro h <;> cases h
  exact ⟨_, _, ‹_›, ‹_›, by omega, rfl⟩

theorem range_err {lp : Nat → Option Nat} {a b : Nat} {x : Fail} (h : range lp a b = .error x) :
    x = .err ∧ (lp a = none ∨ lp b = none ∨ ∃ s e, lp a = some s ∧ lp b = some e ∧ e < s) := by
  revert h
  fun_cases range lp a b <;> intro h <;> cases h
  · exact ⟨rfl, .inl ‹_›⟩
  · exact ⟨rfl, .inr (.inl ‹_›)⟩
  · exact ⟨rfl, .inr (.inr ⟨_, _, ‹_›, ‹_›, ‹_›⟩)⟩

end CodeWrite
