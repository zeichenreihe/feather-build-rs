import FeatherModel.Lemmas.CodeSwitchDecode
import FeatherModel.Lemmas.CodeNoPanic

/-!
# The successful attempt of `write_code`, end to end

`pass` appends, for each instruction, a chunk of bytes and the unwritten labels of that chunk (`Chunks`, see
`CodeNoPanic`). Patching the unwritten labels of all chunks finalises each chunk separately (`chunks_fin`), each piece
decodes to its instruction (`Layout`), and the independent decoder reads the layout back instruction by instruction.
-/

namespace CodeWrite
open CodeDecode CodeDenote

/-- the final code from instruction `k` (at address `p`) on: one piece per instruction, each decoding to its instruction -/
inductive Layout (lp : Nat → Option Nat) (pos : Nat → Option Nat) : Nat → Nat → List Insn → List Bytes → Prop
  | nil (k p : Nat) : Layout lp pos k p [] []
  | cons {k p : Nat} {i : Insn} {is : List Insn} {fin : Bytes} {fins : List Bytes} :
      pos k = some p → Decoded lp p i fin → Layout lp pos (k + 1) (p + fin.length) is fins →
      Layout lp pos k p (i :: is) (fin :: fins)

/-- **resolving all chunks is resolving each chunk at its position**: in the patched code every instruction ends in one of
the `Fin` forms, computed from the final label table. Stated as a rule of induction: whatever `M` holds of the empty code
(`nil`) and is closed under putting such an instruction in front (`cons`: instruction `k` at `p`, then the rest from
`k + 1` at `p + fin.length`) holds of the whole patched code. -/
theorem chunks_fin {wide : List Nat} {pos : Array Nat} {lp : Nat → Option Nat}
    (hsub : ∀ t x, pos[t]? = some x → lp t = some x) (hbound : ∀ t x, lp t = some x → x ≤ 65535)
    {M : Nat → Nat → List Insn → Bytes → Prop} (nil : ∀ k p, M k p [] [])
    (cons : ∀ {k p i is fin rest}, p ≤ 65535 → pos[k]? = some p → Fin (wide.contains k) lp p i fin →
      M (k + 1) (p + fin.length) is rest → M k p (i :: is) (fin ++ rest))
    {is : List Insn} {cs : List (Bytes × List Unwritten)} {c : Bytes} (hc : Chunks wide pos 0 0 is cs)
    (h : resolveAt 0 lp (chunkUnw cs) (chunkBytes cs) = some c) : M 0 0 is c := by
  suffices ∀ {k p is cs}, Chunks wide pos k p is cs →
      ∃ F, Patched 0 lp p (chunkBytes cs, chunkUnw cs) F ∧ ∀ c, F = some c → M k p is c by
    obtain ⟨F, hP, hF⟩ := this hc
    exact hF c (hP.fin h)
  intro k p is cs hc
  induction hc with
  | nil k p => exact ⟨_, .const [], fun _ h => by cases h; exact nil k p⟩
  | @cons k p i is r cs hp hk henc _ ih =>
    have hok : LabelsOk (lblUpTo pos k) lp := ⟨fun t x ht => hsub t x (lblUpTo_some ht), hbound⟩
    obtain ⟨F, hP, hF⟩ := encInsn_fin hok henc 0
    obtain ⟨G, hQ, hG⟩ := ih
    refine ⟨_, hP.seq rfl hQ, fun c h => ?_⟩
    obtain ⟨fin, rest, rfl, rfl, rfl⟩ := finSeq_some h
    exact cons hp hk (hF fin rfl) (hP.length (Nat.zero_le _) ▸ hG rest rfl)

theorem layout_decode {lp pos : Nat → Option Nat} {k p : Nat} {is : List Insn} {fins : List Bytes}
    (hl : Layout lp pos k p is fins) :
    ∀ fuel, fins.flatten.length ≤ fuel → ∃ ds, decodeAll fuel p fins.flatten = some ds ∧
      matchAll lp pos k is ds = true := by
  induction hl with
  | nil k p =>
    intro fuel _
    exact ⟨[], by cases fuel <;> simp [decodeAll], by simp [matchAll]⟩
  | @cons k p i is fin fins hk hd _ ih =>
    intro fuel hfuel
    simp only [List.flatten_cons, List.length_append] at hfuel ⊢
    generalize fins.flatten = R at hfuel ih ⊢
    cases hd with
    | single d hlen hdec hden =>
      cases fuel with
      | zero => omega
      | succ fuel =>
        obtain ⟨ds, hds, hm⟩ := ih fuel (by omega)
        refine ⟨(p, fin.length, d) :: ds, ?_, ?_⟩
        · rw [decodeAll_step fuel p _ d fin.length (hdec R) (by omega) (by simp only [List.length_append]; omega)]
          simp only [List.drop_left, hds]
        · simp only [matchAll, hk, beq_self_eq_true, Bool.true_and, hden, if_true]
          exact hm
    | tramp c t g hi hlen hdec1 hdec2 hland =>
      subst hi
      cases fuel with
      | zero => omega
      | succ fuel =>
        cases fuel with
        | zero => omega
        | succ fuel =>
          obtain ⟨ds, hds, hm⟩ := ih fuel (by omega)
          refine ⟨(p, 3, .ifc (negIf c.opcode) ((p + 8 : Nat) : Int)) :: (p + 3, 5, .goto g) :: ds, ?_, ?_⟩
          · rw [decodeAll_step (fuel + 1) p _ _ 3 (hdec1 R) (by omega) (by simp only [List.length_append]; omega)]
            rw [decodeAll_step fuel (p + 3) _ _ 5 (hdec2 R) (by omega)
              (by simp only [List.length_drop, List.length_append]; omega)]
            have hd8 : ((fin ++ R).drop 3).drop 5 = R := by
              rw [List.drop_drop]
              have : 3 + 5 = fin.length := by omega
              rw [this, List.drop_left]
            have e : p + 3 + 5 = p + fin.length := by omega
            rw [hd8, e, hds]
          · have hnd : denote1 lp (.ifc c t) (.ifc (negIf c.opcode) ((p + 8 : Nat) : Int)) = false := by
              simp [denote1, opcode_ne_negIf]
            simp only [matchAll, hk, beq_self_eq_true, Bool.true_and, hnd, Bool.false_eq_true, if_false]
            simp [hland, hm]

theorem write_ok_attempt (is : List Insn) (fuel : Nat) (wide : List Nat) (res : Result) :
    write is fuel wide = .ok res →
    ∃ (wide' : List Nat) (s : St) (w' : Array Nat), pass wide' is St.init = .ok s ∧
      resolve (labelPos s.pos s.w.size) s.unw.toList s.w = .done w' ∧ w'.size ≠ 0 ∧ w'.size ≤ 65535 ∧
      res = ⟨w'.toList, s.pos, wide'⟩ := by
  fun_induction write is fuel wide <;> intro h
  -- branch 5 of `write` is the retry, branch 7 the success (the order is listed at `write_fuel`)
  case case5 ih => exact ih h
  case case7 wide s hs w hres hsz =>
    cases h
    exact ⟨wide, s, w, hs, hres, by omega, by omega, rfl⟩
  all_goals cases h

theorem labelPos_sub (pos : Array Nat) (len t x : Nat) (h : pos[t]? = some x) : labelPos pos len t = some x := by
  simp [labelPos, h]

theorem labelPos_last (pos : Array Nat) (len : Nat) : labelPos pos len pos.size = some (len % 65536) := by
  simp [labelPos]

theorem writeCode_attempt (is : List Insn) (res : Result) (h : writeCode is = .ok res) :
    ∃ wide cs, Chunks wide res.pos 0 0 is cs ∧ res.pos.size = is.length ∧
      resolveAt 0 res.label (chunkUnw cs) (chunkBytes cs) = some res.code ∧
      1 ≤ res.code.length ∧ res.code.length ≤ 65535 := by
  obtain ⟨wide', s, w', hs, hres, h0, hle, rfl⟩ := write_ok_attempt is _ _ res h
  obtain ⟨cs, hc, hw, hu, hsz, _⟩ := pass_chunks wide' is St.init s hs
  simp only [St.init, List.size_toArray, List.length_nil, Nat.zero_add, List.nil_append,
    List.toList_toArray] at hc hw hu hsz
  have hd := resolve_done _ _ _ _ hres
  rw [hu, hw] at hd
  have hlen : w'.size = s.w.size := by
    have := resolveAt_length _ _ _ _ _ hd
    rw [← hw] at this
    simpa using this
  refine ⟨wide', cs, hc, hsz, ?_, by simp only [Array.length_toList]; omega, by simpa using hle⟩
  have : Result.label ⟨w'.toList, s.pos, wide'⟩ = labelPos s.pos s.w.size := by
    funext t
    simp only [Result.label, Array.length_toList, hlen]
  rw [this]
  exact hd

/-- **the positions of a successful `write_code`**: one per instruction, strictly increasing, each inside the code,
whose length is a legal `code_length` -/
structure Result.Ok (is : List Insn) (res : Result) : Prop where
  size : res.pos.size = is.length
  length : 1 ≤ res.code.length ∧ res.code.length ≤ 65535
  sorted : res.pos.toList.Pairwise (· < ·)
  lt : ∀ x ∈ res.pos.toList, x < res.code.length

theorem Result.Ok.pos_u16 {is : List Insn} {res : Result} (ok : res.Ok is) :
    res.pos.toList.Pairwise (· < ·) ∧ ∀ x ∈ res.pos.toList, x ≤ 65535 :=
  ⟨ok.sorted, fun x hx => by have := ok.lt x hx; have := ok.length.2; omega⟩

theorem writeCode_ok (is : List Insn) (res : Result) (h : writeCode is = .ok res) : res.Ok is := by
  obtain ⟨_, cs, hc, hsz, hd, hl⟩ := writeCode_attempt is res h
  have inv := chunks_inv hc (by simpa using hsz)
  refine ⟨hsz, hl, by simpa using inv.sorted, fun x hx => ?_⟩
  rw [resolveAt_length _ _ _ _ _ hd]
  simpa using (inv.inside x (by simpa using hx)).2.2

theorem writeCode_pos_size (is : List Insn) (res : Result) (h : writeCode is = .ok res) :
    res.pos.size = is.length := (writeCode_ok is res h).size

/-- **the label table of a successful `write_code`**: label `k` is the position of instruction `k`, the last label is
`code_length` (the truncating `w.len() as u16` is not observable on success), no other label has an offset -/
theorem label_eq (is : List Insn) (res : Result) (h : writeCode is = .ok res) (t : Nat) :
    res.label t = if t = is.length then some res.code.length else res.pos[t]? := by
  have ok := writeCode_ok is res h
  have hl := ok.length.2
  unfold Result.label labelPos
  split
  · rename_i x hx
    have := (Array.getElem?_eq_some_iff.mp hx).1
    rw [if_neg (by have := ok.size; omega), hx]
  · rename_i hx
    rw [ok.size, Nat.mod_eq_of_lt (by omega), hx]

theorem result_label_le (is : List Insn) (res : Result) (h : writeCode is = .ok res) (t x : Nat)
    (ht : res.label t = some x) : x ≤ 65535 := by
  have ok := writeCode_ok is res h
  rw [label_eq is res h] at ht
  split at ht
  · cases ht; exact ok.length.2
  · obtain ⟨h1, h2⟩ := Array.getElem?_eq_some_iff.mp ht
    have := ok.lt x (h2 ▸ Array.getElem_mem_toList h1)
    have := ok.length.2
    omega

theorem writeCode_layout (is : List Insn) (hwt : ∀ i ∈ is, wt i = true) (res : Result)
    (h : writeCode is = .ok res) :
    ∃ fins, res.code = fins.flatten ∧ Layout res.label (fun t => res.pos[t]?) 0 0 is fins := by
  obtain ⟨_, cs, hc, _, hd, _, hle⟩ := writeCode_attempt is res h
  have hb := result_label_le is res h
  -- motive: a code of final forms, of well-typed instructions and at most 65535 bytes, splits into pieces that decode
  exact chunks_fin (fun t x => labelPos_sub _ _ t x) hb
    (M := fun k p is rest => (∀ i ∈ is, wt i = true) → rest.length ≤ 65535 →
      ∃ fins, rest = fins.flatten ∧ Layout res.label (fun t => res.pos[t]?) k p is fins)
    (fun _ _ _ _ => ⟨[], rfl, .nil _ _⟩)
    (fun {_ _ i _ fin _} hp hk hf ih hwt hl => by
      rw [List.length_append] at hl
      obtain ⟨fins, rfl, hl'⟩ := ih (fun j hj => hwt j (List.mem_cons_of_mem _ hj)) (by omega)
      exact ⟨fin :: fins, rfl, .cons hk (hf.decoded hp hb (hwt i List.mem_cons_self) (by omega)) hl'⟩)
    hc hd hwt hle

/-- random access into a layout: instruction number `k + j` with its address and final bytes; the next instruction
starts right behind them (or the code ends there) -/
theorem layout_nth {lp pos : Nat → Option Nat} {k p : Nat} {is : List Insn} {fins : List Bytes}
    (hl : Layout lp pos k p is fins) :
    ∀ (j : Nat) (i : Insn), is[j]? = some i → ∃ p' fin rest, pos (k + j) = some p' ∧ Decoded lp p' i fin ∧
      p ≤ p' ∧ fins.flatten.drop (p' - p) = fin ++ rest ∧
      (if j + 1 < is.length then pos (k + j + 1) = some (p' + fin.length)
       else p + fins.flatten.length = p' + fin.length) := by
  induction hl with
  | nil k p => intro j i h; simp at h
  | @cons k p i0 is fin fins hk hd hrest ih =>
    intro j i h
    cases j with
    | zero =>
      cases h
      refine ⟨p, fin, fins.flatten, hk, hd, Nat.le_refl _, by simp, ?_⟩
      cases hrest with
      | nil k' p' => simp
      | @cons _ _ i1 is' fin' fins' hk' _ _ => simpa using hk'
    | succ j =>
      obtain ⟨p', fin', rest, h1, h2, h3, h4, h5⟩ := ih j i (by simpa using h)
      refine ⟨p', fin', rest, by rw [← h1]; congr 1; omega, h2, by omega, ?_, ?_⟩
      · rw [List.flatten_cons, show p' - p = fin.length + (p' - (p + fin.length)) by omega, ← List.drop_drop,
          List.drop_left, h4]
      · simp only [List.length_cons, Nat.add_lt_add_iff_right, List.flatten_cons, List.length_append] at h5 ⊢
        split at h5
        · rename_i hlt; rw [if_pos hlt, ← h5]; congr 1; omega
        · rename_i hlt; rw [if_neg hlt]; omega

theorem writeCode_insn (is : List Insn) (hwt : ∀ i ∈ is, wt i = true) (res : Result)
    (h : writeCode is = .ok res) (k : Nat) (i : Insn) (hk : is[k]? = some i) :
    ∃ pc fin rest, res.pos[k]? = some pc ∧ Decoded res.label pc i fin ∧ res.code.drop pc = fin ++ rest ∧
      res.label (k + 1) = some (pc + fin.length) := by
  obtain ⟨fins, hcf, hl⟩ := writeCode_layout is hwt res h
  obtain ⟨pc, fin, rest, h1, h2, _, h4, h5⟩ := layout_nth hl k i hk
  refine ⟨pc, fin, rest, by simpa using h1, h2, by simpa [hcf] using h4, ?_⟩
  have hk' : k < is.length := (List.getElem?_eq_some_iff.mp hk).1
  rw [label_eq is res h]
  split at h5
  · rw [if_neg (by omega), ← h5, Nat.zero_add]
  · rw [if_pos (by omega), hcf, ← h5, Nat.zero_add]

/-- an instruction other than a conditional branch (which may become a trampoline) is written as one instruction: what
the decoder finds at its position denotes it -/
theorem writeCode_decoded_at (is : List Insn) (hwt : ∀ i ∈ is, wt i = true) (res : Result) (h : writeCode is = .ok res)
    (k : Nat) (i : Insn) (hk : is[k]? = some i) (hi : ∀ c t, i ≠ .ifc c t) :
    ∃ pc d len, res.pos[k]? = some pc ∧ decodeAt res.code pc = some (d, len) ∧ denote1 res.label i d = true := by
  obtain ⟨pc, fin, rest, h1, h2, h3, _⟩ := writeCode_insn is hwt res h k i hk
  cases h2 with
  | single d hlen hdec hden => exact ⟨pc, d, fin.length, h1, by simp only [decodeAt, h3]; exact hdec rest, hden⟩
  | tramp c t g hi' => exact absurd hi' (hi c t)

end CodeWrite
