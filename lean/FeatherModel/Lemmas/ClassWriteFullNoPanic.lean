import FeatherModel.Model.ClassWriteFull
import FeatherModel.Lemmas.CodeNoPanic
import FeatherModel.Lemmas.FramePositions
import FeatherModel.Lemmas.NoPanicAttr

/-!
# C02 (whole writer) — `write` never panics: whatever the class description, the outcome is the bytes or the explicit error

The writer is built from `pure`, the explicit error, `>>=` and primitives that do not panic, and "never the panic outcome"
passes through each of these: that is the simp set `np`, by which a function follows from its definition
(`simp only [f, np]`). What is not of that kind: the `match` ladders of the mutual recursions, the outcome of the code
array (`CodeWrite.write_no_panic`) and the `StackMapTable` (`np_frames`).
-/

namespace ClassWriteFull
open ClassRead

/-- not the panic outcome -/
def NP {α : Type} (x : Except Fail α) : Prop := x ≠ .error .panic

@[np] theorem np_ok {α : Type} (a : α) : NP (.ok a : Except Fail α) := by intro h; cases h
@[np] theorem np_pure {α : Type} (a : α) : NP (pure a : Except Fail α) := np_ok a
@[np] theorem np_err {α : Type} : NP (.error .err : Except Fail α) := by intro h; cases h

theorem np_of_error {α β : Type} {x : Except Fail α} {e : Fail} (hx : NP x) (h : x = .error e) : NP (.error e : Except Fail β) := by
  subst h
  intro h'
  cases h'
  exact hx rfl

/-- an iff, so that `simp` works a `do` block off in its main loop, whatever its length, and not in side conditions -/
@[np] theorem np_bind {α β : Type} {x : Except Fail α} {f : α → Except Fail β} :
    NP (x >>= f) ↔ NP x ∧ ∀ a, x = .ok a → NP (f a) := by
  cases x with
  | error e => cases e <;> simp [NP, bind, Except.bind]
  | ok a => simp [NP, bind, Except.bind]

attribute [np] true_and and_true implies_true Prod.forall

@[np] theorem np_opt {α : Type} (o : Option α) : NP (opt o) := by cases o <;> simp [opt, NP]
@[np] theorem np_cnt8 (n : Nat) : NP (cnt8 n) := by unfold cnt8; split <;> simp [NP]
@[np] theorem np_cnt16 (n : Nat) : NP (cnt16 n) := by unfold cnt16; split <;> simp [NP]
@[np] theorem np_cnt32 (n : Nat) : NP (cnt32 n) := by unfold cnt32; split <;> simp [NP]

attribute [np] putUtf8 putClass putString putNameAndType put putRef putHandle tryGet

@[np] theorem np_putPackage (p : Pool) (s : JStr) : NP (putPackage p s) := by simp only [putPackage, np]
@[np] theorem np_putModule (p : Pool) (s : JStr) : NP (putModule p s) := by simp only [putModule, np]
@[np] theorem np_putMethodType (p : Pool) (s : JStr) : NP (putMethodType p s) := by simp only [putMethodType, np]

@[np] theorem np_putOptional {α : Type} {f : Pool → α → Except Fail (Nat × Pool)} {p : Pool} {x : Option α} :
    NP (putOptional f p x) ↔ ∀ a, x = some a → NP (f p a) := by
  cases x <;> simp [putOptional, np]

@[np] theorem np_putConstantValue (p : Pool) (v : ConstantValue) : NP (putConstantValue p v) := by
  cases v <;> simp only [putConstantValue, np]

@[np] theorem np_idx16 {r : Except Fail (Nat × Pool)} : NP (idx16 r) ↔ NP r := by simp only [idx16, np]

/- The side conditions have a trap. `simp` discharges `hf` by rewriting it to `True`, and takes the proof only if its
statement is `hf` up to reducible unfolding. Unfolding a definition is a step without a proof term: where it is the first
step inside `hf`, the proof found is one of the unfolded statement and is turned down. So what is handed over by name
(`writeList (writeException lp)`) has its lemma in `np` and is rewritten by that; the body of a `fun` has been unfolded
before, in the main loop. Side conditions nest two deep at most (`maxDischargeDepth`), which is `writeList` inside
`runAttrs`. -/
@[np] theorem np_writeList {α : Type} {f : Pool → α → W} (hf : ∀ p a, NP (f p a)) (xs : List α) (p : Pool) : NP (writeList f p xs) := by
  induction xs generalizing p with
  | nil => exact np_ok _
  | cons a as ih => simp only [writeList, np, hf, ih]

@[np] theorem np_writeSlice16 {α : Type} {f : Pool → α → W} (hf : ∀ p a, NP (f p a)) (p : Pool) (xs : List α) :
    NP (writeSlice16 f p xs) := by
  simp only [writeSlice16, np, hf]

@[np] theorem np_attrBuf {name : JStr} {body : Pool → W} {p : Pool} : NP (attrBuf name body p) ↔ NP (body p) := by
  simp only [attrBuf, np]

@[np] theorem np_attrFix {name : JStr} {len : Nat} {body : Pool → W} {p : Pool} :
    NP (attrFix name len body p) ↔ ∀ i p', putUtf8 p name = .ok (i, p') → NP (body p') := by
  simp only [attrFix, np]

@[np] theorem np_always {w : Pool → W} {p : Pool} : NP (always w p) ↔ NP (w p) := by simp only [always, np]

@[np] theorem np_onlyIf {c : Bool} {w : Pool → W} {p : Pool} : NP (onlyIf c w p) ↔ (c = true → NP (w p)) := by
  cases c <;> simp [onlyIf, np]

@[np] theorem np_ifSome {α : Type} {x : Option α} {w : α → Pool → W} {p : Pool} :
    NP (ifSome x w p) ↔ ∀ a, x = some a → NP (w a p) := by
  cases x <;> simp [ifSome, np]

@[np] theorem np_runAttrs {ws : List AttrW} (h : ∀ w ∈ ws, ∀ p, NP (w p)) (p : Pool) : NP (runAttrs ws p) := by
  induction ws generalizing p with
  | nil => exact np_ok _
  | cons w ws ih =>
    rw [List.forall_mem_cons] at h
    simp only [runAttrs, np, h.1, ih h.2]

attribute [np] List.forall_mem_cons List.forall_mem_append List.forall_mem_map List.not_mem_nil false_imp_iff

@[np] theorem np_attrsBytes (as : List Bytes) : NP (attrsBytes as) := by simp only [attrsBytes, np]

@[np] theorem np_flagAttr (flag : Bool) (name : JStr) (p : Pool) : NP (flagAttr flag name p) := by simp only [flagAttr, np]

@[np] theorem np_sigAttr (sig : Option JStr) (p : Pool) : NP (sigAttr sig p) := by simp only [sigAttr, np]

@[np] theorem np_unknownAttr (p : Pool) (a : Attr) : NP (unknownAttr p a) := by simp only [unknownAttr, np]

attribute [np] unknownAttrs

mutual
theorem np_writeElemVal : ∀ (v : ElemVal) (p : Pool), NP (writeElemVal p v)
  | .const tag x, p => by
    unfold writeElemVal
    split
    · exact np_err
    · split
      · exact np_of_error (np_opt _) ‹_›
      · exact np_ok _
  | .str s, p | .cls s, p => by
    unfold writeElemVal
    split
    · exact np_of_error (np_opt _) ‹_›
    · exact np_ok _
  | .enum ty name, p => by
    unfold writeElemVal
    split
    · exact np_of_error (np_opt _) ‹_›
    · split
      · exact np_of_error (np_opt _) ‹_›
      · exact np_ok _
  | .anno a, p => by
    unfold writeElemVal
    split
    · exact np_of_error (np_writeAnnotation a p) ‹_›
    · exact np_ok _
  | .arr vs, p => by
    unfold writeElemVal
    split
    · exact np_of_error (np_cnt16 vs.length) ‹_›
    · split
      · exact np_of_error (np_writeElemVals vs p) ‹_›
      · exact np_ok _
theorem np_writeAnnotation : ∀ (a : Annotation) (p : Pool), NP (writeAnnotation p a)
  | .mk ty pairs, p => by
    unfold writeAnnotation
    split
    · exact np_of_error (np_opt _) ‹_›
    · split
      · exact np_of_error (np_cnt16 pairs.length) ‹_›
      · split
        · exact np_of_error (np_writePairs pairs _) ‹_›
        · exact np_ok _
theorem np_writePairs : ∀ (ps : List (JStr × ElemVal)) (p : Pool), NP (writePairs p ps)
  | [], p => by unfold writePairs; exact np_ok _
  | (name, v) :: rest, p => by
    unfold writePairs
    split
    · exact np_of_error (np_opt _) ‹_›
    · split
      · exact np_of_error (np_writeElemVal v _) ‹_›
      · split
        · exact np_of_error (np_writePairs rest _) ‹_›
        · exact np_ok _
theorem np_writeElemVals : ∀ (vs : List ElemVal) (p : Pool), NP (writeElemVals p vs)
  | [], p => by unfold writeElemVals; exact np_ok _
  | v :: rest, p => by
    unfold writeElemVals
    split
    · exact np_of_error (np_writeElemVal v p) ‹_›
    · split
      · exact np_of_error (np_writeElemVals rest _) ‹_›
      · exact np_ok _
end

attribute [np] np_writeElemVal np_writeAnnotation

attribute [np] writeAnnotations

@[np] theorem np_annosAttr (name : JStr) (as : List Annotation) (p : Pool) : NP (annosAttr name as p) := by
  simp only [annosAttr, np]

@[np] theorem np_writeTargetClass (t : Target) : NP (writeTargetClass t) := by
  cases t <;> simp only [writeTargetClass, np] <;> split <;> simp only [np]

@[np] theorem np_writeTargetField (t : Target) : NP (writeTargetField t) := by
  cases t <;> simp only [writeTargetField, np]

@[np] theorem np_writeTargetMethod (t : Target) : NP (writeTargetMethod t) := by
  cases t <;> simp only [writeTargetMethod, np] <;> split <;> simp only [np]

@[np] theorem np_writeTypePath (path : List (Nat × Nat)) : NP (writeTypePath path) := by simp only [writeTypePath, np]

@[np] theorem np_writeTypeAnnos {wt : Target → Except Fail Bytes} (hwt : ∀ t, NP (wt t)) (as : List TypeAnno) (p : Pool) :
    NP (writeTypeAnnos wt as p) := by
  simp only [writeTypeAnnos, np, hwt]

@[np] theorem np_typeAnnosAttr {wt : Target → Except Fail Bytes} (hwt : ∀ t, NP (wt t)) (name : JStr) (as : List TypeAnno)
    (p : Pool) : NP (typeAnnosAttr wt name as p) := by
  simp only [typeAnnosAttr, np, hwt]

attribute [np] annoBlocks

@[np] theorem np_writeField (p : Pool) (f : FieldFacts) : NP (writeField p f) := by simp only [writeField, np]

mutual
theorem np_putLoadable : ∀ (c : Loadable) (p : Pool) (bs : List Bsm), NP (putLoadable p bs c)
  | .int _, p, bs | .float _, p, bs | .long _, p, bs | .double _, p, bs | .cls _, p, bs | .str _, p, bs
  | .handle _, p, bs => by
    unfold putLoadable
    split
    · exact np_ok _
    · exact np_of_error (np_opt _) ‹_›
  | .mtype d, p, bs => by
    unfold putLoadable
    split
    · exact np_ok _
    · exact np_of_error (np_putMethodType p d) ‹_›
  | .dyn name desc h args, p, bs => by
    unfold putLoadable
    split
    · exact np_of_error (np_opt _) ‹_›
    · split
      · exact np_of_error (np_putLoadables args _ bs) ‹_›
      · split
        · exact np_err
        · split
          · exact np_of_error (np_opt _) ‹_›
          · exact np_ok _
theorem np_putLoadables : ∀ (cs : List Loadable) (p : Pool) (bs : List Bsm), NP (putLoadables p bs cs)
  | [], p, bs => by unfold putLoadables; exact np_ok _
  | c :: cs, p, bs => by
    unfold putLoadables
    split
    · exact np_of_error (np_putLoadable c p bs) ‹_›
    · split
      · exact np_of_error (np_putLoadables cs _ _) ‹_›
      · exact np_ok _
end

attribute [np] np_putLoadable np_putLoadables

@[np] theorem np_putInvokeDynamic (p : Pool) (bs : List Bsm) (d : ClassRead.InvokeDynamic) : NP (putInvokeDynamic p bs d) := by
  simp only [putInvokeDynamic, np]

@[np] theorem np_putInsn (lab : Nat → Nat) (p : Pool) (bs : List Bsm) (i : ClassRead.Insn) : NP (putInsn lab p bs i) := by
  cases i with
  | branch op t => simp only [putInsn]; split <;> simp only [np]
  | _ => simp only [putInsn, np]

@[np] theorem np_putInsns (lab : Nat → Nat) (es : List InsnEntry) (p : Pool) (bs : List Bsm) : NP (putInsns lab p bs es) := by
  induction es generalizing p bs with
  | nil => exact np_ok _
  | cons e es ih => simp only [putInsns, np, ih]

@[np] theorem np_range (lp : Nat → Option Nat) (a b : Nat) : NP (CodeWrite.range lp a b) := by
  unfold CodeWrite.range
  split
  · exact np_err
  · split
    · exact np_err
    · split
      · exact np_err
      · exact np_ok _

@[np] theorem np_writeException (lp : Nat → Option Nat) (p : Pool) (e : ExceptionEntry) : NP (writeException lp p e) := by
  simp only [writeException, np]

@[np] theorem np_writeLine (lp : Nat → Option Nat) (p : Pool) (e : Nat × Nat) : NP (writeLine lp p e) := by
  simp only [writeLine, np]

@[np] theorem np_writeLv (lp : Nat → Option Nat) (sig : Bool) (p : Pool) (v : Lv) : NP (writeLv lp sig p v) := by
  unfold writeLv
  split <;> simp only [np]

@[np] theorem np_concatE {α : Type} {f : α → Except Fail Bytes} (hf : ∀ a, NP (f a)) (xs : List α) : NP (concatE f xs) := by
  induction xs with
  | nil => exact np_ok _
  | cons a as ih => simp only [concatE, np, hf, ih]

@[np] theorem np_writeRange (lp : Nat → Option Nat) (e : Nat × Nat × Nat) : NP (writeRange lp e) := by
  simp only [writeRange, np]

@[np] theorem np_writeTargetCode (lp : Nat → Option Nat) (t : Target) : NP (writeTargetCode lp t) := by
  cases t <;> simp only [writeTargetCode, np] <;> split <;> simp only [np]

@[np] theorem np_writeLvTable (lp : Nat → Option Nat) (sig : Bool) (vs : List Lv) (p : Pool) : NP (writeLvTable lp sig vs p) := by
  simp only [writeLvTable, np]

@[np] theorem np_lvAttr (lp : Nat → Option Nat) (sig : Bool) (name : JStr) (locals : Option (List Lv)) (p : Pool) :
    NP (lvAttr lp sig name locals p) := by
  cases locals <;> simp only [lvAttr, np]

/-- the `StackMapTable` writer does not panic on the frames `write_code` collects: they are at increasing offsets
(`framesOf_incr`), so the unchecked `offset - previous - 1` does not underflow (`attr_err`) -/
theorem np_frames (is : List CodeWrite.Insn) (res : CodeWrite.Result) (h : CodeWrite.writeCode is = .ok res)
    (fs : List (Option FrameWrite.Frame)) (p : PoolWrite.Pool) :
    NP (FrameWrite.attr res.label p (FrameWrite.framesOf res fs)) := by
  intro h'
  have := FrameWrite.attr_err res.label _ p
    (FrameWrite.framesOf_incr is res h fs) _ h'
  cases this

@[np] theorem np_writeCode (c : Code) (p : Pool) (bs : List Bsm) : NP (writeCode c p bs) := by
  simp only [writeCode, np]
  intro is _ _ _
  have hno := CodeWrite.write_no_panic is (is.length + 1) []
  split
  · exact np_err
  · exact np_err
  · rename_i h; exact absurd h hno
  · rename_i res hres
    simp only [np, np_frames is res hres]

@[np] theorem np_codeAttr (code : Option Code) (p : Pool) (bs : List Bsm) : NP (codeAttr code p bs) := by
  cases code <;> simp only [codeAttr, np]

@[np] theorem np_writeMethodParam (p : Pool) (q : MethodParam) : NP (writeMethodParam p q) := by
  simp only [writeMethodParam, np]

@[np] theorem np_writeMethod (p : Pool) (bs : List Bsm) (m : MethodFacts) : NP (writeMethod p bs m) := by
  simp only [writeMethod, np]

@[np] theorem np_writeMethods (ms : List MethodFacts) (p : Pool) (bs : List Bsm) : NP (writeMethods p bs ms) := by
  induction ms generalizing p bs with
  | nil => exact np_ok _
  | cons m ms ih => simp only [writeMethods, np, ih]

@[np] theorem np_writeRecordComponent (p : Pool) (r : RecordComponent) : NP (writeRecordComponent p r) := by
  simp only [writeRecordComponent, np]

@[np] theorem np_writeRequires (p : Pool) (r : ModuleRequires) : NP (writeRequires p r) := by
  simp only [writeRequires, np]

@[np] theorem np_writeExports (p : Pool) (e : ModuleExports) : NP (writeExports p e) := by
  simp only [writeExports, np]

@[np] theorem np_writeProvides (p : Pool) (e : ModuleProvides) : NP (writeProvides p e) := by
  simp only [writeProvides, np]

@[np] theorem np_writeInnerClass (p : Pool) (e : InnerClass) : NP (writeInnerClass p e) := by
  simp only [writeInnerClass, np]

@[np] theorem np_writeBsmRow (p : Pool) (b : Bsm) : NP (writeBsmRow p b) := by simp only [writeBsmRow, np]

@[np] theorem np_writeModule (m : Module) (p : Pool) : NP (writeModule m p) := by simp only [writeModule, np]

@[np] theorem np_writeClassList (cs : List JStr) (p : Pool) : NP (writeClassList cs p) := by simp only [writeClassList, np]

attribute [np] classAttrs

@[np] theorem np_entryBytes (e : PoolWrite.Entry) : NP (entryBytes e) := by
  cases e <;> simp only [entryBytes, np]

@[np] theorem np_entriesBytes (es : List PoolWrite.Entry) : NP (entriesBytes es) := by
  induction es with
  | nil => exact np_ok _
  | cons e es ih => simp only [entriesBytes, np, ih]

@[np] theorem np_writeBody (t : ClassFacts) : NP (writeBody t) := by simp only [writeBody, np]

end ClassWriteFull
