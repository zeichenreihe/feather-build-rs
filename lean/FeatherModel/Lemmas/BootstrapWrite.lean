import FeatherModel.Model.BootstrapWrite

/-! # De-duplicated bootstrap method table: `put` is idempotent, its indices designate their rows and keep doing so,
and fit `u16` -/

namespace BootstrapWrite

theorem indexOf_eq (b : Bsm) (bs : List Bsm) : indexOf b bs = bs.findIdx? (· == b) := by
  induction bs with
  | nil => rfl
  | cons x xs ih => simp [indexOf, List.findIdx?_cons, ih]

theorem indexOf_some {b : Bsm} {bs : List Bsm} {i : Nat} (h : indexOf b bs = some i) : bs[i]? = some b := by
  rw [indexOf_eq, List.findIdx?_eq_some_iff_getElem] at h
  obtain ⟨hi, hb, _⟩ := h
  rw [List.getElem?_eq_getElem hi, eq_of_beq hb]

theorem indexOf_append_self {b : Bsm} {bs : List Bsm} (h : indexOf b bs = none) :
    indexOf b (bs ++ [b]) = some bs.length := by
  rw [indexOf_eq] at h ⊢
  simp [List.findIdx?_append, h]

/-- the returned index designates the bootstrap method in the table -/
theorem put_get {bs bs' : List Bsm} {b : Bsm} {i : Nat} (h : put bs b = some (i, bs')) : bs'[i]? = some b := by
  unfold put at h
  split at h
  · rename_i j hj; cases h; exact indexOf_some hj
  · split at h
    · cases h
    · cases h; simp

theorem put_stable {bs bs' : List Bsm} {b b' : Bsm} {i j : Nat} (h : put bs b = some (i, bs'))
    (hj : bs[j]? = some b') : bs'[j]? = some b' := by
  unfold put at h
  split at h
  · cases h; exact hj
  · split at h
    · cases h
    · cases h
      have hlt : j < bs.length := (List.getElem?_eq_some_iff.mp hj).1
      rw [List.getElem?_append_left hlt]; exact hj

theorem put_idem {bs bs' : List Bsm} {b : Bsm} {i : Nat} (h : put bs b = some (i, bs')) : put bs' b = some (i, bs') := by
  unfold put at h
  split at h
  · rename_i j hj; cases h; simp [put, hj]
  · rename_i hn
    split at h
    · cases h
    · cases h
      simp [put, indexOf_append_self hn]

theorem put_range {bs bs' : List Bsm} {b : Bsm} {i : Nat} (hl : bs.length ≤ 65536) (h : put bs b = some (i, bs')) :
    i ≤ 65535 ∧ bs'.length ≤ 65536 := by
  have hg := put_get h
  have hlt : i < bs'.length := (List.getElem?_eq_some_iff.mp hg).1
  unfold put at h
  split at h
  · cases h; exact ⟨by omega, hl⟩
  · split at h
    · cases h
    · cases h; simp at hlt ⊢; omega

end BootstrapWrite
