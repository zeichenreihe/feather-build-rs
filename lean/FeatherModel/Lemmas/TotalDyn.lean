import FeatherModel.Lemmas.TotalBase
import FeatherModel.Model.TotalDyn

/-!
# C16 — `Dynamic` constants (since cb2ce34 bootstrap arguments nest at most 16 deep, since b878381 one resolution has a
budget of 65536 constants): no panic; every `with_capacity` is the length of an argument list; the number of nodes
built plus the budget left is the budget handed in

Second part (`Costs`): the exact outcome of a resolution whose arguments all resolve — `D_i` costs one unit plus the
costs of its arguments, a copy per use, and is an error exactly when the budget is smaller.
-/

namespace Total.Dyn

open TM

/-- every bootstrap method has at most `B` arguments -/
def ArgsLe (spec : Bsms) (B : Nat) : Prop := ∀ (i : Nat) (args : List Arg), spec[i]? = some args → args.length ≤ B

/-- what a resolver does with its budget `b`: the nodes it builds are paid one unit each -/
def Paid (b : Nat) (r : Nat × Nat) : Prop := r.1 + r.2 = b

theorem sumArgs_spec {S : List Nat} {B : Nat} {inner : Option (Nat → Nat → TM (Nat × Nat))}
    (hi : ∀ f, inner = some f → ∀ j b, Spec S B (f j b) (Paid b)) :
    ∀ args b, Spec S B (sumArgs inner args b) (Paid b)
  | [], b => Spec.ret _ (by simp [Paid])
  | a :: rest, b => by
    unfold sumArgs
    cases inner with
    | none => exact Spec.fail
    | some f =>
      dsimp only
      refine Spec.bind (Q := Paid b) ?_ (fun xb hxb =>
        Spec.bind (sumArgs_spec hi rest xb.2) (fun nb hnb => Spec.ret _ (by simp only [Paid] at *; omega)))
      cases a with
      | int =>
        dsimp only
        split
        · exact Spec.fail
        · exact Spec.ret _ (by simp only [Paid]; omega)
      | dyn j => exact hi f rfl j b

theorem resolveWith_spec {S : List Nat} {B : Nat} {spec : Bsms} (hB : ArgsLe spec B)
    {inner : Option (Nat → Nat → TM (Nat × Nat))}
    (hi : ∀ f, inner = some f → ∀ j b, Spec S B (f j b) (Paid b)) (i b : Nat) :
    Spec S B (resolveWith spec inner i b) (Paid b) := by
  unfold resolveWith
  split
  · exact Spec.fail
  · rename_i hb
    split
    · exact Spec.fail
    · rename_i args hargs
      refine Spec.bind (Spec.request (hB i args hargs)) (fun _ _ => ?_)
      exact Spec.bind (sumArgs_spec hi args (b - 1)) (fun nb hnb => Spec.ret _ (by simp only [Paid] at *; omega))

theorem resolve_spec {S : List Nat} {B : Nat} {spec : Bsms} (hB : ArgsLe spec B) :
    ∀ rem i b, Spec S B (resolve spec rem i b) (Paid b)
  | 0, i, b => by
    unfold resolve
    exact resolveWith_spec hB (fun f h => by simp at h) i b
  | rem + 1, i, b => by
    unfold resolve
    exact resolveWith_spec hB (fun f h j b' => by
      simp only [Option.some.injEq] at h; subst h; exact resolve_spec hB rem j b') i b

theorem dynOp_spec {S : List Nat} {B : Nat} {spec : Bsms} (hB : ArgsLe spec B) :
    Spec S B (dynOp spec) (fun n => n ≤ maxNodes) := by
  unfold dynOp
  exact Spec.bind (resolve_spec hB maxDepth 0 maxNodes) (fun nb h => Spec.ret _ (by simp only [Paid] at h; omega))

/-- `m` builds exactly `c` nodes: from a budget `b ≥ c` it takes `c` units, a smaller budget is an error -/
def Costs (m : Nat → TM (Nat × Nat)) (c : Nat) : Prop :=
  ∀ b st, (m b st).1 = if c ≤ b then .ok (c, b - c) else .err

/-- one resolver after another, as in the argument loop -/
theorem Costs.add {m m' : Nat → TM (Nat × Nat)} {c c' : Nat} (h : Costs m c) (h' : Costs m' c') :
    Costs (fun b => do let xb ← m b; let nb ← m' xb.2; pure (xb.1 + nb.1, nb.2)) (c + c') := by
  intro b st
  have h1 := h b st
  show ((m b >>= fun xb => m' xb.2 >>= fun nb => pure (xb.1 + nb.1, nb.2)) st).1 = _
  by_cases hc : c ≤ b
  · rw [if_pos hc] at h1
    rw [bind_ok h1]
    have h2 := h' (b - c) (m b st).2
    by_cases hc' : c' ≤ b - c
    · have hb : c + c' ≤ b := by omega
      rw [if_pos hc'] at h2
      rw [bind_ok h2, if_pos hb, ret_apply]
      dsimp only
      rw [Nat.sub_sub]
    · have hb : ¬ c + c' ≤ b := by omega
      rw [if_neg hc'] at h2
      rw [bind_err h2, if_neg hb]
  · have hb : ¬ c + c' ≤ b := by omega
    rw [if_neg hc] at h1
    rw [bind_err h1, if_neg hb]

/-- the step of `sumArgs` for an `Arg.int` -/
theorem costs_int : Costs (fun b => if b = 0 then fail else pure (1, b - 1)) 1 := by
  intro b st
  by_cases hb : b = 0
  · subst hb; rfl
  · have h1 : 1 ≤ b := by omega
    simp only [if_neg hb, if_pos h1, ret_apply]

/-- nodes built for one argument when `D_j` expands to `cost j` nodes -/
def Arg.nodes (cost : Nat → Nat) : Arg → Nat
  | .int => 1
  | .dyn j => cost j

theorem sumArgs_costs {f : Nat → Nat → TM (Nat × Nat)} {cost : Nat → Nat} :
    ∀ args : List Arg, (∀ j, .dyn j ∈ args → Costs (f j) (cost j)) →
      Costs (sumArgs (some f) args) ((args.map (Arg.nodes cost)).sum)
  | [], _ => fun b st => by simp only [sumArgs, ret_apply, List.map_nil, List.sum_nil, Nat.zero_le, if_true, Nat.sub_zero]
  | a :: rest, hf => by
    have ih := sumArgs_costs rest (fun j hj => hf j (List.mem_cons_of_mem _ hj))
    cases a with
    | dyn j => exact Costs.add (hf j List.mem_cons_self) ih
    | int => exact Costs.add costs_int ih

theorem resolveWith_costs {spec : Bsms} {f : Nat → Nat → TM (Nat × Nat)} {cost : Nat → Nat} {i : Nat} {args : List Arg}
    (hi : spec[i]? = some args) (hf : ∀ j, .dyn j ∈ args → Costs (f j) (cost j)) :
    Costs (resolveWith spec (some f) i) (1 + (args.map (Arg.nodes cost)).sum) := by
  intro b st
  -- the unit for `D_i` is spent like an Integer argument's; the request in between only moves the account
  have h := Costs.add costs_int (sumArgs_costs args hf) b (TM.request args.length st).2
  dsimp only at h
  unfold resolveWith
  rw [hi]
  by_cases hb : b = 0
  · subst hb
    exact h
  · rw [if_neg hb] at h ⊢
    exact h

theorem resolve_costs_replicate {spec : Bsms} {rem i j k c : Nat}
    (hi : spec[i]? = some (List.replicate k (.dyn j))) (hf : Costs (resolve spec rem j) c) :
    Costs (resolve spec (rem + 1) i) (1 + k * c) := by
  have := resolveWith_costs (cost := fun _ => c) hi (fun j' hj => by
    obtain rfl : j' = j := by simpa using List.eq_of_mem_replicate hj
    exact hf)
  show Costs (resolveWith spec (some (resolve spec rem)) i) _
  simpa [Arg.nodes] using this

theorem resolve_costs_nil {spec : Bsms} {i : Nat} (hi : spec[i]? = some []) : ∀ rem, Costs (resolve spec rem i) 1
  | rem + 1 => resolveWith_costs (cost := id) hi (fun _ hj => nomatch hj)
  | 0 => fun b st => by
    unfold resolve resolveWith
    rw [hi]
    by_cases hb : b = 0
    · subst hb; rfl
    · have h1 : 1 ≤ b := by omega
      rw [if_neg hb, if_pos h1]
      rfl

theorem dynOp_err {spec : Bsms} {c : Nat} (h : Costs (resolve spec maxDepth 0) c) (hc : ¬ c ≤ maxNodes) (st : Acct) :
    (dynOp spec st).1 = .err := by
  unfold dynOp
  exact bind_err ((h maxNodes st).trans (if_neg hc))

theorem mem_le_sum : ∀ (l : List Nat) (a : Nat), a ∈ l → a ≤ l.sum
  | [], a, h => by simp at h
  | b :: rest, a, h => by
    simp only [List.mem_cons] at h
    simp only [List.sum_cons]
    rcases h with h | h
    · omega
    · have := mem_le_sum rest a h
      omega

/-- a bound that works for any structure: the total number of arguments -/
theorem argsLe_sum (spec : Bsms) : ArgsLe spec ((spec.map List.length).sum) := by
  intro i args hi
  have hm : args ∈ spec := List.mem_of_getElem? hi
  exact mem_le_sum _ _ (List.mem_map.mpr ⟨args, hm, rfl⟩)

end Total.Dyn
