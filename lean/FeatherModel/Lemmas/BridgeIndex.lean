import FeatherModel.Lemmas.AList
import FeatherModel.Model.BridgeSpec

/-!
The `IndexMap` / `IndexSet` operations of `Model/Bridge.lean`, and the index the class visitor builds with them
(`ofJar`) in terms of the jar description (C15): one induction principle over the three kinds of visitor steps
(`ofJar_pred`) and one for a fold that only adds to a set (`foldl_accum`); from them the edge maps are converse, the method
table holds what the jar declares, and the call sets are what the bodies invoke. The class set, the parent edges and the
uniqueness of the method keys are `Thm.C15.index_classes`, `index_parents`, `index_methods_unique`.
-/

namespace Bridge

section

variable {K V : Type} [BEq K] [LawfulBEq K]

omit [LawfulBEq K] in
theorem upsert_eq_insert (k : K) (v : V) (m : AList K V) : upsert k v m = AList.insert k v m := by
  set_option smartUnfolding false in rfl

theorem lookup_upsert_self (k : K) (v : V) (m : AList K V) :
    AList.lookup k (upsert k v m) = some v :=
  upsert_eq_insert k v m ▸ AList.lookup_insert_self

theorem lookup_upsert_ne {k k' : K} (v : V) (m : AList K V) (hne : k' ≠ k) :
    AList.lookup k' (upsert k v m) = AList.lookup k' m :=
  upsert_eq_insert k v m ▸ AList.lookup_insert_of_ne hne.symm

theorem lookup_upsert [DecidableEq K] (k k' : K) (v : V) (m : AList K V) :
    AList.lookup k' (upsert k v m) = if k' = k then some v else AList.lookup k' m := by
  split
  · next h => rw [h, lookup_upsert_self]
  · next h => rw [lookup_upsert_ne v m h]

theorem lookup_entryModify [DecidableEq K] (k k' : K) (d : V) (f : V → V) (m : AList K V) :
    AList.lookup k' (entryModify k d f m) = if k' = k then some (f ((AList.lookup k m).getD d)) else AList.lookup k' m :=
  lookup_upsert k k' _ m

theorem keys_upsert (k : K) (v : V) (m : AList K V) :
    (upsert k v m).map Prod.fst = setInsert k (m.map Prod.fst) := by
  rw [upsert_eq_insert, setInsert]
  simp only [List.contains_iff_mem]
  exact AList.keys_insert k v m

theorem keys_upsert_of_some {k : K} {v₀ : V} (v : V) {m : AList K V}
    (h : AList.lookup k m = some v₀) : (upsert k v m).map Prod.fst = m.map Prod.fst := by
  rw [keys_upsert, setInsert, if_pos (List.contains_iff_mem.mpr (List.mem_map_of_mem (f := Prod.fst) (AList.lookup_mem h)))]

theorem keys_upsert_append (k : K) (v : V) (m : AList K V) :
    ∃ extra, (upsert k v m).map Prod.fst = m.map Prod.fst ++ extra := by
  rw [keys_upsert, setInsert]
  split
  · exact ⟨[], (List.append_nil _).symm⟩
  · exact ⟨[k], rfl⟩

theorem mem_upsert {k : K} {v : V} {m : AList K V} {p : K × V} (h : p ∈ upsert k v m) :
    p ∈ m ∨ p = (k, v) :=
  AList.mem_insert (upsert_eq_insert k v m ▸ h)

theorem upsert_of_not_mem {k : K} (v : V) {m : AList K V}
    (h : k ∉ m.map Prod.fst) : upsert k v m = m ++ [(k, v)] :=
  (upsert_eq_insert k v m).trans (AList.insert_of_not_mem v h)

end

section

variable {α : Type} [BEq α] [LawfulBEq α]

theorem mem_setInsert (x y : α) (l : List α) :
    y ∈ setInsert x l ↔ y ∈ l ∨ y = x :=
  (List.mem_foldl_setInsert [x] l y).trans (or_congr_right List.mem_singleton)

theorem nodup_setInsert (x : α) {l : List α} (h : l.Nodup) :
    (setInsert x l).Nodup :=
  List.nodup_foldl_setInsert [x] h

theorem mem_setExtend (y : α) (xs l : List α) :
    y ∈ setExtend l xs ↔ y ∈ l ∨ y ∈ xs :=
  List.mem_foldl_setInsert xs l y

theorem nodup_setExtend (xs : List α) {l : List α} (h : l.Nodup) :
    (setExtend l xs).Nodup :=
  List.nodup_foldl_setInsert xs h

end

theorem foldl_preserve {α β δ : Type} (f : β → α → β) (g : β → δ) (h : ∀ b a, g (f b a) = g b) (l : List α) (b : β) :
    g (l.foldl f b) = g b :=
  List.foldlRecOn (motive := fun b' => g b' = g b) l f rfl fun b' hb a _ => (h b' a).trans hb

theorem foldl_accum {α β : Type} (f : β → α → β) (S : β → Prop) (Q : α → Prop)
    (hstep : ∀ b a, S (f b a) ↔ S b ∨ Q a) (l : List α) (b : β) : S (l.foldl f b) ↔ S b ∨ ∃ a, a ∈ l ∧ Q a := by
  induction l generalizing b with
  | nil => simp
  | cons a rest ih =>
    rw [List.foldl_cons, ih, hstep, or_assoc]
    simp only [List.mem_cons, or_and_right, exists_or, exists_eq_left]

@[simp] theorem addEdge_classes (idx : Index) (c p : JStr) : (addEdge idx c p).classes = idx.classes := rfl
@[simp] theorem addEdge_methods (idx : Index) (c p : JStr) : (addEdge idx c p).methods = idx.methods := rfl
@[simp] theorem addEdge_refs (idx : Index) (c p : JStr) : (addEdge idx c p).refs = idx.refs := rfl

theorem visitMethod_eq (cls : JStr) (idx : Index) (m : MethodDesc) : visitMethod cls idx m =
    { idx with methods := upsert ⟨cls, m.name, m.desc⟩ (Access.ofFlags m.flags) idx.methods,
               refs := (visitMethod cls idx m).refs } := by
  unfold visitMethod; cases m.code <;> rfl

/-- the parents of the `addEdge` calls of `visitClass` for a class, in order -/
def supers (c : ClassDesc) : List JStr := (c.super.filter (· != JLO)).toList ++ c.ifaces

/-- the index after the class header (class set and edges), before the methods -/
def headerOf (idx : Index) (c : ClassDesc) : Index :=
  (supers c).foldl (fun idx p => addEdge idx c.name p) { idx with classes := setInsert c.name idx.classes }

theorem visitClass_eq (idx : Index) (c : ClassDesc) :
    visitClass idx c = c.methods.foldl (visitMethod c.name) (headerOf idx c) := by
  unfold visitClass headerOf supers
  rw [List.foldl_append]
  cases c.super with
  | none => rfl
  | some s =>
    rw [Option.filter_some]
    dsimp only
    cases s != JLO <;> rfl

theorem headerOf_pred (P : Index → Prop) (idx : Index) (c : ClassDesc)
    (h0 : P { idx with classes := setInsert c.name idx.classes }) (he : ∀ b p, P b → P (addEdge b c.name p)) :
    P (headerOf idx c) :=
  List.foldlRecOn (motive := P) _ _ h0 fun b hb p _ => he b p hb

theorem ofJar_pred (P : Index → Prop) (jar : JarDesc) (h0 : P Index.empty)
    (hc : ∀ idx c, P idx → P { idx with classes := setInsert c idx.classes })
    (he : ∀ idx c p, P idx → P (addEdge idx c p))
    (hm : ∀ idx cd md, cd ∈ jar → md ∈ cd.methods → P idx → P (visitMethod cd.name idx md)) : P (ofJar jar) :=
  List.foldlRecOn jar visitClass h0 fun idx h cd hcd => visitClass_eq idx cd ▸
    List.foldlRecOn cd.methods (visitMethod cd.name) (headerOf_pred P idx cd (hc idx cd.name h) fun b p => he b cd.name p)
      fun b hb md hmd => hm b cd md hcd hmd hb

theorem mem_nexts_entryModify (g : AList JStr (List JStr)) (k x c y : JStr) :
    y ∈ nexts (entryModify k [] (setInsert x) g) c ↔ y ∈ nexts g c ∨ (c = k ∧ y = x) := by
  unfold nexts
  rw [lookup_entryModify]
  split
  · next h => rw [Option.getD_some, mem_setInsert, h, eq_self, true_and]
  · next h => rw [eq_false h, false_and, or_false]

/-- the direct super types the hierarchy index records for a class description -/
def directSupers (cd : ClassDesc) (p : JStr) : Prop := (cd.super = some p ∧ p ≠ JLO) ∨ p ∈ cd.ifaces

theorem mem_supers (cd : ClassDesc) (p : JStr) : p ∈ supers cd ↔ directSupers cd p := by
  rw [supers, List.mem_append, Option.mem_toList, Option.filter_eq_some_iff, bne_iff_ne]
  exact Iff.rfl

theorem addEdge_parents (idx : Index) (ch pa c p : JStr) :
    p ∈ nexts (addEdge idx ch pa).parents c ↔ p ∈ nexts idx.parents c ∨ (c = ch ∧ p = pa) :=
  mem_nexts_entryModify idx.parents ch pa c p

theorem headerOf_parents (idx : Index) (cd : ClassDesc) (c p : JStr) :
    p ∈ nexts (headerOf idx cd).parents c ↔ p ∈ nexts idx.parents c ∨ (c = cd.name ∧ directSupers cd p) := by
  rw [← mem_supers]
  refine (foldl_accum (fun idx i => addEdge idx cd.name i) (fun i => p ∈ nexts i.parents c) (fun i => c = cd.name ∧ p = i)
    (fun b a => addEdge_parents b cd.name a c p) (supers cd) _).trans (or_congr_right ?_)
  exact ⟨fun ⟨i, hi, h1, h2⟩ => ⟨h1, h2 ▸ hi⟩, fun ⟨h1, h2⟩ => ⟨p, h2, h1, rfl⟩⟩

def Converse (idx : Index) : Prop := ∀ c p, c ∈ nexts idx.children p ↔ p ∈ nexts idx.parents c

theorem addEdge_converse {idx : Index} (h : Converse idx) (ch pa : JStr) : Converse (addEdge idx ch pa) := by
  intro c p
  show c ∈ nexts (entryModify pa [] (setInsert ch) idx.children) p ↔ _
  rw [mem_nexts_entryModify, addEdge_parents, h c p, and_comm]

theorem ofJar_converse (jar : JarDesc) : Converse (ofJar jar) := by
  refine ofJar_pred Converse jar (fun _ _ => iff_of_false List.not_mem_nil List.not_mem_nil) (fun _ _ h => h)
    (fun _ c p h => addEdge_converse h c p) (fun idx cd m _ _ h c p => ?_)
  rw [visitMethod_eq]
  exact h c p

/-- a method description of the jar with reference `b` has a body containing an invoke instruction (on an object
class) of `t` -/
def Invoked (jar : JarDesc) (b t : MRef) : Prop :=
  ∃ cd, cd ∈ jar ∧ ∃ md, md ∈ cd.methods ∧ b = ⟨cd.name, md.name, md.desc⟩ ∧
    ∃ code, md.code = some code ∧ ∃ i, i ∈ code ∧ i.target? = some t

/-- the jar declares a method with reference `b` and access flags `acc` -/
def Declared (jar : JarDesc) (b : MRef) (acc : Access) : Prop :=
  ∃ cd, cd ∈ jar ∧ ∃ md, md ∈ cd.methods ∧ b = ⟨cd.name, md.name, md.desc⟩ ∧ acc = Access.ofFlags md.flags

def callsOf (idx : Index) (m : MRef) : List MRef := (AList.lookup m idx.refs).getD []

theorem callsOf_visitMethod (cls : JStr) (idx : Index) (md : MethodDesc) (m : MRef) :
    callsOf (visitMethod cls idx md) m =
      if m = ⟨cls, md.name, md.desc⟩ then setExtend (callsOf idx m) ((md.code.getD []).filterMap Insn.target?)
      else callsOf idx m := by
  unfold visitMethod callsOf
  cases md.code with
  | none => exact (ite_self _).symm
  | some code =>
    dsimp only
    rw [lookup_entryModify]
    split
    · next hm => rw [hm]; rfl
    · rfl

theorem visitMethod_calls (cls : JStr) (idx : Index) (md : MethodDesc) (m t : MRef) :
    t ∈ callsOf (visitMethod cls idx md) m ↔
      t ∈ callsOf idx m ∨ (m = ⟨cls, md.name, md.desc⟩ ∧ ∃ code, md.code = some code ∧ t ∈ code.filterMap Insn.target?) := by
  rw [callsOf_visitMethod]
  split
  · next hm =>
    rw [mem_setExtend]
    refine or_congr_right ?_
    cases md.code <;> simp [hm]
  · next hm => exact ⟨Or.inl, fun h => h.elim id fun h => absurd h.1 hm⟩

theorem ofJar_calls (jar : JarDesc) (m t : MRef) : t ∈ callsOf (ofJar jar) m ↔ Invoked jar m t := by
  refine (foldl_accum visitClass (fun i => t ∈ callsOf i m) _ (fun idx cd => ?_) jar Index.empty).trans
    (or_iff_right List.not_mem_nil)
  have hrefs : (headerOf idx cd).refs = idx.refs := headerOf_pred (fun i => i.refs = idx.refs) idx cd rfl fun _ _ h => h
  rw [visitClass_eq]
  refine (foldl_accum (visitMethod cd.name) (fun i => t ∈ callsOf i m) _ (fun b a => visitMethod_calls cd.name b a m t)
    cd.methods (headerOf idx cd)).trans ?_
  simp only [callsOf, hrefs, List.mem_filterMap]

theorem ofJar_calls_nodup (jar : JarDesc) : ∀ m, (callsOf (ofJar jar) m).Nodup := by
  refine ofJar_pred (fun i => ∀ m, (callsOf i m).Nodup) jar (fun _ => List.nodup_nil) (fun _ _ h => h) (fun _ _ _ h => h)
    (fun idx cd md _ _ h m => ?_)
  rw [callsOf_visitMethod]
  split
  · exact nodup_setExtend _ (h m)
  · exact h m

theorem eq_singleton_of_nodup {α : Type} {l : List α} {s : α} (hnd : l.Nodup) (h : ∀ t, t ∈ l ↔ t = s) : l = [s] :=
  List.perm_singleton.mp ((List.perm_ext_iff_of_nodup hnd (List.pairwise_singleton _ s)).mpr fun t =>
    (h t).trans List.mem_singleton.symm)

/-- the call set of `b` is the singleton `[s]` iff the bodies recorded for `b` invoke `s` and nothing else -/
theorem ofJar_refs_single (jar : JarDesc) (b s : MRef) :
    AList.lookup b (ofJar jar).refs = some [s] ↔ ∀ t, Invoked jar b t ↔ t = s := by
  simp only [← ofJar_calls]
  constructor
  · intro h t
    rw [callsOf, h]
    exact List.mem_singleton
  · intro h
    have hl := eq_singleton_of_nodup (ofJar_calls_nodup jar b) h
    unfold callsOf at hl
    cases hb : AList.lookup b (ofJar jar).refs with
    | none => rw [hb] at hl; cases hl
    | some l => rw [hb] at hl; exact congrArg some hl

theorem ofJar_methods_declared (jar : JarDesc) (b : MRef) (acc : Access)
    (h : AList.lookup b (ofJar jar).methods = some acc) : Declared jar b acc := by
  revert b acc
  refine ofJar_pred (fun i => ∀ m a, AList.lookup m i.methods = some a → Declared jar m a) jar
    (fun _ _ hl => nomatch hl) (fun _ _ h => h) (fun _ _ _ h => h) (fun idx cd md hcd hmd hidx m a hl => ?_)
  rw [visitMethod_eq, lookup_upsert] at hl
  split at hl
  · next hm => exact ⟨cd, hcd, md, hmd, hm, (Option.some.inj hl).symm⟩
  · exact hidx m a hl

end Bridge
