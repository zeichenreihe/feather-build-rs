import FeatherModel.Model.ClassWriteFull
import FeatherModel.Lemmas.FramePool
import FeatherModel.Spec.ClassEncode
import FeatherModel.Lemmas.Except
import FeatherModel.Lemmas.Machine

/-!
# C02 (whole writer) — the pool the writer builds as the reader sees it, and the attribute combinators

The invariant of every proof about the whole-class writer: a writer step from pool `p` to `p'` keeps the pool good and
keeps every index (`Step`); what an index denotes (`Utf8At`, `ClsAt`, …) is stable under `Le`, and the reader's table
`rpool q` of every pool `q` still reachable (`Ext p q`) resolves the index to it.  On top of that: inversion of the
`Except` combinators (`attrBuf`, `attrFix`, `runAttrs`, `writeList`, …), `Row` (the shape in which the writer of one table
row is specified) with lists, counted tables and list attributes of rows, `GBlock` / `GBlocks`: a block lifted to the
layout (framing, legality in every later pool, effect on the facts), the sequencing of blocks, and the shapes of block that
recur among the attributes (a flag, one `u2` index, a list of class references, a table of rows, the unknown attributes).
-/

namespace ClassWriteFull
open PoolWrite (Entry)
open FramePool (Good Le)
open ClassRead ClassRead.Spec

/-! ## the pool the writer builds, seen through C01's reader

`rpool p` is the table C01's reader builds from the pool image `PoolWrite::write` emits for `p`.  An index at which the
writer's pool holds an entry resolves, in the reader's table of **every later (larger) pool**, to that entry
(`rget_of_get`, `Utf8At.mono` and its like): so whatever index a put returned keeps its meaning in the final pool. -/

/-- the writer's entry as the reader's `cp_info` -/
def conv : Entry → PoolEntry
  | .utf8 s => .utf8 s
  | .int v => .int v
  | .float b => .float b
  | .long v => .long v
  | .double b => .double b
  | .cls n => .cls n
  | .str s => .str s
  | .fieldRef c nt => .fieldRef c nt
  | .methodRef c nt => .methodRef c nt
  | .ifaceMethodRef c nt => .ifaceMethodRef c nt
  | .nameAndType n d => .nameAndType n d
  | .methodHandle k i => .methodHandle k i
  | .methodType d => .methodType d
  | .dynamic b nt => .dynamic b nt
  | .invokeDynamic b nt => .invokeDynamic b nt
  | .module n => .module n
  | .package n => .package n

theorem poolSlots_conv (e : Entry) : poolSlots (conv e) = PoolWrite.slots e := by
  cases e <;> rfl

/-- the entries of the pool in file order, as the reader's entries -/
def rentries (p : Pool) : List PoolEntry := (PoolWrite.inner p).map conv

/-- the table the reader builds from the written pool -/
def rpool (p : Pool) : ClassRead.Pool := poolTable (rentries p)

theorem poolSlotsOf_append (xs ys : List PoolEntry) : poolSlotsOf (xs ++ ys) = poolSlotsOf xs ++ poolSlotsOf ys := by
  simp [poolSlotsOf, List.flatMap_append]

theorem poolSlotsOf_single (e : PoolEntry) :
    poolSlotsOf [e] = if poolSlots e = 2 then [some e, none] else [some e] := by
  simp [poolSlotsOf]

theorem table_of_wf {c : Nat} {es : List (Entry × Nat)} (h : PoolWrite.WF c es) :
    (poolTable (((es.map (·.1)).reverse).map conv)).length = c ∧
      ∀ e i, (e, i) ∈ es → (poolTable (((es.map (·.1)).reverse).map conv))[i]? = some (some (conv e)) := by
  induction h with
  | nil => exact ⟨rfl, fun e i hm => by cases hm⟩
  | @cons c e0 i0 rest hw hf hc ih =>
    obtain ⟨hl, hi⟩ := ih
    have hT : poolTable ((((e0, i0) :: rest).map (·.1)).reverse.map conv)
        = poolTable (((rest.map (·.1)).reverse).map conv) ++ poolSlotsOf [conv e0] := by
      simp [poolTable, poolSlotsOf_append]
    rw [hT]
    have hs : (poolSlotsOf [conv e0]).length = PoolWrite.slots e0 := by
      rw [poolSlotsOf_single, poolSlots_conv]
      have := PoolWrite.slots_pos e0
      have := PoolWrite.slots_le e0
      by_cases h2 : PoolWrite.slots e0 = 2
      · simp [h2]
      · simp [h2]; omega
    refine ⟨by rw [List.length_append, hl, hs, hc], ?_⟩
    intro e i hm
    rcases List.mem_cons.mp hm with h | h
    · cases h
      rw [List.getElem?_append_right (by omega), hl, Nat.sub_self, poolSlotsOf_single]
      split <;> rfl
    · have := (PoolWrite.wf_range hw e i h).2
      have := PoolWrite.slots_pos e
      rw [List.getElem?_append_left (by omega)]
      exact hi e i h

theorem rget_of_get {p : Pool} (hw : p.WF) {i : Nat} {e : Entry} (hg : p.get i = some e) :
    (rpool p).get i = .ok (conv e) := by
  have hm := PoolWrite.mem_of_get (c := p.count) (es := p.entries) hg
  have := (table_of_wf hw).2 e i hm
  unfold rpool rentries PoolWrite.inner ClassRead.Pool.get
  rw [this]

theorem rpool_length {p : Pool} (hw : p.WF) : (rpool p).length = p.count := (table_of_wf hw).1

theorem poolCount_rentries {p : Pool} (hw : p.WF) : poolCount (rentries p) = p.count := by
  have h1 := PoolWrite.wf_count hw
  unfold poolCount rentries PoolWrite.inner
  rw [h1]
  congr 1
  simp only [List.map_map, List.map_reverse, List.sum_reverse]
  congr 1
  apply List.map_congr_left
  intro x _
  simp [poolSlots_conv]

/-- `q` is a pool the writer can have reached from `p`: good, and every index of `p` keeps its entry.  This is the later,
unknown pool that `Sound` quantifies over; what a writer lemma concludes about its own output pool is a `Step` (the same two
facts) -/
structure Ext (p q : Pool) : Prop where
  good : Good q
  le : Le p q

theorem Ext.of_le {p p' q : Pool} (h : Le p p') (e : Ext p' q) : Ext p q := ⟨e.good, h.trans e.le⟩
theorem Ext.refl {p : Pool} (h : Good p) : Ext p p := ⟨h, Le.refl p⟩

def Utf8At (p : Pool) (i : Nat) (s : JStr) : Prop := p.get i = some (.utf8 s)
def ClsAt (p : Pool) (i : Nat) (c : JStr) : Prop := ∃ u, p.get i = some (.cls u) ∧ Utf8At p u c
def StrAt (p : Pool) (i : Nat) (s : JStr) : Prop := ∃ u, p.get i = some (.str u) ∧ Utf8At p u s
def PkgAt (p : Pool) (i : Nat) (s : JStr) : Prop := ∃ u, p.get i = some (.package u) ∧ Utf8At p u s
def ModAt (p : Pool) (i : Nat) (s : JStr) : Prop := ∃ u, p.get i = some (.module u) ∧ Utf8At p u s
def NatAt (p : Pool) (i : Nat) (n d : JStr) : Prop :=
  ∃ a b, p.get i = some (.nameAndType a b) ∧ Utf8At p a n ∧ Utf8At p b d

theorem Utf8At.mono {p q : Pool} (h : Le p q) {i : Nat} {s : JStr} (a : Utf8At p i s) : Utf8At q i s := h _ _ a
theorem ClsAt.mono {p q : Pool} (h : Le p q) {i : Nat} {s : JStr} : ClsAt p i s → ClsAt q i s
  | ⟨u, a, b⟩ => ⟨u, h _ _ a, b.mono h⟩
theorem StrAt.mono {p q : Pool} (h : Le p q) {i : Nat} {s : JStr} : StrAt p i s → StrAt q i s
  | ⟨u, a, b⟩ => ⟨u, h _ _ a, b.mono h⟩
theorem PkgAt.mono {p q : Pool} (h : Le p q) {i : Nat} {s : JStr} : PkgAt p i s → PkgAt q i s
  | ⟨u, a, b⟩ => ⟨u, h _ _ a, b.mono h⟩
theorem ModAt.mono {p q : Pool} (h : Le p q) {i : Nat} {s : JStr} : ModAt p i s → ModAt q i s
  | ⟨u, a, b⟩ => ⟨u, h _ _ a, b.mono h⟩
theorem NatAt.mono {p q : Pool} (h : Le p q) {i : Nat} {n d : JStr} : NatAt p i n d → NatAt q i n d
  | ⟨a, b, x, y, z⟩ => ⟨a, b, h _ _ x, y.mono h, z.mono h⟩

theorem getUtf8_of {q : Pool} (hq : Good q) {i : Nat} {s : JStr} (h : Utf8At q i s) : (rpool q).getUtf8 i = .ok s := by
  simp [Pool.getUtf8, rget_of_get hq.1 h, conv, bind, Outcome.bind]

theorem Utf8At.read {p q : Pool} {i : Nat} {s : JStr} (a : Utf8At p i s) (e : Ext p q) : (rpool q).getUtf8 i = .ok s :=
  getUtf8_of e.good (a.mono e.le)

theorem getClass_of {q : Pool} (hq : Good q) {i : Nat} {c : JStr} (h : ClsAt q i c) (hv : validClassName c = true) :
    (rpool q).getClass i = .ok c := by
  obtain ⟨u, a, b⟩ := h
  simp [Pool.getClass, rget_of_get hq.1 a, conv, getUtf8_of hq b, checked, hv, bind, Outcome.bind]

theorem getObjClass_of {q : Pool} (hq : Good q) {i : Nat} {c : JStr} (h : ClsAt q i c) (hv : validObjClassName c = true) :
    (rpool q).getObjClass i = .ok c := by
  obtain ⟨u, a, b⟩ := h
  simp [Pool.getObjClass, rget_of_get hq.1 a, conv, getUtf8_of hq b, checked, hv, bind, Outcome.bind]

theorem getPackage_of {q : Pool} (hq : Good q) {i : Nat} {c : JStr} (h : PkgAt q i c) : (rpool q).getPackage i = .ok c := by
  obtain ⟨u, a, b⟩ := h
  simp [Pool.getPackage, rget_of_get hq.1 a, conv, getUtf8_of hq b, bind, Outcome.bind]

theorem getModule_of {q : Pool} (hq : Good q) {i : Nat} {c : JStr} (h : ModAt q i c) : (rpool q).getModule i = .ok c := by
  obtain ⟨u, a, b⟩ := h
  simp [Pool.getModule, rget_of_get hq.1 a, conv, getUtf8_of hq b, bind, Outcome.bind]

theorem getNameAndType_of {q : Pool} (hq : Good q) {i : Nat} {n d : JStr} (h : NatAt q i n d) :
    (rpool q).getNameAndType i = .ok (n, d) := by
  obtain ⟨a, b, x, y, z⟩ := h
  simp [Pool.getNameAndType, rget_of_get hq.1 x, conv, getUtf8_of hq y, getUtf8_of hq z, bind, Outcome.bind]

theorem getMethodNameAndType_of {q : Pool} (hq : Good q) {i : Nat} {n d : JStr} (h : NatAt q i n d)
    (hv : validMethodName n = true) : (rpool q).getMethodNameAndType i = .ok (n, d) := by
  simp [Pool.getMethodNameAndType, getNameAndType_of hq h, checked, hv, bind, Outcome.bind]

theorem opt_eq_ok {α : Type} {o : Option α} {a : α} : opt o = .ok a ↔ o = some a := by
  cases o <;> simp [opt]

theorem cnt_eq_ok {n k : Nat} {v b : Bytes} : (if n ≤ k then .ok v else .error .err : Except Fail Bytes) = .ok b ↔ n ≤ k ∧ b = v := by
  split
  · rename_i h
    exact ⟨fun e => ⟨h, (Except.ok.inj e).symm⟩, fun e => e.2 ▸ rfl⟩
  · rename_i h
    exact ⟨nofun, fun e => absurd e.1 h⟩
theorem cnt8_eq_ok {n : Nat} {b : Bytes} : cnt8 n = .ok b ↔ n ≤ 255 ∧ b = [n] := cnt_eq_ok
theorem cnt16_eq_ok {n : Nat} {b : Bytes} : cnt16 n = .ok b ↔ n ≤ 65535 ∧ b = be16 n := cnt_eq_ok
theorem cnt32_eq_ok {n : Nat} {b : Bytes} : cnt32 n = .ok b ↔ n ≤ 4294967295 ∧ b = be32 n := cnt_eq_ok

/-- what every put guarantees about the pool: the conclusion of every writer lemma, chained by `Step.trans` -/
structure Step (p p' : Pool) : Prop where
  good : Good p'
  le : Le p p'

theorem Step.trans {p p' p'' : Pool} (a : Step p p') (b : Step p' p'') : Step p p'' := ⟨b.good, a.le.trans b.le⟩
theorem Step.refl {p : Pool} (h : Good p) : Step p p := ⟨h, Le.refl p⟩

theorem put_spec {p p' : Pool} {e : Entry} {i : Nat} (hg : Good p) (h : put p e = .ok (i, p')) :
    Step p p' ∧ p'.get i = some e ∧ i < 65536 := by
  have h' := opt_eq_ok.mp h
  obtain ⟨g, a, _, b⟩ := FramePool.put_good hg h'
  exact ⟨⟨g.good, g.le⟩, a, by omega⟩

theorem putUtf8_spec {p p' : Pool} {s : JStr} {i : Nat} (hg : Good p) (h : putUtf8 p s = .ok (i, p')) :
    Step p p' ∧ Utf8At p' i s ∧ i < 65536 := put_spec hg h

/-- index + utf8 then a wrapping entry (`Class`, `String`, `Package`, `Module`, `MethodType`) -/
theorem put2_spec {p p' : Pool} {s : JStr} {i : Nat} (mk : Nat → Entry) (hg : Good p)
    (h : (match PoolWrite.putUtf8 p s with | none => none | some (u, p1) => PoolWrite.put p1 (mk u)) = some (i, p')) :
    Step p p' ∧ (∃ u, p'.get i = some (mk u) ∧ Utf8At p' u s) ∧ i < 65536 := by
  split at h
  · cases h
  · rename_i u p1 h1
    obtain ⟨s1, a1, _⟩ := put_spec hg (opt_eq_ok.mpr h1)
    obtain ⟨s2, a2, b2⟩ := put_spec s1.good (opt_eq_ok.mpr h)
    exact ⟨s1.trans s2, ⟨u, a2, s2.le _ _ a1⟩, b2⟩

theorem putClass_spec {p p' : Pool} {c : JStr} {i : Nat} (hg : Good p) (h : putClass p c = .ok (i, p')) :
    Step p p' ∧ ClsAt p' i c ∧ i < 65536 :=
  put2_spec .cls hg (opt_eq_ok.mp h)

theorem putString_spec {p p' : Pool} {c : JStr} {i : Nat} (hg : Good p) (h : putString p c = .ok (i, p')) :
    Step p p' ∧ StrAt p' i c ∧ i < 65536 :=
  put2_spec .str hg (opt_eq_ok.mp h)

/-- the same for the puts the writer composes itself (`Package`, `Module`): the `Except` block is `opt` of that match -/
theorem putWrap_spec {p p' : Pool} {s : JStr} {i : Nat} (mk : Nat → Entry) (hg : Good p)
    (h : (do let (u, p1) ← putUtf8 p s; put p1 (mk u)) = .ok (i, p')) :
    Step p p' ∧ (∃ u, p'.get i = some (mk u) ∧ Utf8At p' u s) ∧ i < 65536 := by
  refine put2_spec mk hg (opt_eq_ok.mp (Eq.trans ?_ h))
  unfold putUtf8 put
  cases PoolWrite.putUtf8 p s <;> rfl

theorem putPackage_spec {p p' : Pool} {c : JStr} {i : Nat} (hg : Good p) (h : putPackage p c = .ok (i, p')) :
    Step p p' ∧ PkgAt p' i c ∧ i < 65536 :=
  putWrap_spec .package hg h

theorem putModule_spec {p p' : Pool} {c : JStr} {i : Nat} (hg : Good p) (h : putModule p c = .ok (i, p')) :
    Step p p' ∧ ModAt p' i c ∧ i < 65536 :=
  putWrap_spec .module hg h

theorem putNameAndType_spec {p p' : Pool} {n d : JStr} {i : Nat} (hg : Good p) (h : putNameAndType p n d = .ok (i, p')) :
    Step p p' ∧ NatAt p' i n d ∧ i < 65536 := by
  have h' := opt_eq_ok.mp h
  unfold PoolWrite.putNameAndType at h'
  split at h'
  · cases h'
  · rename_i a p1 h1
    split at h'
    · cases h'
    · rename_i b p2 h2
      obtain ⟨s1, a1, _⟩ := put_spec hg (opt_eq_ok.mpr h1)
      obtain ⟨s2, a2, _⟩ := put_spec s1.good (opt_eq_ok.mpr h2)
      obtain ⟨s3, a3, b3⟩ := put_spec s2.good (opt_eq_ok.mpr h')
      exact ⟨(s1.trans s2).trans s3, ⟨a, b, a3, Utf8At.mono (s2.le.trans s3.le) a1, Utf8At.mono s3.le a2⟩, b3⟩

theorem one_le_of_get {p : Pool} (hg : Good p) {i : Nat} {e : Entry} (h : p.get i = some e) : 1 ≤ i :=
  (PoolWrite.wf_range hg.1 e i (PoolWrite.mem_of_get (c := p.count) (es := p.entries) h)).1

theorem ClsAt.one_le {p : Pool} (hg : Good p) {i : Nat} {c : JStr} : ClsAt p i c → 1 ≤ i
  | ⟨_, hu, _⟩ => one_le_of_get hg hu

theorem putOptional_spec {α : Type} {f : Pool → α → Except Fail (Nat × Pool)} (At : Pool → Nat → α → Prop)
    (hpos : ∀ {p i a}, Good p → At p i a → 1 ≤ i)
    (hf : ∀ {p p' a i}, Good p → f p a = .ok (i, p') → Step p p' ∧ At p' i a ∧ i < 65536)
    {p p' : Pool} {x : Option α} {i : Nat} (hg : Good p) (h : putOptional f p x = .ok (i, p')) :
    Step p p' ∧ i < 65536 ∧ ((x = none ∧ i = 0) ∨ ∃ a, x = some a ∧ At p' i a ∧ 1 ≤ i) := by
  cases x with
  | none =>
    cases Except.ok.inj h
    exact ⟨Step.refl hg, by omega, Or.inl ⟨rfl, rfl⟩⟩
  | some a =>
    obtain ⟨s, a1, h2⟩ := hf hg h
    exact ⟨s, h2, Or.inr ⟨a, rfl, a1, hpos s.good a1⟩⟩

theorem getOptional_zero {α : Type} (rp : ClassRead.Pool) (f : ClassRead.Pool → Nat → Outcome α) :
    rp.getOptional 0 f = .ok none := by simp [Pool.getOptional]

theorem getOptional_pos {α : Type} (rp : ClassRead.Pool) (f : ClassRead.Pool → Nat → Outcome α) {i : Nat} {a : α}
    (hi : 1 ≤ i) (h : f rp i = .ok a) : rp.getOptional i f = .ok (some a) := by
  have : i ≠ 0 := by omega
  simp [Pool.getOptional, this, h, bind, Outcome.bind]

theorem optAt_mono {α : Type} {At : Pool → Nat → α → Prop}
    (hmono : ∀ {p q : Pool}, Le p q → ∀ {i : Nat} {a : α}, At p i a → At q i a) {p q : Pool} (h : Le p q) {x : Option α} {i : Nat} :
    ((x = none ∧ i = 0) ∨ ∃ a, x = some a ∧ At p i a ∧ 1 ≤ i) → (x = none ∧ i = 0) ∨ ∃ a, x = some a ∧ At q i a ∧ 1 ≤ i
  | .inl c => .inl c
  | .inr ⟨a, ha, hu, h1⟩ => .inr ⟨a, ha, hmono h hu, h1⟩

theorem getOptional_of {α : Type} {rp : ClassRead.Pool} {f : ClassRead.Pool → Nat → Outcome α} {P : α → Prop} {x : Option α}
    {i : Nat} (h : (x = none ∧ i = 0) ∨ ∃ a, x = some a ∧ P a ∧ 1 ≤ i) (hf : ∀ a, x = some a → P a → f rp i = .ok a) :
    rp.getOptional i f = .ok x := by
  rcases h with ⟨rfl, rfl⟩ | ⟨a, rfl, ha, h1⟩
  · exact getOptional_zero _ _
  · exact getOptional_pos _ _ h1 (hf a rfl ha)

/-- `P` holds of the reader's table of every pool the writer can still reach -/
abbrev Sound (p : Pool) (P : ClassRead.Pool → Prop) : Prop := ∀ q, Ext p q → P (rpool q)

theorem Sound.mono {p p' : Pool} {P : ClassRead.Pool → Prop} (h : Sound p P) (l : Le p p') : Sound p' P :=
  fun q e => h q (e.of_le l)

/-! a put whose index one getter reads: the specification can say so directly, for every pool still reachable -/

theorem putUtf8_sound {p p' : Pool} {s : JStr} {i : Nat} (hg : Good p) (h : putUtf8 p s = .ok (i, p')) :
    Step p p' ∧ 1 ≤ i ∧ i < 65536 ∧ Sound p' (fun rp => rp.getUtf8 i = .ok s) := by
  obtain ⟨st, a, h2⟩ := putUtf8_spec hg h
  exact ⟨st, one_le_of_get st.good a, h2, fun q hq => a.read hq⟩

theorem putClass_sound {p p' : Pool} {c : JStr} {i : Nat} (hg : Good p) (hv : validClassName c = true)
    (h : putClass p c = .ok (i, p')) : Step p p' ∧ 1 ≤ i ∧ i < 65536 ∧ Sound p' (fun rp => rp.getClass i = .ok c) := by
  obtain ⟨st, a, h2⟩ := putClass_spec hg h
  exact ⟨st, a.one_le st.good, h2, fun q hq => getClass_of hq.good (a.mono hq.le) hv⟩

theorem putOptional_sound {α : Type} {f : Pool → α → Except Fail (Nat × Pool)} {g : ClassRead.Pool → Nat → Outcome α}
    {Q : α → Prop}
    (hf : ∀ {p p' a i}, Good p → Q a → f p a = .ok (i, p') → Step p p' ∧ 1 ≤ i ∧ i < 65536 ∧ Sound p' (fun rp => g rp i = .ok a))
    {p p' : Pool} {x : Option α} {i : Nat} (hg : Good p) (hq : ∀ a, x = some a → Q a) (h : putOptional f p x = .ok (i, p')) :
    Step p p' ∧ i < 65536 ∧ Sound p' (fun rp => rp.getOptional i g = .ok x) := by
  cases x with
  | none =>
    cases Except.ok.inj h
    exact ⟨Step.refl hg, by omega, fun _ _ => getOptional_zero _ _⟩
  | some a =>
    obtain ⟨s, h1, h2, hs⟩ := hf hg (hq a rfl) h
    exact ⟨s, h2, fun q hq => getOptional_pos _ _ h1 (hs q hq)⟩

theorem idx16_inv {r : Except Fail (Nat × Pool)} {b : Bytes} {p' : Pool} (h : idx16 r = .ok (b, p')) :
    ∃ i, r = .ok (i, p') ∧ b = be16 i := by
  obtain ⟨⟨i, p1⟩, h1, h2⟩ := Except.bind_eq_ok.mp h
  cases Except.ok.inj h2
  exact ⟨i, h1, rfl⟩

theorem attrFix_inv {name : JStr} {len : Nat} {body : Pool → W} {p p' : Pool} {b : Bytes}
    (h : attrFix name len body p = .ok (b, p')) :
    ∃ i p1 bb, putUtf8 p name = .ok (i, p1) ∧ body p1 = .ok (bb, p') ∧ b = be16 i ++ be32 len ++ bb := by
  obtain ⟨⟨i, p1⟩, h1, h2⟩ := Except.bind_eq_ok.mp h
  obtain ⟨⟨bb, p2⟩, h3, h4⟩ := Except.bind_eq_ok.mp h2
  cases Except.ok.inj h4
  exact ⟨i, p1, bb, h1, h3, rfl⟩

theorem attrBuf_inv {name : JStr} {body : Pool → W} {p p' : Pool} {b : Bytes}
    (h : attrBuf name body p = .ok (b, p')) :
    ∃ bb p1 i, body p = .ok (bb, p1) ∧ putUtf8 p1 name = .ok (i, p') ∧ bb.length ≤ 4294967295 ∧ b = attrFrame i bb := by
  obtain ⟨⟨bb, p1⟩, h1, h2⟩ := Except.bind_eq_ok.mp h
  obtain ⟨⟨i, p2⟩, h3, h4⟩ := Except.bind_eq_ok.mp h2
  obtain ⟨l, h5, h6⟩ := Except.bind_eq_ok.mp h4
  obtain ⟨hl, rfl⟩ := cnt32_eq_ok.mp h5
  cases Except.ok.inj h6
  exact ⟨bb, p1, i, h1, h3, hl, rfl⟩

theorem unknownAttr_inv {a : Attr} {p p' : Pool} {b : Bytes} (h : unknownAttr p a = .ok (b, p')) :
    ∃ i, putUtf8 p a.name = .ok (i, p') ∧ a.bytes.length ≤ 4294967295 ∧ b = attrFrame i a.bytes := by
  obtain ⟨⟨i, p1⟩, h1, h2⟩ := Except.bind_eq_ok.mp h
  obtain ⟨l, h5, h6⟩ := Except.bind_eq_ok.mp h2
  obtain ⟨hl, rfl⟩ := cnt32_eq_ok.mp h5
  cases Except.ok.inj h6
  exact ⟨i, h1, hl, rfl⟩

theorem always_inv {w : Pool → W} {p p' : Pool} {o : Option Bytes} (h : always w p = .ok (o, p')) :
    ∃ b, w p = .ok (b, p') ∧ o = some b := by
  obtain ⟨⟨b, p1⟩, h1, h2⟩ := Except.bind_eq_ok.mp h
  cases Except.ok.inj h2
  exact ⟨b, h1, rfl⟩

theorem onlyIf_inv {c : Bool} {w : Pool → W} {p p' : Pool} {o : Option Bytes} (h : onlyIf c w p = .ok (o, p')) :
    (c = true ∧ ∃ b, w p = .ok (b, p') ∧ o = some b) ∨ (c = false ∧ o = none ∧ p' = p) := by
  unfold onlyIf at h
  cases c with
  | true => exact Or.inl ⟨rfl, always_inv h⟩
  | false =>
    simp only [Bool.false_eq_true, if_false] at h
    cases Except.ok.inj h
    exact Or.inr ⟨rfl, rfl, rfl⟩

theorem ifSome_inv {α : Type} {x : Option α} {w : α → Pool → W} {p p' : Pool} {o : Option Bytes}
    (h : ifSome x w p = .ok (o, p')) :
    (∃ a b, x = some a ∧ w a p = .ok (b, p') ∧ o = some b) ∨ (x = none ∧ o = none ∧ p' = p) := by
  unfold ifSome at h
  cases x with
  | none =>
    cases Except.ok.inj h
    exact Or.inr ⟨rfl, rfl, rfl⟩
  | some a =>
    obtain ⟨b, h1, h2⟩ := always_inv h
    exact Or.inl ⟨a, b, rfl, h1, h2⟩

/-- the block wrote one attribute named `name` with body `body` -/
def Present (o : Option Bytes) (p' : Pool) (name : JStr) (body : Bytes) : Prop :=
  ∃ nc, o = some (attrFrame nc body) ∧ nc < 65536 ∧ Utf8At p' nc name

theorem runAttrs_nil_inv {p p' : Pool} {bs : List Bytes} (h : runAttrs [] p = .ok (bs, p')) : bs = [] ∧ p' = p := by
  cases Except.ok.inj h
  exact ⟨rfl, rfl⟩

theorem runAttrs_cons_inv {w : AttrW} {ws : List AttrW} {p p' : Pool} {bs : List Bytes}
    (h : runAttrs (w :: ws) p = .ok (bs, p')) :
    ∃ o p1 bs1, w p = .ok (o, p1) ∧ runAttrs ws p1 = .ok (bs1, p') ∧ bs = o.toList ++ bs1 := by
  obtain ⟨⟨o, p1⟩, h1, h2⟩ := Except.bind_eq_ok.mp h
  obtain ⟨⟨bs1, p2⟩, h3, h4⟩ := Except.bind_eq_ok.mp h2
  cases Except.ok.inj h4
  exact ⟨o, p1, bs1, h1, h3, rfl⟩

theorem runAttrs_append_inv {ws vs : List AttrW} {p p' : Pool} {bs : List Bytes}
    (h : runAttrs (ws ++ vs) p = .ok (bs, p')) :
    ∃ bs1 p1 bs2, runAttrs ws p = .ok (bs1, p1) ∧ runAttrs vs p1 = .ok (bs2, p') ∧ bs = bs1 ++ bs2 := by
  induction ws generalizing p bs with
  | nil => exact ⟨[], p, bs, rfl, h, rfl⟩
  | cons w ws ih =>
    obtain ⟨o, p1, bs1, h1, h2, rfl⟩ := runAttrs_cons_inv h
    obtain ⟨b1, p2, b2, h3, h4, rfl⟩ := ih h2
    refine ⟨o.toList ++ b1, p2, b2, ?_, h4, by simp⟩
    simp [runAttrs, h1, h3, bind, Except.bind, pure, Except.pure]

theorem annoBlocks_nil (wt : Target → Except Fail Bytes) (p : Pool) :
    runAttrs (annoBlocks wt [] [] [] []) p = .ok ([], p) := by
  simp [annoBlocks, runAttrs, annosAttr, typeAnnosAttr, onlyIf, bind, Except.bind, pure, Except.pure]

theorem attrsBytes_inv {as : List Bytes} {b : Bytes} (h : attrsBytes as = .ok b) :
    as.length ≤ 65535 ∧ b = be16 as.length ++ as.flatten := by
  obtain ⟨c, h1, h2⟩ := Except.bind_eq_ok.mp h
  obtain ⟨hl, rfl⟩ := cnt16_eq_ok.mp h1
  exact ⟨hl, (Except.ok.inj h2).symm⟩

theorem attrsBytes_frames {A : Type} (raw : A → Nat × Bytes) {as : List A} {b : Bytes}
    (h : attrsBytes (as.map fun a => attrFrame (raw a).1 (raw a).2) = .ok b) :
    as.length < 65536 ∧ b = encAttrs (as.map raw) := by
  obtain ⟨hl, rfl⟩ := attrsBytes_inv h
  rw [List.length_map] at hl ⊢
  exact ⟨by omega, by simp [encAttrs, List.flatMap, List.map_map, Function.comp_def]⟩

theorem zip_map_fst_length {α β : Type} (xs : List α) (ys : List β) (h : xs.length = ys.length) :
    (xs.zip ys).map (·.2) = ys :=
  List.map_snd_zip (Nat.le_of_eq h.symm)

theorem map_eq_map_of_zip {α β γ : Type} (g : α → γ) (f : β → γ) {ls : List α} {xs : List β} (hl : ls.length = xs.length)
    (h : ∀ x ∈ ls.zip xs, g x.1 = f x.2) : ls.map g = xs.map f := by
  calc ls.map g = ((ls.zip xs).map (·.1)).map g := by rw [List.map_fst_zip (Nat.le_of_eq hl)]
    _ = ((ls.zip xs).map (·.2)).map f := by rw [List.map_map, List.map_map]; exact List.map_congr_left h
    _ = xs.map f := by rw [List.map_snd_zip (Nat.le_of_eq hl.symm)]

theorem map_eq_of_zip {α β : Type} (g : α → β) (ls : List α) (xs : List β) (hl : ls.length = xs.length)
    (h : ∀ x ∈ ls.zip xs, g x.1 = x.2) : ls.map g = xs :=
  (map_eq_map_of_zip g id hl h).trans (List.map_id xs)

theorem zip_mem_of_mem {α β : Type} {ls : List α} {xs : List β} (hl : ls.length = xs.length) {l : α} (hm : l ∈ ls) :
    ∃ x ∈ xs, (l, x) ∈ ls.zip xs := by
  rw [← List.map_fst_zip (Nat.le_of_eq hl)] at hm
  obtain ⟨⟨_, x⟩, hz, rfl⟩ := List.mem_map.mp hm
  exact ⟨x, (List.of_mem_zip hz).2, hz⟩

theorem forall_of_zip {α β : Type} {Q : α → Prop} {ls : List α} {xs : List β} (hl : ls.length = xs.length)
    (h : ∀ x ∈ ls.zip xs, Q x.1) : ∀ l ∈ ls, Q l := by
  intro l hm
  obtain ⟨x, _, hz⟩ := zip_mem_of_mem hl hm
  exact h _ hz

theorem writeList_nil_inv {α : Type} {f : Pool → α → W} {p p' : Pool} {b : Bytes}
    (h : writeList f p [] = .ok (b, p')) : b = [] ∧ p' = p := by
  cases Except.ok.inj h
  exact ⟨rfl, rfl⟩

theorem writeList_cons_inv {α : Type} {f : Pool → α → W} {a : α} {as : List α} {p p' : Pool} {b : Bytes}
    (h : writeList f p (a :: as) = .ok (b, p')) :
    ∃ b1 p1 b2, f p a = .ok (b1, p1) ∧ writeList f p1 as = .ok (b2, p') ∧ b = b1 ++ b2 := by
  obtain ⟨⟨b1, p1⟩, h1, h2⟩ := Except.bind_eq_ok.mp h
  obtain ⟨⟨b2, p2⟩, h3, h4⟩ := Except.bind_eq_ok.mp h2
  cases Except.ok.inj h4
  exact ⟨b1, p1, b2, h1, h3, rfl⟩

/-- The relational form (`R` ties an element to its layout item in the final pool) and `table_spec`, `refList_spec` below
serve the `Module` body, whose rows are tied to their items by the `…At` relations
(`ModuleAt` is stated with them), and the reference lists read by a getter chosen later (interfaces, packages); all other
tables are `Row`s (below), which carry legality and facts themselves. -/
theorem writeList_spec {α β : Type} (f : Pool → α → W) (enc : β → Bytes) (P : α → Prop) (R : Pool → α → β → Prop)
    (hmono : ∀ {p p'}, Le p p' → ∀ {a l}, R p a l → R p' a l)
    (hf : ∀ p p' a b, Good p → P a → f p a = .ok (b, p') → Step p p' ∧ ∃ l, b = enc l ∧ R p' a l) :
    ∀ (xs : List α) (p p' : Pool) (b : Bytes), Good p → (∀ x ∈ xs, P x) → writeList f p xs = .ok (b, p') →
      Step p p' ∧ ∃ ls : List β, b = ls.flatMap enc ∧ ls.length = xs.length ∧ ∀ x ∈ ls.zip xs, R p' x.2 x.1 := by
  intro xs
  induction xs with
  | nil =>
    intro p p' b hg _ h
    obtain ⟨rfl, rfl⟩ := writeList_nil_inv h
    exact ⟨Step.refl hg, [], rfl, rfl, by simp⟩
  | cons a as ih =>
    intro p p' b hg hP h
    obtain ⟨b1, p1, b2, h1, h2, rfl⟩ := writeList_cons_inv h
    obtain ⟨s1, l, rfl, r1⟩ := hf p p1 a b1 hg (hP a (by simp)) h1
    obtain ⟨s2, ls, rfl, hl, r2⟩ := ih p1 p' b2 s1.good (fun x hx => hP x (by simp [hx])) h2
    refine ⟨s1.trans s2, l :: ls, by simp, by simp [hl], ?_⟩
    intro x hx
    simp only [List.zip_cons_cons, List.mem_cons] at hx
    rcases hx with rfl | hx
    · exact hmono s2.le r1
    · exact r2 x hx

theorem writeSlice16_inv {α : Type} {f : Pool → α → W} {xs : List α} {p p' : Pool} {b : Bytes}
    (h : writeSlice16 f p xs = .ok (b, p')) :
    xs.length ≤ 65535 ∧ ∃ bb, writeList f p xs = .ok (bb, p') ∧ b = be16 xs.length ++ bb := by
  obtain ⟨c, h1, h2⟩ := Except.bind_eq_ok.mp h
  obtain ⟨hl, rfl⟩ := cnt16_eq_ok.mp h1
  obtain ⟨⟨bb, p1⟩, h3, h4⟩ := Except.bind_eq_ok.mp h2
  cases Except.ok.inj h4
  exact ⟨hl, bb, h3, rfl⟩

theorem table_spec {α β : Type} (f : Pool → α → W) (enc : β → Bytes) (R : Pool → α → β → Prop)
    (hmono : ∀ {p p'}, Le p p' → ∀ {a l}, R p a l → R p' a l)
    (hf : ∀ {p p' a b}, Good p → f p a = .ok (b, p') → Step p p' ∧ ∃ l, b = enc l ∧ R p' a l)
    {xs : List α} {p p' : Pool} {b : Bytes} (hg : Good p) (h : writeSlice16 f p xs = .ok (b, p')) :
    Step p p' ∧ ∃ ls : List β, b = be16 ls.length ++ ls.flatMap enc ∧ ls.length = xs.length ∧ ls.length < 65536 ∧
      ∀ x ∈ ls.zip xs, R p' x.2 x.1 := by
  obtain ⟨hl, bb, h1, rfl⟩ := writeSlice16_inv h
  obtain ⟨s, ls, rfl, hlen, hr⟩ := writeList_spec f enc (fun _ => True) R hmono (fun _ _ _ _ hg _ h => hf hg h)
    xs p p' bb hg (fun _ _ => trivial) h1
  exact ⟨s, ls, by rw [hlen], hlen, by omega, hr⟩

/-- a `u2`-counted list of references (`putX` = `put_class` / `put_package` / `put_module`) -/
theorem refList_spec {putX : Pool → JStr → Except Fail (Nat × Pool)} {At : Pool → Nat → JStr → Prop}
    (hput : ∀ {p p' c i}, Good p → putX p c = .ok (i, p') → Step p p' ∧ At p' i c ∧ i < 65536)
    (hmono : ∀ {p p'}, Le p p' → ∀ {i c}, At p i c → At p' i c)
    {cs : List JStr} {p p' : Pool} {b : Bytes} (hg : Good p)
    (h : writeSlice16 (fun p c => idx16 (putX p c)) p cs = .ok (b, p')) :
    Step p p' ∧ ∃ ls : List (Nat × JStr), b = encRefs ls ∧ ls.map (·.2) = cs ∧ ls.length < 65536 ∧
      ∀ x ∈ ls, x.1 < 65536 ∧ At p' x.1 x.2 := by
  obtain ⟨s, ls, rfl, hlen, hlt, hr⟩ := table_spec (fun p c => idx16 (putX p c)) (fun x : Nat × JStr => be16 x.1)
    (fun p c x => x.2 = c ∧ x.1 < 65536 ∧ At p x.1 x.2) (fun hle _ _ hr => ⟨hr.1, hr.2.1, hmono hle hr.2.2⟩)
    (fun {_ _ a _} hg h => by
      obtain ⟨i, h1, rfl⟩ := idx16_inv h
      obtain ⟨s, c, hi⟩ := hput hg h1
      exact ⟨s, (i, a), rfl, rfl, hi, c⟩) hg h
  refine ⟨s, ls, rfl, map_eq_of_zip _ ls cs hlen (fun x hx => (hr x hx).1), hlt, ?_⟩
  intro x hx
  obtain ⟨c, _, hz⟩ := zip_mem_of_mem hlen hx
  exact (hr _ hz).2

/-- `f` writes an item `a` satisfying `P` as a layout row `l`: from a good pool it makes a `Step`, the bytes are `enc l`,
`l` denotes the item (`fact l = view a`; `view` is the relabelling where the item carries labels) and is legal (`Leg`) in
the reader's table of every pool still reachable -/
def Row {α β γ : Type} (f : Pool → α → W) (enc : β → Bytes) (fact : β → γ) (view : α → γ) (Leg : ClassRead.Pool → β → Prop)
    (P : α → Prop) : Prop :=
  ∀ p p' a b, Good p → P a → f p a = .ok (b, p') →
    Step p p' ∧ ∃ l, b = enc l ∧ fact l = view a ∧ Sound p' (fun rp => Leg rp l)

section
variable {α β γ : Type} {f : Pool → α → W} {enc : β → Bytes} {fact : β → γ} {view : α → γ}
  {Leg : ClassRead.Pool → β → Prop} {P : α → Prop}

theorem rowList_spec (hf : Row f enc fact view Leg P) {as : List α} (hok : ∀ a ∈ as, P a) {p p' : Pool} {b : Bytes}
    (hg : Good p) (h : writeList f p as = .ok (b, p')) :
    Step p p' ∧ ∃ ls : List β, b = ls.flatMap enc ∧ ls.map fact = as.map view ∧ Sound p' (fun rp => ∀ l ∈ ls, Leg rp l) := by
  obtain ⟨s, ls, rfl, hlen, hr⟩ := writeList_spec f enc P (fun p a l => fact l = view a ∧ Sound p (fun rp => Leg rp l))
    (fun hle _ _ hr => ⟨hr.1, hr.2.mono hle⟩) hf as p p' b hg hok h
  exact ⟨s, ls, rfl, map_eq_map_of_zip fact view hlen (fun x hx => (hr x hx).1),
    fun q hq l hm => by
      obtain ⟨x, _, hz⟩ := zip_mem_of_mem hlen hm
      exact (hr _ hz).2 q hq⟩

theorem rowTable_spec (hf : Row f enc fact view Leg P) {as : List α} (hok : ∀ a ∈ as, P a) {p p' : Pool} {b : Bytes}
    (hg : Good p) (h : writeSlice16 f p as = .ok (b, p')) :
    Step p p' ∧ ∃ ls : List β, b = be16 ls.length ++ ls.flatMap enc ∧ ls.map fact = as.map view ∧ ls.length < 65536 ∧
      Sound p' (fun rp => ∀ l ∈ ls, Leg rp l) := by
  obtain ⟨hl, bb, h1, rfl⟩ := writeSlice16_inv h
  obtain ⟨s, ls, rfl, hm, hs⟩ := rowList_spec hf hok hg h1
  have hlen : ls.length = as.length := by simpa using congrArg List.length hm
  exact ⟨s, ls, by rw [hlen], hm, by omega, hs⟩

/-- an attribute whose body is a `u2`-counted table of rows (`write_attribute`: the rows first, then the name) -/
theorem attrList_spec (hf : Row f enc fact view Leg P) {name : JStr} {as : List α} (hok : ∀ a ∈ as, P a) {p p' : Pool}
    {b : Bytes} (hg : Good p) (h : attrBuf name (writeSlice16 f · as) p = .ok (b, p')) :
    Step p p' ∧ ∃ (nc : Nat) (ls : List β), b = attrFrame nc (be16 ls.length ++ ls.flatMap enc) ∧ ls.map fact = as.map view ∧
      Sound p' (fun rp => nc < 65536 ∧ rp.getUtf8 nc = .ok name ∧ ls.length < 65536 ∧ (∀ l ∈ ls, Leg rp l) ∧
        (be16 ls.length ++ ls.flatMap enc).length < 4294967296) := by
  obtain ⟨bb, p1, nc, h1, h2, hlen, rfl⟩ := attrBuf_inv h
  obtain ⟨s1, ls, rfl, hm, hlt, hs⟩ := rowTable_spec hf hok hg h1
  obtain ⟨s2, a2, hn⟩ := putUtf8_spec s1.good h2
  exact ⟨s1.trans s2, nc, ls, rfl, hm, fun q hq => ⟨hn, a2.read hq, hlt, hs q (hq.of_le s2.le), by omega⟩⟩

end

theorem applyAll_isRun {σ α : Type} (step : σ → α → Option σ) : IsRun step (applyAll step) :=
  ⟨fun _ => rfl, fun st a as => by simp only [applyAll]; cases step st a <;> rfl⟩

theorem applyAll_toList {σ α : Type} (step : σ → α → Option σ) (st : σ) (o : Option α) :
    applyAll step st o.toList = match o with | none => some st | some a => step st a := by
  cases o with
  | none => rfl
  | some a => simp only [Option.toList, applyAll]; cases step st a <;> rfl

section

/-- how the attributes of an owner are framed, when they stay legal from a pool on (`sound q a`: legal in the reader's
table of whatever the writer can still reach from `q`; monotone), and what they add to the facts -/
structure Own (A σ : Type) where
  frame : A → Bytes
  sound : Pool → A → Prop
  mono : ∀ {q q' : Pool} {a : A}, Le q q' → sound q a → sound q' a
  apply : σ → A → Option σ

variable {A σ : Type}

/-- one block: what was written is the framing of `lo`, `lo` is legal in every pool still reachable, folding it into
the facts performs `upd` (under `pre`) -/
def GBlock (O : Own A σ) (o : Option Bytes) (q : Pool) (pre : σ → Prop) (upd : σ → σ) : Prop :=
  ∃ lo : Option A, o = lo.map O.frame ∧ (∀ a ∈ lo, O.sound q a) ∧
    ∀ st : σ, pre st → applyAll O.apply st lo.toList = some (upd st)

def GBlocks (O : Own A σ) (bs : List Bytes) (q : Pool) (pre : σ → Prop) (upd : σ → σ) : Prop :=
  ∃ as : List A, bs = as.map O.frame ∧ (∀ a ∈ as, O.sound q a) ∧
    ∀ st : σ, pre st → applyAll O.apply st as = some (upd st)

theorem gblock_absent {O : Own A σ} {q : Pool} {pre : σ → Prop} {upd : σ → σ} (h : ∀ c, pre c → upd c = c) :
    GBlock O none q pre upd :=
  ⟨none, rfl, by simp, fun st hp => by simp [applyAll, h st hp]⟩

theorem gblock_present {O : Own A σ} {q : Pool} {pre : σ → Prop} {upd : σ → σ} (a : A)
    (hs : O.sound q a) (h : ∀ st : σ, pre st → O.apply st a = some (upd st)) :
    GBlock O (some (O.frame a)) q pre upd :=
  ⟨some a, rfl, fun x hx => by cases Option.mem_some_iff.mp hx; exact hs, fun st hp => by
    simp only [Option.toList, applyAll]
    rw [h st hp]⟩

theorem GBlocks.nil (O : Own A σ) (q : Pool) : GBlocks O [] q (fun _ => True) (fun c => c) :=
  ⟨[], rfl, by simp, fun st _ => rfl⟩

theorem GBlock.blocks {O : Own A σ} {o : Option Bytes} {q : Pool} {pre : σ → Prop} {upd : σ → σ} (b : GBlock O o q pre upd) :
    GBlocks O o.toList q pre upd := by
  obtain ⟨lo, rfl, sd, f⟩ := b
  exact ⟨lo.toList, Option.toList_map, fun a ha => sd a (Option.mem_toList.mp ha), f⟩

theorem GBlocks.append {O : Own A σ} {bs1 bs2 : List Bytes} {q1 q : Pool} {pre1 pre2 : σ → Prop} {upd1 upd2 : σ → σ}
    (b : GBlocks O bs1 q1 pre1 upd1) (hle : Le q1 q) (r : GBlocks O bs2 q pre2 upd2) :
    GBlocks O (bs1 ++ bs2) q (fun c => pre1 c ∧ pre2 (upd1 c)) (fun c => upd2 (upd1 c)) := by
  obtain ⟨as1, rfl, sd1, f1⟩ := b
  obtain ⟨as2, rfl, sd2, f2⟩ := r
  refine ⟨as1 ++ as2, by simp, ?_, ?_⟩
  · intro a ha
    rcases List.mem_append.mp ha with ha | ha
    · exact O.mono hle (sd1 a ha)
    · exact sd2 a ha
  · intro st hp
    rw [(applyAll_isRun _).append, f1 st hp.1]
    exact f2 (upd1 st) hp.2

/-! ### writers as blocks

`WBlock O w pre upd`: whenever the block writer `w` succeeds from a good pool it makes a `Step` and what it wrote is a
`GBlock`; `WBlocks` the same for a list of writers under `runAttrs`.  The precondition of a sequence is collected link by
link (`pre1 c ∧ pre2 (upd1 c)`), to be discharged once, on the initial facts.

A block lemma carries its owner in its name: `wblock_` any owner, `sblock_` the shared owner (ClassWriteFullShared),
`fblock_` a field, `mblock_` a method, `cblock_` the `Code` attribute, `block_` the class (on the description alone:
`ClassWBlock`), `ablock_` the class (on the whole accumulator); a plural (`wblocks_`, `sblocks_`, …) is a `WBlocks`. -/

def WBlock (O : Own A σ) (w : AttrW) (pre : σ → Prop) (upd : σ → σ) : Prop :=
  ∀ (p p' : Pool) (o : Option Bytes), Good p → w p = .ok (o, p') → Step p p' ∧ GBlock O o p' pre upd

def WBlocks (O : Own A σ) (ws : List AttrW) (pre : σ → Prop) (upd : σ → σ) : Prop :=
  ∀ (p p' : Pool) (bs : List Bytes), Good p → runAttrs ws p = .ok (bs, p') → Step p p' ∧ GBlocks O bs p' pre upd

theorem WBlocks.nil (O : Own A σ) : WBlocks O [] (fun _ => True) (fun c => c) := by
  intro p p' bs hg h
  obtain ⟨rfl, rfl⟩ := runAttrs_nil_inv h
  exact ⟨Step.refl hg, GBlocks.nil O _⟩

theorem WBlocks.cons {O : Own A σ} {w : AttrW} {ws : List AttrW} {pre1 pre2 : σ → Prop} {upd1 upd2 : σ → σ}
    (b : WBlock O w pre1 upd1) (r : WBlocks O ws pre2 upd2) :
    WBlocks O (w :: ws) (fun c => pre1 c ∧ pre2 (upd1 c)) (fun c => upd2 (upd1 c)) := by
  intro p p' bs hg h
  obtain ⟨o, p1, bs1, h1, h2, rfl⟩ := runAttrs_cons_inv h
  obtain ⟨s1, g1⟩ := b _ _ _ hg h1
  obtain ⟨s2, g2⟩ := r _ _ _ s1.good h2
  exact ⟨s1.trans s2, g1.blocks.append s2.le g2⟩

theorem WBlocks.congr {O : Own A σ} {ws : List AttrW} {pre pre' : σ → Prop} {upd upd' : σ → σ} (b : WBlocks O ws pre upd)
    (h : ∀ c, pre' c → pre c ∧ upd c = upd' c) : WBlocks O ws pre' upd' := by
  intro p p' bs hg hw
  obtain ⟨s, as, h1, h2, h3⟩ := b p p' bs hg hw
  exact ⟨s, as, h1, h2, fun st hst => by rw [← (h st hst).2]; exact h3 st (h st hst).1⟩

theorem WBlocks.weaken {O : Own A σ} {ws : List AttrW} {pre pre' : σ → Prop} {upd : σ → σ} (b : WBlocks O ws pre upd)
    (hpre : ∀ c, pre' c → pre c) : WBlocks O ws pre' upd :=
  b.congr fun c h => ⟨hpre c h, rfl⟩

theorem WBlocks.append {O : Own A σ} {ws vs : List AttrW} {pre1 pre2 : σ → Prop} {upd1 upd2 : σ → σ}
    (b : WBlocks O ws pre1 upd1) (r : WBlocks O vs pre2 upd2) :
    WBlocks O (ws ++ vs) (fun c => pre1 c ∧ pre2 (upd1 c)) (fun c => upd2 (upd1 c)) := by
  intro p p' bs hg h
  obtain ⟨bs1, p1, bs2, h1, h2, rfl⟩ := runAttrs_append_inv h
  obtain ⟨s1, g1⟩ := b _ _ _ hg h1
  obtain ⟨s2, g2⟩ := r _ _ _ s1.good h2
  exact ⟨s1.trans s2, GBlocks.append g1 s2.le g2⟩

/-- a block in front of blocks whose precondition its update leaves alone (`hst`; for an update of another field it is
`fun _ h => h`): the precondition of the chain stays a flat conjunction on the initial facts.  `WBlocks.cons` pushes the later
preconditions through the update; in a long chain over a structure with many fields that nesting is slow to check -/
theorem WBlocks.consS {O : Own A σ} {w : AttrW} {ws : List AttrW} {pre1 pre2 : σ → Prop} {upd1 upd2 : σ → σ}
    (b : WBlock O w pre1 upd1) (r : WBlocks O ws pre2 upd2) (hst : ∀ c, pre2 c → pre2 (upd1 c)) :
    WBlocks O (w :: ws) (fun c => pre1 c ∧ pre2 c) (fun c => upd2 (upd1 c)) :=
  (WBlocks.cons b r).weaken fun c h => ⟨h.1, hst c h.2⟩

theorem WBlocks.appendS {O : Own A σ} {ws vs : List AttrW} {pre1 pre2 : σ → Prop} {upd1 upd2 : σ → σ}
    (b : WBlocks O ws pre1 upd1) (r : WBlocks O vs pre2 upd2) (hst : ∀ c, pre2 c → pre2 (upd1 c)) :
    WBlocks O (ws ++ vs) (fun c => pre1 c ∧ pre2 c) (fun c => upd2 (upd1 c)) :=
  (WBlocks.append b r).weaken fun c h => ⟨h.1, hst c h.2⟩

/-! ### the shapes of block that recur

What differs between the owners is the constructor of the layout's attribute type (`mk`), how it is framed, when it is
sound and what `apply` does with it: these are the hypotheses; for the owners at hand they hold by unfolding. -/

/-- `Deprecated` / `Synthetic` -/
theorem wblock_flag {O : Own A σ} {flag : Bool} {name : JStr} (mk : Nat → A) {upd : σ → σ}
    (hframe : ∀ nc, O.frame (mk nc) = attrFrame nc [])
    (hsound : ∀ q nc, Sound q (fun rp => nc < 65536 ∧ rp.getUtf8 nc = .ok name) → O.sound q (mk nc))
    (happly : flag = true → ∀ st nc, O.apply st (mk nc) = some (upd st))
    (hid : flag = false → ∀ st, upd st = st) : WBlock O (flagAttr flag name) (fun _ => True) upd := by
  intro p q o hg h
  rcases onlyIf_inv h with ⟨hf, b, hb, rfl⟩ | ⟨hf, rfl, rfl⟩
  · obtain ⟨nc, p1, bb, h1, h2, rfl⟩ := attrFix_inv hb
    cases Except.ok.inj h2
    obtain ⟨s, a, hn⟩ := putUtf8_spec hg h1
    rw [show be16 nc ++ be32 0 ++ [] = O.frame (mk nc) from (hframe nc).symm]
    exact ⟨s, gblock_present (mk nc) (hsound q nc fun q' hq => ⟨hn, a.read hq⟩) (fun st _ => happly hf st nc)⟩
  · exact ⟨Step.refl hg, gblock_absent (fun st _ => hid hf st)⟩

/-- an optional attribute whose body is one `u2` index obtained from a put (`Signature`, `SourceFile`, `NestHost`,
`ModuleMainClass`, `ConstantValue`); `At` says what the index denotes -/
theorem wblock_fix2 {O : Own A σ} {α : Type} {put1 : Pool → α → Except Fail (Nat × Pool)} {At : Pool → Nat → α → Prop}
    (hput : ∀ {p p' s cp}, Good p → put1 p s = .ok (cp, p') → Step p p' ∧ At p' cp s ∧ cp < 65536)
    {name : JStr} {x : Option α} (mk : Nat → Nat → α → A) {pre : σ → Prop} {upd : σ → σ}
    (hframe : ∀ nc cp s, O.frame (mk nc cp s) = attrFrame nc (be16 cp))
    (hsound : ∀ q nc cp s, x = some s → nc < 65536 → Utf8At q nc name → cp < 65536 → At q cp s → O.sound q (mk nc cp s))
    (happly : ∀ s, x = some s → ∀ st nc cp, pre st → O.apply st (mk nc cp s) = some (upd st))
    (hid : x = none → ∀ st, pre st → upd st = st) :
    WBlock O (ifSome x (fun s => attrFix name 2 (fun p => idx16 (put1 p s)))) pre upd := by
  intro p q o hg h
  rcases ifSome_inv h with ⟨v, b, hf, hb, rfl⟩ | ⟨hf, rfl, rfl⟩
  · obtain ⟨nc, p1, bb, h1, h2, rfl⟩ := attrFix_inv hb
    obtain ⟨cp, h3, rfl⟩ := idx16_inv h2
    obtain ⟨s1, a, hn⟩ := putUtf8_spec hg h1
    obtain ⟨s2, ac, hc⟩ := hput s1.good h3
    rw [show be16 nc ++ be32 2 ++ be16 cp = O.frame (mk nc cp v) from (hframe nc cp v).symm]
    exact ⟨s1.trans s2, gblock_present (mk nc cp v) (hsound q nc cp v hf hn (a.mono s2.le) hc ac)
      (fun st hst => happly v hf st nc cp hst)⟩
  · exact ⟨Step.refl hg, gblock_absent (hid hf)⟩

theorem classRef_row : Row (fun p c => idx16 (putClass p c)) (fun x : Nat × JStr => be16 x.1) (·.2) id
    (fun rp x => x.1 < 65536 ∧ rp.getClass x.1 = .ok x.2) (fun c => validClassName c = true) := by
  intro p p' c b hg hv h
  obtain ⟨i, h1, rfl⟩ := idx16_inv h
  obtain ⟨s, _, hi, a⟩ := putClass_sound hg hv h1
  exact ⟨s, (i, c), rfl, rfl, fun q hq => ⟨hi, a q hq⟩⟩

/-- an optional `u2`-counted list of class references (`Exceptions`, `NestMembers`, `PermittedSubclasses`) -/
theorem wblock_classList {O : Own A σ} {name : JStr} {x : Option (List JStr)} (mk : Nat → List Nat → List JStr → A)
    {pre : σ → Prop} {upd : σ → σ} (hv : ∀ cs, x = some cs → ∀ c ∈ cs, validClassName c = true)
    (hframe : ∀ nc cps cs, O.frame (mk nc cps cs) = attrFrame nc (be16 cps.length ++ cps.flatMap be16))
    (hsound : ∀ q nc cps cs,
      Sound q (fun rp => nc < 65536 ∧ rp.getUtf8 nc = .ok name ∧ classRefsLegal rp cps cs) → O.sound q (mk nc cps cs))
    (happly : ∀ cs, x = some cs → ∀ st nc cps, pre st → O.apply st (mk nc cps cs) = some (upd st))
    (hid : x = none → ∀ st, pre st → upd st = st) :
    WBlock O (ifSome x (fun cs => attrBuf name (writeClassList cs))) pre upd := by
  intro p q o hg h
  rcases ifSome_inv h with ⟨cs, b, hf, hb, rfl⟩ | ⟨hf, rfl, rfl⟩
  · obtain ⟨s, nc, ls, rfl, hm, hs⟩ := attrList_spec classRef_row (hv cs hf) hg hb
    rw [List.map_id] at hm
    subst hm
    -- the layout lists the indices and the names side by side
    have hframe' : attrFrame nc (be16 ls.length ++ ls.flatMap fun x => be16 x.1) = O.frame (mk nc (ls.map (·.1)) (ls.map (·.2))) := by
      rw [hframe, List.length_map, List.flatMap_map]
    rw [hframe']
    refine ⟨s, gblock_present _ (hsound q nc _ _ fun q' hq => ?_) (fun st hst => happly _ hf st nc _ hst)⟩
    obtain ⟨h1, h2, h3, h4, _⟩ := hs q' hq
    refine ⟨h1, h2, by rwa [List.length_map], by simp, fun y hy => ?_⟩
    rw [List.zip_map'] at hy
    obtain ⟨x, hx, rfl⟩ := List.mem_map.mp hy
    exact h4 x hx
  · exact ⟨Step.refl hg, gblock_absent (hid hf)⟩

/-- an attribute whose body is a `u2`-counted table of rows, written when there is a row (annotations, type annotations):
`mk nc ls` is the owner's attribute, `app` what `apply` does with the facts of the rows -/
theorem wblock_list {O : Own A σ} {α β γ : Type} {f : Pool → α → W} {enc : β → Bytes} {fact : β → γ} {view : α → γ}
    {Leg : ClassRead.Pool → β → Prop} {P : α → Prop} {name : JStr} (hf : Row f enc fact view Leg P) {as : List α}
    (mk : Nat → List β → A) (app : List γ → σ → σ) (hok : ∀ a ∈ as, P a)
    (hframe : ∀ nc ls, O.frame (mk nc ls) = attrFrame nc (be16 ls.length ++ ls.flatMap enc))
    (hsound : ∀ q nc ls, Sound q (fun rp => nc < 65536 ∧ rp.getUtf8 nc = .ok name ∧ ls.length < 65536 ∧
      (∀ l ∈ ls, Leg rp l) ∧ (be16 ls.length ++ ls.flatMap enc).length < 4294967296) → O.sound q (mk nc ls))
    {pre : σ → Prop} (happly : ∀ st nc ls, pre st → O.apply st (mk nc ls) = some (app (ls.map fact) st))
    (hnil : ∀ st, app [] st = st) :
    WBlock O (onlyIf (!as.isEmpty) (attrBuf name (writeSlice16 f · as))) pre (app (as.map view)) := by
  intro p q o hg h
  rcases onlyIf_inv h with ⟨_, b, hb, rfl⟩ | ⟨hc, rfl, rfl⟩
  · obtain ⟨s, nc, ls, rfl, hm, hs⟩ := attrList_spec hf hok hg hb
    rw [← hframe, ← hm]
    exact ⟨s, gblock_present (mk nc ls) (hsound q nc ls hs) (fun st hst => happly st nc ls hst)⟩
  · cases as with
    | nil => exact ⟨Step.refl hg, gblock_absent (fun st _ => hnil st)⟩
    | cons _ _ => simp at hc

/-- the unknown attributes, written last; `upd l` appends `l` to the owner's `attributes` field -/
theorem wblocks_unknown {O : Own A σ} {as : List Attr} (names : List JStr) (mk : Nat → JStr → Bytes → A)
    (upd : List Attr → σ → σ) (hok : ∀ a ∈ as, a.name ∉ names)
    (hframe : ∀ n name b, O.frame (mk n name b) = attrFrame n b)
    (hsound : ∀ q n name b, Sound q (fun rp => n < 65536 ∧ rp.getUtf8 n = .ok name ∧ name ∉ names ∧ b.length < 4294967296) →
      O.sound q (mk n name b))
    (happly : ∀ st n name b, O.apply st (mk n name b) = some (upd [⟨name, b⟩] st))
    (hnil : ∀ st, upd [] st = st) (hcons : ∀ st a l, upd l (upd [a] st) = upd (a :: l) st) :
    WBlocks O (unknownAttrs as) (fun _ => True) (upd as) := by
  induction as with
  | nil => exact (WBlocks.nil O).congr fun c _ => ⟨trivial, (hnil c).symm⟩
  | cons a as ih =>
    refine (WBlocks.cons (pre1 := fun _ => True) (upd1 := upd [a]) ?_ (ih fun x hx => hok x (List.mem_cons_of_mem _ hx))).congr
      fun c _ => ⟨⟨trivial, trivial⟩, hcons c a as⟩
    intro p q o hg h
    obtain ⟨b, hb, rfl⟩ := always_inv h
    obtain ⟨i, h1, hl, rfl⟩ := unknownAttr_inv hb
    obtain ⟨s, a1, hi⟩ := putUtf8_spec hg h1
    rw [← hframe i a.name a.bytes]
    exact ⟨s, gblock_present _ (hsound q _ _ _ fun q' hq => ⟨hi, a1.read hq, hok a List.mem_cons_self, by omega⟩)
      fun st _ => happly st i a.name a.bytes⟩

end

end ClassWriteFull
