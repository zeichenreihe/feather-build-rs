import FeatherModel.Model.VersionGraph
import FeatherModel.Lemmas.AList

/-! Version strings and their keys; what one call of `add_node` does to the lookup table, the node list and the node it
returns, and when its ambiguity check passes. -/

namespace VG

theorem stripSuffix_some {suf s r : List Nat} (h : stripSuffix suf s = some r) : s = r ++ suf := by
  unfold stripSuffix at h
  split at h
  · rename_i hc
    simp only [Option.some.injEq] at h
    subst h
    have := List.take_append_drop (s.length - suf.length) s
    rw [hc.2] at this
    exact this.symm
  · simp at h

theorem splitOnce_some {c : Nat} : ∀ {s a b : List Nat}, splitOnce c s = some (a, b) → s = a ++ c :: b := by
  intro s
  induction s with
  | nil => intro a b h; simp [splitOnce] at h
  | cons x xs ih =>
    intro a b h
    rw [splitOnce] at h
    split at h
    · rename_i hx
      simp only [Option.some.injEq, Prod.mk.injEq] at h
      rw [← h.1, ← h.2, hx]
      rfl
    · split at h
      · rename_i a' b' hs
        simp only [Option.some.injEq, Prod.mk.injEq] at h
        rw [← h.1, ← h.2, ih hs]
        rfl
      · simp at h

theorem isSome_splitOnce (c : Nat) (s : List Nat) : (splitOnce c s).isSome = s.contains c := by
  induction s with
  | nil => rfl
  | cons x xs ih =>
    rw [splitOnce, List.contains_cons, ← ih]
    by_cases hx : x = c
    · simp [hx]
    · have : (c == x) = false := by simpa using fun e => hx e.symm
      cases splitOnce c xs <;> simp [hx, this]

theorem isSplit_iff {vs : JStr} : isSplit vs = true ↔ ∃ cs, splitOnce TILDE vs = some cs := by
  rw [isSplit, ← isSome_splitOnce, Option.isSome_iff_exists]

theorem isSplit_false_iff {vs : JStr} : isSplit vs = false ↔ splitOnce TILDE vs = none := by
  rw [isSplit, ← isSome_splitOnce, Option.isSome_eq_false_iff, Option.isNone_iff_eq_none]

theorem keysOf_plain {vs : JStr} (h : splitOnce TILDE vs = none) : keysOf vs = [vs] := by simp [keysOf, h]

theorem keysOf_split {vs c s : JStr} (h : splitOnce TILDE vs = some (c, s)) : keysOf vs = [c, s] := by simp [keysOf, h]

theorem keyKind_isSome_iff {k vs : JStr} : (keyKind k vs).isSome = true ↔ k ∈ keysOf vs := by
  unfold keyKind keysOf
  cases splitOnce TILDE vs with
  | some cs =>
    simp only []
    by_cases hc : k = cs.1
    · simp [hc]
    · rw [if_neg hc]
      by_cases hs : k = cs.2 <;> simp [hc, hs]
  | none => by_cases h : k = vs <;> simp [h]

theorem keyKind_some_mem {k vs : JStr} {sp : Split} (h : keyKind k vs = some sp) : k ∈ keysOf vs :=
  keyKind_isSome_iff.mp (by rw [h]; rfl)

theorem keyKind_of_mem {k vs : JStr} (h : k ∈ keysOf vs) : ∃ sp, keyKind k vs = some sp :=
  Option.isSome_iff_exists.mp (keyKind_isSome_iff.mpr h)

/-- the key whose lookup decides whether `add_node` creates a node -/
def firstKey (vs : JStr) : JStr :=
  match splitOnce TILDE vs with
  | some (c, _) => c
  | none => vs

theorem firstKey_mem (vs : JStr) : firstKey vs ∈ keysOf vs := by
  unfold firstKey keysOf
  cases splitOnce TILDE vs <;> simp

theorem keysDisjoint_sub {a b : List JStr} (h : KeysDisjoint b) (hs : ∀ x, x ∈ a → x ∈ b) : KeysDisjoint a :=
  fun v1 h1 v2 h2 hne k hk => h v1 (hs _ h1) v2 (hs _ h2) hne k hk

theorem keysDisjoint_congr {a b : List JStr} (h : ∀ x, x ∈ a ↔ x ∈ b) (ha : KeysDisjoint a) : KeysDisjoint b :=
  keysDisjoint_sub ha (fun x hx => (h x).mpr hx)

theorem keysDisjoint_cons_iff {seen : List JStr} {vs : JStr} :
    KeysDisjoint (vs :: seen) ↔
      KeysDisjoint seen ∧ ∀ n, n ∈ seen → n ≠ vs → ∀ k, k ∈ keysOf vs → k ∉ keysOf n := by
  constructor
  · intro h
    refine ⟨keysDisjoint_sub h (fun x hx => List.mem_cons_of_mem _ hx), ?_⟩
    intro n hn hne k hk
    exact h vs List.mem_cons_self n (List.mem_cons_of_mem _ hn) (fun e => hne e.symm) k hk
  · intro ⟨h1, h2⟩ v1 hv1 v2 hv2 hne k hk hk2
    rcases List.mem_cons.mp hv1 with e1 | m1 <;> rcases List.mem_cons.mp hv2 with e2 | m2
    · exact hne (e1.trans e2.symm)
    · subst e1; exact h2 v2 m2 (fun e => hne e.symm) k hk hk2
    · subst e2; exact h2 v1 m1 hne k hk2 hk
    · exact h1 v1 m1 v2 m2 hne k hk hk2

theorem keysDisjointB_iff (vss : List JStr) : keysDisjointB vss = true ↔ KeysDisjoint vss := by
  unfold keysDisjointB KeysDisjoint
  simp only [List.all_eq_true, Bool.or_eq_true, beq_iff_eq, Bool.not_eq_true', List.contains_eq_mem, decide_eq_false_iff_not]
  constructor
  · intro h v1 h1 v2 h2 hne k hk
    exact (h v1 h1 v2 h2).resolve_left hne k hk
  · intro h v1 h1 v2 h2
    by_cases heq : v1 = v2
    · exact Or.inl heq
    · exact Or.inr (h v1 h1 v2 h2 heq)

/-- `entry(k).or_insert(v)`; the model's `addNodeRaw` writes it out at each of its three uses -/
def orInsert {V : Type} (m : AList JStr V) (k : JStr) (v : V) : AList JStr V :=
  match AList.lookup k m with
  | some _ => m
  | none => m ++ [(k, v)]

theorem lookup_orInsert {V : Type} (m : AList JStr V) (k k' : JStr) (v : V) :
    AList.lookup k (orInsert m k' v) = (AList.lookup k m).or (if k' = k then some v else none) := by
  unfold orInsert
  cases h : AList.lookup k' m with
  | some x =>
    by_cases e : k' = k
    · rw [← e, h, Option.some_or]
    · rw [if_neg e, Option.or_none]
  | none =>
    rw [AList.lookup_append]
    simp [AList.lookup]

/-- `add_node` without its ambiguity check, in one piece: the node is the one the first key stands for, or a new one
named `vs`; every key of `vs` is then `or_insert`ed for that node -/
theorem addNodeRaw_eq (g : Graph) (vs : JStr) :
    addNodeRaw g vs =
      let node := ((AList.lookup (firstKey vs) g.versions).map (·.2)).getD vs
      ({ g with
          versions :=
            match splitOnce TILDE vs with
            | some (c, s) => orInsert (orInsert g.versions c (Split.first, node)) s (Split.second, node)
            | none => orInsert g.versions vs (Split.none, node)
          nodes := if (AList.lookup (firstKey vs) g.versions).isSome then g.nodes else g.nodes ++ [vs] }, node) := by
  unfold addNodeRaw firstKey orInsert
  cases splitOnce TILDE vs with
  | some cs =>
    obtain ⟨c, s⟩ := cs
    simp only []
    cases AList.lookup c g.versions with
    | some q =>
      simp only []
      cases AList.lookup s g.versions <;> rfl
    | none =>
      simp only [Option.map_none, Option.getD_none]
      cases AList.lookup s (g.versions ++ [(c, (Split.first, vs))]) <;> rfl
  | none => cases AList.lookup vs g.versions <;> rfl

theorem addNodeRaw_root (g : Graph) (vs : JStr) : (addNodeRaw g vs).1.root = g.root := by
  rw [addNodeRaw_eq]

theorem addNodeRaw_edges (g : Graph) (vs : JStr) : (addNodeRaw g vs).1.edges = g.edges := by
  rw [addNodeRaw_eq]

theorem addNodeRaw_snd (g : Graph) (vs : JStr) :
    (addNodeRaw g vs).2 = ((AList.lookup (firstKey vs) g.versions).map (·.2)).getD vs := by
  rw [addNodeRaw_eq]

theorem addNodeRaw_nodes (g : Graph) (vs : JStr) :
    (addNodeRaw g vs).1.nodes =
      if (AList.lookup (firstKey vs) g.versions).isSome then g.nodes else g.nodes ++ [vs] := by
  rw [addNodeRaw_eq]

theorem addNodeRaw_lookup (g : Graph) (vs k : JStr) :
    AList.lookup k (addNodeRaw g vs).1.versions =
      (AList.lookup k g.versions).or ((keyKind k vs).map fun sp => (sp, (addNodeRaw g vs).2)) := by
  rw [addNodeRaw_eq]
  unfold keyKind
  simp only [eq_comm (a := k)]
  cases splitOnce TILDE vs with
  | some cs =>
    simp only [lookup_orInsert]
    cases AList.lookup k g.versions with
    | some x => rfl
    | none => by_cases hc : cs.1 = k <;> by_cases hs : cs.2 = k <;> simp [hc, hs]
  | none =>
    simp only [lookup_orInsert]
    cases AList.lookup k g.versions with
    | some x => rfl
    | none => by_cases h : vs = k <;> simp [h]

/-- the closed form of the `versions` table after registering the version strings `seen` -/
def VersionsSpec (g : Graph) (seen : List JStr) : Prop :=
  ∀ k sp n, AList.lookup k g.versions = some (sp, n) ↔ (n ∈ seen ∧ keyKind k n = some sp)

/-- node names = the registered version strings, without repetition -/
def NodesSpec (g : Graph) (seen : List JStr) : Prop := (∀ n, n ∈ g.nodes ↔ n ∈ seen) ∧ g.nodes.Nodup

theorem VersionsSpec_congr {g : Graph} {a b : List JStr} (h : ∀ x, x ∈ a ↔ x ∈ b) (ha : VersionsSpec g a) :
    VersionsSpec g b := by
  intro k sp n
  rw [ha k sp n, h n]

theorem NodesSpec_congr {g : Graph} {a b : List JStr} (h : ∀ x, x ∈ a ↔ x ∈ b) (ha : NodesSpec g a) : NodesSpec g b :=
  ⟨fun n => by rw [ha.1 n, h n], ha.2⟩

theorem VersionsSpec.owner {g : Graph} {seen : List JStr} {vs k n : JStr} {sp : Split} (hinv : VersionsSpec g seen)
    (hwf : KeysDisjoint (vs :: seen)) (hk : k ∈ keysOf vs) (hl : AList.lookup k g.versions = some (sp, n)) : n = vs := by
  obtain ⟨hn, hkk⟩ := (hinv k sp n).mp hl
  refine Decidable.byContradiction fun h => ?_
  exact hwf vs List.mem_cons_self n (List.mem_cons_of_mem _ hn) (fun e => h e.symm) k hk (keyKind_some_mem hkk)

theorem addNodeRaw_spec {g : Graph} {seen : List JStr} {vs : JStr}
    (hinv : VersionsSpec g seen) (hwf : KeysDisjoint (vs :: seen)) :
    (addNodeRaw g vs).2 = vs ∧ VersionsSpec (addNodeRaw g vs).1 (vs :: seen) := by
  have hnode : (addNodeRaw g vs).2 = vs := by
    rw [addNodeRaw_snd]
    cases hl : AList.lookup (firstKey vs) g.versions with
    | none => rfl
    | some q => exact hinv.owner hwf (firstKey_mem vs) hl
  refine ⟨hnode, fun k sp n => ?_⟩
  rw [addNodeRaw_lookup, hnode, Option.or_eq_some_iff, hinv k sp n, List.mem_cons]
  constructor
  · rintro (⟨hn, hk⟩ | ⟨_, h⟩)
    · exact ⟨Or.inr hn, hk⟩
    · obtain ⟨sp', hk, he⟩ := Option.map_eq_some_iff.mp h
      cases he
      exact ⟨Or.inl rfl, hk⟩
  · rintro ⟨rfl | hn, hk⟩
    · -- a key of `vs` is new, or registered for `vs` already
      cases hl : AList.lookup k g.versions with
      | none => exact Or.inr ⟨rfl, by rw [hk]; rfl⟩
      | some q => exact Or.inl ⟨hinv.owner hwf (keyKind_some_mem hk) hl ▸ ((hinv k q.1 q.2).mp hl).1, hk⟩
    · exact Or.inl ⟨hn, hk⟩

theorem addNodeRaw_nodesSpec {g : Graph} {seen : List JStr} {vs : JStr}
    (hinv : VersionsSpec g seen) (hnodes : NodesSpec g seen) (hwf : KeysDisjoint (vs :: seen)) :
    NodesSpec (addNodeRaw g vs).1 (vs :: seen) := by
  obtain ⟨sp, hsp⟩ := keyKind_of_mem (firstKey_mem vs)
  rw [NodesSpec, addNodeRaw_nodes]
  by_cases hm : vs ∈ seen
  · rw [(hinv (firstKey vs) sp vs).mpr ⟨hm, hsp⟩, Option.isSome_some, if_pos rfl]
    refine ⟨fun n => ?_, hnodes.2⟩
    rw [hnodes.1 n, List.mem_cons]
    exact ⟨Or.inr, fun h => h.elim (fun e => e ▸ hm) id⟩
  · have hl : AList.lookup (firstKey vs) g.versions = none := by
      cases hq : AList.lookup (firstKey vs) g.versions with
      | none => rfl
      | some q => exact absurd (hinv.owner hwf (firstKey_mem vs) hq ▸ ((hinv _ q.1 q.2).mp hq).1) hm
    rw [hl, Option.isSome_none, if_neg Bool.false_ne_true]
    refine ⟨fun n => ?_, ?_⟩
    · rw [List.mem_append, List.mem_singleton, hnodes.1 n, List.mem_cons, or_comm]
    · rw [List.nodup_append]
      refine ⟨hnodes.2, List.pairwise_singleton _ _, fun a ha b hb e => ?_⟩
      rw [List.mem_singleton.mp hb] at e
      exact hm ((hnodes.1 _).mp (e ▸ ha))

theorem addNode_ok {g : Graph} {seen : List JStr} {vs : JStr}
    (hinv : VersionsSpec g seen) (hwf : KeysDisjoint (vs :: seen)) :
    addNode g vs = some ((addNodeRaw g vs).1, vs) := by
  obtain ⟨hnode, hspec⟩ := addNodeRaw_spec hinv hwf
  unfold addNode
  cases hs : splitOnce TILDE vs with
  | none => exact congrArg some (Prod.ext rfl hnode)
  | some cs =>
    obtain ⟨c, s⟩ := cs
    obtain ⟨sp, hsp⟩ := keyKind_of_mem (show s ∈ keysOf vs by simp [keysOf_split hs])
    have hl := (hspec s sp vs).mpr ⟨List.mem_cons_self, hsp⟩
    simp only []
    rw [if_pos ⟨hnode, by simp [keyNode, hl]⟩]
    exact congrArg some (Prod.ext rfl hnode)

theorem addNode_fail {g : Graph} {seen : List JStr} {vs n k : JStr}
    (hinv : VersionsSpec g seen) (hn : n ∈ seen) (hne : n ≠ vs) (hsplit : isSplit vs = true)
    (hk : k ∈ keysOf vs) (hkn : k ∈ keysOf n) : addNode g vs = none := by
  obtain ⟨⟨c, s⟩, hs⟩ := isSplit_iff.mp hsplit
  obtain ⟨sp, hsp⟩ := keyKind_of_mem hkn
  have hl : AList.lookup k g.versions = some (sp, n) := (hinv k sp n).mpr ⟨hn, hsp⟩
  rw [keysOf_split hs] at hk
  simp only [List.mem_cons, List.not_mem_nil, or_false] at hk
  unfold addNode
  simp only [hs]
  refine if_neg fun ⟨h1, h2⟩ => hne ?_
  rcases hk with rfl | rfl
  · -- the first half stands for `n`: the node returned is `n`
    rw [addNodeRaw_snd, firstKey, hs] at h1
    simpa [hl] using h1
  · -- the second half keeps standing for `n`
    rw [keyNode, addNodeRaw_lookup, hl] at h2
    simpa using h2

end VG
