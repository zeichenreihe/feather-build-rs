import FeatherModel.Lemmas.ClassWriteFullAttr
import FeatherModel.Lemmas.ClassWriteFullInsn
import FeatherModel.Lemmas.FrameReadBackCode
import FeatherModel.Lemmas.ClassReadLayout
import FeatherModel.Lemmas.ClassWriteFullAnno
import FeatherModel.Lemmas.CodeTables
import FeatherModel.Spec.ClassEncode

/-!
# C02 (whole writer) — `write_code`: the `StackMapTable`, the tables written from the label table, the attribute
blocks of `Code`, and the whole `Code` body as the encoding of a legal `CodeLayout` (`writeCode_spec`)
-/

namespace ClassWriteFull
open PoolWrite (Entry)
open FramePool (Good Le)
open ClassRead ClassRead.Spec

/-! ## the `StackMapTable` of `write_code` inside the class-level statement

`FrameReadBack` shows that the written entries are `Spec.encFrames` of the layout `sFrames`.  Here: that layout is legal
in the reader's table of every later pool (`Sound`, class names of `Object` types valid), its facts are the frames of
the tree with their labels renamed, and it does not matter whether positions are taken from the writer's label table
or from `codePos` of the layout (they agree on instructions). -/

section
open FrameReadBack (posOf sVType sVTypes sKind sFrames IdxIncr)

theorem rdVType_vtypeOf (lab : Nat → Nat) (v : ClassRead.VType) : rdVType (vtypeOf lab v) = vtMapL lab v := by
  cases v <;> rfl

theorem rdFrame_frameOf (lab : Nat → Nat) (f : ClassRead.Frame) : rdFrame (frameOf lab f) = frMapL lab f := by
  cases f <;> simp [frameOf, rdFrame, frMapL, rdVType_vtypeOf, List.map_map, Function.comp_def]

/-- class names of `Object` types are valid, `Uninitialized` labels are instructions -/
def vtypeOkR (n : Nat) : ClassRead.VType → Prop
  | .object c => validClassName c = true
  | .uninit t => t < n
  | _ => True

def frameOkR (n : Nat) : ClassRead.Frame → Prop
  | .same1 v => vtypeOkR n v
  | .append vs => ∀ v ∈ vs, vtypeOkR n v
  | .full ls ss => (∀ v ∈ ls, vtypeOkR n v) ∧ ∀ v ∈ ss, vtypeOkR n v
  | _ => True

instance (n : Nat) (v : ClassRead.VType) : Decidable (vtypeOkR n v) := by cases v <;> simp only [vtypeOkR] <;> infer_instance
instance (n : Nat) (f : ClassRead.Frame) : Decidable (frameOkR n f) := by cases f <;> simp only [frameOkR] <;> infer_instance

theorem clsAt_ClsAt {p : Pool} {c : JStr} {i : Nat} (h : FrameDenote.clsAt p c i = true) : ClsAt p i c := by
  unfold FrameDenote.clsAt at h
  split at h
  · exact ⟨_, ‹_›, by simpa [Utf8At] using h⟩
  · cases h

theorem reading_ext {q : Pool} (hq : Good q) (n : Nat) :
    FrameReadBack.Reading (rpool q) n q (fun v => vtypeOkR n (rdVType v)) (fun f => frameOkR n (rdFrame f)) :=
  ⟨fun hc hv => getClass_of hq (clsAt_ClsAt hc) hv, id, id, List.forall_mem_map.mp,
    And.imp List.forall_mem_map.mp List.forall_mem_map.mp⟩

/-- **the frames of a method**: the layout `sFrames` is legal in every later pool, and denotes the frames it was built
from (instruction index, frame) -/
theorem sFrames_sound {lp : Nat → Option Nat} {n : Nat} :
    ∀ (ifs : List (Nat × FrameWrite.Frame)) {p p' : Pool} {sfs : List SFrame} (prev : Option Nat), Good p →
      sFrames lp p prev ifs = some (sfs, p') → IdxIncr lp prev ifs → (∀ x ∈ ifs, x.1 < n) →
      (∀ x ∈ ifs, FrameDenote.frameOk lp x.2 = true) → (∀ x ∈ ifs, frameOkR n (rdFrame x.2)) →
      Step p p' ∧ sfs.map (fun f => (f.at_, f.kind.fact)) = ifs.map (fun x => (x.1, rdFrame x.2)) ∧
        Sound p' (fun rp => framesLegal rp n (posOf lp) prev sfs) := by
  intro ifs p p' sfs prev hg h hinc hn hok hr
  obtain ⟨⟨-, hfact, -⟩, hl⟩ := FrameReadBack.sFrames_spec p prev ifs h
  obtain ⟨g, hl⟩ := hl hg
  exact ⟨⟨g.good, g.le⟩, hfact, fun q hq =>
    hl (reading_ext hq.good n) hq.le hinc fun x hx => ⟨hn x hx, hok x hx, hr x hx⟩⟩

/-- a legal frame table is encoded the same, and is legal, under any two position tables that agree on instructions -/
theorem frames_congr {pos pos' : Nat → Nat} {rp : ClassRead.Pool} {n : Nat} (h : ∀ t, t < n → pos t = pos' t) :
    ∀ (fs : List SFrame) (prev : Option Nat), (∀ i, prev = some i → i < n) → framesLegal rp n pos prev fs →
      framesLegal rp n pos' prev fs ∧ encFrames pos (prev.map pos) fs = encFrames pos' (prev.map pos') fs
  | [], _, _, _ => ⟨trivial, rfl⟩
  | f :: fs, prev, hp, hl => by
    simp only [framesLegal] at hl
    obtain ⟨h1, h2, h3, h4, h5⟩ := hl
    obtain ⟨ih1, ih2⟩ := frames_congr h fs (some f.at_) (fun i hi => by cases hi; exact h1) h5
    have hprev : prev.map pos = prev.map pos' := by
      cases prev with
      | none => rfl
      | some i => simp [h i (hp i rfl)]
    have hat := h f.at_ h1
    have hv : ∀ s : SVType, s.Legal rp n → s.encode pos = s.encode pos' := by
      intro s hs
      cases s <;> simp only [SVType.encode]
      rw [h _ hs]
    have hvs : ∀ ss : List SVType, (∀ s ∈ ss, s.Legal rp n) → ss.flatMap (SVType.encode pos) = ss.flatMap (SVType.encode pos') :=
      fun ss hs => flatMap_congr ss fun s hm => hv s (hs s hm)
    refine ⟨⟨h1, h2, h3, ?_, ih1⟩, ?_⟩
    · rw [← hprev, ← hat]; exact h4
    · simp only [encFrames]
      simp only [Option.map_some] at ih2
      rw [ih2, ← hprev]
      congr 1
      simp only [SFrame.encode, ← hat]
      generalize f.kind = k at h3 ⊢
      cases k with
      | same | chop _ => rfl
      | same1 v => simp only [hv v h3]
      | append vs => simp only [hvs vs h3.2.2]
      | full ls ss => simp only [hvs ls h3.2.2.1, hvs ss h3.2.2.2]

/-- `factEntries` attaches the frames of the layout to the instructions they were collected from -/
theorem factEntries_collect : ∀ (sis : List SInsn) (ps : List Nat) (fs : List (Option FrameWrite.Frame)) (k : Nat)
    (sfs : List SFrame), ps.length = sis.length → fs.length = sis.length →
    sfs.map (fun f => (f.at_, f.kind.fact)) = (FrameReadBack.collectIdx k ps fs).map (fun x => (x.1, rdFrame x.2)) →
    factEntries sfs k sis = List.zipWith (fun si (f : Option FrameWrite.Frame) => ⟨none, f.map rdFrame, si.insn⟩) sis fs
  | [], _, _, _, _, _, _, _ => by simp [factEntries]
  | si :: r, [], _, _, _, hp, _, _ => by simp at hp
  | si :: r, _ :: _, [], _, _, _, hf, _ => by simp at hf
  | si :: r, p0 :: ps, some f :: fs, k, sfs, hp, hf, h => by
    simp only [FrameReadBack.collectIdx, List.map_cons] at h
    cases sfs with
    | nil => simp at h
    | cons s0 sfs' =>
      simp only [List.map_cons, List.cons.injEq, Prod.mk.injEq] at h
      obtain ⟨⟨hat, hkind⟩, hrest⟩ := h
      simp only [factEntries, hat, if_true, List.zipWith_cons_cons, Option.map_some, hkind]
      rw [factEntries_collect r ps fs (k + 1) sfs' (by simpa using hp) (by simpa using hf) hrest]
  | si :: r, p0 :: ps, none :: fs, k, sfs, hp, hf, h => by
    simp only [FrameReadBack.collectIdx] at h
    have ih := factEntries_collect r ps fs (k + 1) sfs (by simpa using hp) (by simpa using hf) h
    cases sfs with
    | nil => simp only [factEntries, List.zipWith_cons_cons, Option.map_none, ih]
    | cons s0 sfs' =>
      have hne : s0.at_ ≠ k := by
        have hm : (s0.at_, s0.kind.fact) ∈ (FrameReadBack.collectIdx (k + 1) ps fs).map (fun x => (x.1, rdFrame x.2)) := by
          rw [← h]; simp
        obtain ⟨x, hx, hxe⟩ := List.mem_map.mp hm
        have := (FrameReadBack.collectIdx_bound ps fs (k + 1) x hx).1
        simp only [Prod.mk.injEq] at hxe
        omega
      simp only [factEntries, hne, if_false, List.zipWith_cons_cons, Option.map_none, ih]

theorem collectIdx_sum (g : FrameWrite.Frame → Nat) : ∀ (ps : List Nat) (fs : List (Option FrameWrite.Frame)) (k : Nat),
    ps.length = fs.length →
    ((FrameReadBack.collectIdx k ps fs).map (fun x => g x.2)).sum =
      (fs.map fun o => match o with | some f => g f | none => 0).sum
  | [], [], _, _ => by simp [FrameReadBack.collectIdx]
  | [], _ :: _, _, h => by simp at h
  | _ :: _, [], _, h => by simp at h
  | _ :: ps, o :: fs, k, h => by
    have ih := collectIdx_sum g ps fs (k + 1) (by simpa using h)
    cases o <;> simp only [FrameReadBack.collectIdx, List.map_cons, List.sum_cons, Nat.zero_add, ih]

end

section
open FrameReadBack (posOf sFrames IdxIncr collectIdx atPositions)

/-- the buffered `StackMapTable` attribute, if one was written (`smtB` in `writeCode`) -/
def smtBytes : Option (Nat × Bytes) → List Bytes
  | none => []
  | some (i, b) => [be16 i ++ be32 b.length ++ b]

/-- two constants for one name: `FrameWrite.sStackMapTable` is `jstr "StackMapTable"` (the frame writer's model),
`ClassRead.sStackMapTable` the list of its code points (the reader's model). One literal of 13 characters: evaluated as it
stands -/
theorem sStackMapTable_eq : FrameWrite.sStackMapTable = ClassRead.sStackMapTable := by decide +kernel

/-- **the `StackMapTable` block**: written exactly when an instruction carries a frame; the attribute is the
specification's encoding (positions = `cpos`) of a frame table that is legal in every later pool and denotes the frames
of the instructions they were collected from. Last conjunct: the label look-ups the reader makes for the table (per frame
its own offset, and `labelRefs`) are as many as `FrameReadBack.labelDemand` counts on the writer's frames; `writeCode_spec`
needs it for the bound `CodeLayout.labelRefs < 65535`. `if sfs = [] then none else …`: no attribute without a frame -/
theorem framesBlock_spec {res : CodeWrite.Result} {n : Nat} {cpos : Nat → Nat} (hsz : res.pos.size = n)
    (hlabel : ∀ j, j ≤ n → res.label j = some (cpos j))
    (hmono : ∀ a b, a < b → b ≤ n → cpos a < cpos b) (hsmall : cpos n ≤ 32767)
    {fs : List (Option FrameWrite.Frame)} (hok : ∀ f, some f ∈ fs → frameOkR n (rdFrame f))
    {p p' : Pool} {smt : Option (Nat × Bytes)} (hg : Good p)
    (h : FrameWrite.attr res.label p (FrameWrite.framesOf res fs) = .ok (smt, p')) :
    Step p p' ∧ ∃ (nc : Nat) (sfs : List SFrame),
      smtBytes smt =
        ((if sfs = [] then none else some (SCodeAttr.frames nc sfs)).map (SCodeAttr.encode cpos)).toList ∧
      (∀ a ∈ (if sfs = [] then none else some (SCodeAttr.frames nc sfs)), Sound p' (fun rp => a.Legal rp n cpos)) ∧
      sfs.map (fun f => (f.at_, f.kind.fact)) = (collectIdx 0 res.pos.toList fs).map (fun x => (x.1, rdFrame x.2)) ∧
      (sfs.map (fun f => f.kind.labelRefs + 1)).sum =
        ((collectIdx 0 res.pos.toList fs).map (fun x => FrameReadBack.labelDemand x.2)).sum := by
  have hposeq : ∀ t, t ≤ n → posOf res.label t = cpos t := fun t ht => FrameReadBack.posOf_some (hlabel t ht)
  have heq := FrameReadBack.framesOf_atPositions res fs
  obtain ⟨hinc, hidx⟩ := FrameReadBack.collectIdx_zero res.label n
    (fun a b hab hbn => by rw [hposeq a (by omega), hposeq b hbn]; exact hmono a b hab hbn)
    (by rw [hposeq n (Nat.le_refl _)]; omega) res.pos.toList fs (Array.length_toList.trans hsz)
  generalize collectIdx 0 res.pos.toList fs = ifs at heq hinc hidx
  rw [heq] at h
  revert h
  fun_cases FrameWrite.attr res.label p (atPositions res.label ifs) <;> intro h <;> cases h
  · rename_i hemp
    have : ifs = [] := by simpa [atPositions] using hemp
    subst this
    exact ⟨Step.refl hg, 0, [], by simp [smtBytes], by simp, rfl, rfl⟩
  · rename_i hemp b p1 hb i hblen hu
    obtain ⟨hcnt, bs, rfl, hw⟩ := FrameWrite.body_ok hb
    obtain ⟨sfs, hs, hbs, hl⟩ := FrameReadBack.writeFrames_enc ifs none hw
    obtain ⟨s1, hfact, hsound⟩ := sFrames_sound (n := n) ifs none hg hs hinc (fun x hx => (hidx x hx).1)
      (FrameReadBack.written_frameOk hw)
      fun x hx => hok x.2 (List.mem_of_getElem? (hidx x hx).2)
    obtain ⟨s2, a2, hi⟩ := putUtf8_spec s1.good (opt_eq_ok.mpr hu)
    have hsne : sfs ≠ [] := by
      intro hnil
      rw [hnil] at hl
      exact hemp (by simp [atPositions, List.eq_nil_of_length_eq_zero hl.symm])
    have hcong := fun (q : Pool) (hq : Ext p1 q) =>
      frames_congr (rp := rpool q) (n := n) (pos := posOf res.label) (pos' := cpos)
        (fun t ht => hposeq t (by omega)) sfs none (by intro i hi'; cases hi') (hsound q hq)
    have hlen : (atPositions res.label ifs).length = sfs.length := by simp [atPositions, hl]
    have hbody : CodeWrite.u16b (atPositions res.label ifs).length ++ bs =
        be16 sfs.length ++ encFrames cpos none sfs := by
      rw [hbs, hlen, FrameReadBack.u16b_be16, (hcong p1 (Ext.refl s1.good)).2]
      rfl
    refine ⟨s1.trans s2, i, sfs, ?_, ?_, hfact, FrameReadBack.sFrames_refs ifs none hs⟩
    · simp only [smtBytes, hsne, if_false, Option.map_some, Option.toList, SCodeAttr.encode, attrFrame, hbody]
    · intro a ha q hq
      simp only [hsne, if_false] at ha
      cases Option.mem_some_iff.mp ha
      refine ⟨hi, ?_, by omega, (hcong q (hq.of_le s2.le)).1, ?_⟩
      · rw [← sStackMapTable_eq]; exact getUtf8_of hq.good (a2.mono hq.le)
      · rw [← hbody]
        omega

end

/-! ## the tables of `write_code` written from the label table: exception table, `LineNumberTable`,
`LocalVariableTable` / `LocalVariableTypeTable`, the type annotations of `Code`

`lp` is `labels.try_get` on the label ids of the tree; `cpos` gives the position of an instruction index and `lab` the
instruction index of a label id: `LpEq` says `lp id = some a → a = cpos (lab id)`. -/

def LpEq (lp : Nat → Option Nat) (lab : Nat → Nat) (cpos : Nat → Nat) : Prop := ∀ id a, lp id = some a → a = cpos (lab id)

section
variable {lp : Nat → Option Nat} {lab cpos : Nat → Nat} {n : Nat}

theorem writeException_row (hlp : LpEq lp lab cpos) :
    Row (writeException lp) (SException.encode cpos) (fun l => (⟨l.start, l.end_, l.handler, l.catch_⟩ : ExceptionEntry))
      (fun e => ⟨lab e.start, lab e.end_, lab e.handler, e.catch_⟩) (fun rp l => l.Legal rp n)
      (fun e => lab e.start < n ∧ lab e.end_ ≤ n ∧ lab e.handler < n ∧ ∀ c, e.catch_ = some c → validClassName c = true) := by
  intro p p' e b hg hok h
  obtain ⟨hstart, hend, hhandler, hcatch⟩ := hok
  obtain ⟨a, h1, h⟩ := Except.bind_eq_ok.mp h
  obtain ⟨a2, h2, h⟩ := Except.bind_eq_ok.mp h
  obtain ⟨a3, h3, h⟩ := Except.bind_eq_ok.mp h
  obtain ⟨⟨c, p1⟩, h4, h⟩ := Except.bind_eq_ok.mp h
  cases h
  obtain ⟨s, hc, c2⟩ := putOptional_sound putClass_sound hg hcatch h4
  refine ⟨s, ⟨lab e.start, lab e.end_, lab e.handler, c, e.catch_⟩, ?_, rfl, fun q hq => ⟨hstart, hend, hhandler, hc, c2 q hq⟩⟩
  simp only [SException.encode]
  rw [hlp _ _ (opt_eq_ok.mp h1), hlp _ _ (opt_eq_ok.mp h2), hlp _ _ (opt_eq_ok.mp h3)]

theorem writeLine_row (hlp : LpEq lp lab cpos) :
    Row (writeLine lp) (fun e : Nat × Nat => be16 (cpos e.1) ++ be16 e.2) id (fun e => (lab e.1, e.2))
      (fun _ e => e.1 < n ∧ e.2 < 65536) (fun e => lab e.1 < n ∧ e.2 < 65536) := by
  intro p p' e b hg hok h
  obtain ⟨a, ha, h⟩ := Except.bind_eq_ok.mp h
  cases Except.ok.inj h
  exact ⟨Step.refl hg, (lab e.1, e.2), by rw [hlp _ _ (opt_eq_ok.mp ha)], rfl, fun _ _ => hok⟩

/-- the descriptor (`sig = false`) / signature (`sig = true`) of an entry -/
def lvText (sig : Bool) (v : Lv) : Option JStr := if sig then v.sig else v.desc

/-- a local-variable entry of the fragment: exactly one of descriptor / signature (what one row of one of the two
tables gives), a live range of instructions, a valid name -/
def lvOk (n : Nat) (v : Lv) : Prop :=
  v.desc.isSome ≠ v.sig.isSome ∧ v.start < n ∧ v.start ≤ v.end_ ∧ v.end_ ≤ n ∧ v.index < 65536 ∧ validUnqualified v.name = true

/-- the rows a local-variable table denotes: the entries that carry its text, relabelled -/
def lvFacts (lab : Nat → Nat) (sig : Bool) (vs : List Lv) : List Lv :=
  (vs.filter fun v => (lvText sig v).isSome).map fun v => { v with start := lab v.start, end_ := lab v.end_ }

theorem writeLv_row (hlp : LpEq lp lab cpos) (sig : Bool) :
    Row (writeLv lp sig) (SLv.encode cpos) (SLv.fact sig) (fun v => { v with start := lab v.start, end_ := lab v.end_ })
      (fun rp l => l.Legal rp n)
      (fun v => (lvText sig v).isSome ∧ lvOk n { v with start := lab v.start, end_ := lab v.end_ }) := by
  intro p p' v b hg ⟨htx, hex, hst, hse, hen, hix, hnm⟩ h
  obtain ⟨d, htx⟩ := Option.isSome_iff_exists.mp htx
  simp only [writeLv, show (if sig then v.sig else v.desc) = some d from htx] at h
  obtain ⟨⟨s0, l0⟩, hr0, h⟩ := Except.bind_eq_ok.mp h
  obtain ⟨⟨ni, q1⟩, hn, h⟩ := Except.bind_eq_ok.mp h
  obtain ⟨⟨di, q2⟩, hd, h⟩ := Except.bind_eq_ok.mp h
  cases h
  obtain ⟨_, e0, hs0, he0, hle, hr0⟩ := CodeWrite.range_ok hr0
  cases hr0
  obtain ⟨s1, _, hni, a1⟩ := putUtf8_sound hg hn
  obtain ⟨s2, _, hdi, a2⟩ := putUtf8_sound s1.good hd
  refine ⟨s1.trans s2, ⟨lab v.start, lab v.end_, ni, v.name, di, d, v.index⟩, ?_, ?_, fun q hq =>
    ⟨hst, hse, hen, hni, hdi, hix, a1 q (hq.of_le s2.le), hnm, a2 q hq⟩⟩
  · simp only [SLv.encode]
    rw [← hlp _ _ hs0, ← hlp _ _ he0]
  · obtain ⟨st, en, nm, ds, sg, ix⟩ := v
    -- of the eight cases, `htx` and `hex` leave the two where exactly the table's own field is `some`
    cases sig <;> cases ds <;> cases sg <;> simp [lvText] at htx hex <;> simp [SLv.fact, htx]

theorem writeList_filter {α : Type} {f : Pool → α → W} {keep : α → Bool} (hskip : ∀ p a, keep a = false → f p a = .ok ([], p)) :
    ∀ (as : List α) (p : Pool), writeList f p as = writeList f p (as.filter keep)
  | [], _ => rfl
  | a :: as, p => by
    cases hk : keep a
    · rw [List.filter_cons_of_neg (by simp [hk]), ← writeList_filter hskip as p, writeList, hskip p a hk]
      show (writeList f p as >>= _) = _
      cases writeList f p as <;> rfl
    · rw [List.filter_cons_of_pos hk, writeList, writeList]
      simp only [writeList_filter hskip as]

theorem writeLvTable_eq (lp : Nat → Option Nat) (sig : Bool) (vs : List Lv) :
    writeLvTable lp sig vs = (writeSlice16 (writeLv lp sig) · (vs.filter fun v => (lvText sig v).isSome)) := by
  funext p
  rw [writeSlice16, ← writeList_filter fun p v hv => by
    rw [writeLv, show (if sig then v.sig else v.desc) = none by simpa [lvText] using hv]]
  rfl

theorem concatE_ranges {lp : Nat → Option Nat} {lab cpos : Nat → Nat} (hlp : LpEq lp lab cpos) :
    ∀ (tbl : List (Nat × Nat × Nat)) {b : Bytes}, concatE (writeRange lp) tbl = .ok b →
      b = (tbl.map fun e => (lab e.1, lab e.2.1, e.2.2)).flatMap
        (fun e => be16 (cpos e.1) ++ be16 (cpos e.2.1 - cpos e.1) ++ be16 e.2.2)
  | [], b, h => by cases h; rfl
  | e :: tbl, b, h => by
    obtain ⟨b1, h1, h⟩ := Except.bind_eq_ok.mp h
    obtain ⟨b2, h2, h⟩ := Except.bind_eq_ok.mp h
    cases h
    obtain ⟨⟨s, l⟩, hr, h1⟩ := Except.bind_eq_ok.mp h1
    cases h1
    obtain ⟨_, e0, hs0, he0, _, hr⟩ := CodeWrite.range_ok hr
    cases hr
    rw [concatE_ranges hlp tbl h2]
    simp only [List.map_cons, List.flatMap_cons]
    rw [hlp _ _ hs0, hlp _ _ he0]

theorem writeTargetCode_eq {lp : Nat → Option Nat} {lab cpos : Nat → Nat} (hlp : LpEq lp lab cpos) {t : Target} {b : Bytes}
    (h : writeTargetCode lp t = .ok b) : b = encCodeTarget cpos (tgMapL lab t) := by
  cases t with
  | localVar tag tbl =>
    simp only [writeTargetCode] at h
    split at h
    · obtain ⟨c, h1, h⟩ := Except.bind_eq_ok.mp h
      obtain ⟨_, rfl⟩ := cnt16_eq_ok.mp h1
      obtain ⟨bb, h2, h⟩ := Except.bind_eq_ok.mp h
      cases h
      rw [concatE_ranges hlp tbl h2]
      simp [tgMapL, encCodeTarget]
    · cases h
  | exceptionParam i =>
    cases h
    rfl
  | offset _ _ | offsetArg _ _ _ =>
    simp only [writeTargetCode] at h
    split at h
    · obtain ⟨o, h1, h⟩ := Except.bind_eq_ok.mp h
      cases h
      simp [tgMapL, encCodeTarget, hlp _ _ (opt_eq_ok.mp h1)]
    · cases h
  | typeParam _ _ | extends_ | implements _ | typeParamBound _ _ _ | field | ret | receiver | formalParam _ | throws _ =>
    cases h

instance (n : Nat) (t : Target) : Decidable (codeTargetOk n t) := by
  cases t <;> simp only [codeTargetOk] <;> infer_instance

/-- type annotations of `Code`: a target admissible inside `Code` whose labels (renamed by `lab`) are instructions, a
well-formed type path, an annotation as in `AnnosOk` -/
def CodeTypeAnnosOk (lab : Nat → Nat) (n : Nat) (as : List TypeAnno) : Prop :=
  ∀ a ∈ as, codeTargetOk n (tgMapL lab a.target) ∧ typePathOk a.path ∧ a.anno.ok ∧ a.anno.depth ≤ 255

instance (lab : Nat → Nat) (n : Nat) (as : List TypeAnno) : Decidable (CodeTypeAnnosOk lab n as) := by
  unfold CodeTypeAnnosOk; infer_instance

theorem codeTypeAnno_row (hlp : LpEq lp lab cpos) :
    Row (fun p (a : TypeAnno) => do
        let t ← writeTargetCode lp a.target
        let tp ← writeTypePath a.path
        let (b, p) ← writeAnnotation p a.anno
        pure (t ++ tp ++ b, p))
      (SCodeTypeAnno.encode cpos) SCodeTypeAnno.fact (fun a => { a with target := tgMapL lab a.target })
      (fun rp sa => sa.Legal rp n)
      (fun a => codeTargetOk n (tgMapL lab a.target) ∧ typePathOk a.path ∧ a.anno.ok ∧ a.anno.depth ≤ 255) := by
  intro p p' a b hg hP h
  obtain ⟨htarget, hpath, hanno, hdepth⟩ := hP
  obtain ⟨t, ht, h⟩ := Except.bind_eq_ok.mp h
  obtain ⟨tp, htp, h⟩ := Except.bind_eq_ok.mp h
  obtain ⟨⟨ab, p2⟩, ha, h⟩ := Except.bind_eq_ok.mp h
  cases h
  obtain ⟨s, sa, rfl, hf, hn, hleg⟩ := writeAnnotation_spec a.anno hg hanno ha
  exact ⟨s, ⟨tgMapL lab a.target, a.path, sa⟩, by simp [SCodeTypeAnno.encode, writeTargetCode_eq hlp ht, writeTypePath_eq htp],
    by simp [SCodeTypeAnno.fact, hf], fun q hq => ⟨htarget, hpath, hleg q hq, by rw [hn]; exact hdepth⟩⟩

end

section
open FrameReadBack (posOf)

deriving instance DecidableEq for ClassRead.Lv

/-- label look-ups the reader performs for one stack map frame: its own offset and one per `Uninitialized` type -/
def frameRefs (f : ClassRead.Frame) : Nat := FrameReadBack.labelDemand (frameOf id f)

def frameRefsO : Option ClassRead.Frame → Nat
  | some f => frameRefs f
  | none => 0

/-- number of label references of a (label-free) method body: what the reader's `u16` label counter must hold -/
def codeRefs (c : Code) : Nat :=
  (c.insns.map fun e => (targetsOf e.insn).length).sum + 3 * c.exceptions.length + (c.lines.getD []).length
    + 2 * (c.locals.getD []).length + (c.rvta.map fun a => codeTargetRefs a.target).sum
    + (c.ritva.map fun a => codeTargetRefs a.target).sum
    + (c.insns.map fun e => frameRefsO e.frame).sum

/-- conditions on a method body **with its labels resolved** (targets, ranges and table entries are instruction
indices, `n` = number of instructions):

* every instruction `insnOk` (operand ranges of duke's tree types, valid names, `invokedynamic` call sites and `Dynamic`
  constants with bootstrap arguments nested within the reader's depth limit), every target an instruction; stack map frames with valid class names in `Object` types and
  `Uninitialized` labels on instructions (`frameOkR`; chop / append counts and the sizes are checked by the writer);
* **at most 32767 bytes of code by the syntactic bound `maxSizeR`** (the longest form of every instruction): no jump is
  widened, no conditional branch becomes an inverted-condition trampoline (a trampoline is read back as two instructions);
* exception ranges `start < n`, `end ≤ n`, `handler < n`, valid catch types; line entries on instructions;
* local variables: `none`, or a non-empty list in which every entry has exactly one of descriptor / signature and all
  descriptor entries precede all signature entries (the order in which `LocalVariableTable` and
  `LocalVariableTypeTable` are written and read back);
* type annotations with targets admissible inside `Code` on instructions; unknown attributes whose names are not
  names of attributes the reader interprets inside `Code` (`codeAttrNames`; see `writeCode_unknown_written`); fewer than 65535 label references. -/
structure RCodeOk (c : Code) : Prop where
  insns : ∀ e ∈ c.insns, insnOk e.insn ∧ (∀ t ∈ targetsOf e.insn, t < c.insns.length) ∧
    ∀ f, e.frame = some f → frameOkR c.insns.length f
  size : (c.insns.map fun e => maxSizeR e.insn).sum ≤ 32767
  maxStack : c.maxStack < 65536
  maxLocals : c.maxLocals < 65536
  exceptions : ∀ e ∈ c.exceptions, e.start < c.insns.length ∧ e.end_ ≤ c.insns.length ∧ e.handler < c.insns.length ∧
    ∀ cl, e.catch_ = some cl → validClassName cl = true
  lines : ∀ ls, c.lines = some ls → ∀ e ∈ ls, e.1 < c.insns.length ∧ e.2 < 65536
  locals : ∀ vs, c.locals = some vs → vs ≠ [] ∧
    vs = (vs.filter fun v => v.desc.isSome) ++ (vs.filter fun v => v.sig.isSome) ∧ ∀ v ∈ vs, lvOk c.insns.length v
  rvta : CodeTypeAnnosOk id c.insns.length c.rvta
  ritva : CodeTypeAnnosOk id c.insns.length c.ritva
  attrs : ∀ a ∈ c.attrs, a.name ∉ codeAttrNames
  refs : codeRefs c < 65535

/-- the proved fragment of method bodies: the labels resolve (`Code.resolve`, C01) and the resolved body is `RCodeOk` -/
def CodeOk (c : Code) : Prop :=
  match c.resolve with
  | some c' => RCodeOk c'
  | none => False

theorem tgMapL_id (t : Target) : tgMapL id t = t := by
  cases t <;> simp [tgMapL]

theorem collect_none : ∀ (ps : List Nat) (fs : List (Option FrameWrite.Frame)), (∀ f ∈ fs, f = none) →
    FrameWrite.collect ps fs = []
  | [], _, _ => by simp [FrameWrite.collect]
  | _ :: _, [], _ => by simp [FrameWrite.collect]
  | q :: ps, f :: fs, h => by
    have := h f List.mem_cons_self
    subst this
    simp only [FrameWrite.collect]
    exact collect_none ps fs (fun g hg => h g (List.mem_cons_of_mem _ hg))

theorem factEntries_nil : ∀ (sis : List SInsn) (k : Nat), factEntries [] k sis = sis.map (fun si => ⟨none, none, si.insn⟩)
  | [], _ => rfl
  | si :: r, k => by simp [factEntries, factEntries_nil r (k + 1)]

theorem lvCount_eq (sig : Bool) (vs : List Lv) : lvCount sig vs = (vs.filter fun v => (lvText sig v).isSome).length := rfl

theorem writeCode_inv {c : Code} {p p' : Pool} {bs bs' : List Bsm} {b : Bytes} {lab : Nat → Nat}
    (hlab : labOf (labelIndex c.insns c.lastLabel) c.insns.length = lab)
    (h : writeCode c p bs = .ok (b, p', bs')) :
    ∃ is p1 res eb p2 smt p3 as ab,
      putInsns lab p bs c.insns = .ok (is, p1, bs') ∧ CodeWrite.writeCode is = .ok res ∧
      writeSlice16 (writeException (fun id => res.label (lab id))) p1 c.exceptions = .ok (eb, p2) ∧
      FrameWrite.attr res.label p2 (FrameWrite.framesOf res (c.insns.map fun e => e.frame.map (frameOf lab))) = .ok (smt, p3) ∧
      runAttrs
        ([ifSome c.lines (fun ls => attrBuf sLineNumberTable (fun p => writeSlice16 (writeLine (fun id => res.label (lab id))) p ls)),
         lvAttr (fun id => res.label (lab id)) false sLocalVariableTable c.locals,
         lvAttr (fun id => res.label (lab id)) true sLocalVariableTypeTable c.locals,
         typeAnnosAttr (writeTargetCode (fun id => res.label (lab id))) sRVTA c.rvta,
         typeAnnosAttr (writeTargetCode (fun id => res.label (lab id))) sRITA c.ritva] ++ unknownAttrs c.attrs) p3 = .ok (as, p') ∧
      attrsBytes (smtBytes smt ++ as) = .ok ab ∧
      b = be16 c.maxStack ++ be16 c.maxLocals ++ be32 res.code.length ++ res.code ++ eb ++ ab := by
  unfold writeCode at h
  simp only [hlab] at h
  obtain ⟨⟨is, p1, bs1⟩, h1, h⟩ := Except.bind_eq_ok.mp h
  simp only at h
  cases hres : CodeWrite.writeCode is with
  | outOfFuel | err | panic =>
    rw [hres] at h
    cases h
  | ok res =>
    rw [hres] at h
    simp only at h
    obtain ⟨⟨eb, p2⟩, h2, h⟩ := Except.bind_eq_ok.mp h
    obtain ⟨⟨smt, p3⟩, h3, h⟩ := Except.bind_eq_ok.mp h
    obtain ⟨⟨as, p4⟩, h4, h⟩ := Except.bind_eq_ok.mp h
    obtain ⟨ab, h5, h⟩ := Except.bind_eq_ok.mp h
    cases h
    have h5' : attrsBytes (smtBytes smt ++ as) = .ok ab := by
      rcases smt with _ | ⟨i, b⟩ <;> exact h5
    exact ⟨is, p1, res, eb, p2, smt, p3, as, ab, h1, hres, h2, h3, h4, h5', rfl⟩

theorem unknownAttrs_shape : ∀ (as : List Attr) {p p' : Pool} {bs : List Bytes},
    runAttrs (unknownAttrs as) p = .ok (bs, p') →
    ∃ ncs : List Nat, ncs.length = as.length ∧ bs = (ncs.zip as).map (fun x => attrFrame x.1 x.2.bytes) ∧
      ∀ a ∈ as, a.bytes.length < 4294967296 := by
  intro as
  induction as with
  | nil =>
    intro p p' bs h
    obtain ⟨rfl, rfl⟩ := runAttrs_nil_inv h
    exact ⟨[], rfl, rfl, by simp⟩
  | cons a as ih =>
    intro p p' bs h
    obtain ⟨o, p1, bs1, h1, h2, rfl⟩ := runAttrs_cons_inv h
    obtain ⟨b, hb, rfl⟩ := always_inv h1
    obtain ⟨i, _, hl, rfl⟩ := unknownAttr_inv hb
    obtain ⟨ncs, hlen, rfl, hr⟩ := ih h2
    refine ⟨i :: ncs, by simp [hlen], by simp, ?_⟩
    intro x hx
    rcases List.mem_cons.mp hx with rfl | hx
    · omega
    · exact hr x hx

/-- **the unknown attributes of a method body are written** (every successful `write_code`, no fragment): the
attribute table of `Code` is the count of the known attributes that were written plus `Code.attributes.length`, the
known attributes, and then — last, as at class / field / method / record-component level — each unknown attribute as
name index, `u32` length, bytes; the name indices are the ones the loop's `put_utf8` calls returned -/
theorem writeCode_unknown_written {c : Code} {p p' : Pool} {bs bs' : List Bsm} {b : Bytes}
    (h : writeCode c p bs = .ok (b, p', bs')) :
    ∃ (pre : Bytes) (known : List Bytes) (q : Pool) (ncs : List Nat), ncs.length = c.attrs.length ∧
      runAttrs (unknownAttrs c.attrs) q = .ok ((ncs.zip c.attrs).map (fun x => attrFrame x.1 x.2.bytes), p') ∧
      known.length + c.attrs.length ≤ 65535 ∧ (∀ a ∈ c.attrs, a.bytes.length < 4294967296) ∧
      b = pre ++ be16 (known.length + c.attrs.length) ++ known.flatten ++
        ((ncs.zip c.attrs).map fun x => be16 x.1 ++ be32 x.2.bytes.length ++ x.2.bytes).flatten := by
  obtain ⟨is, p1, res, eb, p2, smt, p3, as, ab, _, _, _, _, h4, h5, rfl⟩ := writeCode_inv rfl h
  obtain ⟨r0, q5, ru, _, ku, rfl⟩ := runAttrs_append_inv h4
  obtain ⟨ncs, hlen, rfl, hb⟩ := unknownAttrs_shape c.attrs ku
  obtain ⟨hcount, rfl⟩ := attrsBytes_inv h5
  have hz : (ncs.zip c.attrs).length = c.attrs.length := by simp [List.length_zip, hlen]
  refine ⟨be16 c.maxStack ++ be16 c.maxLocals ++ be32 res.code.length ++ res.code ++ eb, smtBytes smt ++ r0, q5, ncs,
    hlen, ku, ?_, hb, ?_⟩
  · simp only [List.length_append, List.length_map, hz] at hcount ⊢
    omega
  · simp only [List.length_append, List.length_map, hz, List.flatten_append, attrFrame, List.append_assoc, Nat.add_assoc]

/-! ## one projection of `CodeLayout.facts` at a time

Each of `framesOf`, `linesOf`, `localsOf`, `typeAnnosOf`, `unknownsOf` reads the attributes of its own kind (`ctag`) only
and skips a prefix of other kinds. `writeCode_spec` does not go this way: it gets all projections of a written attribute
list at once from `capply_all` below. -/

/-- the kind of an attribute of `Code` -/
def ctag : SCodeAttr → Nat
  | .frames .. => 0
  | .lines .. => 1
  | .lvt .. => 2
  | .lvtt .. => 3
  | .typeAnnos .. => 4
  | .unknown .. => 5

theorem proj_skip {β : Type} {P : List SCodeAttr → β} {skip : SCodeAttr → Prop}
    (hP : ∀ a r, skip a → P (a :: r) = P r) :
    ∀ (xs r : List SCodeAttr), (∀ a ∈ xs, skip a) → P (xs ++ r) = P r
  | [], _, _ => rfl
  | a :: xs, r, h => by
    rw [List.cons_append, hP a _ (h a List.mem_cons_self)]
    exact proj_skip hP xs r (fun b hb => h b (List.mem_cons_of_mem _ hb))

theorem framesOf_skip : ∀ (xs r : List SCodeAttr), (∀ a ∈ xs, ctag a ≠ 0) → framesOf (xs ++ r) = framesOf r :=
  proj_skip fun a r ha => by cases a <;> first | rfl | exact absurd rfl ha

theorem linesOf_skip : ∀ (xs r : List SCodeAttr), (∀ a ∈ xs, ctag a ≠ 1) → linesOf (xs ++ r) = linesOf r :=
  proj_skip fun a r ha => by cases a <;> first | rfl | exact absurd rfl ha

theorem localsOf_skip : ∀ (xs r : List SCodeAttr), (∀ a ∈ xs, ctag a ≠ 2 ∧ ctag a ≠ 3) → localsOf (xs ++ r) = localsOf r :=
  proj_skip fun a r ha => by cases a <;> first | rfl | exact absurd rfl ha.1 | exact absurd rfl ha.2

theorem typeAnnosOf_skip (v : Bool) : ∀ (xs r : List SCodeAttr), (∀ a ∈ xs, ctag a ≠ 4) →
    typeAnnosOf v (xs ++ r) = typeAnnosOf v r :=
  proj_skip fun a r ha => by cases a <;> first | rfl | exact absurd rfl ha

theorem unknownsOf_skip : ∀ (xs r : List SCodeAttr), (∀ a ∈ xs, ctag a ≠ 5) → unknownsOf (xs ++ r) = unknownsOf r :=
  proj_skip fun a r ha => by cases a <;> first | rfl | exact absurd rfl ha

theorem tag_toList {o : Option SCodeAttr} {k : Nat} (h : ∀ a ∈ o, ctag a = k) : ∀ a ∈ o.toList, ctag a = k :=
  fun a ha => h a (Option.mem_toList.mp ha)

/-! ## the attributes of `Code` as an owner

Like the attributes of a field, a method, a record component or the class, the attributes of `Code` are blocks over an
`Own`: `CodeAcc` collects what `CodeLayout.facts` projects out of the attribute list, `capply` is one step of that, and
`capply_all` says that folding `capply` over a list gives exactly those projections. -/

/-- what the attributes of `Code` seen so far denote: the projections of `CodeLayout.facts`, and the label references -/
structure CodeAcc where
  frames : Option (List SFrame)
  lines : Option (List (Nat × Nat))
  locals : Option (List Lv)
  rvta : List TypeAnno
  ritva : List TypeAnno
  attrs : List Attr
  refs : Nat

def addRows {α : Type} (o : Option (List α)) (l : List α) : Option (List α) := some (o.getD [] ++ l)

/-- what one attribute adds to the accumulator; `none`: a second `StackMapTable` -/
def capply (st : CodeAcc) (a : SCodeAttr) : Option CodeAcc :=
  let st := { st with refs := st.refs + a.labelRefs }
  match a with
  | .frames _ fs => if st.frames.isNone then some { st with frames := some fs } else none
  | .lines _ es => some { st with lines := addRows st.lines es }
  | .lvt _ es => some { st with locals := addRows st.locals (es.map (SLv.fact false)) }
  | .lvtt _ es => some { st with locals := addRows st.locals (es.map (SLv.fact true)) }
  | .typeAnnos _ v as =>
    some (if v then { st with rvta := st.rvta ++ as.map SCodeTypeAnno.fact } else { st with ritva := st.ritva ++ as.map SCodeTypeAnno.fact })
  | .unknown _ name b => some { st with attrs := st.attrs ++ [(⟨name, b⟩ : Attr)] }

/-- an optional table followed by what the rest of the attributes adds to it -/
def thenRows {α : Type} : Option (List α) → Option (List α) → Option (List α)
  | none, r => r
  | some x, r => some (x ++ r.getD [])

theorem thenRows_addRows {α : Type} (o : Option (List α)) (l : List α) (r : Option (List α)) :
    thenRows (addRows o l) r = thenRows o (some (l ++ r.getD [])) := by
  cases o <;> simp [addRows, thenRows]

/-- **the fold is the projections**: every field of the accumulator after `as` is the field before, followed by the
projection of `CodeLayout.facts` on `as`; a second `StackMapTable` makes the fold fail -/
theorem capply_all : ∀ (as : List SCodeAttr) {st st' : CodeAcc}, applyAll capply st as = some st' →
    st'.lines = thenRows st.lines (linesOf as) ∧ st'.locals = thenRows st.locals (localsOf as) ∧
    st'.rvta = st.rvta ++ typeAnnosOf true as ∧ st'.ritva = st.ritva ++ typeAnnosOf false as ∧
    st'.attrs = st.attrs ++ unknownsOf as ∧ st'.refs = st.refs + (as.map SCodeAttr.labelRefs).sum ∧
    (st.frames = none → st'.frames.getD [] = framesOf as ∧ (as.filter SCodeAttr.isFrames).length ≤ 1) ∧
    (∀ fs, st.frames = some fs → st'.frames = some fs ∧ as.filter SCodeAttr.isFrames = [])
  | [], st, st', h => by
    cases h
    refine ⟨?_, ?_, (List.append_nil _).symm, (List.append_nil _).symm, (List.append_nil _).symm, rfl,
      fun h => by simp [h, framesOf], fun fs h => ⟨h, rfl⟩⟩
    · cases st.lines <;> simp [thenRows, linesOf]
    · cases st.locals <;> simp [thenRows, localsOf]
  | a :: as, st, st', h => by
    obtain ⟨s1, h1, h⟩ := (applyAll_isRun capply).cons_some h
    obtain ⟨i1, i2, i3, i4, i5, i6, i7, i8⟩ := capply_all as h
    -- only the field of the attribute's own kind moves; the others (and, but for `frames`, the two clauses on
    -- `StackMapTable`) are as for the rest of the list, up to unfolding the projections at the head
    cases a with
    | frames nc fs =>
      simp only [capply] at h1
      split at h1
      · rename_i hn
        cases h1
        obtain ⟨j1, j2⟩ := i8 fs rfl
        refine ⟨i1, i2, i3, i4, i5, i6.trans (Nat.add_assoc ..), fun _ => ⟨by rw [j1]; rfl, ?_⟩, fun gs hg => ?_⟩
        · rw [List.filter_cons_of_pos (by rfl), j2]; simp
        · rw [hg] at hn; cases hn
      · cases h1
    | lines nc es => cases h1; exact ⟨i1.trans (thenRows_addRows ..), i2, i3, i4, i5, i6.trans (Nat.add_assoc ..), i7, i8⟩
    | lvt nc es | lvtt nc es =>
      cases h1; exact ⟨i1, i2.trans (thenRows_addRows ..), i3, i4, i5, i6.trans (Nat.add_assoc ..), i7, i8⟩
    | typeAnnos nc v tas =>
      cases h1
      cases v
      · exact ⟨i1, i2, i3, i4.trans (List.append_assoc ..), i5, i6.trans (Nat.add_assoc ..), i7, i8⟩
      · exact ⟨i1, i2, i3.trans (List.append_assoc ..), i4, i5, i6.trans (Nat.add_assoc ..), i7, i8⟩
    | unknown nc name b =>
      cases h1; exact ⟨i1, i2, i3, i4, i5.trans (List.append_assoc ..), i6.trans (Nat.add_assoc ..), i7, i8⟩

/-- the attributes of `Code` as an owner: framing and legality depend on the positions `cpos` and the number `n` of
instructions -/
def ownCode (cpos : Nat → Nat) (n : Nat) : Own SCodeAttr CodeAcc :=
  ⟨SCodeAttr.encode cpos, fun q a => Sound q (fun rp => a.Legal rp n cpos), fun hl h => h.mono hl, capply⟩

section
variable {lp : Nat → Option Nat} {lab cpos : Nat → Nat} {n : Nat}

/-- the `StackMapTable`, written before the blocks of `runAttrs` -/
theorem cblocks_frames {res : CodeWrite.Result} (hsz : res.pos.size = n)
    (hlabel : ∀ j, j ≤ n → res.label j = some (cpos j))
    (hmono : ∀ a b, a < b → b ≤ n → cpos a < cpos b) (hsmall : cpos n ≤ 32767)
    {fs : List (Option FrameWrite.Frame)} (hfs : fs.length = n) (hok : ∀ f, some f ∈ fs → frameOkR n (rdFrame f))
    {p p' : Pool} {smt : Option (Nat × Bytes)} (hg : Good p)
    (h : FrameWrite.attr res.label p (FrameWrite.framesOf res fs) = .ok (smt, p')) :
    Step p p' ∧ ∃ sfs : List SFrame,
      sfs.map (fun f => (f.at_, f.kind.fact)) = (FrameReadBack.collectIdx 0 res.pos.toList fs).map (fun x => (x.1, rdFrame x.2)) ∧
      GBlocks (ownCode cpos n) (smtBytes smt) p' (fun st => st.frames = none)
        (fun st => { st with frames := if sfs = [] then none else some sfs, refs := st.refs +
          (fs.map fun o => match o with | some f => FrameReadBack.labelDemand f | none => 0).sum }) := by
  obtain ⟨s, nc, sfs, hb, hs, hf, hr⟩ := framesBlock_spec hsz hlabel hmono hsmall hok hg h
  rw [collectIdx_sum FrameReadBack.labelDemand _ _ 0 (by simp [hsz, hfs])] at hr
  refine ⟨s, sfs, hf, (if sfs = [] then none else some (SCodeAttr.frames nc sfs)).toList, by rw [hb, Option.toList_map]; rfl,
    fun a ha => hs a (Option.mem_toList.mp ha), fun st hst => ?_⟩
  by_cases hnil : sfs = []
  · subst hnil
    obtain ⟨_, _, _, _, _, _, _⟩ := st
    cases hst
    simp [applyAll, ← hr]
  · simp only [hnil, if_false, Option.toList_some, applyAll, ownCode, capply, hst, Option.isNone_none, if_true,
      SCodeAttr.labelRefs, hr]

theorem cblock_lines (hlp : LpEq lp lab cpos) {lines : Option (List (Nat × Nat))}
    (hok : ∀ ls, lines = some ls → ∀ e ∈ ls, lab e.1 < n ∧ e.2 < 65536) :
    WBlock (ownCode cpos n) (ifSome lines (fun ls => attrBuf sLineNumberTable (fun p => writeSlice16 (writeLine lp) p ls)))
      (fun st => st.lines = none)
      (fun st => { st with lines := lines.map (·.map fun e => (lab e.1, e.2)), refs := st.refs + (lines.getD []).length }) := by
  intro p q o hg h
  rcases ifSome_inv h with ⟨ls, b, rfl, hb, rfl⟩ | ⟨rfl, rfl, rfl⟩
  · obtain ⟨s, nc, rows, rfl, hm, hs⟩ := attrList_spec (writeLine_row (n := n) hlp) (hok ls rfl) hg hb
    simp only [List.map_id] at hm
    exact ⟨s, gblock_present (O := ownCode cpos n) (.lines nc rows)
      (fun q hq => ⟨(hs q hq).1, (hs q hq).2.1, (hs q hq).2.2.1, (hs q hq).2.2.2.1⟩)
      (fun st hst => by simp [ownCode, capply, addRows, hst, hm, SCodeAttr.labelRefs])⟩
  · exact ⟨Step.refl hg, gblock_absent (fun st hst => by cases st; cases hst; rfl)⟩

theorem lvCount_facts (lab : Nat → Nat) (sig : Bool) (vs : List Lv) : lvCount sig vs = (lvFacts lab sig vs).length := by
  simp [lvFacts, lvCount_eq]

/-- what a local-variable table with the rows `l` adds: nothing without rows -/
def lvUpd (l : List Lv) (st : CodeAcc) : CodeAcc :=
  { st with locals := if l = [] then st.locals else addRows st.locals l, refs := st.refs + 2 * l.length }

theorem cblock_lv (hlp : LpEq lp lab cpos) (sig : Bool) {locals : Option (List Lv)}
    (hok : ∀ vs, locals = some vs → ∀ v ∈ vs, lvOk n { v with start := lab v.start, end_ := lab v.end_ }) :
    WBlock (ownCode cpos n) (lvAttr lp sig (if sig then sLocalVariableTypeTable else sLocalVariableTable) locals) (fun _ => True)
      (lvUpd (lvFacts lab sig (locals.getD []))) := by
  intro p q o hg h
  cases locals with
  | none => cases h; exact ⟨Step.refl hg, gblock_absent (fun _ _ => rfl)⟩
  | some vs =>
    simp only [lvAttr, lvCount_facts lab] at h
    rcases onlyIf_inv h with ⟨hc, b, hb, rfl⟩ | ⟨hc, rfl, rfl⟩
    · rw [writeLvTable_eq] at hb
      obtain ⟨s, i, ls, rfl, hfact, hs⟩ := attrList_spec (writeLv_row (n := n) hlp sig)
        (fun v hv => ⟨(List.mem_filter.mp hv).2, hok vs rfl v (List.mem_filter.mp hv).1⟩) hg hb
      replace hfact : ls.map (SLv.fact sig) = lvFacts lab sig vs := hfact
      simp only [Option.getD_some, ← hfact] at hc ⊢
      rw [show attrFrame i (be16 ls.length ++ ls.flatMap (SLv.encode cpos))
        = (ownCode cpos n).frame (if sig then .lvtt i ls else .lvt i ls) by cases sig <;> rfl]
      refine ⟨s, gblock_present (O := ownCode cpos n) _ (fun q' hq => ?_) (fun st _ => ?_)⟩
      · obtain ⟨h1, h2, h3, h4, _⟩ := hs q' hq
        cases sig <;> exact ⟨h1, h2, h3, h4⟩
      · have hne : ls ≠ [] := by rintro rfl; simp at hc
        cases sig <;> simp [ownCode, capply, lvUpd, SCodeAttr.labelRefs, hne]
    · have hz : lvFacts lab sig vs = [] := List.eq_nil_of_length_eq_zero (by simpa using hc)
      exact ⟨Step.refl hg, gblock_absent (fun st _ => by simp [lvUpd, hz])⟩

theorem lvUpd_tables (d s : List Lv) (h : d ++ s ≠ []) {st : CodeAcc} (hst : st.locals = none) :
    lvUpd s (lvUpd d st) = { st with locals := some (d ++ s), refs := st.refs + 2 * (d ++ s).length } := by
  cases d <;> cases s <;> simp [lvUpd, addRows, hst] at h ⊢
  omega

/-- **the two local-variable tables** (`LocalVariableTable` for the entries with a descriptor, then
`LocalVariableTypeTable` for those with a signature): together they denote the entries, relabelled, provided every entry
has exactly one of the two and the descriptor entries come first (`hok`: `RCodeOk.locals` of the relabelled body) -/
theorem cblocks_lv (hlp : LpEq lp lab cpos) {locals : Option (List Lv)}
    (hok : ∀ vs, locals.map (fun ls => ls.map fun v => ({ v with start := lab v.start, end_ := lab v.end_ } : Lv)) = some vs →
      vs ≠ [] ∧ vs = (vs.filter fun v => v.desc.isSome) ++ (vs.filter fun v => v.sig.isSome) ∧ ∀ v ∈ vs, lvOk n v) :
    WBlocks (ownCode cpos n)
      [lvAttr lp false sLocalVariableTable locals, lvAttr lp true sLocalVariableTypeTable locals] (fun st => st.locals = none)
      (fun st => { st with
        locals := locals.map fun ls => ls.map fun v => { v with start := lab v.start, end_ := lab v.end_ },
        refs := st.refs + 2 * (locals.getD []).length }) := by
  have hrow : ∀ vs, locals = some vs → ∀ v ∈ vs, lvOk n { v with start := lab v.start, end_ := lab v.end_ } :=
    fun vs hl v hv => (hok (vs.map fun v => { v with start := lab v.start, end_ := lab v.end_ }) (by rw [hl]; rfl)).2.2 _
      (List.mem_map_of_mem hv)
  refine (WBlocks.cons (cblock_lv hlp false hrow) (WBlocks.cons (cblock_lv hlp true hrow) (WBlocks.nil _))).congr
    fun st hst => ⟨⟨trivial, trivial, trivial⟩, ?_⟩
  cases hl : locals with
  | none => cases st; cases hst; rfl
  | some vs =>
    obtain ⟨hne, hord, -⟩ := hok (vs.map fun v => { v with start := lab v.start, end_ := lab v.end_ }) (by rw [hl]; rfl)
    rw [List.filter_map, List.filter_map] at hord
    replace hord : vs.map (fun v => ({ v with start := lab v.start, end_ := lab v.end_ } : Lv)) =
      lvFacts lab false vs ++ lvFacts lab true vs := hord
    rw [Option.getD_some, lvUpd_tables _ _ (by rw [← hord]; simpa using hne) hst, ← hord, List.length_map]
    rfl

/-- what a type-annotation attribute of `Code` adds -/
def taUpd (v : Bool) (l : List TypeAnno) (st : CodeAcc) : CodeAcc :=
  { st with rvta := if v then st.rvta ++ l else st.rvta, ritva := if v then st.ritva else st.ritva ++ l,
            refs := st.refs + (l.map fun a => codeTargetRefs a.target).sum }

theorem cblock_ta (hlp : LpEq lp lab cpos) (v : Bool) {as : List TypeAnno} (hok : CodeTypeAnnosOk lab n as) :
    WBlock (ownCode cpos n) (typeAnnosAttr (writeTargetCode lp) (if v then sRVTA else sRITA) as) (fun _ => True)
      (taUpd v (as.map fun a => { a with target := tgMapL lab a.target })) :=
  wblock_list (O := ownCode cpos n) (name := if v then sRVTA else sRITA) (codeTypeAnno_row (n := n) hlp) (.typeAnnos · v ·)
    (taUpd v) hok (fun _ _ => rfl) (fun _ _ _ h => h) (pre := fun _ => True)
    (fun st nc ls _ => by
      cases v <;> simp [ownCode, capply, taUpd, SCodeAttr.labelRefs, List.map_map, Function.comp_def] <;> rfl)
    (fun st => by cases v <;> simp [taUpd])

theorem cblocks_unknown {as : List Attr} (hok : ∀ a ∈ as, a.name ∉ codeAttrNames) :
    WBlocks (ownCode cpos n) (unknownAttrs as) (fun _ => True) (fun c => { c with attrs := c.attrs ++ as }) :=
  wblocks_unknown (O := ownCode cpos n) codeAttrNames SCodeAttr.unknown (fun l c => { c with attrs := c.attrs ++ l }) hok
    (fun _ _ _ => rfl) (fun _ _ _ _ h => h) (fun _ _ _ _ => rfl) (fun _ => by simp) (fun _ _ _ => by simp)

end

theorem mapT_branch {f : Nat → Nat} {ri : ClassRead.Insn} {op t : Nat} (h : mapT f ri = .branch op t) :
    ∃ t', ri = .branch op t' := by
  cases ri <;> simp only [mapT] at h <;> try cases h
  exact ⟨_, rfl⟩

theorem vtypeOf_vtMapL (lab : Nat → Nat) (v : ClassRead.VType) : vtypeOf id (vtMapL lab v) = vtypeOf lab v := by
  cases v <;> rfl

theorem frameOf_frMapL (lab : Nat → Nat) (f : ClassRead.Frame) : frameOf id (frMapL lab f) = frameOf lab f := by
  cases f <;> simp [frameOf, frMapL, vtypeOf_vtMapL, List.map_map, Function.comp_def]

/-- the label references of the relabelled body, counted on the body in the order `write_code` goes through it -/
theorem codeRefs_relabel (lab : Nat → Nat) (c : Code) : codeRefs (relabel lab c) =
    (c.insns.map fun e => (targetsOf (mapT lab e.insn)).length).sum + 3 * c.exceptions.length
      + ((c.insns.map fun e => e.frame.map (frameOf lab)).map fun o =>
          match o with | some f => FrameReadBack.labelDemand f | none => 0).sum
      + (c.lines.getD []).length + 2 * (c.locals.getD []).length
      + ((c.rvta.map fun a => ({ a with target := tgMapL lab a.target } : TypeAnno)).map fun a => codeTargetRefs a.target).sum
      + ((c.ritva.map fun a => ({ a with target := tgMapL lab a.target } : TypeAnno)).map fun a => codeTargetRefs a.target).sum := by
  have hf : ((relabel lab c).insns.map fun e => frameRefsO e.frame).sum =
      ((c.insns.map fun e => e.frame.map (frameOf lab)).map fun o =>
        match o with | some f => FrameReadBack.labelDemand f | none => 0).sum := by
    simp only [relabel, List.map_map, Function.comp_def]
    refine congrArg List.sum (List.map_congr_left fun e _ => ?_)
    cases e.frame with
    | none => rfl
    | some f => simp [frameRefsO, frameRefs, frameOf_frMapL]
  have hlen : ∀ {α β : Type} (g : α → β) (o : Option (List α)), ((o.map (List.map g)).getD []).length = (o.getD []).length :=
    fun g o => by cases o <;> simp
  rw [codeRefs, hf]
  simp only [relabel, List.length_map, hlen, List.map_map, Function.comp_def]
  omega

theorem factEntries_relabel {lab : Nat → Nat} {c : Code} {sins : List SInsn} {ps : List Nat} {sfs : List SFrame}
    (hinsn : sins.map (·.insn) = c.insns.map fun e => mapT lab e.insn) (hps : ps.length = c.insns.length)
    (hsfs : sfs.map (fun f => (f.at_, f.kind.fact)) =
      (FrameReadBack.collectIdx 0 ps (c.insns.map fun e => e.frame.map (frameOf lab))).map (fun x => (x.1, rdFrame x.2))) :
    factEntries sfs 0 sins = (relabel lab c).insns := by
  have hlen : sins.length = c.insns.length := by simpa using congrArg List.length hinsn
  rw [factEntries_collect sins ps (c.insns.map fun e => e.frame.map (frameOf lab)) 0 sfs (by rw [hps, hlen]) (by simp [hlen]) hsfs,
    ← List.zipWith_map_left (l₁ := sins) (f := (·.insn))
      (g := fun i (f : Option FrameWrite.Frame) => (⟨none, f.map rdFrame, i⟩ : InsnEntry)), hinsn, List.zipWith_map,
    List.zipWith_self]
  simp only [relabel]
  refine List.map_congr_left fun e _ => ?_
  cases e.frame with
  | none => rfl
  | some f => simp [rdFrame_frameOf]

/-- **`write_code`** (fragment `RCodeOk` of the resolved body): the bytes are the encoding of a layout that is legal in
every later pool with every later bootstrap table and denotes the method body with its labels renamed to instruction
indices; bootstrap rows are only appended -/
theorem writeCode_spec {c : Code} {p p' : Pool} {bs bs' : List Bsm} {b : Bytes} {lab : Nat → Nat}
    (hlab : labOf (labelIndex c.insns c.lastLabel) c.insns.length = lab) (hg : Good p) (hb : BsOk bs)
    (hok : RCodeOk (relabel lab c)) (h : writeCode c p bs = .ok (b, p', bs')) :
    (Step p p' ∧ BsExt bs bs' ∧ BsOk bs') ∧ ∃ cl : CodeLayout, b = cl.encode ∧
      Sound2 p' bs' (fun rp bsms => cl.Legal rp bsms) ∧ cl.facts = relabel lab c := by
  obtain ⟨is, p1, res, eb, p2, smt, p3, as, ab, h1, hres, h2, h3, h4, h5, rfl⟩ := writeCode_inv hlab h
  -- the fragment speaks of the relabelled body: its conditions on instructions and frames, said of `c` and `lab`
  obtain ⟨okInsns, okSize, okMaxStack, okMaxLocals, okExc, okLines, okLocals, okRvta, okRitva, okAttrs, okRefs⟩ := hok
  rw [show (relabel lab c).insns.length = c.insns.length by simp [relabel]] at okInsns okExc okLines okLocals okRvta okRitva
  have hins : ∀ e ∈ c.insns, insnOk e.insn ∧ (∀ t ∈ targetsOf (mapT lab e.insn), t < c.insns.length) ∧
      ∀ f, e.frame = some f → frameOkR c.insns.length (frMapL lab f) := by
    intro e he
    have := okInsns _ (List.mem_map_of_mem he)
    exact ⟨(insnOk_mapT lab e.insn).mp this.1, this.2.1, fun f hf => this.2.2 (frMapL lab f) (by simp [hf])⟩
  -- the instructions: their pool puts give the layout `sinsnsOf rcs`; within `okSize` the code array is its encoding and
  -- the label table is `codePos` of it (`hlp`, `hcodeq`)
  obtain ⟨⟨s1, eb1, ob1⟩, rcs, hm, hall, hcps, hbr, hsd⟩ := putInsns_spec c.insns hg hb (fun e he => (hins e he).1) h1
  have hlen : rcs.length = c.insns.length := by simpa using congrArg List.length hm
  have hsize : (is.map maxSize).sum ≤ 32767 := by
    rw [hall.sizes]
    have e1 : (rcs.map fun x => maxSizeR x.1) = (rcs.map (·.1)).map maxSizeR := by simp
    rw [e1, hm]
    simpa [relabel, List.map_map, Function.comp_def] using okSize
  obtain ⟨hcode, hlabel, hnone, hend, hpos, hsmall⟩ := writeCode_enc hall hsize res hres
  have hslen := sinsnsOf_length rcs
  have hinsn : (sinsnsOf rcs).map (·.insn) = c.insns.map fun e => mapT lab e.insn := by
    rw [← hm]
    simp [sinsnsOf, sinsnOf, List.map_map, Function.comp_def]
  have hlp : LpEq (fun id => res.label (lab id)) lab (codePos (sinsnsOf rcs)) := by
    intro id a ha
    have ha : res.label (lab id) = some a := ha
    by_cases hle : lab id ≤ rcs.length
    · rw [hlabel _ hle] at ha
      exact (Option.some.inj ha).symm
    · rw [hnone _ (by omega)] at ha
      cases ha
  have hrc : ∀ x ∈ rcs, ∃ e ∈ c.insns, x.1 = mapT lab e.insn := by
    intro x hx
    have : x.1 ∈ rcs.map (·.1) := List.mem_map_of_mem hx
    rw [hm] at this
    obtain ⟨e, he, hxe⟩ := List.mem_map.mp this
    exact ⟨e, he, hxe.symm⟩
  have hcodeq : res.code = encInsns (codePos (sinsnsOf rcs)) (sinsnsOf rcs) 0 := by
    rw [hcode]
    apply encInsns_congr
    intro si hsi t ht
    obtain ⟨x, hx, rfl⟩ := List.mem_map.mp hsi
    obtain ⟨e, he, hxe⟩ := hrc x hx
    have htn : t < c.insns.length := (hins e he).2.1 t (by simpa [sinsnOf, hxe] using ht)
    exact FrameReadBack.posOf_some (hlabel t (by omega))
  -- the exception table: rows legal in every later pool (`hexc`) that denote the relabelled entries (`fe`)
  obtain ⟨s2, sexcs, rfl, fe, helt, hexc⟩ := rowTable_spec (writeException_row (n := c.insns.length) hlp)
    (fun e he => okExc _ (List.mem_map_of_mem he)) s1.good h2
  have hel : sexcs.length = c.exceptions.length := by simpa using congrArg List.length fe
  -- the attributes: the `StackMapTable`, then the blocks of `runAttrs`; folded from the empty accumulator they give, by
  -- `capply_all`, every projection of the facts (`al` … `afr`), the label references (`arf`) and `oneFrames` (`hone`)
  have hpsz : res.pos.size = c.insns.length := by
    rw [CodeWrite.writeCode_pos_size is res hres, ← hall.length, hlen]
  obtain ⟨t0, sfs, hffact, g0⟩ := cblocks_frames (n := c.insns.length)
    (cpos := codePos (sinsnsOf rcs)) (fs := c.insns.map fun e => e.frame.map (frameOf lab)) hpsz
    (fun j hj => hlabel j (by omega))
    (fun a b hab hb => codePos_mono (sinsnsOf rcs) a b hab (by rw [hslen]; omega))
    (by rw [← hlen, hend]; exact hsmall) (by simp)
    (by
      intro f hf
      obtain ⟨e, he, hfe⟩ := List.mem_map.mp hf
      obtain ⟨f0, hfr, rfl⟩ := Option.map_eq_some_iff.mp hfe
      rw [rdFrame_frameOf]
      exact (hins e he).2.2 f0 hfr)
    s2.good h3
  have hta : ∀ {as : List TypeAnno},
      CodeTypeAnnosOk id c.insns.length (as.map fun a => { a with target := tgMapL lab a.target }) →
      CodeTypeAnnosOk lab c.insns.length as := by
    intro as h a ha
    simpa only [tgMapL_id] using h _ (List.mem_map_of_mem ha)
  obtain ⟨t1, g1⟩ :=
    ((WBlocks.cons (cblock_lines (n := c.insns.length) hlp
        (fun ls hls e he => okLines (ls.map fun ln => (lab ln.1, ln.2)) (by simp [relabel, hls]) _ (List.mem_map_of_mem he)))
      ((cblocks_lv hlp okLocals).append
      (WBlocks.cons (cblock_ta hlp true (hta okRvta)) (WBlocks.cons (cblock_ta hlp false (hta okRitva)) (WBlocks.nil _))))).append
      (cblocks_unknown okAttrs)) _ _ _ t0.good h4
  obtain ⟨attrs, hbytes, hsound, hfold⟩ := g0.append t1.le g1
  rw [hbytes] at h5
  obtain ⟨hcount, rfl⟩ := attrsBytes_inv h5
  obtain ⟨al, av, art, ari, aat, arf, afr, -⟩ := capply_all attrs
    (hfold ⟨none, none, none, [], [], [], 0⟩ ⟨rfl, ⟨rfl, rfl, trivial, trivial, trivial⟩, trivial⟩)
  obtain ⟨afr, hone⟩ := afr rfl
  simp only [thenRows, taUpd, List.nil_append, Nat.zero_add, ↓reduceIte, Bool.false_eq_true] at al av art ari aat arf afr
  have afr : framesOf attrs = sfs := by rw [← afr]; by_cases h : sfs = [] <;> simp [h]
  refine ⟨⟨s1.trans (s2.trans (t0.trans t1)), eb1, ob1⟩, ⟨c.maxStack, c.maxLocals, sinsnsOf rcs, sexcs, attrs⟩, ?_, ?_, ?_⟩
  · simp only [CodeLayout.encode, CodeLayout.pos]
    rw [hslen, hend, ← hcodeq]
    simp [List.flatMap, List.append_assoc, ownCode]
  · intro q bs'' hq hbs
    have hq2 : Ext p2 q := hq.of_le (t0.trans t1).le
    refine ⟨?_, okMaxStack, okMaxLocals, helt, ?_, by rw [List.length_map] at hcount; show attrs.length < 65536; omega,
      fun a ha => by rw [hslen, hlen]; exact hsound a ha q hq, hone, ?_⟩
    · refine code_legal (by rw [hend]; exact hpos) (by rw [hend]; exact hsmall) ?_
      intro x hx
      obtain ⟨e, he, hxe⟩ := hrc x hx
      refine ⟨by rw [hxe]; exact (insnOk_mapT lab e.insn).mpr (hins e he).1, ?_, hcps x hx,
        hsd x hx q bs'' (hq2.of_le s2.le) hbs, ?_⟩
      · intro op t hop
        rw [hxe] at hop
        obtain ⟨t', hi⟩ := mapT_branch hop
        exact hbr e he op t' hi
      · rw [hxe, hlen]
        exact (hins e he).2.1
    · rw [hslen, hlen]
      exact hexc q hq2
    · -- the label references of the layout are those of the relabelled body (`okRefs`)
      have r0 : ((sinsnsOf rcs).map fun si => (targetsOf si.insn).length).sum =
          (c.insns.map fun e => (targetsOf (mapT lab e.insn)).length).sum := by
        have := congrArg (fun l => (l.map fun i => (targetsOf i).length).sum) hinsn
        simpa [List.map_map, Function.comp_def] using this
      rw [codeRefs_relabel] at okRefs
      show CodeLayout.labelRefs ⟨c.maxStack, c.maxLocals, sinsnsOf rcs, sexcs, attrs⟩ < 65535
      simp only [CodeLayout.labelRefs, ← arf, r0, hel]
      omega
  · show CodeLayout.facts ⟨c.maxStack, c.maxLocals, sinsnsOf rcs, sexcs, attrs⟩ = relabel lab c
    simp only [CodeLayout.facts, afr, factEntries_relabel hinsn (by simpa using hpsz) hffact, fe, ← al, ← av, ← art, ← ari, ← aat]
    simp only [relabel]

end

end ClassWriteFull
