import FeatherModel.Model.DummySpec
import FeatherModel.Lemmas.JStrLit

/-!
# The dummy filters (C10) against their top-down specification
Namespace `DummyList`: `retain`-style filters on association lists (`pruneBy`, `retainK`), their idempotence and membership.
Namespace `DummyRemove`: the children-first model of `remove_dummy` equals the specification; the rules are stable under pruning;
the Boolean rules unfolded. Namespace `DummyInsert`: the model of `insert_dummy_and_contract_inner_names` equals its truth tables
(a leaf is a parent without children); the tables are idempotent.
-/

namespace DummyList
variable {K V : Type} (p : V → Bool) (g : V → V) (l : AList K V)

theorem not_isEmpty_filter (p : α → Bool) (l : List α) : (!(l.filter p).isEmpty) = l.any p := by
  rw [Bool.eq_iff_iff]
  simp

/-- "filter by a rule on the value, then rewrite the survivors": the shape of every level of the specification -/
def pruneBy : AList K V :=
  (l.filter (fun e => p e.2)).map (fun e => (e.1, g e.2))

theorem retainMap_eq (f : V → V) (keep : V → Bool) (m : AList K V) :
    Dummy.retainMap f keep m = pruneBy (fun v => keep (f v)) f m := by
  unfold Dummy.retainMap pruneBy
  rw [List.filter_map]
  rfl

theorem pruneBy_any (hpg : ∀ v, p (g v) = p v) : (pruneBy p g l).any (fun e => p e.2) = l.any (fun e => p e.2) := by
  simp only [pruneBy, List.any_map, List.any_filter, Function.comp_def, hpg, Bool.and_self]

theorem not_isEmpty_pruneBy : (!(pruneBy p g l).isEmpty) = l.any (fun e => p e.2) := by
  rw [pruneBy, List.isEmpty_map, not_isEmpty_filter]

theorem pruneBy_idem (hpg : ∀ v, p (g v) = p v) (hgg : ∀ v, g (g v) = g v) :
    pruneBy p g (pruneBy p g l) = pruneBy p g l := by
  simp only [pruneBy, List.filter_map, List.filter_filter, List.map_map, Function.comp_def, hpg, hgg, Bool.and_self]

variable {p g l} in
theorem mem_pruneBy {k : K} {v' : V} : (k, v') ∈ pruneBy p g l ↔ ∃ v, (k, v) ∈ l ∧ p v = true ∧ v' = g v := by
  unfold pruneBy
  simp only [List.mem_map, List.mem_filter]
  constructor
  · rintro ⟨⟨k0, v0⟩, ⟨hm, hp⟩, heq⟩
    cases heq
    exact ⟨v0, hm, hp, rfl⟩
  · rintro ⟨v, hm, hp, rfl⟩
    exact ⟨(k, v), ⟨hm, hp⟩, rfl⟩

theorem pruneBy_keys_sublist : ((pruneBy p g l).map Prod.fst).Sublist (l.map Prod.fst) := by
  rw [pruneBy, List.map_map]
  exact (List.filter_sublist).map _

variable (f : K → V → Option V)

theorem retainK_congr {f f' : K → V → Option V} (h : ∀ k v, f k v = f' k v) :
    Dummy.retainK (K := K) f = Dummy.retainK f' := by
  rw [show f = f' from funext fun k => funext (h k)]

theorem retainK_idem (hf : ∀ k v v', f k v = some v' → f k v' = some v') (m : AList K V) :
    Dummy.retainK f (Dummy.retainK f m) = Dummy.retainK f m := by
  unfold Dummy.retainK
  -- two passes are one pass with the closures composed; on a kept entry the second closure answers as the first did
  rw [List.filterMap_filterMap]
  refine congrArg (List.filterMap · m) (funext fun e => ?_)
  cases h : f e.1 e.2 with
  | none => rfl
  | some v' => simp only [Option.map_some, Option.bind_some, hf _ _ _ h]

variable {f} in
theorem mem_retainK {m : AList K V} {k : K} {v' : V} : (k, v') ∈ Dummy.retainK f m ↔ ∃ v, (k, v) ∈ m ∧ f k v = some v' := by
  unfold Dummy.retainK
  simp only [List.mem_filterMap, Option.map_eq_some_iff]
  constructor
  · rintro ⟨⟨k0, v0⟩, hm, w, hw, heq⟩
    cases heq
    exact ⟨v0, hm, hw⟩
  · rintro ⟨v, hm, hf⟩
    exact ⟨(k, v), hm, v', hf, rfl⟩

theorem retainK_keys_sublist (m : AList K V) : ((Dummy.retainK f m).map Prod.fst).Sublist (m.map Prod.fst) := by
  unfold Dummy.retainK
  induction m with
  | nil => exact List.Sublist.slnil
  | cons a l ih =>
    simp only [List.filterMap_cons, List.map_cons]
    cases h : f a.1 a.2 with
    | none => exact List.Sublist.cons _ ih
    | some v' => exact List.Sublist.cons_cons _ ih

end DummyList

namespace DummyRemove
open Dummy DummySpec DummyList

theorem keepParam_eq (ns : Nat) (p : Param) : keepParam ns p = survivesParam ns p := rfl
theorem keepField_eq (ns : Nat) (f : Field) : keepField ns f = survivesField ns f := rfl
variable (ns : Nat)

theorem keepMethod_filter (m : Method) : keepMethod ns (filterMethod ns m) = survivesMethod ns m := by
  unfold keepMethod filterMethod survivesMethod
  simp only [not_isEmpty_filter]
  rfl

theorem pruneClass_def (c : Class) :
    pruneClass ns c = { c with
      fields := c.fields.filter (fun e => survivesField ns e.2)
      methods := pruneBy (survivesMethod ns) (pruneMethod ns) c.methods } := rfl

theorem filterClass_eq (c : Class) : filterClass ns c = pruneClass ns c := by
  rw [filterClass, retainMap_eq, funext (keepMethod_filter ns)]
  rfl

theorem keepClass_filter (c : Class) : keepClass ns (filterClass ns c) = survivesClass ns c := by
  rw [filterClass_eq, pruneClass_def]
  unfold keepClass survivesClass
  simp only [not_isEmpty_filter, not_isEmpty_pruneBy]

theorem removeSpecAt_def (m : Mappings) :
    removeSpecAt m ns = { m with classes := pruneBy (survivesClass ns) (pruneClass ns) m.classes } := rfl

theorem removeDummyAt_eq (m : Mappings) : removeDummyAt m ns = removeSpecAt m ns := by
  rw [removeDummyAt, retainMap_eq, funext (keepClass_filter ns), funext (filterClass_eq ns)]
  rfl

theorem removeDummy_eq (m : Mappings) (nsName : JStr) : removeDummy m nsName = removeSpec m nsName := by
  unfold removeDummy removeSpec
  cases m.getNamespace nsName with
  | none => rfl
  | some ns => exact congrArg some (removeDummyAt_eq ns m)

theorem removeDummy_some {m m' : Mappings} {nsName : JStr} (h : removeDummy m nsName = some m') :
    ∃ ns, m.getNamespace nsName = some ns ∧ m' = removeSpecAt m ns := by
  rw [removeDummy_eq] at h
  obtain ⟨ns, hns, rfl⟩ := Option.map_eq_some_iff.mp h
  exact ⟨ns, hns, rfl⟩

theorem pruneMethod_idem (m : Method) : pruneMethod ns (pruneMethod ns m) = pruneMethod ns m := by
  simp only [pruneMethod, List.filter_filter, Bool.and_self]

theorem survivesMethod_prune (m : Method) : survivesMethod ns (pruneMethod ns m) = survivesMethod ns m := by
  simp only [survivesMethod, pruneMethod, List.any_filter, Bool.and_self]

theorem pruneClass_idem (c : Class) : pruneClass ns (pruneClass ns c) = pruneClass ns c := by
  rw [pruneClass_def ns c, pruneClass_def]
  simp only [List.filter_filter, Bool.and_self]
  rw [pruneBy_idem _ _ _ (survivesMethod_prune ns) (pruneMethod_idem ns)]

theorem survivesClass_prune (c : Class) : survivesClass ns (pruneClass ns c) = survivesClass ns c := by
  rw [pruneClass_def]
  simp only [survivesClass, List.any_filter, Bool.and_self, pruneBy_any _ _ _ (survivesMethod_prune ns)]

theorem removeSpecAt_idem (m : Mappings) : removeSpecAt (removeSpecAt m ns) ns = removeSpecAt m ns := by
  rw [removeSpecAt_def ns m, removeSpecAt_def]
  simp only
  rw [pruneBy_idem _ _ _ (survivesClass_prune ns) (pruneClass_idem ns)]

theorem nameIs_iff {names : Names} {ns : Nat} {p : JStr → Bool} :
    nameIs names ns p = true ↔ ∃ n, names[ns]? = some (some n) ∧ p n = true := by
  unfold nameIs
  cases h : names[ns]? with
  | none => simp
  | some o =>
    cases o with
    | none => simp
    | some n => simp

theorem nameIs_or (names : Names) (ns : Nat) (p q : JStr → Bool) :
    nameIs names ns (fun n => p n || q n) = (nameIs names ns p || nameIs names ns q) := by
  unfold nameIs
  cases names[ns]? with
  | none => rfl
  | some o => cases o <;> rfl

theorem startsWith_iff {pfx s : JStr} : startsWith pfx s = true ↔ pfx <+: s := by
  unfold startsWith
  exact List.isPrefixOf_iff_prefix

/-! `Model/Dummy.lean` writes the placeholder prefixes as lists of code points, not as `jstr "…"`: the kernel evaluates a
`jstr` literal by running the UTF-8 decoder (`Lemmas/JStrLit.lean`), and the filters are evaluated in every test vector.
These seven lemmas say which strings the numbers spell; `Thm/C10.lean` states the rules with the strings. -/

theorem pfxC_eq : pfxC = jstr "C_" := by decide +kernel
theorem pfxNMU_eq : pfxNMU = jstr "net/minecraft/unmapped/C_" := by
  simp -index only [jstr_ofList]
  decide +kernel
theorem pfxF_eq : pfxF = jstr "f_" := by decide +kernel
theorem pfxM_eq : pfxM = jstr "m_" := by decide +kernel
theorem pfxP_eq : pfxP = jstr "p_" := by decide +kernel
theorem nameInit_eq : nameInit = jstr "<init>" := by decide +kernel
theorem nameClinit_eq : nameClinit = jstr "<clinit>" := by decide +kernel

end DummyRemove

namespace DummyInsert
open Dummy DummySpec DummyList DummyDiff

variable {ph : JStr} {info doc i : Action JStr} {ch : Bool}

/-- the decision `insertMethod` / `insertClass` take (validator, then "does it still change anything or keep a child") is
`parentRule` -/
theorem parent_eq :
    (if ((validate ph info).1 && ((validate ph info).2.isDiff || doc.isDiff)) || ch then some (validate ph info).2 else none)
      = parentRule ph info doc ch := by
  cases info with
  | none => simp [validate, parentRule, Action.isDiff]
  | add b => rfl
  | remove a => simp [validate, parentRule, Action.isDiff, or_assoc]
  | edit a b => simp [validate, parentRule, Action.isDiff, or_assoc]

theorem leafRule_eq_parentRule : leafRule ph info doc = parentRule ph info doc false := by
  cases info <;> simp [leafRule, parentRule]

/-- the decision `insertParam` / `insertField` take -/
theorem leaf_eq :
    (if (validate ph info).1 && ((validate ph info).2.isDiff || doc.isDiff) then some (validate ph info).2 else none)
      = leafRule ph info doc := by
  rw [leafRule_eq_parentRule, ← parent_eq, Bool.or_false]

theorem validate_fst_eq_false : (validate ph info).1 = false ↔ ∃ b, info = .add b := by
  cases info <;> simp [validate]

theorem validate_snd (h : ∀ a, info ≠ .remove a) : (validate ph info).2 = info := by
  cases info <;> first | rfl | exact absurd rfl (h _)

theorem parentRule_eq_some (h : parentRule ph info doc ch = some i) :
    i = (validate ph info).2 := by
  rw [← parent_eq] at h
  split at h <;> cases h
  rfl

theorem leafRule_eq_some (h : leafRule ph info doc = some i) : i = (validate ph info).2 :=
  parentRule_eq_some (leafRule_eq_parentRule ▸ h)

theorem parentRule_eq_none : parentRule ph info doc ch = none ↔
    (ch = false ∧ ((∃ b, info = .add b) ∨ ((validate ph info).2.isDiff = false ∧ doc.isDiff = false))) := by
  rw [← parent_eq, ← validate_fst_eq_false]
  cases (validate ph info).1 <;> cases ch <;> simp

theorem leafRule_eq_none : leafRule ph info doc = none ↔
    ((∃ b, info = .add b) ∨ ((validate ph info).2.isDiff = false ∧ doc.isDiff = false)) := by
  rw [leafRule_eq_parentRule, parentRule_eq_none, eq_self, true_and]

theorem insertParam_eq (k : Nat) (p : PDiff) : insertParam k p = specParam k p := by
  unfold insertParam specParam
  rw [← leaf_eq]
  simp only
  split <;> rfl

theorem insertField_eq (k : MKey) (f : FDiff) : insertField k f = specField k f := by
  unfold insertField specField
  rw [← leaf_eq]
  simp only
  split <;> rfl

theorem insertMethod_eq (k : MKey) (m : MDiff) : insertMethod k m = specMethod k m := by
  unfold insertMethod specMethod
  simp only
  rw [← parent_eq, retainK_congr insertParam_eq]
  split <;> rfl

theorem insertClass_eq (k : JStr) (c : CDiff) : insertClass k c = specClass k c := by
  unfold insertClass specClass
  simp only
  rw [← parent_eq, retainK_congr insertField_eq, retainK_congr insertMethod_eq]
  simp only [Bool.or_assoc]
  split <;> rfl

theorem insertDummy_eq (d : Diff) : insertDummy d = insertSpec d := by
  unfold insertDummy insertSpec
  rw [retainK_congr insertClass_eq]

/-- the validator leaves its own output alone: a removal has become an edit -/
theorem validate_idem : validate ph (validate ph info).2 = validate ph info := by
  cases info <;> rfl

/-- a kept node is kept again, unchanged: the decision `parent_eq` reads the node only through the validator -/
theorem parentRule_idem (h : parentRule ph info doc ch = some i) : parentRule ph i doc ch = some i := by
  cases parentRule_eq_some h
  rw [← parent_eq, validate_idem, parent_eq, h]

theorem leafRule_idem (h : leafRule ph info doc = some i) : leafRule ph i doc = some i := by
  rw [leafRule_eq_parentRule] at h ⊢
  exact parentRule_idem h

theorem specParam_idem (k : Nat) (p p' : PDiff) (h : specParam k p = some p') : specParam k p' = some p' := by
  obtain ⟨i, hi, rfl⟩ := Option.map_eq_some_iff.mp h
  exact congrArg (Option.map _) (leafRule_idem hi)

theorem specField_idem (k : MKey) (f f' : FDiff) (h : specField k f = some f') : specField k f' = some f' := by
  obtain ⟨i, hi, rfl⟩ := Option.map_eq_some_iff.mp h
  exact congrArg (Option.map _) (leafRule_idem hi)

theorem specMethod_idem (k : MKey) (m m' : MDiff) (h : specMethod k m = some m') : specMethod k m' = some m' := by
  obtain ⟨i, hi, rfl⟩ := Option.map_eq_some_iff.mp h
  simp only [specMethod, retainK_idem specParam specParam_idem]
  exact congrArg (Option.map _) (parentRule_idem hi)

theorem specClass_idem (k : JStr) (c c' : CDiff) (h : specClass k c = some c') : specClass k c' = some c' := by
  obtain ⟨i, hi, rfl⟩ := Option.map_eq_some_iff.mp h
  simp only [specClass, retainK_idem specField specField_idem, retainK_idem specMethod specMethod_idem]
  exact congrArg (Option.map _) (parentRule_idem hi)

theorem insertSpec_idem (d : Diff) : insertSpec (insertSpec d) = insertSpec d := by
  simp only [insertSpec, retainK_idem specClass specClass_idem]

end DummyInsert
