import FeatherModel.Lemmas.AList
import FeatherModel.Model.Remapper

/-!
# The super-type search of the B remapper: more fuel changes no definite answer, the search is the first declaration along
the pre-order `dfs`, acyclic providers never run out of fuel
-/

namespace Remapper

theorem firstSomeM_mono {α β : Type} {f g : α → Option (Option β)} {l : List α} {res : Option β}
    (hfg : ∀ a ∈ l, ∀ x, f a = some x → g a = some x) : firstSomeM f l = some res → firstSomeM g l = some res := by
  induction l with
  | nil => exact id
  | cons a rest ih =>
    rw [List.forall_mem_cons] at hfg
    simp only [firstSomeM]
    cases hfa : f a with
    | none => intro h; cases h
    | some x =>
      rw [hfg.1 x hfa]
      cases x with
      | some b => exact id
      | none => exact ih hfg.2

theorem mapMemberFail_mono (sel : BClass → AList MemberKey MemberKey) (r : BTable) (sup : Supers) (key : MemberKey) :
    ∀ {f f' : Nat}, f ≤ f' → ∀ {o : JStr} {res : Option MemberKey},
      mapMemberFail sel r sup f o key = some res → mapMemberFail sel r sup f' o key = some res := by
  intro f
  induction f with
  | zero => intro f' _ o res h; cases h
  | succ n ih =>
    intro f' hle o res
    obtain ⟨m, rfl⟩ := Nat.exists_eq_add_one_of_ne_zero (by omega : f' ≠ 0)
    rw [mapMemberFail, mapMemberFail]
    cases declares sel r key o with
    | some v => exact id
    | none =>
      cases AList.lookup o sup with
      | none => exact id
      | some ss => exact firstSomeM_mono fun a _ x hx => ih (by omega) hx

theorem concatM_mono {α β : Type} {f g : α → Option (List β)} {l : List α} {res : List β}
    (hfg : ∀ a ∈ l, ∀ x, f a = some x → g a = some x) : concatM f l = some res → concatM g l = some res := by
  induction l generalizing res with
  | nil => exact id
  | cons a rest ih =>
    rw [List.forall_mem_cons] at hfg
    simp only [concatM]
    cases hfa : f a with
    | none => intro h; cases h
    | some x =>
      rw [hfg.1 x hfa]
      cases hr : concatM f rest with
      | none => intro h; cases h
      | some y =>
        rw [ih hfg.2 hr]
        exact id

theorem dfs_mono (sup : Supers) : ∀ {f f' : Nat}, f ≤ f' → ∀ {o : JStr} {order : List JStr},
    dfs sup f o = some order → dfs sup f' o = some order := by
  intro f
  induction f with
  | zero => intro f' _ o order h; cases h
  | succ n ih =>
    intro f' hle o order
    obtain ⟨m, rfl⟩ := Nat.exists_eq_add_one_of_ne_zero (by omega : f' ≠ 0)
    rw [dfs, dfs]
    cases AList.lookup o sup with
    | none => exact id
    | some ss =>
      simp only
      cases hc : concatM (fun s => dfs sup n s) ss with
      | none => intro h; cases h
      | some l =>
        rw [concatM_mono (fun a _ x hx => ih (by omega) hx) hc]
        exact id

theorem concatM_map_comm {α α' β β' : Type} {f : α → Option (List β)} {f' : α' → Option (List β')} {g : α → α'}
    {g' : β → β'} {l : List α} (h : ∀ a ∈ l, f' (g a) = (f a).map (List.map g')) :
    concatM f' (l.map g) = (concatM f l).map (List.map g') := by
  induction l with
  | nil => rfl
  | cons a rest ih =>
    rw [List.forall_mem_cons] at h
    simp only [List.map_cons, concatM, h.1, ih h.2]
    cases f a with
    | none => rfl
    | some x => cases concatM f rest <;> simp

theorem firstSomeM_concatM {α β γ : Type} {d : α → Option (List β)} {m : α → Option (Option γ)} {p : β → Option γ}
    {ss : List α} (h : ∀ a ∈ ss, ∀ l, d a = some l → m a = some (l.findSome? p)) :
    ∀ l, concatM d ss = some l → firstSomeM m ss = some (l.findSome? p) := by
  induction ss with
  | nil => intro l hl; cases hl; rfl
  | cons s rest ih =>
    rw [List.forall_mem_cons] at h
    intro l
    simp only [concatM, firstSomeM]
    cases hd : d s with
    | none => intro hl; cases hl
    | some a =>
      rw [h.1 a hd]
      cases hc : concatM d rest with
      | none => intro hl; cases hl
      | some b =>
        intro hl
        cases hl
        rw [List.findSome?_append]
        cases a.findSome? p with
        | some v => rfl
        | none => exact ih h.2 b hc

theorem mapMemberFail_dfs (sel : BClass → AList MemberKey MemberKey) (r : BTable) (sup : Supers) (key : MemberKey) :
    ∀ (fuel : Nat) (o : JStr) (order : List JStr), dfs sup fuel o = some order →
      mapMemberFail sel r sup fuel o key = some (order.findSome? (declares sel r key)) := by
  intro fuel
  induction fuel with
  | zero => intro o order h; cases h
  | succ n ih =>
    intro o order
    rw [dfs, mapMemberFail]
    cases AList.lookup o sup with
    | none =>
      intro h
      cases h
      simp only [List.findSome?_cons, List.findSome?_nil]
      cases declares sel r key o <;> rfl
    | some ss =>
      simp only
      cases hc : concatM (fun s => dfs sup n s) ss with
      | none => intro h; cases h
      | some l =>
        intro h
        cases h
        rw [List.findSome?_cons]
        cases declares sel r key o with
        | some v => rfl
        | none => exact firstSomeM_concatM (fun s _ => ih s) l hc

theorem concatM_isSome {α β : Type} {f : α → Option (List β)} {l : List α}
    (h : ∀ a ∈ l, ∃ x, f a = some x) : ∃ y, concatM f l = some y := by
  induction l with
  | nil => exact ⟨[], rfl⟩
  | cons a rest ih =>
    obtain ⟨x, hx⟩ := h a List.mem_cons_self
    obtain ⟨y, hy⟩ := ih (fun a' ha' => h a' (List.mem_cons_of_mem _ ha'))
    exact ⟨x ++ y, by simp [concatM, hx, hy]⟩

theorem dfs_succ_isSome {sup : Supers} {n : Nat} {o : JStr}
    (h : ∀ ss, AList.lookup o sup = some ss → ∀ s ∈ ss, ∃ order, dfs sup n s = some order) :
    ∃ order, dfs sup (n + 1) o = some order := by
  rw [dfs]
  cases hs : AList.lookup o sup with
  | none => exact ⟨[o], rfl⟩
  | some ss =>
    obtain ⟨l, hl⟩ := concatM_isSome (h ss hs)
    exact ⟨o :: l, by simp only [hl]⟩

/-- `rank` strictly decreases along the super-type edges of the provider -/
def Ranked (sup : Supers) (rank : JStr → Nat) : Prop :=
  ∀ c ss s, AList.lookup c sup = some ss → s ∈ ss → rank s < rank c

theorem dfs_ranked (sup : Supers) (rank : JStr → Nat) (hr : Ranked sup rank) :
    ∀ (fuel : Nat) (o : JStr), rank o < fuel → ∃ order, dfs sup fuel o = some order := by
  intro fuel
  induction fuel with
  | zero => intro o h; omega
  | succ n ih =>
    intro o h
    exact dfs_succ_isSome fun ss hs s hs' => ih s (by have := hr o ss s hs hs'; omega)

/-- the number of rows ranked at most like `c` is again a rank, and it stays below the number of rows: with it
`dfs_ranked` covers the fuel `defaultFuel sup` -/
theorem Ranked.count {sup : Supers} {rank : JStr → Nat} (hr : Ranked sup rank) :
    Ranked sup fun c => sup.countP fun e => decide (rank e.1 ≤ rank c) :=
  fun c ss s hc hs => List.countP_rank_lt (AList.lookup_mem hc) (hr c ss s hc hs)

end Remapper
