import FeatherModel.Lemmas.CodeBytes
import FeatherModel.Lemmas.CodePatch

/-!
# What the final bytes of one instruction decode to

First `decodeOne` on each instruction shape (the decoder's if-chain evaluated once per opcode class). Then
`Decoded lp p i fin` for the final forms of the instructions other than the switches: an instruction without label as
`encInsn` wrote it, a branch with its 16-bit or 32-bit offset from the final label table `lp`, the inverted-condition
trampoline.
-/

namespace CodeDecode

theorem decodeOne_simple {op : Nat} (h : isSimple op = true) (pc : Nat) (rest : Bytes) :
    decodeOne pc (op :: rest) = some (.simple op, 1) := by
  unfold decodeOne
  exact if_pos h

theorem decodeOne_bipush (pc b : Nat) (rest : Bytes) : decodeOne pc (0x10 :: b :: rest) = some (.bipush (s8 b), 2) := rfl

theorem decodeOne_sipush (pc a b : Nat) (rest : Bytes) :
    decodeOne pc (0x11 :: a :: b :: rest) = some (.sipush (s16 a b), 3) := rfl

theorem decodeOne_ldc (pc b : Nat) (rest : Bytes) : decodeOne pc (0x12 :: b :: rest) = some (.ldc b, 2) := rfl

theorem decodeOne_ldc_w (pc a b : Nat) (rest : Bytes) :
    decodeOne pc (0x13 :: a :: b :: rest) = some (.ldc (a * 256 + b), 3) := rfl

theorem decodeOne_ldc2_w (pc a b : Nat) (rest : Bytes) :
    decodeOne pc (0x14 :: a :: b :: rest) = some (.ldc2 (a * 256 + b), 3) := rfl

theorem decodeOne_goto (pc a b : Nat) (rest : Bytes) :
    decodeOne pc (0xa7 :: a :: b :: rest) = some (.goto ((pc : Int) + s16 a b), 3) := rfl

theorem decodeOne_jsr (pc a b : Nat) (rest : Bytes) :
    decodeOne pc (0xa8 :: a :: b :: rest) = some (.jsr ((pc : Int) + s16 a b), 3) := rfl

theorem decodeOne_goto_w (pc a b c d : Nat) (rest : Bytes) :
    decodeOne pc (0xc8 :: a :: b :: c :: d :: rest) = some (.goto ((pc : Int) + s32 a b c d), 5) := rfl

theorem decodeOne_jsr_w (pc a b c d : Nat) (rest : Bytes) :
    decodeOne pc (0xc9 :: a :: b :: c :: d :: rest) = some (.jsr ((pc : Int) + s32 a b c d), 5) := rfl

theorem decodeOne_if (c : CodeWrite.Cond) (pc a b : Nat) (rest : Bytes) :
    decodeOne pc (c.opcode :: a :: b :: rest) = some (.ifc c.opcode ((pc : Int) + s16 a b), 3) := by
  cases c <;> rfl

theorem negIf_opposite (c : CodeWrite.Cond) : negIf c.opcode = c.opposite.opcode := by
  cases c <;> rfl

theorem kind_cases {kind : Nat} (hk : kind ≤ 4) : kind = 0 ∨ kind = 1 ∨ kind = 2 ∨ kind = 3 ∨ kind = 4 := by
  omega

/-- `<t>load_<n>`: opcode `0x1a + 4 * kind + n` -/
theorem decodeOne_load_short {kind idx : Nat} (hk : kind ≤ 4) (hi : idx < 4) (pc : Nat) (rest : Bytes) :
    decodeOne pc ((kind * 4 + idx + 0x1a) :: rest) = some (.load kind idx, 1) := by
  obtain rfl | rfl | rfl | rfl : idx = 0 ∨ idx = 1 ∨ idx = 2 ∨ idx = 3 := by omega
  all_goals obtain rfl | rfl | rfl | rfl | rfl := kind_cases hk <;> rfl

/-- `<t>store_<n>`: opcode `0x3b + 4 * kind + n` -/
theorem decodeOne_store_short {kind idx : Nat} (hk : kind ≤ 4) (hi : idx < 4) (pc : Nat) (rest : Bytes) :
    decodeOne pc ((kind * 4 + idx + 0x3b) :: rest) = some (.store kind idx, 1) := by
  obtain rfl | rfl | rfl | rfl : idx = 0 ∨ idx = 1 ∨ idx = 2 ∨ idx = 3 := by omega
  all_goals obtain rfl | rfl | rfl | rfl | rfl := kind_cases hk <;> rfl

theorem decodeOne_load_u8 {kind : Nat} (hk : kind ≤ 4) (pc b : Nat) (rest : Bytes) :
    decodeOne pc ((0x15 + kind) :: b :: rest) = some (.load kind b, 2) := by
  obtain rfl | rfl | rfl | rfl | rfl := kind_cases hk <;> rfl

theorem decodeOne_store_u8 {kind : Nat} (hk : kind ≤ 4) (pc b : Nat) (rest : Bytes) :
    decodeOne pc ((0x36 + kind) :: b :: rest) = some (.store kind b, 2) := by
  obtain rfl | rfl | rfl | rfl | rfl := kind_cases hk <;> rfl

theorem decodeOne_load_wide {kind : Nat} (hk : kind ≤ 4) (pc a b : Nat) (rest : Bytes) :
    decodeOne pc (0xc4 :: (0x15 + kind) :: a :: b :: rest) = some (.load kind (a * 256 + b), 4) := by
  obtain rfl | rfl | rfl | rfl | rfl := kind_cases hk <;> rfl

theorem decodeOne_store_wide {kind : Nat} (hk : kind ≤ 4) (pc a b : Nat) (rest : Bytes) :
    decodeOne pc (0xc4 :: (0x36 + kind) :: a :: b :: rest) = some (.store kind (a * 256 + b), 4) := by
  obtain rfl | rfl | rfl | rfl | rfl := kind_cases hk <;> rfl

theorem decodeOne_iinc (pc i c : Nat) (rest : Bytes) :
    decodeOne pc (0x84 :: i :: c :: rest) = some (.iinc i (s8 c), 3) := rfl

theorem decodeOne_iinc_wide (pc a b c d : Nat) (rest : Bytes) :
    decodeOne pc (0xc4 :: 0x84 :: a :: b :: c :: d :: rest) = some (.iinc (a * 256 + b) (s16 c d), 6) := rfl

theorem decodeOne_ret (pc i : Nat) (rest : Bytes) : decodeOne pc (0xa9 :: i :: rest) = some (.ret i, 2) := rfl

theorem decodeOne_ret_wide (pc a b : Nat) (rest : Bytes) :
    decodeOne pc (0xc4 :: 0xa9 :: a :: b :: rest) = some (.ret (a * 256 + b), 4) := rfl

theorem decodeOne_cp {op : Nat} (h : isCp op = true) (pc a b : Nat) (rest : Bytes) :
    decodeOne pc (op :: a :: b :: rest) = some (.cp op (a * 256 + b), 3) := by
  simp only [isCp, Bool.or_eq_true, Bool.and_eq_true, decide_eq_true_eq, beq_iff_eq] at h
  obtain ((((⟨h1, h2⟩ | rfl) | rfl) | rfl) | rfl) := h
  · obtain rfl | rfl | rfl | rfl | rfl | rfl | rfl :
        op = 0xb2 ∨ op = 0xb3 ∨ op = 0xb4 ∨ op = 0xb5 ∨ op = 0xb6 ∨ op = 0xb7 ∨ op = 0xb8 := by omega
    all_goals rfl
  all_goals rfl

theorem decodeOne_invokeinterface (pc a b c : Nat) (rest : Bytes) :
    decodeOne pc (0xb9 :: a :: b :: c :: 0 :: rest) = some (.invokeinterface (a * 256 + b) c, 5) := rfl

theorem decodeOne_newarray (pc t : Nat) (rest : Bytes) :
    decodeOne pc (0xbc :: t :: rest) = some (.newarray t, 2) := rfl

theorem decodeOne_multianewarray (pc a b d : Nat) (rest : Bytes) :
    decodeOne pc (0xc5 :: a :: b :: d :: rest) = some (.multianewarray (a * 256 + b) d, 4) := rfl

theorem decodeOne_invokedynamic (pc a b : Nat) (rest : Bytes) :
    decodeOne pc (0xba :: a :: b :: 0 :: 0 :: rest) = some (.invokedynamic (a * 256 + b), 5) := rfl

theorem opcode_ne_negIf (c : CodeWrite.Cond) : (c.opcode == negIf c.opcode) = false := by
  cases c <;> decide

theorem decodeAll_step (fuel pc : Nat) (bs : Bytes) (d : DInsn) (len : Nat)
    (hd : decodeOne pc bs = some (d, len)) (hl0 : len ≠ 0) (hle : len ≤ bs.length) :
    decodeAll (fuel + 1) pc bs =
      (match decodeAll fuel (pc + len) (bs.drop len) with
       | none => none
       | some rest => some ((pc, len, d) :: rest)) := by
  cases bs with
  | nil => simp at hle; omega
  | cons b bs' =>
    simp only [decodeAll, hd]
    have : ((b :: bs').drop (len - 1)).isEmpty = false := by
      rw [List.isEmpty_eq_false_iff, ne_eq, List.drop_eq_nil_iff]
      omega
    simp only [hl0, this, false_or, Bool.false_eq_true, if_false]
    cases decodeAll fuel (pc + len) ((b :: bs').drop len) <;> rfl

end CodeDecode


namespace CodeWrite
open CodeDecode CodeDenote

theorem lands_self {lp : Nat → Option Nat} {t tp : Nat} (h : lp t = some tp) : lands lp t (tp : Int) = true := by
  simp [lands, h]

theorem lands_eq {lp : Nat → Option Nat} {t : Nat} {a : Int} (h : lands lp t a = true) :
    ∃ tp, lp t = some tp ∧ a = (tp : Int) := by
  unfold lands at h
  split at h
  · rename_i tp htp
    exact ⟨tp, htp, (beq_iff_eq.mp h).symm⟩
  · cases h

def plainInsn : Insn → Bool
  | .ifc _ _ => false
  | .goto _ => false
  | .jsr _ => false
  | .tableswitch .. => false
  | .lookupswitch .. => false
  | _ => true

theorem plain_unw {p k : Nat} {i : Insn} {a : Bool} {b : Nat → Option Nat} {r : Bytes × List Unwritten}
    (hnl : plainInsn i = true) (h : encInsn a b p k i = .ok r) : r.2 = [] := by
  cases i with
  | ifc | goto | jsr | tableswitch | lookupswitch => cases hnl
  | invokeinterface idx desc => simp only [encInsn] at h; split at h <;> cases h; rfl
  | _ => cases h; rfl

theorem plain_decoded (lp : Nat → Option Nat) {p k : Nat} {i : Insn} {isWide : Bool} {lbl : Nat → Option Nat}
    {bs : Bytes} (hwt : wt i = true) (hnl : plainInsn i = true) (h : encInsn isWide lbl p k i = .ok (bs, [])) :
    Decoded lp p i bs := by
  cases i with
  | simple op =>
    cases h
    exact .single (.simple op) (Nat.le_refl 1) (decodeOne_simple hwt p) (beq_self_eq_true op)
  | bipush v =>
    cases h
    simp only [wt, Bool.and_eq_true, decide_eq_true_eq] at hwt
    exact .single (.bipush v) (Nat.le_add_left 1 _)
      (fun rest => (decodeOne_bipush p (i8b v) rest).trans (by rw [s8_i8b v hwt.1 hwt.2]; rfl)) (beq_self_eq_true v)
  | sipush v =>
    cases h
    simp only [wt, Bool.and_eq_true, decide_eq_true_eq] at hwt
    exact .single (.sipush v) (Nat.le_add_left 1 _)
      (fun rest => (decodeOne_sipush p _ _ rest).trans (by rw [s16_digits v hwt.1 hwt.2]; rfl)) (beq_self_eq_true v)
  | ldc idx two =>
    have hidx : idx ≤ 65535 := of_decide_eq_true hwt
    simp only [encInsn, encLdc] at h
    cases two with
    | true =>
      cases h
      exact .single (.ldc2 idx) (Nat.le_add_left 1 _)
        (fun rest => (decodeOne_ldc2_w p _ _ rest).trans (by rw [Be.val16 idx (Nat.lt_succ_of_le hidx)]; rfl)) (beq_self_eq_true idx)
    | false =>
      simp only [Bool.false_eq_true, if_false] at h
      split at h
      · cases h
        exact .single (.ldc idx) (Nat.le_add_left 1 _) (decodeOne_ldc p idx) (beq_self_eq_true idx)
      · cases h
        exact .single (.ldc idx) (Nat.le_add_left 1 _)
          (fun rest => (decodeOne_ldc_w p _ _ rest).trans (by rw [Be.val16 idx (Nat.lt_succ_of_le hidx)]; rfl)) (beq_self_eq_true idx)
  | load kind idx =>
    simp only [encInsn, encLocal] at h
    simp only [wt, Bool.and_eq_true, decide_eq_true_eq] at hwt
    have hden : denote1 lp (.load kind idx) (.load kind idx) = true := by simp [denote1]
    split at h
    · rename_i h4
      cases h
      exact .single _ (Nat.le_refl 1) (decodeOne_load_short hwt.1 h4 p) hden
    · split at h
      · cases h
        exact .single _ (Nat.le_add_left 1 _) (decodeOne_load_u8 hwt.1 p idx) hden
      · cases h
        exact .single _ (Nat.le_add_left 1 _)
          (fun rest => (decodeOne_load_wide hwt.1 p _ _ rest).trans (by rw [Be.val16 idx (Nat.lt_succ_of_le hwt.2)]; rfl)) hden
  | store kind idx =>
    simp only [encInsn, encLocal] at h
    simp only [wt, Bool.and_eq_true, decide_eq_true_eq] at hwt
    have hden : denote1 lp (.store kind idx) (.store kind idx) = true := by simp [denote1]
    split at h
    · rename_i h4
      cases h
      exact .single _ (Nat.le_refl 1) (decodeOne_store_short hwt.1 h4 p) hden
    · split at h
      · cases h
        exact .single _ (Nat.le_add_left 1 _) (decodeOne_store_u8 hwt.1 p idx) hden
      · cases h
        exact .single _ (Nat.le_add_left 1 _)
          (fun rest => (decodeOne_store_wide hwt.1 p _ _ rest).trans (by rw [Be.val16 idx (Nat.lt_succ_of_le hwt.2)]; rfl)) hden
  | iinc idx v =>
    simp only [encInsn, encIinc] at h
    simp only [wt, Bool.and_eq_true, decide_eq_true_eq] at hwt
    have hden : denote1 lp (.iinc idx v) (.iinc idx v) = true := by simp [denote1]
    split at h
    · rename_i hs
      cases h
      exact .single _ (Nat.le_add_left 1 _)
        (fun rest => (decodeOne_iinc p idx _ rest).trans (by rw [s8_i8b v hs.2.1 hs.2.2]; rfl)) hden
    · cases h
      exact .single _ (Nat.le_add_left 1 _)
        (fun rest => (decodeOne_iinc_wide p _ _ _ _ rest).trans
          (by rw [Be.val16 idx (Nat.lt_succ_of_le hwt.1.1), s16_digits v hwt.1.2 hwt.2]; rfl)) hden
  | ret idx =>
    have hidx : idx ≤ 65535 := of_decide_eq_true hwt
    simp only [encInsn, encRet] at h
    split at h
    · cases h
      exact .single (.ret idx) (Nat.le_add_left 1 _) (decodeOne_ret p idx) (beq_self_eq_true idx)
    · cases h
      exact .single (.ret idx) (Nat.le_add_left 1 _)
        (fun rest => (decodeOne_ret_wide p _ _ rest).trans (by rw [Be.val16 idx (Nat.lt_succ_of_le hidx)]; rfl)) (beq_self_eq_true idx)
  | cp op idx =>
    cases h
    simp only [wt, Bool.and_eq_true, decide_eq_true_eq] at hwt
    exact .single (.cp op idx) (Nat.le_add_left 1 _)
      (fun rest => (decodeOne_cp hwt.1 p _ _ rest).trans (by rw [Be.val16 idx (Nat.lt_succ_of_le hwt.2)]; rfl)) (by simp [denote1])
  | invokeinterface idx desc =>
    have hidx : idx ≤ 65535 := of_decide_eq_true hwt
    simp only [encInsn] at h
    split at h
    · cases h
    · rename_i c ha
      cases h
      exact .single (.invokeinterface idx c) (Nat.le_add_left 1 _)
        (fun rest => (decodeOne_invokeinterface p _ _ c rest).trans (by rw [Be.val16 idx (Nat.lt_succ_of_le hidx)]; rfl))
        (by simp [denote1, ha])
  | invokedynamic idx =>
    cases h
    have hidx : idx ≤ 65535 := of_decide_eq_true hwt
    exact .single (.invokedynamic idx) (Nat.le_add_left 1 _)
      (fun rest => (decodeOne_invokedynamic p _ _ rest).trans (by rw [Be.val16 idx (Nat.lt_succ_of_le hidx)]; rfl)) (beq_self_eq_true idx)
  | newarray t =>
    cases h
    exact .single (.newarray t) (Nat.le_add_left 1 _) (decodeOne_newarray p t) (beq_self_eq_true t)
  | multianewarray idx d =>
    cases h
    simp only [wt, Bool.and_eq_true, decide_eq_true_eq] at hwt
    exact .single (.multianewarray idx d) (Nat.le_add_left 1 _)
      (fun rest => (decodeOne_multianewarray p _ _ d rest).trans (by rw [Be.val16 idx (Nat.lt_succ_of_le hwt.1)]; rfl)) (by simp [denote1])
  | ifc | goto | jsr | tableswitch | lookupswitch => cases hnl

/-- the final label table extends the one visible during the pass and stays inside the `u16` range -/
structure LabelsOk (lbl lp : Nat → Option Nat) : Prop where
  sub : ∀ t x, lbl t = some x → lp t = some x
  bound : ∀ t x, lp t = some x → x ≤ 65535

theorem offs_add (p tp : Nat) : (p : Int) + offs p tp = tp := by unfold offs; omega

/-- a branch in its two-byte form: `op` is any opcode the decoder reads as `D target`, `D target` denotes `i` when
the label of `i` lands on `target` -/
theorem narrow_decoded {lp : Nat → Option Nat} {p tp op : Nat} {i : Insn} {D : Int → DInsn}
    (hdec : ∀ a b rest, decodeOne p (op :: a :: b :: rest) = some (D ((p : Int) + s16 a b), 3))
    (hden : denote1 lp i (D tp) = true) (hf : fitsI16 (offs p tp) = true) :
    Decoded lp p i (op :: i16b (offs p tp)) := by
  have hr := (fitsI16_iff _).mp hf
  refine .single (D tp) (Nat.le_add_left 1 _) (fun rest => ?_) hden
  rw [i16b_eq, List.cons_append, List.cons_append, List.cons_append, List.nil_append, hdec,
    s16_digits _ hr.1 hr.2, offs_add]
  rfl

theorem wide_decoded {lp : Nat → Option Nat} {p tp op : Nat} {i : Insn} {D : Int → DInsn}
    (hdec : ∀ a b c d rest, decodeOne p (op :: a :: b :: c :: d :: rest) = some (D ((p : Int) + s32 a b c d), 5))
    (hden : denote1 lp i (D tp) = true) (hp : p ≤ 65535) (ht : tp ≤ 65535) :
    Decoded lp p i (op :: i32b (offs p tp)) := by
  have hr := offs_range hp ht
  refine .single (D tp) (Nat.le_add_left 1 _) (fun rest => ?_) hden
  rw [i32b_eq, List.cons_append, List.cons_append, List.cons_append, List.cons_append, List.cons_append,
    List.nil_append, hdec, s32_digits _ hr.1 hr.2, offs_add]
  rfl

theorem if_tramp_decoded {lp : Nat → Option Nat} {c : Cond} {p t tp : Nat} (hl : lp t = some tp)
    (hp : p + 3 ≤ 65535) (ht : tp ≤ 65535) :
    Decoded lp p (.ifc c t) (c.opposite.opcode :: (i16b 8 ++ GOTO_W :: i32b (offs (p + 3) tp))) := by
  have hr := offs_range hp ht
  refine .tramp c t (tp : Int) rfl (by simp [i16b_eq, i32b_eq]) (fun rest => ?_) (fun rest => ?_) (lands_self hl)
  · rw [negIf_opposite]
    simp only [i16b_eq, List.cons_append, List.nil_append, decodeOne_if]
    simp [s16]
  · simp only [i16b_eq, i32b_eq, GOTO_W, List.cons_append, List.nil_append, List.drop_succ_cons, List.drop_zero,
      decodeOne_goto_w, s32_digits _ hr.1 hr.2]
    simp [offs]; omega

end CodeWrite
