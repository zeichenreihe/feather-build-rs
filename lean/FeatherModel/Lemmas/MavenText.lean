import FeatherModel.Model.Maven
import FeatherModel.Lemmas.Str
import FeatherModel.Lemmas.Ladder

/-! String lemmas for the printers / parsers of C19: `splitOn`, `rsplitOnce`, `splitOnceAt` on concatenations,
and what the printed scopes contain. -/

namespace Maven

/-- `str::split` is `JavaStr::split` (facts: `Lemmas/Str.lean`) -/
theorem splitOn_eq : splitOn = Descriptor.splitOn := by
  set_option smartUnfolding false in rfl

theorem splitOn_not_mem {c : Nat} {a : List Nat} (h : c ∉ a) : splitOn c a = [a] :=
  splitOn_eq ▸ Descriptor.splitOn_no_sep h

theorem splitOn_append {c : Nat} {a : List Nat} (b : List Nat) (h : c ∉ a) :
    splitOn c (a ++ c :: b) = a :: splitOn c b :=
  splitOn_eq ▸ Descriptor.splitOn_append b h

theorem rsplitOnce_not_mem {c : Nat} {a : List Nat} (h : c ∉ a) : rsplitOnce c a = none := by
  induction a with
  | nil => rfl
  | cons x xs ih =>
    obtain ⟨hx, hxs⟩ := List.ne_and_not_mem_of_not_mem_cons h
    simp only [rsplitOnce, ih hxs, if_neg hx.symm]

theorem rsplitOnce_append {c : Nat} (a : List Nat) {b : List Nat} (h : c ∉ b) :
    rsplitOnce c (a ++ c :: b) = some (a, b) := by
  induction a with
  | nil => simp only [List.nil_append, rsplitOnce, rsplitOnce_not_mem h, if_pos]
  | cons x xs ih => simp only [List.cons_append, rsplitOnce, ih]

theorem splitOnceAt_nil : splitOnceAt [] = none := rfl

theorem splitOnceAt_cons (x : Nat) (xs : List Nat) :
    splitOnceAt (x :: xs) =
      match startsSep (x :: xs) with
      | some rest => some ([], rest)
      | none => (splitOnceAt xs).map (fun p => (x :: p.1, p.2)) := by
  simp only [Option.map_eq_match]
  set_option smartUnfolding false in rfl

theorem splitOnceAt_cons_eq_none {x : Nat} {xs : List Nat} :
    splitOnceAt (x :: xs) = none ↔ startsSep (x :: xs) = none ∧ splitOnceAt xs = none := by
  rw [splitOnceAt_cons]
  cases startsSep (x :: xs) <;> cases splitOnceAt xs <;> simp

theorem startsSep_eq_none (x y z : Nat) (r : List Nat) :
    startsSep (x :: y :: z :: r) = none ↔ ¬ (x = SPACE ∧ y = AT ∧ z = SPACE) :=
  ⟨fun h hc => (nomatch (if_pos hc).symm.trans h), fun h => if_neg h⟩

/-- the hypothesis says that `l` has no `" @ "` and does not end in `" @"` (the separator is found at the first place
it occurs) -/
theorem splitOnceAt_append (l u : List Nat) (h : splitOnceAt (l ++ [SPACE, AT]) = none) :
    splitOnceAt (l ++ SPACE :: AT :: SPACE :: u) = some (l, u) := by
  induction l with
  | nil => rfl
  | cons x xs ih =>
    obtain ⟨hs, hrec⟩ := splitOnceAt_cons_eq_none.mp h
    have hs' : startsSep (x :: (xs ++ SPACE :: AT :: SPACE :: u)) = none := by
      rcases xs with _ | ⟨y, _ | ⟨z, zs⟩⟩
      · -- `x` is followed by `" @ "`: the second character is no `@`
        exact (startsSep_eq_none ..).2 fun hc => absurd hc.2.1 (by decide)
      -- the first three characters are those of `hs`
      · exact (startsSep_eq_none ..).2 ((startsSep_eq_none ..).1 hs)
      · exact (startsSep_eq_none ..).2 ((startsSep_eq_none ..).1 hs)
    rw [List.cons_append, splitOnceAt_cons, hs', ih hrec]
    rfl

theorem splitOnceAt_colon (a b : List Nat) (ha : splitOnceAt a = none) (hb : splitOnceAt b = none) :
    splitOnceAt (a ++ COLON :: b) = none := by
  induction a with
  | nil =>
    -- `:` is no space, so the separator does not start here
    have hs : startsSep (COLON :: b) = none := by
      rcases b with _ | ⟨y, _ | ⟨z, zs⟩⟩
      · rfl
      · rfl
      · exact (startsSep_eq_none ..).2 fun hc => absurd hc.1 (by decide)
    rw [List.nil_append, splitOnceAt_cons, hb, hs]
    rfl
  | cons x xs ih =>
    obtain ⟨hs, hrec⟩ := splitOnceAt_cons_eq_none.mp ha
    refine splitOnceAt_cons_eq_none.mpr ⟨?_, ih hrec⟩
    -- among the first three characters `:` is new; it is neither `@` (second) nor a space (third)
    rcases xs with _ | ⟨y, _ | ⟨z, zs⟩⟩
    · rcases b with _ | ⟨w, ws⟩
      · rfl
      · exact (startsSep_eq_none ..).2 fun hc => absurd hc.2.1 (by decide)
    · exact (startsSep_eq_none ..).2 fun hc => absurd hc.2.2 (by decide)
    · exact (startsSep_eq_none ..).2 ((startsSep_eq_none ..).1 hs)

theorem scope_print_no_colon (s : Scope) : COLON ∉ s.print := by
  cases s <;> decide +kernel

theorem scope_print_sepfree (s : Scope) : splitOnceAt (s.print ++ [SPACE, AT]) = none := by
  cases s <;> decide +kernel

/-- no field of the coordinate contains `:` -/
def Coord.colonFree (c : Coord) : Prop :=
  COLON ∉ c.group ∧ COLON ∉ c.artifact ∧ COLON ∉ c.version ∧ COLON ∉ c.type_ ∧ ∀ k, c.classifier = some k → COLON ∉ k

end Maven
