import FeatherModel.Lemmas.EnigmaOrder
import FeatherModel.Lemmas.InnerNames
import FeatherModel.Lemmas.TinyText

/-!
# C12: physical lines, the `EnigmaLine` tokeniser, and what it sees of the lines written by `write_class`
`lexText (render lines) = lines.filterMap lexLine`, and what `lexLine` makes of the lines the writer produces: keyword
lines made of tokens, `COMMENT` lines, the `#` file headers. `…EL` are the `EnigmaLine`s of a written block; `…_lex` say
that on the Enigma-expressible domain the writer succeeds and that its lines are tokenised into exactly these.
-/

namespace Enigma

/-- a physical line that survives `BufRead::lines` unchanged: no LF inside, no CR at the end -/
def LineOk (l : Text) : Prop := LF ∉ l ∧ l.getLast? ≠ some CR

theorem splitLines_line (l : Text) (h : LF ∉ l) (rest : Text) :
    ∀ cur : Text, splitLines (l ++ LF :: rest) cur = endLine (l.reverse ++ cur) :: splitLines rest [] := by
  induction l with
  | nil => intro cur; simp [splitLines]
  | cons c l ih =>
    intro cur
    have hc : c ≠ LF := fun e => h (by simp [e])
    have hl : LF ∉ l := fun e => h (by simp [e])
    simp only [List.cons_append, splitLines, hc, if_false, ih hl, List.reverse_cons, List.append_assoc,
      List.nil_append]

theorem endLine_reverse (l : Text) (h : l.getLast? ≠ some CR) : endLine l.reverse = l := by
  rcases List.eq_nil_or_concat l with rfl | ⟨l', x, rfl⟩
  · rfl
  · have hx : x ≠ CR := fun e => h (by simp [e])
    simp [endLine, hx]

theorem splitLines_render : ∀ lines : List Text, (∀ l ∈ lines, LineOk l) → splitLines (render lines) [] = lines := by
  intro lines
  induction lines with
  | nil => intro _; simp [render, splitLines]
  | cons l ls ih =>
    intro h
    have hl := h l List.mem_cons_self
    have hr : render (l :: ls) = l ++ LF :: render ls := by simp [render]
    rw [hr, splitLines_line l hl.1, List.append_nil, endLine_reverse l hl.2, ih (fun x hx => h x (List.mem_cons_of_mem _ hx))]

/-- the written lines `ls` are read as the `EnigmaLine`s `els` -/
def Lexes (ls : List Text) (els : List ELine) : Prop := (∀ l ∈ ls, LineOk l) ∧ ls.filterMap lexLine = els

theorem Lexes.nil : Lexes [] [] := ⟨by simp, rfl⟩

theorem Lexes.append {a b : List Text} {x y : List ELine} (h1 : Lexes a x) (h2 : Lexes b y) : Lexes (a ++ b) (x ++ y) :=
  ⟨List.forall_mem_append.mpr ⟨h1.1, h2.1⟩, by rw [List.filterMap_append, h1.2, h2.2]⟩

theorem Lexes.cons {l : Text} {e : ELine} {b : List Text} {y : List ELine}
    (hl : LineOk l) (he : lexLine l = some e) (h2 : Lexes b y) : Lexes (l :: b) (e :: y) :=
  ⟨List.forall_mem_cons.mpr ⟨hl, h2.1⟩, by rw [List.filterMap_cons, he, h2.2]⟩

theorem Lexes.skip {l : Text} {b : List Text} {y : List ELine}
    (hl : LineOk l) (he : lexLine l = none) (h2 : Lexes b y) : Lexes (l :: b) y :=
  ⟨List.forall_mem_cons.mpr ⟨hl, h2.1⟩, by rw [List.filterMap_cons, he, h2.2]⟩

theorem Lexes.flatMap {β : Type} {f : β → List Text} {g : β → List ELine} {l : List β}
    (h : ∀ x ∈ l, Lexes (f x) (g x)) : Lexes (l.flatMap f) (l.flatMap g) := by
  induction l with
  | nil => exact Lexes.nil
  | cons x l ih =>
    rw [List.flatMap_cons, List.flatMap_cons]
    exact (h x List.mem_cons_self).append (ih fun y hy => h y (List.mem_cons_of_mem _ hy))

theorem Lexes.text {ls : List Text} {els : List ELine} (h : Lexes ls els) : lexText (render ls) = els := by
  rw [lexText, splitLines_render ls h.1, h.2]

theorem LineOk.of_forall {l : Text} (h : ∀ c ∈ l, c ≠ LF ∧ c ≠ CR) : LineOk l :=
  ⟨fun hm => (h LF hm).1 rfl, fun hz => (h CR (List.mem_of_getLast? hz)).2 rfl⟩

/- `Enigma.splitOn` cuts at a predicate (`isJavaWs` is six characters), so the facts of `Lemmas/Str.lean` about one
separator do not reach it -/
theorem splitOn_ne_nil (p : Nat → Bool) : ∀ l : Text, splitOn p l ≠ []
  | [] => by simp [splitOn]
  | c :: rest => by
    simp only [splitOn]
    split
    · simp
    · split <;> simp

theorem splitOn_cons_false {p : Nat → Bool} {c : Nat} (hc : p c = false) (rest : Text) :
    ∃ h t, splitOn p rest = h :: t ∧ splitOn p (c :: rest) = (c :: h) :: t := by
  cases hs : splitOn p rest with
  | nil => exact absurd hs (splitOn_ne_nil p rest)
  | cons h t => exact ⟨h, t, rfl, by simp [splitOn, hc, hs]⟩

theorem splitOn_append {p : Nat → Bool} (t : Text) (ht : ∀ c ∈ t, p c = false) {r h : Text} {tl : List Text}
    (hr : splitOn p r = h :: tl) : splitOn p (t ++ r) = (t ++ h) :: tl := by
  induction t with
  | nil => exact hr
  | cons c t ih =>
    simp only [List.cons_append, splitOn, ht c List.mem_cons_self, ih fun x hx => ht x (List.mem_cons_of_mem _ hx)]
    rfl

theorem splitOn_flatten (p : Nat → Bool) (l : Text) : (splitOn p l).flatten = l.filter fun c => !p c := by
  induction l with
  | nil => rfl
  | cons a rest ih =>
    cases ha : p a with
    | true => simp only [splitOn, ha, if_true, List.flatten_cons, List.nil_append, ih, List.filter_cons,
        Bool.not_true, Bool.false_eq_true, if_false]
    | false =>
      obtain ⟨h, t, e1, e2⟩ := splitOn_cons_false ha rest
      rw [e2, List.filter_cons, ha, ← ih, e1]
      rfl

theorem mem_splitOn {p : Nat → Bool} {l x : Text} (hx : x ∈ splitOn p l) : ∀ c ∈ x, c ∈ l ∧ p c = false := by
  intro c hc
  have : c ∈ (splitOn p l).flatten := List.mem_flatten.mpr ⟨x, hx, hc⟩
  rw [splitOn_flatten, List.mem_filter] at this
  exact ⟨this.1, by simpa using this.2⟩

theorem splitOn_cover {p : Nat → Bool} {l : Text} {c : Nat} (hc : c ∈ l) (hp : p c = false) : ∃ x ∈ splitOn p l, c ∈ x := by
  have : c ∈ (splitOn p l).flatten := by
    rw [splitOn_flatten, List.mem_filter]
    exact ⟨hc, by rw [hp]; rfl⟩
  exact List.mem_flatten.mp this

/-- `[String]::join(sep)` in closed form -/
def joinWith (sep : Nat) : List JStr → JStr
  | [] => []
  | t :: ts => t ++ ts.flatMap (sep :: ·)

theorem joinSp_eq : ∀ ts : List JStr, joinSp ts = joinWith SP ts := by
  intro ts
  induction ts with
  | nil => rfl
  | cons x ts ih =>
    cases ts with
    | nil => simp [joinSp, joinWith]
    | cons y rest => simp only [joinSp, ih, joinWith, List.flatMap_cons, List.cons_append]

theorem joinWith_splitOn (sep : Nat) (p : Nat → Bool) : ∀ l : Text, (∀ c ∈ l, p c = true → c = sep) →
    joinWith sep (splitOn p l) = l := by
  intro l
  induction l with
  | nil => intro _; simp [splitOn, joinWith]
  | cons a rest ih =>
    intro h
    have ih := ih (fun c hc => h c (List.mem_cons_of_mem _ hc))
    by_cases ha : p a = true
    · have : a = sep := h a List.mem_cons_self ha
      subst this
      cases hs : splitOn p rest with
      | nil => exact absurd hs (splitOn_ne_nil p rest)
      | cons x xs =>
        rw [hs] at ih
        simp only [splitOn, ha, if_true, hs]
        simp only [joinWith, List.flatMap_cons, List.nil_append, List.cons_append] at ih ⊢
        rw [ih]
    · have ha' : p a = false := by simpa using ha
      obtain ⟨x, xs, e1, e2⟩ := splitOn_cons_false ha' rest
      rw [e2, ← ih, e1]
      simp [joinWith]

theorem splitOn_joinWith {sep : Nat} {p : Nat → Bool} (hsp : p sep = true) (t : JStr) (ts : List JStr)
    (h : ∀ x ∈ t :: ts, ∀ c ∈ x, p c = false) : splitOn p (joinWith sep (t :: ts)) = t :: ts := by
  induction ts generalizing t with
  | nil => simpa [joinWith] using splitOn_append t (h t List.mem_cons_self) (r := []) rfl
  | cons u us ih =>
    have e' : joinWith sep (t :: u :: us) = t ++ sep :: joinWith sep (u :: us) := by
      simp [joinWith]
    rw [e', splitOn_append t (h t List.mem_cons_self) (by rw [splitOn, if_pos hsp]), List.append_nil,
      ih u (fun x hx => h x (List.mem_cons_of_mem _ hx))]

/-- a token: not empty, no `White_Space`, no `#` -/
def Tok (s : JStr) : Prop := s ≠ [] ∧ ∀ c ∈ s, isWhite c = false ∧ c ≠ HASH

theorem tokOk_tok {s : JStr} (h : tokOk s = true) : Tok s := by
  simp only [tokOk, Bool.and_eq_true, bne_iff_ne, ne_eq, List.all_eq_true,
    Bool.not_eq_eq_eq_not, Bool.not_true] at h
  exact ⟨h.1, fun c hc => (h.2 c hc).1⟩

theorem tokOk_noSurrogate {s : JStr} (h : tokOk s = true) : disp s = some s := by
  simp only [tokOk, Bool.and_eq_true, List.all_eq_true, Bool.not_eq_true'] at h
  have : s.any isSurrogate = false := by
    rw [List.any_eq_false]
    intro c hc
    simpa using (h.2 c hc).2
  simp [disp, this]

theorem isJavaWs_SP : isJavaWs SP = true := by decide
theorem isWhite_TAB : isWhite TAB = true := by decide

theorem ne_of_not_isWhite {c : Nat} (h : isWhite c = false) : c ≠ LF ∧ c ≠ CR := by
  refine ⟨?_, ?_⟩ <;> rintro rfl <;> exact absurd h (by decide)

theorem Tok.noWs {s : JStr} (h : Tok s) : ∀ c ∈ s, isJavaWs c = false := by
  intro c hc
  cases hj : isJavaWs c with
  | false => rfl
  | true =>
    simp only [isJavaWs, Bool.or_eq_true, beq_iff_eq] at hj
    rcases hj with ((((rfl | rfl) | rfl) | rfl) | rfl) | rfl <;> exact absurd (h.2 _ hc).1 (by decide)

theorem Tok.suffix {s p i : JStr} {x : Nat} (h : Tok s) (e : s = p ++ x :: i) (hi : i ≠ []) : Tok i :=
  ⟨hi, fun c hc => h.2 c (by rw [e]; simp [hc])⟩

theorem getLast?_append_ne_nil {a b : Text} (hb : b ≠ []) : (a ++ b).getLast? = b.getLast? := by
  rw [List.getLast?_append]
  cases h : b.getLast? with
  | none => exact absurd (List.getLast?_eq_none_iff.mp h) hb
  | some z => rfl

/-- the body of a keyword line: keyword and tokens joined by single spaces -/
def lineBody (kw : JStr) (toks : List JStr) : Text := joinWith SP (kw :: toks)

theorem lineBody_spec (kw : JStr) (toks : List JStr) (h : ∀ x ∈ kw :: toks, Tok x) :
    (∀ c ∈ lineBody kw toks, c ≠ HASH ∧ (c = SP ∨ isWhite c = false)) ∧ lineBody kw toks ≠ [] ∧
    (∀ c, (lineBody kw toks).head? = some c → isWhite c = false) ∧
    (∀ c, (lineBody kw toks).getLast? = some c → isWhite c = false) := by
  have e : lineBody kw toks = kw ++ toks.flatMap (SP :: ·) := rfl
  obtain ⟨hne, hk⟩ := h kw List.mem_cons_self
  refine ⟨fun c hc => ?_, by simp [e, hne], fun c hc => ?_, fun c hc => ?_⟩
  · simp only [e, List.mem_append, List.mem_flatMap, List.mem_cons] at hc
    obtain hc | ⟨t, ht, rfl | hc⟩ := hc
    · exact ⟨(hk c hc).2, .inr (hk c hc).1⟩
    · exact ⟨by decide, .inl rfl⟩
    · have := (h t (List.mem_cons_of_mem _ ht)).2 c hc
      exact ⟨this.2, .inr this.1⟩
  · obtain ⟨a, r, rfl⟩ := List.exists_cons_of_ne_nil hne
    exact Option.some.inj (α := Nat) hc ▸ (hk a List.mem_cons_self).1
  · obtain rfl | ⟨ts, t, rfl⟩ := List.eq_nil_or_concat toks
    · rw [e, List.flatMap_nil, List.append_nil] at hc
      exact (hk c (List.mem_of_getLast? hc)).1
    · have ht := h t (by simp)
      rw [e, List.concat_eq_append, List.flatMap_append, ← List.append_assoc, List.flatMap_singleton,
        getLast?_append_ne_nil (by simp), List.getLast?_cons_of_ne_nil ht.1] at hc
      exact (ht.2 c (List.mem_of_getLast? hc)).1
theorem trim_of_ends (l : Text) (h1 : ∀ c, l.head? = some c → isWhite c = false)
    (h2 : ∀ c, l.getLast? = some c → isWhite c = false) : trim l = l := by
  have e1 : l.dropWhile isWhite = l := by
    cases l with
    | nil => rfl
    | cons a l => exact List.dropWhile_cons_of_neg (by simp [h1 a rfl])
  have e2 : l.reverse.dropWhile isWhite = l.reverse := by
    rcases List.eq_nil_or_concat l with rfl | ⟨l', x, rfl⟩
    · rfl
    · rw [List.concat_eq_append, List.reverse_append]
      exact List.dropWhile_cons_of_neg (by simp [h2 x (by simp)])
  rw [trim, e1, e2, List.reverse_reverse]

theorem mem_tabs {n c : Nat} (h : c ∈ tabs n) : c = TAB := List.eq_of_mem_replicate h

theorem lexLine_tabs (n : Nat) (body : Text) (h : body.head? ≠ some TAB) :
    lexLine (tabs n ++ body) = lexBody n body := by
  have e : (tabs n).length = n := List.length_replicate
  rw [lexLine, tabs, Tiny.takeWhile_replicate_append TAB n body h, ← tabs, e, List.drop_left' e]

theorem lexLine_tokens (n : Nat) (kw : JStr) (toks : List JStr) (hkw : Tok kw)
    (hnc : kwCOMMENT.isPrefixOf (lineBody kw toks) = false) (ht : ∀ t ∈ toks, Tok t) :
    LineOk (tabs n ++ lineBody kw toks) ∧
    lexLine (tabs n ++ lineBody kw toks) = some { idents := n, first := kw, fields := toks } := by
  have hall : ∀ x ∈ kw :: toks, Tok x := List.forall_mem_cons.mpr ⟨hkw, ht⟩
  obtain ⟨hmem, hne, hhead, hlast⟩ := lineBody_spec kw toks hall
  refine ⟨LineOk.of_forall fun c hc => ?_, ?_⟩
  · rcases List.mem_append.mp hc with hc | hc
    · rw [mem_tabs hc]; decide
    · rcases (hmem c hc).2 with rfl | hw
      · decide
      · exact ne_of_not_isWhite hw
  · rw [lexLine_tabs n _ fun e => Bool.false_ne_true ((hhead _ e).symm.trans isWhite_TAB)]
    unfold lexBody
    simp only [hnc, Bool.false_eq_true, if_false]
    have hnh := List.takeWhile_append_of_pos (p := (· != HASH)) (l₂ := []) fun c hc => by simpa using (hmem c hc).1
    rw [List.append_nil, List.takeWhile_nil, List.append_nil] at hnh
    rw [hnh, trim_of_ends _ hhead hlast]
    simp only [hne, if_false]
    rw [lineBody, splitOn_joinWith isJavaWs_SP kw toks (fun x hx => (hall x hx).noWs)]

/-- the characters a javadoc line may contain: space is the only Java whitespace (no TAB, LF, VT, FF, CR) -/
def DocLine (l : Text) : Prop := ∀ c ∈ l, c ≠ 9 ∧ c ≠ 10 ∧ c ≠ 11 ∧ c ≠ 12 ∧ c ≠ 13

theorem DocLine.ws {l : Text} (h : DocLine l) : ∀ c ∈ l, isJavaWs c = true → c = SP := by
  intro c hc hw
  obtain ⟨h9, h10, h11, h12, h13⟩ := h c hc
  simp only [isJavaWs, Bool.or_eq_true, beq_iff_eq] at hw
  rcases hw with ((((hw | hw) | hw) | hw) | hw) | hw
  · exact hw
  all_goals contradiction

theorem lexLine_comment (n : Nat) (l : Text) (h : DocLine l) :
    LineOk (tabs n ++ kwCOMMENT ++ SP :: l) ∧
    lexLine (tabs n ++ kwCOMMENT ++ SP :: l) = some { idents := n, first := kwCOMMENT, fields := splitOn isJavaWs l } := by
  refine ⟨LineOk.of_forall fun c hc => ?_, ?_⟩
  · simp only [List.mem_append, List.mem_cons] at hc
    rcases hc with (hc | hc) | rfl | hc
    · rw [mem_tabs hc]; decide
    · exact (by decide : ∀ c ∈ kwCOMMENT, c ≠ LF ∧ c ≠ CR) c hc
    · decide
    · exact ⟨(h c hc).2.1, (h c hc).2.2.2.2⟩
  · rw [List.append_assoc, lexLine_tabs n (kwCOMMENT ++ SP :: l) nofun]
    rfl

theorem lexLine_header1 : LineOk [HASH] ∧ lexLine [HASH] = none := by
  refine ⟨⟨by decide, by decide⟩, by decide⟩

theorem lexLine_header2 (fname : JStr) (h : Tok fname) :
    LineOk (HASH :: SP :: fname) ∧ lexLine (HASH :: SP :: fname) = none := by
  refine ⟨LineOk.of_forall fun c hc => ?_, rfl⟩
  simp only [List.mem_cons] at hc
  rcases hc with rfl | rfl | hc
  · decide
  · decide
  · exact ne_of_not_isWhite (h.2 c hc).1

set_option smartUnfolding false in
/-- `Display for usize` is modelled by the same digit loop in `Model/Tiny.lean` (facts: `Lemmas/TinyText.lean`) -/
theorem decDigits_eq : decDigits = Tiny.digitsAux := rfl

theorem natToDec_digits (n : Nat) : natToDec n ≠ [] ∧ ∀ c ∈ natToDec n, ∃ k < 10, c = 48 + k := by
  rw [natToDec, decDigits_eq]
  refine ⟨Tiny.natDigits_ne_nil n, fun c hc => ?_⟩
  obtain ⟨h1, h2⟩ := Tiny.natDigits_digits n c hc
  exact ⟨c - 48, by omega, by omega⟩

theorem natToDec_tok (n : Nat) : Tok (natToDec n) := by
  obtain ⟨h1, h2⟩ := natToDec_digits n
  refine ⟨h1, fun c hc => ?_⟩
  obtain ⟨k, hk, rfl⟩ := h2 c hc
  exact (by decide : ∀ k < 10, isWhite (48 + k) = false ∧ 48 + k ≠ HASH) k hk

theorem parseDigits_digits : ∀ (l : List Nat) (acc : Nat), (∀ c ∈ l, 48 ≤ c ∧ c ≤ 57) →
    parseDigits l acc = some (l.foldl (fun a c => a * 10 + (c - 48)) acc)
  | [], _, _ => rfl
  | c :: l, acc, h => by
    rw [parseDigits, if_pos (h c List.mem_cons_self), parseDigits_digits l _ fun x hx => h x (List.mem_cons_of_mem _ hx),
      List.foldl_cons]

/-- `usize::from_str` reads back what `Display for usize` wrote -/
theorem parseUsize_natToDec (n : Nat) (h : n < 18446744073709551616) : parseUsize (natToDec n) = some n := by
  obtain ⟨h1, h2⟩ := natToDec_digits n
  have hp : parseDigits (natToDec n) 0 = some n := by
    rw [natToDec, decDigits_eq]
    exact (parseDigits_digits _ 0 (Tiny.natDigits_digits n)).trans (congrArg some (Tiny.natDigits_value n))
  unfold parseUsize
  split
  · rename_i rest hr
    obtain ⟨k, _, e⟩ := h2 43 (hr ▸ List.mem_cons_self)
    omega
  · simp only [h1, if_false, hp, h, if_true]

def commentEL (n : Nat) : Option JStr → List ELine
  | none => []
  | some d => (splitOn (· == LF) d).map fun l => { idents := n, first := kwCOMMENT, fields := splitOn isJavaWs l }

def paramEL (n : Nat) : List (Nat × Param) → List ELine
  | [] => []
  | e :: rest =>
    { idents := n, first := kwARG, fields := [natToDec e.2.index, (dstOf e.2.names).getD []] } ::
      commentEL (n + 1) e.2.doc ++ paramEL n rest

def fieldEL (n : Nat) : List (MemberKey × Field) → List ELine
  | [] => []
  | e :: rest =>
    { idents := n, first := kwFIELD, fields := e.1.1 :: (dstOf e.2.names).toList ++ [e.1.2] } ::
      commentEL (n + 1) e.2.doc ++ fieldEL n rest

/-- the target name of a method as written: `<init>` is left out -/
def methodDst (m : Method) : Option JStr :=
  match dstOf m.names with
  | some d => if d = kwINIT then none else some d
  | none => none

def methodEL (n : Nat) : List (MemberKey × Method) → List ELine
  | [] => []
  | e :: rest =>
    { idents := n, first := kwMETHOD, fields := e.1.1 :: (methodDst e.2).toList ++ [e.1.2] } ::
      commentEL (n + 1) e.2.doc ++ paramEL (n + 1) (isort paramLe e.2.params) ++ methodEL n rest

def classEL (key : JStr) (c : Class) (n : Nat) : List ELine :=
  { idents := n, first := kwCLASS,
    fields := shortName (n != 0) key :: ((dstOf c.names).map (shortName (n != 0))).toList } ::
    commentEL (n + 1) c.doc ++ fieldEL (n + 1) (isort fieldLe c.fields) ++ methodEL (n + 1) (isort methodLe c.methods)

/-- the `EnigmaLine`s of `write_one_tree_starting_at` -/
def treeEL (classes : AList JStr Class) : Nat → JStr → Class → Nat → List ELine
  | 0, _, _, _ => []
  | fuel + 1, key, c, d =>
    classEL key c d ++ (childrenOf classes key).flatMap fun e => treeEL classes fuel e.1 e.2 (d + 1)

theorem commentEL_block (n : Nat) (d : Option JStr) : ∀ l ∈ commentEL n d, l.idents = n ∧ l.first = kwCOMMENT := by
  cases d with
  | none => intro l hl; simp [commentEL] at hl
  | some d =>
    intro l hl
    simp only [commentEL, List.mem_map] at hl
    obtain ⟨x, _, rfl⟩ := hl
    exact ⟨rfl, rfl⟩

theorem dstOf_pair (a b : Option JStr) : dstOf [a, b] = b := by
  simp [dstOf]

theorem optAll_of {p : JStr → Bool} {o : Option JStr} (h : ∀ d, o = some d → p d = true) : optAll p o = true := by
  cases o with
  | none => rfl
  | some d => exact h d rfl

theorem docOk_docLine {d : JStr} (h : docOk (some d) = true) {l : Text} (hl : l ∈ splitOn (· == LF) d) : DocLine l := by
  intro c hc
  obtain ⟨h1, h2⟩ := mem_splitOn hl c hc
  simp only [docOk, List.all_eq_true, Bool.and_eq_true, bne_iff_ne, ne_eq] at h
  have := h c h1
  have h2' : c ≠ 10 := by simpa [LF] using h2
  exact ⟨this.1.1.1, h2', this.1.1.2, this.1.2, this.2⟩

theorem paramOk_spec {e : Nat × Param} (h : paramOk e = true) :
    ∃ d, e.2.names = [none, some d] ∧ e.1 = e.2.index ∧ e.2.index < 18446744073709551616 ∧ docOk e.2.doc = true ∧
      tokOk d = true ∧ validUnq d = true := by
  unfold paramOk at h
  split at h
  · rename_i d hn
    simp only [Bool.and_eq_true, beq_iff_eq, decide_eq_true_eq, and_assoc] at h
    exact ⟨d, hn, h⟩
  · simp at h

theorem paramOk_index {e : Nat × Param} (h : paramOk e = true) : e.1 = e.2.index :=
  let ⟨_, _, hi, _⟩ := paramOk_spec h; hi

theorem fieldOk_spec {e : MemberKey × Field} (h : fieldOk e = true) :
    ∃ dst, e.2.names = [some e.1.1, dst] ∧ e.2.desc = e.1.2 ∧ tokOk e.1.2 = true ∧ docOk e.2.doc = true ∧
      tokOk e.1.1 = true ∧ validUnq e.1.1 = true ∧
      ∀ d, dst = some d → tokOk d = true ∧ validUnq d = true ∧ isModifier e.1.2 = false := by
  obtain ⟨⟨name, desc⟩, f⟩ := e
  unfold fieldOk at h
  split at h
  · rename_i n dst hn
    simp only [Bool.and_eq_true, beq_iff_eq, and_assoc] at h
    obtain ⟨rfl, h2, h3, rfl, h6, h7, h8⟩ := h
    refine ⟨dst, hn, rfl, h2, h3, h6, h7, ?_⟩
    rintro d rfl
    simpa only [optAll, Bool.and_eq_true, Bool.not_eq_true', and_assoc] using h8
  · simp at h

theorem methodOk_spec {e : MemberKey × Method} (h : methodOk e = true) :
    ∃ dst, e.2.names = [some e.1.1, dst] ∧ e.2.desc = e.1.2 ∧ tokOk e.1.2 = true ∧ docOk e.2.doc = true ∧
      tokOk e.1.1 = true ∧ validMethodName e.1.1 = true ∧
      (∀ d, dst = some d → d = kwINIT ∨ (tokOk d = true ∧ validMethodName d = true ∧ isModifier e.1.2 = false)) ∧
      (∀ p ∈ e.2.params, paramOk p = true) ∧ (e.2.params.map Prod.fst).Nodup := by
  obtain ⟨⟨name, desc⟩, m⟩ := e
  unfold methodOk at h
  split at h
  · rename_i n dst hn
    simp only [Bool.and_eq_true, beq_iff_eq, and_assoc, List.all_eq_true, nodupB_iff] at h
    obtain ⟨rfl, h2, h3, rfl, h6, h7, h8, h9⟩ := h
    refine ⟨dst, hn, rfl, h2, h3, h6, h7, ?_, h9⟩
    rintro d rfl
    simpa only [optAll, Bool.or_eq_true, beq_iff_eq, Bool.and_eq_true, Bool.not_eq_true', and_assoc] using h8
  · simp at h

theorem methodOk_dst {e : MemberKey × Method} (h : methodOk e = true) {d : JStr} (hd : methodDst e.2 = some d) :
    tokOk d = true ∧ validMethodName d = true ∧ isModifier e.1.2 = false := by
  obtain ⟨dst, hn, _, _, _, _, _, hdst, _⟩ := methodOk_spec h
  rw [methodDst, hn, dstOf_pair] at hd
  split at hd
  · split at hd
    · simp at hd
    · rename_i hne
      obtain rfl := Option.some.inj hd
      exact (hdst _ rfl).resolve_left hne
  · simp at hd

theorem methodOk_params {e : MemberKey × Method} (h : methodOk e = true) :
    (∀ p ∈ e.2.params, paramOk p = true) ∧ (e.2.params.map Prod.fst).Nodup :=
  let ⟨_, _, _, _, _, _, _, _, hp⟩ := methodOk_spec h; hp

theorem classOk_spec {classes : AList JStr Class} {e : JStr × Class} (h : classOk classes e = true) :
    ∃ dst, e.2.names = [some e.1, dst] ∧ docOk e.2.doc = true ∧ tokOk e.1 = true ∧ validObjClass e.1 = true ∧
      classDstOk classes e.1 dst = true ∧ (∀ f ∈ e.2.fields, fieldOk f = true) ∧ (e.2.fields.map Prod.fst).Nodup ∧
      (∀ m ∈ e.2.methods, methodOk m = true) ∧ (e.2.methods.map Prod.fst).Nodup := by
  obtain ⟨key, c⟩ := e
  unfold classOk at h
  split at h
  · rename_i n dst hn
    simp only [Bool.and_eq_true, beq_iff_eq, and_assoc, List.all_eq_true, nodupB_iff] at h
    obtain ⟨h1, rfl, h⟩ := h
    exact ⟨dst, hn, h1, h⟩
  · simp at h

theorem classOk_members {classes : AList JStr Class} {e : JStr × Class} (h : classOk classes e = true) :
    (∀ f ∈ e.2.fields, fieldOk f = true) ∧ (e.2.fields.map Prod.fst).Nodup ∧
      (∀ m ∈ e.2.methods, methodOk m = true) ∧ (e.2.methods.map Prod.fst).Nodup :=
  let ⟨_, _, _, _, _, _, hm⟩ := classOk_spec h; hm

theorem classDstOk_spec {classes : AList JStr Class} {key d : JStr} (h : classDstOk classes key (some d) = true) :
    tokOk d = true ∧ validObjClass d = true ∧
      (parentInSet classes key = none → isModifier d = false) ∧
      (∀ p, parentInSet classes key = some p → ∃ pc di, AList.lookup p classes = some pc ∧
        InnerNames.split d = some (fileNameOf p pc, di) ∧ isModifier di = false) := by
  simp only [classDstOk, Bool.and_eq_true, and_assoc] at h
  obtain ⟨h1, h2, h3⟩ := h
  refine ⟨h1, h2, fun hp => ?_, fun p hp => ?_⟩
  · simpa [hp] using h3
  · rw [hp] at h3
    simp only at h3
    split at h3
    · rename_i pc dp di hl hsp
      simp only [Bool.and_eq_true, beq_iff_eq, Bool.not_eq_true'] at h3
      exact ⟨pc, di, hl, by rw [hsp, h3.1], h3.2⟩
    · simp at h3

theorem classOk_doc {classes : AList JStr Class} {e : JStr × Class} (h : classOk classes e = true) : docOk e.2.doc = true :=
  let ⟨_, _, hd, _⟩ := classOk_spec h; hd

theorem classOk_dst_tok {classes : AList JStr Class} {e : JStr × Class} (h : classOk classes e = true) :
    tokOk e.1 = true ∧ validObjClass e.1 = true ∧ ∀ d, dstOf e.2.names = some d → tokOk d = true ∧ validObjClass d = true := by
  obtain ⟨dst, hn, _, hk, hv, hdo, _⟩ := classOk_spec h
  refine ⟨hk, hv, fun d hd => ?_⟩
  rw [hn, dstOf_pair] at hd
  subst hd
  exact ⟨(classDstOk_spec hdo).1, (classDstOk_spec hdo).2.1⟩

theorem classOk_fileName {classes : AList JStr Class} {e : JStr × Class} (h : classOk classes e = true) :
    tokOk (fileNameOf e.1 e.2) = true ∧ validObjClass (fileNameOf e.1 e.2) = true := by
  obtain ⟨hk, hv, hd⟩ := classOk_dst_tok h
  unfold fileNameOf
  cases hdd : dstOf e.2.names with
  | none => exact ⟨hk, hv⟩
  | some d => exact hd d hdd

theorem writableB_spec {m : Mappings} (h : writableB m = true) :
    (∀ e ∈ m.classes, classOk m.classes e = true) ∧ (m.classes.map Prod.fst).Nodup ∧ (rootFileNames m.classes).Nodup := by
  simp only [writableB, Bool.and_eq_true] at h
  exact ⟨List.all_eq_true.mp h.1.1, (nodupB_iff _).mp h.1.2, (nodupB_iff _).mp h.2⟩

theorem keyword_line {kw : JStr} (h : kw ∈ [kwCLASS, kwFIELD, kwMETHOD, kwARG]) :
    Tok kw ∧ ∀ toks, kwCOMMENT.isPrefixOf (lineBody kw toks) = false := by
  simp only [List.mem_cons, List.not_mem_nil, or_false] at h
  rcases h with rfl | rfl | rfl | rfl <;> exact ⟨⟨by decide, by decide⟩, fun _ => rfl⟩

theorem tok_CLASS : Tok kwCLASS := (keyword_line (by decide)).1
theorem tok_FIELD : Tok kwFIELD := (keyword_line (by decide)).1
theorem tok_METHOD : Tok kwMETHOD := (keyword_line (by decide)).1
theorem tok_ARG : Tok kwARG := (keyword_line (by decide)).1

theorem notComment_CLASS (toks : List JStr) : kwCOMMENT.isPrefixOf (lineBody kwCLASS toks) = false :=
  (keyword_line (by decide)).2 toks
theorem notComment_FIELD (toks : List JStr) : kwCOMMENT.isPrefixOf (lineBody kwFIELD toks) = false :=
  (keyword_line (by decide)).2 toks
theorem notComment_METHOD (toks : List JStr) : kwCOMMENT.isPrefixOf (lineBody kwMETHOD toks) = false :=
  (keyword_line (by decide)).2 toks
theorem notComment_ARG (toks : List JStr) : kwCOMMENT.isPrefixOf (lineBody kwARG toks) = false :=
  (keyword_line (by decide)).2 toks

theorem commentLines_lex (n : Nat) : ∀ d : Option JStr, docOk d = true → Lexes (commentLines n d) (commentEL n d)
  | none, _ => Lexes.nil
  | some d, h => by
    simp only [commentLines, commentEL, List.map_eq_flatMap]
    refine Lexes.flatMap fun p hp => ?_
    obtain ⟨h1, h2⟩ := lexLine_comment n p (docOk_docLine h hp)
    exact Lexes.cons h1 h2 Lexes.nil

theorem joinSp_splitOn {l : Text} (h : DocLine l) : joinSp (splitOn isJavaWs l) = l := by
  rw [joinSp_eq, joinWith_splitOn SP isJavaWs l h.ws]

theorem foldl_commentEL (n : Nat) (d : Option JStr) (h : docOk d = true) :
    (commentEL n d).foldl insertComment none = d := by
  cases d with
  | none => rfl
  | some d =>
    have gen : ∀ (ps : List Text) (acc : JStr), (∀ p ∈ ps, DocLine p) →
        (ps.map fun l => ({ idents := n, first := kwCOMMENT, fields := splitOn isJavaWs l } : ELine)).foldl insertComment (some acc) =
          some (joinWith LF (acc :: ps)) := by
      intro ps
      induction ps with
      | nil => intro acc _; simp [joinWith]
      | cons p ps ih =>
        intro acc hp
        simp only [List.map_cons, List.foldl_cons, insertComment, joinSp_splitOn (hp p List.mem_cons_self)]
        rw [ih _ (fun q hq => hp q (List.mem_cons_of_mem _ hq))]
        simp [joinWith]
    have hj := joinWith_splitOn LF (· == LF) d (fun c _ hc => by simpa using hc)
    simp only [commentEL]
    cases hs : splitOn (· == LF) d with
    | nil => exact absurd hs (splitOn_ne_nil _ d)
    | cons p ps =>
      have hdl : ∀ q ∈ p :: ps, DocLine q := fun q hq => docOk_docLine h (by rw [hs]; exact hq)
      simp only [List.map_cons, List.foldl_cons, insertComment, joinSp_splitOn (hdl p List.mem_cons_self)]
      rw [gen ps p (fun q hq => hdl q (List.mem_cons_of_mem _ hq)), ← hs, hj]

theorem Lexes.kwLine {n : Nat} {kw : JStr} {toks : List JStr} {l : Text} {b : List Text} {y : List ELine}
    (hkw : kw ∈ [kwCLASS, kwFIELD, kwMETHOD, kwARG]) (hl : l = tabs n ++ lineBody kw toks) (ht : ∀ t ∈ toks, Tok t)
    (h : Lexes b y) : Lexes (l :: b) ({ idents := n, first := kw, fields := toks } :: y) :=
  have hx := lexLine_tokens n kw toks (keyword_line hkw).1 ((keyword_line hkw).2 toks) ht
  hl ▸ Lexes.cons hx.1 hx.2 h

theorem paramLines_lex (n : Nat) (ps : List (Nat × Param)) (h : ∀ e ∈ ps, paramOk e = true) :
    ∃ ls, paramLines n ps = some ls ∧ Lexes ls (paramEL n ps) := by
  induction ps with
  | nil => exact ⟨[], rfl, Lexes.nil⟩
  | cons e rest ih =>
    obtain ⟨i, p⟩ := e
    obtain ⟨ls', e', l'⟩ := ih (fun e he => h e (List.mem_cons_of_mem _ he))
    obtain ⟨d, hn, _, _, hdoc, htok, _⟩ := paramOk_spec (h (i, p) List.mem_cons_self)
    have hd : dstOf p.names = some d := by rw [hn, dstOf_pair]
    refine ⟨_, by simp only [paramLines, hd, tokOk_noSurrogate htok, e']; rfl, ?_⟩
    simp only [paramEL, hd, Option.getD_some]
    exact Lexes.kwLine (by decide) (by simp [lineBody, joinWith]) (by simp [natToDec_tok, tokOk_tok htok])
      ((commentLines_lex (n + 1) p.doc hdoc).append l')

theorem optTok_spec {o : Option JStr} (h : ∀ d, o = some d → tokOk d = true) :
    optTok o = some (o.toList.flatMap (SP :: ·)) := by
  cases o with
  | none => rfl
  | some d => simp [optTok, tokOk_noSurrogate (h d rfl)]

theorem tok_member {name desc : JStr} {dst : Option JStr} (hn : tokOk name = true)
    (hd : ∀ d, dst = some d → tokOk d = true) (hde : tokOk desc = true) : ∀ t ∈ name :: dst.toList ++ [desc], Tok t := by
  intro t ht
  simp only [List.mem_cons, List.mem_append, Option.mem_toList, List.not_mem_nil, or_false] at ht
  rcases ht with (rfl | ht) | rfl
  · exact tokOk_tok hn
  · exact tokOk_tok (hd t ht)
  · exact tokOk_tok hde

theorem fieldLines_lex (n : Nat) (fs : List (MemberKey × Field)) (h : ∀ e ∈ fs, fieldOk e = true) :
    ∃ ls, fieldLines n fs = some ls ∧ Lexes ls (fieldEL n fs) := by
  induction fs with
  | nil => exact ⟨[], rfl, Lexes.nil⟩
  | cons e rest ih =>
    obtain ⟨⟨name, desc⟩, f⟩ := e
    obtain ⟨ls', e', l'⟩ := ih (fun e he => h e (List.mem_cons_of_mem _ he))
    obtain ⟨dst, hn, _, htd, hdoc, htn, _, hdst⟩ := fieldOk_spec (h ((name, desc), f) List.mem_cons_self)
    have hd : dstOf f.names = dst := by rw [hn, dstOf_pair]
    have ho := optTok_spec (o := dst) (fun d hd => (hdst d hd).1)
    refine ⟨_, by simp only [fieldLines, hd, ho, tokOk_noSurrogate htn, tokOk_noSurrogate htd, e']; rfl, ?_⟩
    simp only [fieldEL, hd]
    exact Lexes.kwLine (by decide) (by simp [lineBody, joinWith]) (tok_member htn (fun d hd => (hdst d hd).1) htd)
      ((commentLines_lex (n + 1) f.doc hdoc).append l')

/-- the model's equation with `methodDst` for the match on the target name that `methodLines` writes out inline, so
that facts about `methodDst` rewrite the line -/
theorem methodLines_cons_eq (n : Nat) (name desc : JStr) (m : Method) (rest : List (MemberKey × Method)) :
    methodLines n (((name, desc), m) :: rest) =
      match disp name, optTok (methodDst m), disp desc, paramLines (n + 1) (isort paramLe m.params), methodLines n rest with
      | some name, some dst, some desc, some ps, some more =>
        some ((tabs n ++ kwMETHOD ++ SP :: name ++ dst ++ SP :: desc) :: commentLines (n + 1) m.doc ++ ps ++ more)
      | _, _, _, _, _ => none := rfl

theorem methodLines_lex (n : Nat) (ms : List (MemberKey × Method)) (h : ∀ e ∈ ms, methodOk e = true) :
    ∃ ls, methodLines n ms = some ls ∧ Lexes ls (methodEL n ms) := by
  induction ms with
  | nil => exact ⟨[], rfl, Lexes.nil⟩
  | cons e rest ih =>
    obtain ⟨⟨name, desc⟩, m⟩ := e
    obtain ⟨ls', e', l'⟩ := ih (fun e he => h e (List.mem_cons_of_mem _ he))
    have hm := h ((name, desc), m) List.mem_cons_self
    obtain ⟨_, _, _, htd, hdoc, htn, _, _, hps, _⟩ := methodOk_spec hm
    have hdst : ∀ d, methodDst m = some d → tokOk d = true := fun d hd => (methodOk_dst hm hd).1
    obtain ⟨pl, pe, plx⟩ := paramLines_lex (n + 1) (isort paramLe m.params) (mem_isort_all hps)
    have ho := optTok_spec hdst
    refine ⟨_, by rw [methodLines_cons_eq]; simp only [ho, tokOk_noSurrogate htn, tokOk_noSurrogate htd, e', pe]; rfl, ?_⟩
    simp only [methodEL]
    exact Lexes.kwLine (by decide) (by simp [lineBody, joinWith]) (tok_member htn hdst htd)
      (((commentLines_lex (n + 1) m.doc hdoc).append plx).append l')

theorem tokOk_shortName (b : Bool) {s : JStr} (h : tokOk s = true) : tokOk (shortName b s) = true := by
  unfold shortName
  cases b with
  | false => simpa using h
  | true =>
    simp only [if_true]
    cases hs : InnerNames.split s with
    | none => exact h
    | some pi =>
      obtain ⟨p, i⟩ := pi
      obtain ⟨e, _, _, hi, _⟩ := InnerNames.split_some hs
      simp only [tokOk, Bool.and_eq_true, bne_iff_ne, ne_eq] at h ⊢
      refine ⟨hi, ?_⟩
      have := h.2
      rw [e, List.all_append, List.all_cons] at this
      simp only [Bool.and_eq_true] at this
      exact this.2.2

theorem classLines_lex (key : JStr) (c : Class) (n : Nat) (hk : tokOk key = true)
    (hd : ∀ d, dstOf c.names = some d → tokOk d = true) (hdoc : docOk c.doc = true)
    (hf : ∀ e ∈ c.fields, fieldOk e = true) (hm : ∀ e ∈ c.methods, methodOk e = true) :
    ∃ ls, classLines key c n = some ls ∧ Lexes ls (classEL key c n) := by
  obtain ⟨fl, fe, flx⟩ := fieldLines_lex (n + 1) (isort fieldLe c.fields) (mem_isort_all hf)
  obtain ⟨ml, me, mlx⟩ := methodLines_lex (n + 1) (isort methodLe c.methods) (mem_isort_all hm)
  have hks := tokOk_shortName (n != 0) hk
  have hds : ∀ d, (dstOf c.names).map (shortName (n != 0)) = some d → tokOk d = true := by
    intro d hdd
    obtain ⟨x, hx, rfl⟩ := Option.map_eq_some_iff.mp hdd
    exact tokOk_shortName _ (hd x hx)
  have ho := optTok_spec hds
  refine ⟨_, by simp only [classLines, ho, tokOk_noSurrogate hks, fe, me]; rfl, ?_⟩
  simp only [classEL]
  refine Lexes.kwLine (by decide) (by simp [lineBody, joinWith]) ?_ (((commentLines_lex (n + 1) c.doc hdoc).append flx).append mlx)
  intro t ht
  simp only [List.mem_cons, Option.mem_toList] at ht
  rcases ht with rfl | ht
  · exact tokOk_tok hks
  · exact tokOk_tok (hds t ht)

end Enigma
