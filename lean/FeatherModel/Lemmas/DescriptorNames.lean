import FeatherModel.Spec.DescriptorGrammar
import FeatherModel.Lemmas.Str

/-! The name predicates of `Model/Descriptor.lean` are the declarative ones of `Spec/DescriptorGrammar.lean`;
`get_simple_name`. -/

namespace Descriptor
open DescriptorGrammar

theorem validUnqualified_iff (s : JStr) : validUnqualified s = true ↔ Ident s := by
  simp only [validUnqualified, Ident, Bool.and_eq_true, Bool.not_eq_true', List.isEmpty_eq_false_iff, List.all_eq_true,
    Bool.or_eq_false_iff, beq_eq_false_iff_ne, ne_eq, and_assoc]

theorem validMethod_iff (s : JStr) : validMethod s = true ↔ MethodIdent s := by
  simp only [validMethod, MethodIdent, Bool.or_eq_true, beq_iff_eq, Bool.and_eq_true, Bool.not_eq_true',
    List.isEmpty_eq_false_iff, List.all_eq_true, Bool.or_eq_false_iff, beq_eq_false_iff_ne, ne_eq, and_assoc, or_assoc]

theorem Ident_no_slash {i : JStr} (h : Ident i) : SLASH ∉ i := fun hm => (h.2 _ hm).2.2.2 rfl

theorem ClassName_ne_nil {s : JStr} (h : ClassName s) : s ≠ [] := by
  cases h with
  | one hi => exact hi.1
  | cons hi _ =>
    intro e
    have := List.append_eq_nil_iff.mp e
    simp at this

theorem ClassName_not_mem {c : Nat} (hc : c ≠ SLASH) (hi : ∀ i, Ident i → c ∉ i) {s : JStr} (h : ClassName s) :
    c ∉ s := by
  induction h with
  | one h => exact hi _ h
  | cons h _ ih =>
    simp only [List.mem_append, List.mem_cons, not_or]
    exact ⟨hi _ h, hc, ih⟩

theorem ClassName_no_semi {s : JStr} (h : ClassName s) : SEMI ∉ s :=
  ClassName_not_mem (by decide) (fun _ hi hm => (hi.2 _ hm).2.1 rfl) h

theorem ClassName_no_bracket {s : JStr} (h : ClassName s) : LBRACKET ∉ s :=
  ClassName_not_mem (by decide) (fun _ hi hm => (hi.2 _ hm).2.2.1 rfl) h

theorem ClassName_getLast {s : JStr} (h : ClassName s) : s.getLast? ≠ some SLASH := by
  induction h with
  | one h => exact fun e => Ident_no_slash h (List.mem_of_getLast? e)
  | cons h hr ih =>
    rename_i a rest
    obtain ⟨x, xs, rfl⟩ := List.exists_cons_of_ne_nil (ClassName_ne_nil hr)
    rw [List.getLast?_append, List.getLast?_cons_cons]
    cases hl : (x :: xs).getLast? with
    | none => simp at hl
    | some y =>
      rw [hl] at ih
      simpa using ih

theorem ClassName_startsWithBracket {s : JStr} (h : ClassName s) : startsWithBracket s = false := by
  have hb := ClassName_no_bracket h
  cases s with
  | nil => rfl
  | cons x xs =>
    simp only [List.mem_cons, not_or] at hb
    simp only [startsWithBracket, List.head?_cons, beq_eq_false_iff_ne, ne_eq, Option.some.injEq]
    exact fun e => hb.1 e.symm

theorem startsWithBracket_iff (s : JStr) : startsWithBracket s = true ↔ s.head? = some LBRACKET := by
  simp [startsWithBracket]

theorem startsWithBracket_replicate {n : Nat} (h : n ≠ 0) (s : JStr) :
    startsWithBracket (List.replicate n LBRACKET ++ s) = true := by
  obtain ⟨n, rfl⟩ := Nat.exists_eq_add_one_of_ne_zero h
  rfl

theorem segs_of_ClassName {s : JStr} (h : ClassName s) : (splitOn SLASH s).all validUnqualified = true := by
  induction h with
  | one hi =>
    rw [splitOn_no_sep (Ident_no_slash hi)]
    simp [(validUnqualified_iff _).mpr hi]
  | cons hi _ ih =>
    rw [splitOn_append _ (Ident_no_slash hi)]
    simp only [List.all_cons, Bool.and_eq_true]
    exact ⟨(validUnqualified_iff _).mpr hi, ih⟩

theorem ClassName_of_segs (s : JStr) (h : (splitOn SLASH s).all validUnqualified = true) : ClassName s := by
  by_cases hs : SLASH ∈ s
  · obtain ⟨i, rest, e, hi⟩ := List.eq_append_cons_of_mem hs
    have : rest.length < s.length := by
      rw [e, List.length_append, List.length_cons]
      omega
    rw [e, splitOn_append _ hi] at h
    simp only [List.all_cons, Bool.and_eq_true] at h
    rw [e]
    exact ClassName.cons ((validUnqualified_iff _).mp h.1) (ClassName_of_segs rest h.2)
  · rw [splitOn_no_sep hs] at h
    simp only [List.all_cons, List.all_nil, Bool.and_true] at h
    exact ClassName.one ((validUnqualified_iff _).mp h)
termination_by s.length

theorem segs_iff_ClassName (s : JStr) : (splitOn SLASH s).all validUnqualified = true ↔ ClassName s :=
  ⟨ClassName_of_segs s, segs_of_ClassName⟩

theorem validObj_iff (s : JStr) : validObj s = true ↔ ClassName s := by
  unfold validObj
  simp only [Bool.and_eq_true, Bool.not_eq_true']
  constructor
  · intro ⟨_, h⟩; exact (segs_iff_ClassName s).mp h
  · intro h
    exact ⟨ClassName_startsWithBracket h, segs_of_ClassName h⟩

/-- class names = `/`-joined identifiers (the form used in the property text) -/
theorem ClassName_iff_joined (s : JStr) :
    ClassName s ↔ ∃ parts : List JStr, parts ≠ [] ∧ (∀ p ∈ parts, Ident p) ∧ s = [SLASH].intercalate parts := by
  constructor
  · intro h
    induction h with
    | one hi => exact ⟨[_], by simp, by simpa using hi, by simp [List.intercalate]⟩
    | cons hi _ ih =>
      obtain ⟨parts, hne, hall, hs⟩ := ih
      rename_i i rest _
      refine ⟨i :: parts, by simp, ?_, ?_⟩
      · intro p hp
        rcases List.mem_cons.mp hp with rfl | hp
        · exact hi
        · exact hall p hp
      · cases parts with
        | nil => exact absurd rfl hne
        | cons q qs =>
          rw [hs]
          simp [List.intercalate, List.intersperse]
  · intro ⟨parts, hne, hall, hs⟩
    subst hs
    induction parts with
    | nil => exact absurd rfl hne
    | cons p ps ih =>
      cases ps with
      | nil =>
        have : [SLASH].intercalate [p] = p := by simp [List.intercalate]
        rw [this]
        exact ClassName.one (hall p (by simp))
      | cons q qs =>
        have : [SLASH].intercalate (p :: q :: qs) = p ++ SLASH :: [SLASH].intercalate (q :: qs) := by
          simp [List.intercalate, List.intersperse]
        rw [this]
        exact ClassName.cons (hall p (by simp)) (ih (by simp) (fun x hx => hall x (List.mem_cons_of_mem _ hx)))

/-! ## joining two class names with a character identifiers may contain gives a class name (the `// SAFETY:` comment of
`from_inner_class` in class.rs, where the character is `$`) -/

theorem Ident_append_sep {c : Nat} (hc : c ≠ DOT ∧ c ≠ SEMI ∧ c ≠ LBRACKET ∧ c ≠ SLASH) {a b : JStr} (ha : Ident a)
    (hb : Ident b) : Ident (a ++ c :: b) := by
  refine ⟨by simp, ?_⟩
  intro x hx
  simp only [List.mem_append, List.mem_cons] at hx
  rcases hx with hx | rfl | hx
  · exact ha.2 x hx
  · exact hc
  · exact hb.2 x hx

theorem ClassName_join_ident {c : Nat} (hc : c ≠ DOT ∧ c ≠ SEMI ∧ c ≠ LBRACKET ∧ c ≠ SLASH) {a i : JStr} (ha : Ident a)
    (hi : ClassName i) : ClassName (a ++ c :: i) := by
  cases hi with
  | one h => exact ClassName.one (Ident_append_sep hc ha h)
  | cons h hr =>
    rename_i i0 rest
    have : a ++ c :: (i0 ++ SLASH :: rest) = (a ++ c :: i0) ++ SLASH :: rest := by simp
    rw [this]
    exact ClassName.cons (Ident_append_sep hc ha h) hr

theorem ClassName_join {c : Nat} (hc : c ≠ DOT ∧ c ≠ SEMI ∧ c ≠ LBRACKET ∧ c ≠ SLASH) {p i : JStr} (hp : ClassName p)
    (hi : ClassName i) : ClassName (p ++ c :: i) := by
  induction hp with
  | one h => exact ClassName_join_ident hc h hi
  | cons h _ ih =>
    rename_i i0 rest _
    have : (i0 ++ SLASH :: rest) ++ c :: i = i0 ++ SLASH :: (rest ++ c :: i) := by simp
    rw [this]
    exact ClassName.cons h ih

theorem simpleName_no_slash : ∀ (s : JStr), SLASH ∉ s → simpleName s = s := by
  intro s h
  cases s with
  | nil => rfl
  | cons x xs =>
    have h1 : SLASH ∉ xs := fun m => h (List.mem_cons_of_mem _ m)
    have h2 : x ≠ SLASH := fun e => h (by rw [e]; exact List.mem_cons_self)
    simp only [simpleName, h1, if_false, h2]

theorem simpleName_after_last : ∀ (p q : JStr), SLASH ∉ q → simpleName (p ++ SLASH :: q) = q := by
  intro p
  induction p with
  | nil =>
    intro q h
    simp only [List.nil_append, simpleName, h, if_false, if_true]
  | cons x xs ih =>
    intro q h
    have : SLASH ∈ xs ++ SLASH :: q := by simp
    simp only [List.cons_append, simpleName, this, if_true]
    exact ih q h

end Descriptor
