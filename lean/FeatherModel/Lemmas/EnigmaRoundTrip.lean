import FeatherModel.Lemmas.EnigmaRead
import FeatherModel.Lemmas.EnigmaWrite

/-!
# C12: write, then read — the stream form and the directory form
-/

namespace Enigma

/-- the classes of the trees of a list of `file_map` entries, in the order in which the reader adds them (per tree in
post-order: nested classes before the class that contains them), each in canonical form -/
def postOf (m : Mappings) (fm : List (JStr × (JStr × Class))) : AList JStr Class :=
  (fm.flatMap fun x => postRaw m.classes (treeFuel m.classes) x.2.1 x.2.2).map canonE

theorem canonClasses_eq (cs : AList JStr Class) : canonClasses cs = cs.map canonE := rfl

theorem postOf_eq (m : Mappings) (fm : List (JStr × (JStr × Class))) :
    postOf m fm = ((fm.map Prod.snd).flatMap fun e => postRaw m.classes (treeFuel m.classes) e.1 e.2).map canonE := by
  rw [postOf, List.flatMap_map]

theorem postOf_cons (m : Mappings) (x : JStr × (JStr × Class)) (fm : List (JStr × (JStr × Class))) :
    postOf m (x :: fm) = postOf m [x] ++ postOf m fm := by
  simp [postOf]

/-- whatever the order of the files, the classes read back are the classes of the set (in canonical form) -/
theorem postOf_perm {m : Mappings} (hnd : (m.classes.map Prod.fst).Nodup) (fm : List (JStr × (JStr × Class)))
    (hfm : (fm.map Prod.snd).Perm (rootsOf m.classes)) : (postOf m fm).Perm (canonClasses m.classes) := by
  rw [postOf_eq, canonClasses_eq]
  exact (forest_perm hnd _ hfm).map canonE

theorem postOf_keys_nodup {m : Mappings} (hnd : (m.classes.map Prod.fst).Nodup) (fm : List (JStr × (JStr × Class)))
    (hfm : (fm.map Prod.snd).Perm (rootsOf m.classes)) : ((postOf m fm).map Prod.fst).Nodup := by
  have := (postOf_perm hnd fm hfm).map Prod.fst
  rw [canonClasses_eq, canonE_fst] at this
  exact this.nodup_iff.mpr hnd

theorem readClasses_eq (t : Text) (cs : AList JStr Class) :
    readClasses t cs = (run (lexText t) ⟨cs, [], .idle⟩).bind finish := by
  unfold readClasses
  cases run (lexText t) ⟨cs, [], .idle⟩ <;> rfl

theorem readEL_roots {m : Mappings} (hok : ∀ e ∈ m.classes, classOk m.classes e = true)
    (hnd : (m.classes.map Prod.fst).Nodup) (fm : List (JStr × (JStr × Class)))
    (hn : fm.map Prod.snd ⊆ rootsOf m.classes) (cs : AList JStr Class)
    (hfresh : (cs.map Prod.fst ++ (postOf m fm).map Prod.fst).Nodup) :
    (run (fm.flatMap fun x => treeEL m.classes (treeFuel m.classes) x.2.1 x.2.2 0) ⟨cs, [], .idle⟩).bind finish =
      some (cs ++ postOf m fm) := by
  rw [postOf_eq, canonE_fst] at hfresh
  obtain ⟨s', hr, hs'⟩ := run_forest m.classes (treeFuel m.classes) (treeRun m.classes hok hnd _) [] (fm.map Prod.snd)
    (fun e he => mem_rootsOf.mp (hn he)) cs hfresh ⟨cs, [], .idle⟩ (Settle.of_depth rfl)
  simp only [List.length_nil, List.flatMap_map] at hr hs'
  rw [hr, Option.bind_some, finish, hs'.2]
  rfl

theorem readClasses_writeAll {m : Mappings} (h : writableB m = true) :
    ∃ t, writeAll m = some t ∧ readClasses t [] = some (postOf m (fileEntries m)) := by
  obtain ⟨hok, hnd, _⟩ := writableB_spec h
  obtain ⟨ls, hw, lx⟩ := writeAll_lex h
  refine ⟨render ls, hw, ?_⟩
  rw [readClasses_eq, lx.text]
  exact readEL_roots hok hnd (fileEntries m) (fileEntries_snd_perm m).subset []
    (postOf_keys_nodup hnd _ (fileEntries_snd_perm m))

theorem readFiles_spec {m : Mappings} (hok : ∀ e ∈ m.classes, classOk m.classes e = true)
    (hnd : (m.classes.map Prod.fst).Nodup) : ∀ (fm : List (JStr × (JStr × Class))),
    fm.map Prod.snd ⊆ rootsOf m.classes → ∀ cs : AList JStr Class,
    (cs.map Prod.fst ++ (postOf m fm).map Prod.fst).Nodup →
    readFiles (fm.map (fileOf m)) cs = some (cs ++ postOf m fm) := by
  intro fm
  induction fm with
  | nil => intro _ cs _; simp [readFiles, postOf]
  | cons x fm ih =>
    intro hx cs hfresh
    rw [postOf_cons m x fm, List.map_append, ← List.append_assoc] at hfresh
    obtain ⟨ls, hl, lx⟩ := fileTree_lex hok (mem_rootsOf.mp (hx List.mem_cons_self)).1
    have h1 : readClasses (treeText m x.2) cs = some (cs ++ postOf m [x]) := by
      rw [readClasses_eq, treeText, hl, Option.getD_some, lx.text]
      simpa using readEL_roots hok hnd [x] (by simpa using hx List.mem_cons_self) cs (List.nodup_append.mp hfresh).1
    simp only [List.map_cons, readFiles, fileOf, h1]
    rw [postOf_cons m x fm, ← List.append_assoc]
    exact ih (fun y hy => hx (List.mem_cons_of_mem _ hy)) _ (by rw [List.map_append]; exact hfresh)

/-- the order in which `enigma_dir::read` visits the written files (sorted walk) -/
def dirEntries (m : Mappings) : List (JStr × (JStr × Class)) :=
  isort (fun a b => pathLe (fileOf m a) (fileOf m b)) (fileEntries m)

theorem dirEntries_perm (m : Mappings) : (dirEntries m).Perm (fileEntries m) := isort_perm _ _

theorem dirEntries_snd_perm (m : Mappings) : ((dirEntries m).map Prod.snd).Perm (rootsOf m.classes) :=
  ((dirEntries_perm m).map Prod.snd).trans (fileEntries_snd_perm m)

theorem dirRoundTrip_spec {m : Mappings} (h : writableB m = true) :
    dirRoundTrip m = some { emptyLike m with classes := postOf m (dirEntries m) } := by
  obtain ⟨hok, hnd, _⟩ := writableB_spec h
  have := readFiles_spec hok hnd (dirEntries m) (dirEntries_snd_perm m).subset []
    (postOf_keys_nodup hnd _ (dirEntries_snd_perm m))
  simp only [dirRoundTrip, files_spec h, isort_map (fileOf m) (fun _ _ => rfl) (fileEntries m) ▸ this, List.nil_append]

theorem lookup_of_perm_canon {cs : AList JStr Class} (hnd : (cs.map Prod.fst).Nodup) {r : AList JStr Class}
    (hp : r.Perm (canonClasses cs)) (k : JStr) : AList.lookup k r = (AList.lookup k cs).map canonClass := by
  have hnd' : ((canonClasses cs).map Prod.fst).Nodup := by rw [canonClasses_eq, canonE_fst]; exact hnd
  have hndr : (r.map Prod.fst).Nodup := (hp.map Prod.fst).nodup_iff.mpr hnd'
  rw [lookup_perm hndr hp k]
  exact AList.lookup_mapVals canonClass cs k

end Enigma
