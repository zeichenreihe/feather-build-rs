import FeatherModel.Lemmas.DiffApply

/-!
# `diff` then `apply` (C04)
`zip_map` key by key and its composition with `apply_diff_map`; the parameter, field, method and class level (two
namespaces, target namespace 1); whole mapping sets and the Boolean content equality the driver evaluates; when `diff`
succeeds.
-/

namespace DiffModel
open AList

/-- two optional entries are both absent or both present and related -/
def OptRel {T : Type} (R : T → T → Prop) : Option T → Option T → Prop
  | .none, .none => True
  | some x, some y => R x y
  | _, _ => False

theorem optRel_refl {T : Type} {R : T → T → Prop} (h : ∀ t, R t t) (o : Option T) : OptRel R o o := by
  cases o with
  | none => trivial
  | some x => exact h x

theorem optRel_trans {T : Type} {R : T → T → Prop} (h : ∀ a b c, R a b → R b c → R a c) {x y z : Option T}
    (h1 : OptRel R x y) (h2 : OptRel R y z) : OptRel R x z := by
  cases y with
  | none =>
    cases x with
    | none => exact h2
    | some _ => exact h1.elim
  | some _ =>
    cases x with
    | none => exact h1.elim
    | some _ =>
      cases z with
      | none => exact h2.elim
      | some _ => exact h _ _ _ h1 h2

theorem optRel_eq_iff {T : Type} {x y : Option T} : OptRel (fun a b => a = b) x y ↔ x = y := by
  cases x <;> cases y <;> simp [OptRel]

section zip
variable {K V W : Type} [BEq K] [LawfulBEq K]

omit [BEq K] [LawfulBEq K] in
theorem mapKeysM_eq (g : K → Option W) (ks : List K) : mapKeysM g ks = collect g ks := by
  induction ks with
  | nil => rfl
  | cons k rest ih =>
    simp only [collect_cons, ← ih, Option.bind_eq_match, Option.map_eq_match]
    set_option smartUnfolding false in rfl

omit [BEq K] [LawfulBEq K] in
theorem mapKeysM_eq_none_iff {g : K → Option W} {ks : List K} :
    mapKeysM g ks = none ↔ ∃ k, k ∈ ks ∧ g k = none := by
  rw [mapKeysM_eq, collect_none_iff]

omit [BEq K] [LawfulBEq K] in
theorem mapKeysM_none {g : K → Option W} : ∀ {ks : List K}, mapKeysM g ks = none → ∃ k, k ∈ ks ∧ g k = none :=
  mapKeysM_eq_none_iff.mp

theorem mem_zipKeys {a b : AList K V} {k : K} :
    k ∈ zipKeys a b ↔ lookup k a ≠ none ∨ lookup k b ≠ none := by
  unfold zipKeys
  simp only [contains_eq_keys_contains, List.mem_append_filter_not, Ne, lookup_none_iff, Classical.not_not]

theorem nodup_zipKeys {a b : AList K V} (ha : NoDup a) (hb : NoDup b) : (zipKeys a b).Nodup := by
  unfold zipKeys
  simp only [contains_eq_keys_contains]
  exact List.nodup_append_filter_not ha hb

theorem zipMap_spec {f : Option V → Option V → Option W} {a b : AList K V} {r : AList K W}
    (ha : NoDup a) (hb : NoDup b) (h : zipMap f a b = some r) :
    NoDup r ∧ ∀ k, (lookup k a = none ∧ lookup k b = none ∧ lookup k r = none) ∨
      ∃ w, lookup k r = some w ∧ f (lookup k a) (lookup k b) = some w := by
  rw [zipMap, mapKeysM_eq] at h
  have hk := collect_keys h
  refine ⟨noDup_iff_keys.mpr (hk ▸ nodup_zipKeys ha hb), fun k => ?_⟩
  have hl := collect_lookup h k
  by_cases hm : k ∈ zipKeys a b
  · rw [if_pos hm] at hl
    cases hw : lookup k r with
    | none => exact absurd (hk ▸ hm) (lookup_none_iff.mp hw)
    | some w => exact .inr ⟨w, rfl, hl ▸ hw⟩
  · rw [if_neg hm] at hl
    rw [mem_zipKeys, not_or, Classical.not_not, Classical.not_not] at hm
    exact .inl ⟨hm.1, hm.2, hl⟩

theorem zipMap_eq_none_iff {f : Option V → Option V → Option W} {a b : AList K V} :
    zipMap f a b = none ↔
      ∃ k, (lookup k a ≠ none ∨ lookup k b ≠ none) ∧ f (lookup k a) (lookup k b) = none := by
  unfold zipMap
  rw [mapKeysM_eq_none_iff]
  constructor
  · rintro ⟨k, hk, hf⟩; exact ⟨k, mem_zipKeys.mp hk, hf⟩
  · rintro ⟨k, hk, hf⟩; exact ⟨k, mem_zipKeys.mpr hk, hf⟩

theorem all_lookup_iff {a : AList K V} (ha : NoDup a) (nm : V → Bool) :
    (∀ k, (lookup k a).all nm = true) ↔ ∀ e ∈ a, nm e.2 = true := by
  constructor
  · intro h e he
    have := h e.1
    rwa [lookup_of_mem_nodup ha he] at this
  · intro h k
    cases hl : lookup k a with
    | none => rfl
    | some x => exact h (k, x) (lookup_mem hl)

/-- `P` is what the combiner needs to know of an entry (unique keys below it) -/
theorem zipMap_isSome {f : Option V → Option V → Option W} {nm : V → Bool} {P : V → Prop} {a b : AList K V}
    (ha : NoDup a) (hb : NoDup b) (pa : ∀ e ∈ a, P e.2) (pb : ∀ e ∈ b, P e.2)
    (H : ∀ x y : Option V, (∀ v ∈ x, P v) → (∀ v ∈ y, P v) → (x ≠ none ∨ y ≠ none) →
      (f x y).isSome = (x.all nm && y.all nm)) :
    (zipMap f a b).isSome = ((a.all fun e => nm e.2) && (b.all fun e => nm e.2)) := by
  rw [Bool.eq_iff_iff, Bool.and_eq_true, List.all_eq_true, List.all_eq_true, ← all_lookup_iff ha, ← all_lookup_iff hb,
    ← forall_and, Option.isSome_iff_ne_none, Ne, zipMap_eq_none_iff, not_exists]
  refine forall_congr' fun k => ?_
  by_cases hk : lookup k a ≠ none ∨ lookup k b ≠ none
  · rw [← Bool.and_eq_true, ← H _ _ (fun v hv => pa (k, v) (lookup_mem hv)) (fun v hv => pb (k, v) (lookup_mem hv)) hk,
      Option.isSome_iff_ne_none]
    exact ⟨fun h hn => h ⟨hk, hn⟩, fun h hn => h hn.2⟩
  · refine iff_of_true (fun h => hk h.1) ?_
    rw [not_or, Classical.not_not, Classical.not_not] at hk
    rw [hk.1, hk.2]
    exact ⟨rfl, rfl⟩
end zip

section compose
variable {K D T : Type} [BEq K] [LawfulBEq K]

/-- **zip then apply**: if the per-entry diff followed by the table reproduces the `b` entry under a key `b` has, and
removes the entry under a key only `a` has, then the map diff followed by the map application reproduces `b` key by key -/
theorem diff_apply_map (ops : Ops K D T) (ns N : Nat) (child : D → T → Option T)
    (dfn : Option T → Option T → Option D) (R : T → T → Prop)
    {a b : AList K T} {dm : AList K D} (hna : NoDup a) (hnb : NoDup b)
    (hIn : ∀ k tb d, lookup k b = some tb → dfn (lookup k a) (some tb) = some d →
      ∃ t', applySpec ops ns N child k (some d) (lookup k a) = some (some t') ∧ R t' tb)
    (hOut : ∀ k d, lookup k b = none → dfn (lookup k a) none = some d →
      applySpec ops ns N child k (some d) (lookup k a) = some none)
    (hz : zipMap dfn a b = some dm) :
    ∃ res, applyMap ops ns N child dm a = some res ∧ ∀ k, OptRel R (lookup k res) (lookup k b) := by
  obtain ⟨hnd, hzk⟩ := zipMap_spec hna hnb hz
  refine applyMap_of_forall ops ns N child hnd hna (P := fun k o => OptRel R o (lookup k b)) fun k => ?_
  rcases hzk k with ⟨hla, hlb, hdm⟩ | ⟨d, hdm, hd⟩
  · rw [hdm, hla, hlb]
    exact ⟨none, rfl, trivial⟩
  · rw [hdm]
    cases hlb : lookup k b with
    | none => exact ⟨none, hOut k d hlb (hlb ▸ hd), trivial⟩
    | some tb =>
      obtain ⟨t', ht', hr⟩ := hIn k tb d hlb (hlb ▸ hd)
      exact ⟨some t', ht', hr⟩

end compose

theorem len2 {α : Type} {l : List α} (h : l.length = 2) : ∃ x y, l = [x, y] := by
  match l, h with
  | [x, y], _ => exact ⟨x, y, rfl⟩

theorem applyOption_fromTuple (a b : Option JStr) : applyOption (Action.fromTuple a b) a = some b := by
  cases a <;> cases b <;> simp [Action.fromTuple, applyOption]

theorem flat_some {α : Type} (x : Option α) : flat (some x) = x := by cases x <;> rfl

theorem genDiffDoc_AB (a b : Option JStr) : applyOption (genDiffDoc (some a) (some b)) a = some b := by
  unfold genDiffDoc; rw [flat_some, flat_some]; exact applyOption_fromTuple a b

theorem genDiffDoc_B (b : Option JStr) : applyOption (genDiffDoc none (some b)) none = some b := by
  unfold genDiffDoc; rw [flat_some]; exact applyOption_fromTuple none b

theorem nameAt_zero {l : Names} {n : Nat} (h : l.length = n + 1) : some (nameAt l 0) = l[0]? := by
  cases l with
  | nil => cases h
  | cons x _ => cases x <;> rfl

/-! `diffParam` … `diffClass` as bind chains, proved the way `Lemmas/Ladder.lean` describes. -/

theorem diffParam_eq (a b : Option Param) :
    diffParam a b = (genDiffNames (a.map Param.names) (b.map Param.names)).map fun info =>
      { info := info, doc := genDiffDoc (a.map Param.doc) (b.map Param.doc) } := by
  rw [Option.map_eq_match]
  set_option smartUnfolding false in rfl

theorem diffField_eq (a b : Option Field) :
    diffField a b = (genDiffNames (a.map Field.names) (b.map Field.names)).map fun info =>
      { info := info, doc := genDiffDoc (a.map Field.doc) (b.map Field.doc) } := by
  rw [Option.map_eq_match]
  set_option smartUnfolding false in rfl

theorem diffMethod_eq (a b : Option Method) :
    diffMethod a b = (genDiffNames (a.map Method.names) (b.map Method.names)).bind fun info =>
      (zipMap diffParam (kids a Method.params) (kids b Method.params)).map fun ps =>
        { info := info, doc := genDiffDoc (a.map Method.doc) (b.map Method.doc), params := ps } := by
  simp only [Option.bind_eq_match, Option.map_eq_match]
  set_option smartUnfolding false in rfl

theorem diffClass_eq (a b : Option Class) :
    diffClass a b = (genDiffNames (a.map Class.names) (b.map Class.names)).bind fun info =>
      (zipMap diffField (kids a Class.fields) (kids b Class.fields)).bind fun fs =>
        (zipMap diffMethod (kids a Class.methods) (kids b Class.methods)).map fun ms =>
          { info := info, doc := genDiffDoc (a.map Class.doc) (b.map Class.doc), fields := fs, methods := ms } := by
  simp only [Option.bind_eq_match, Option.map_eq_match]
  set_option smartUnfolding false in rfl

theorem diffParam_some {a b : Option Param} {d : PDiff} (h : diffParam a b = some d) :
    genDiffNames (a.map Param.names) (b.map Param.names) = some d.info ∧
      d.doc = genDiffDoc (a.map Param.doc) (b.map Param.doc) := by
  simp only [diffParam_eq, Option.map_eq_some_iff] at h
  obtain ⟨info, hg, rfl⟩ := h
  exact ⟨hg, rfl⟩

theorem diffField_some {a b : Option Field} {d : FDiff} (h : diffField a b = some d) :
    genDiffNames (a.map Field.names) (b.map Field.names) = some d.info ∧
      d.doc = genDiffDoc (a.map Field.doc) (b.map Field.doc) := by
  simp only [diffField_eq, Option.map_eq_some_iff] at h
  obtain ⟨info, hg, rfl⟩ := h
  exact ⟨hg, rfl⟩

theorem diffMethod_some {a b : Option Method} {d : MDiff} (h : diffMethod a b = some d) :
    genDiffNames (a.map Method.names) (b.map Method.names) = some d.info ∧
      d.doc = genDiffDoc (a.map Method.doc) (b.map Method.doc) ∧
      zipMap diffParam (kids a Method.params) (kids b Method.params) = some d.params := by
  simp only [diffMethod_eq, Option.bind_eq_some_iff, Option.map_eq_some_iff] at h
  obtain ⟨info, hg, ps, hz, rfl⟩ := h
  exact ⟨hg, rfl, hz⟩

theorem diffClass_some {a b : Option Class} {d : CDiff} (h : diffClass a b = some d) :
    genDiffNames (a.map Class.names) (b.map Class.names) = some d.info ∧
      d.doc = genDiffDoc (a.map Class.doc) (b.map Class.doc) ∧
      zipMap diffField (kids a Class.fields) (kids b Class.fields) = some d.fields ∧
      zipMap diffMethod (kids a Class.methods) (kids b Class.methods) = some d.methods := by
  simp only [diffClass_eq, Option.bind_eq_some_iff, Option.map_eq_some_iff] at h
  obtain ⟨info, hg, fs, hzf, ms, hzm, rfl⟩ := h
  exact ⟨hg, rfl, hzf, hzm⟩

theorem diff_eq (a b : Mappings) :
    diff a b = if a.ns.length = 2 ∧ a.ns = b.ns then
      (zipMap diffClass a.classes b.classes).map fun cs =>
        { info := .none, doc := genDiffDoc (some a.doc) (some b.doc), classes := cs }
    else none := by
  unfold diff
  by_cases h : a.ns.length = 2 ∧ a.ns = b.ns
  · rw [if_pos h, if_neg (by simp [← h.2, h.1]), if_neg (not_not_intro h.2)]
    cases zipMap diffClass a.classes b.classes <;> rfl
  · rw [if_neg h]
    split
    · rfl
    · next hl =>
      rw [not_or, Classical.not_not, Classical.not_not] at hl
      exact if_pos fun he => h ⟨hl.1, he⟩

section cases
variable {K D T : Type} (ops : Ops K D T) (child : D → T → Option T) {k : K} {d : D}

theorem applySpec_edit {t : T} {nb : Names} (la : (ops.names t).length = 2) (lb : nb.length = 2)
    (h0 : nb[0]? = (ops.names t)[0]?) (hg : genDiffNames (some (ops.names t)) (some nb) = some (ops.action d)) :
    applySpec ops 1 2 child k (some d) (some t) = (child d (ops.setNames t nb)).map some := by
  obtain ⟨x0, x1, hx⟩ := len2 la
  obtain ⟨y0, y1, rfl⟩ := len2 lb
  rw [hx] at h0 hg
  cases h0
  cases x1 with
  | none => cases hg
  | some a1 =>
    cases y1 with
    | none => cases hg
    | some b1 =>
      injection hg with hact
      simp [applySpec, ← hact, hx]

theorem applySpec_add {nb : Names} {x0 : Option JStr} (hk : ops.names (ops.fromKey 2 k) = [x0, none])
    (lb : nb.length = 2) (h0 : nb[0]? = some x0) (hg : genDiffNames none (some nb) = some (ops.action d)) :
    applySpec ops 1 2 child k (some d) none = (child d (ops.setNames (ops.fromKey 2 k) nb)).map some := by
  obtain ⟨y0, y1, rfl⟩ := len2 lb
  cases h0
  cases y1 with
  | none => cases hg
  | some b1 =>
    injection hg with hact
    simp [applySpec, ← hact, hk]

theorem applySpec_remove {oa : Option T} (la : ∀ t ∈ oa, (ops.names t).length = 2)
    (hg : genDiffNames (oa.map ops.names) none = some (ops.action d)) :
    applySpec ops 1 2 child k (some d) oa = some none := by
  cases oa with
  | none => cases hg
  | some t =>
    obtain ⟨x0, x1, hx⟩ := len2 (la t rfl)
    rw [Option.map_some, hx] at hg
    cases x1 with
    | none => cases hg
    | some a1 =>
      injection hg with hact
      simp [applySpec, ← hact, hx]

end cases

/-! A key `b` has, level by level: the diff of the `a` entry (if there is one) against the `b` entry, applied by the table
to the `a` entry, gives the `b` entry, up to the order of its children. A key only `a` has needs no lemma per level:
`applySpec_remove`. -/

theorem diffParam_apply {k : Nat} {oa : Option Param} {pb : Param} {d : PDiff} (wa : ∀ pa ∈ oa, Param.WF 2 k pa)
    (wb : Param.WF 2 k pb)
    (h0 : pb.names[0]? = some (match oa with
      | some pa => nameAt pa.names 0
      | none => none))
    (hd : diffParam oa (some pb) = some d) :
    applySpec paramOps 1 2 applyParam k (some d) oa = some (some pb) := by
  obtain ⟨hg, hdoc⟩ := diffParam_some hd
  cases oa with
  | none =>
    rw [applySpec_add paramOps applyParam rfl wb.2 h0 hg]
    simp only [paramOps, applyParam_eq, hdoc, Option.map_some, Option.map_none, genDiffDoc_B]
    cases pb
    cases wb.1
    rfl
  | some pa =>
    have wa := wa pa rfl
    rw [applySpec_edit paramOps applyParam wa.2 wb.2 (h0.trans (nameAt_zero (n := 1) wa.2)) hg]
    simp only [paramOps, applyParam_eq, hdoc, Option.map_some, genDiffDoc_AB]
    cases pa; cases pb
    cases wa.1; cases wb.1
    rfl

theorem diffField_apply {k : MemberKey} {oa : Option Field} {fb : Field} {d : FDiff} (wa : ∀ fa ∈ oa, Field.WF 2 k fa)
    (wb : Field.WF 2 k fb) (hd : diffField oa (some fb) = some d) :
    applySpec fieldOps 1 2 applyField k (some d) oa = some (some fb) := by
  obtain ⟨hg, hdoc⟩ := diffField_some hd
  cases oa with
  | none =>
    rw [applySpec_add fieldOps applyField rfl wb.2.1 wb.2.2 hg]
    simp only [fieldOps, applyField_eq, hdoc, Option.map_some, Option.map_none, genDiffDoc_B]
    cases fb
    cases wb.1
    rfl
  | some fa =>
    have wa := wa fa rfl
    rw [applySpec_edit fieldOps applyField wa.2.1 wb.2.1 (wb.2.2.trans wa.2.2.symm) hg]
    simp only [fieldOps, applyField_eq, hdoc, Option.map_some, genDiffDoc_AB]
    cases fa; cases fb
    cases wa.1; cases wb.1
    rfl

/-- same descriptor, names and comment; same parameter under every index -/
def MethodEqv (m' mb : Method) : Prop :=
  m'.desc = mb.desc ∧ m'.names = mb.names ∧ m'.doc = mb.doc ∧ ∀ k, lookup k m'.params = lookup k mb.params

/-- same names and comment; same field under every key; equivalent method under every key -/
def ClassEqv (c' cb : Class) : Prop :=
  c'.names = cb.names ∧ c'.doc = cb.doc ∧ (∀ k, lookup k c'.fields = lookup k cb.fields) ∧
    ∀ k, OptRel MethodEqv (lookup k c'.methods) (lookup k cb.methods)

/-- **content equality `≈`**: same namespaces and comment; equivalent class under every key -/
def MappingsEqv (r b : Mappings) : Prop :=
  r.ns = b.ns ∧ r.doc = b.doc ∧ ∀ k, OptRel ClassEqv (lookup k r.classes) (lookup k b.classes)

theorem methodEqv_refl (m : Method) : MethodEqv m m := ⟨rfl, rfl, rfl, fun _ => rfl⟩

theorem methodEqv_trans (a b c : Method) (h1 : MethodEqv a b) (h2 : MethodEqv b c) : MethodEqv a c :=
  ⟨h1.1.trans h2.1, h1.2.1.trans h2.2.1, h1.2.2.1.trans h2.2.2.1, fun k => (h1.2.2.2 k).trans (h2.2.2.2 k)⟩

theorem classEqv_refl (c : Class) : ClassEqv c c :=
  ⟨rfl, rfl, fun _ => rfl, fun _ => optRel_refl methodEqv_refl _⟩

theorem classEqv_trans (a b c : Class) (h1 : ClassEqv a b) (h2 : ClassEqv b c) : ClassEqv a c :=
  ⟨h1.1.trans h2.1, h1.2.1.trans h2.2.1, fun k => (h1.2.2.1 k).trans (h2.2.2.1 k),
    fun k => optRel_trans methodEqv_trans (h1.2.2.2 k) (h2.2.2.2 k)⟩

theorem mappingsEqv_trans {a b c : Mappings} (h1 : MappingsEqv a b) (h2 : MappingsEqv b c) : MappingsEqv a c :=
  ⟨h1.1.trans h2.1, h1.2.1.trans h2.2.1, fun k => optRel_trans classEqv_trans (h1.2.2 k) (h2.2.2 k)⟩

/-- the parameter part of `ParamSrcless` for the parameters `pbs` of one method: `pas` are the parameters of the `a` side
(`[]` if there is none) -/
def PSrc (pas pbs : AList Nat Param) : Prop :=
  ∀ p ∈ pbs, p.2.names[0]? = some (match lookup p.1 pas with
    | some pa => nameAt pa.names 0
    | none => none)

/-- … for the methods `mbs` of one class: `mas` are the methods of the `a` side -/
def CSrc (mas mbs : AList MemberKey Method) : Prop :=
  ∀ m ∈ mbs, PSrc (kids (lookup m.1 mas) Method.params) m.2.params

theorem PSrc.at {pas pbs : AList Nat Param} (h : PSrc pas pbs) {k : Nat} {pb : Param} (hlb : lookup k pbs = some pb) :
    pb.names[0]? = some (match lookup k pas with
      | some pa => nameAt pa.names 0
      | none => none) :=
  h (k, pb) (lookup_mem hlb)

theorem CSrc.at {mas mbs : AList MemberKey Method} (h : CSrc mas mbs) {k : MemberKey} {mb : Method}
    (hlb : lookup k mbs = some mb) : PSrc (kids (lookup k mas) Method.params) mb.params :=
  h (k, mb) (lookup_mem hlb)

theorem params_inverse {pas pbs : AList Nat Param} {dm : AList Nat PDiff}
    (hna : NoDup pas) (hnb : NoDup pbs)
    (wa : ∀ e ∈ pas, Param.WF 2 e.1 e.2) (wb : ∀ e ∈ pbs, Param.WF 2 e.1 e.2)
    (hsrc : PSrc pas pbs)
    (hz : zipMap diffParam pas pbs = some dm) :
    ∃ res, applyMap paramOps 1 2 applyParam dm pas = some res ∧ ∀ k, lookup k res = lookup k pbs := by
  obtain ⟨res, hres, hrel⟩ := diff_apply_map paramOps 1 2 applyParam diffParam (fun a b => a = b) hna hnb
    (fun _ pb _ hlb hd =>
      ⟨pb, diffParam_apply (fun _ ha => wa _ (lookup_mem ha)) (wb _ (lookup_mem hlb)) (hsrc.at hlb) hd, rfl⟩)
    (fun _ _ _ hd => applySpec_remove paramOps applyParam (fun _ ha => (wa _ (lookup_mem ha)).2) (diffParam_some hd).1)
    hz
  exact ⟨res, hres, fun k => optRel_eq_iff.mp (hrel k)⟩

theorem diffMethod_apply {k : MemberKey} {oa : Option Method} {mb : Method} {d : MDiff} (wa : ∀ ma ∈ oa, Method.WF 2 k ma)
    (wb : Method.WF 2 k mb) (hsrc : PSrc (kids oa Method.params) mb.params) (hd : diffMethod oa (some mb) = some d) :
    ∃ t', applySpec methodOps 1 2 (applyMethod 1 2) k (some d) oa = some (some t') ∧ MethodEqv t' mb := by
  obtain ⟨db, lb, nb, hnb, wpb⟩ := wb
  obtain ⟨hg, hdoc, hz⟩ := diffMethod_some hd
  cases oa with
  | none =>
    obtain ⟨res, hres, hl⟩ := params_inverse NoDup.nil hnb nofun wpb hsrc hz
    refine ⟨{ desc := k.2, names := mb.names, doc := mb.doc, params := res }, ?_, db.symm, rfl, rfl, hl⟩
    rw [applySpec_add methodOps (applyMethod 1 2) rfl lb nb hg]
    simp only [methodOps, applyMethod_eq, hdoc, Option.map_some, Option.map_none, genDiffDoc_B, hres,
      Option.bind_some]
  | some ma =>
    obtain ⟨da, la, na, hna, wpa⟩ := wa ma rfl
    obtain ⟨res, hres, hl⟩ := params_inverse hna hnb wpa wpb hsrc hz
    refine ⟨{ ma with names := mb.names, doc := mb.doc, params := res }, ?_, by simp [da, db], rfl, rfl, hl⟩
    rw [applySpec_edit methodOps (applyMethod 1 2) la lb (nb.trans na.symm) hg]
    simp only [methodOps, applyMethod_eq, hdoc, Option.map_some, genDiffDoc_AB, hres, Option.bind_some]

theorem fields_inverse {fas fbs : AList MemberKey Field} {dm : AList MemberKey FDiff}
    (hna : NoDup fas) (hnb : NoDup fbs)
    (wa : ∀ e ∈ fas, Field.WF 2 e.1 e.2) (wb : ∀ e ∈ fbs, Field.WF 2 e.1 e.2)
    (hz : zipMap diffField fas fbs = some dm) :
    ∃ res, applyMap fieldOps 1 2 applyField dm fas = some res ∧ ∀ k, lookup k res = lookup k fbs := by
  obtain ⟨res, hres, hrel⟩ := diff_apply_map fieldOps 1 2 applyField diffField (fun a b => a = b) hna hnb
    (fun _ fb _ hlb hd => ⟨fb, diffField_apply (fun _ ha => wa _ (lookup_mem ha)) (wb _ (lookup_mem hlb)) hd, rfl⟩)
    (fun _ _ _ hd => applySpec_remove fieldOps applyField (fun _ ha => (wa _ (lookup_mem ha)).2.1) (diffField_some hd).1)
    hz
  exact ⟨res, hres, fun k => optRel_eq_iff.mp (hrel k)⟩

theorem methods_inverse {mas mbs : AList MemberKey Method} {dm : AList MemberKey MDiff}
    (hna : NoDup mas) (hnb : NoDup mbs)
    (wa : ∀ e ∈ mas, Method.WF 2 e.1 e.2) (wb : ∀ e ∈ mbs, Method.WF 2 e.1 e.2)
    (hsrc : CSrc mas mbs)
    (hz : zipMap diffMethod mas mbs = some dm) :
    ∃ res, applyMap methodOps 1 2 (applyMethod 1 2) dm mas = some res ∧
      ∀ k, OptRel MethodEqv (lookup k res) (lookup k mbs) :=
  diff_apply_map methodOps 1 2 (applyMethod 1 2) diffMethod MethodEqv hna hnb
    (fun _ _ _ hlb hd =>
      diffMethod_apply (fun _ ha => wa _ (lookup_mem ha)) (wb _ (lookup_mem hlb)) (hsrc.at hlb) hd)
    (fun _ _ _ hd =>
      applySpec_remove methodOps (applyMethod 1 2) (fun _ ha => (wa _ (lookup_mem ha)).2.1) (diffMethod_some hd).1)
    hz

theorem diffClass_apply {k : JStr} {oa : Option Class} {cb : Class} {d : CDiff} (wa : ∀ ca ∈ oa, Class.WF 2 k ca)
    (wb : Class.WF 2 k cb) (hsrc : CSrc (kids oa Class.methods) cb.methods) (hd : diffClass oa (some cb) = some d) :
    ∃ t', applySpec classOps 1 2 (applyClass 1 2) k (some d) oa = some (some t') ∧ ClassEqv t' cb := by
  obtain ⟨lb, nb, hnfb, wfb, hnmb, wmb⟩ := wb
  obtain ⟨hg, hdoc, hzf, hzm⟩ := diffClass_some hd
  cases oa with
  | none =>
    obtain ⟨rf, hrf, hlf⟩ := fields_inverse NoDup.nil hnfb nofun wfb hzf
    obtain ⟨rm, hrm, hlm⟩ := methods_inverse NoDup.nil hnmb nofun wmb hsrc hzm
    refine ⟨{ names := cb.names, doc := cb.doc, fields := rf, methods := rm }, ?_, rfl, rfl, hlf, hlm⟩
    rw [applySpec_add classOps (applyClass 1 2) rfl lb nb hg]
    simp only [classOps, applyClass_eq, hdoc, Option.map_some, Option.map_none, genDiffDoc_B, hrf, hrm,
      Option.bind_some]
  | some ca =>
    obtain ⟨la, na, hnfa, wfa, hnma, wma⟩ := wa ca rfl
    obtain ⟨rf, hrf, hlf⟩ := fields_inverse hnfa hnfb wfa wfb hzf
    obtain ⟨rm, hrm, hlm⟩ := methods_inverse hnma hnmb wma wmb hsrc hzm
    refine ⟨{ ca with names := cb.names, doc := cb.doc, fields := rf, methods := rm }, ?_, rfl, rfl, hlf, hlm⟩
    rw [applySpec_edit classOps (applyClass 1 2) la lb (nb.trans na.symm) hg]
    simp only [classOps, applyClass_eq, hdoc, Option.map_some, genDiffDoc_AB, hrf, hrm, Option.bind_some]

theorem csrc_of_paramSrcless {a b : Mappings} (h : ParamSrcless a b) {k : JStr} {cb : Class}
    (hb : lookup k b.classes = some cb) : CSrc (kids (lookup k a.classes) Class.methods) cb.methods := by
  intro m hm p hp
  have := h (k, cb) (lookup_mem hb) m hm p hp
  simp only [methodParams] at this
  revert this
  cases lookup k a.classes with
  | none => exact id
  | some ca =>
    simp only [kids]
    cases lookup m.1 ca.methods <;> exact id

theorem diff_apply_eqv {a b : Mappings} {d : Diff} {n0 n1 : JStr} (wa : WF a) (wb : WF b)
    (hns : a.ns = [n0, n1]) (hne : n0 ≠ n1) (hsrc : ParamSrcless a b) (hd : diff a b = some d) :
    ∃ r, applyTo d a n1 = some r ∧ MappingsEqv r b := by
  obtain ⟨hna, wca⟩ := wa
  obtain ⟨hnb, wcb⟩ := wb
  rw [diff_eq] at hd
  split at hd
  · next h =>
    obtain ⟨cs, hz, rfl⟩ := Option.map_eq_some_iff.mp hd
    rw [h.1] at wca
    rw [← h.2, h.1] at wcb
    obtain ⟨res, hres, hrel⟩ := diff_apply_map classOps 1 2 (applyClass 1 2) diffClass ClassEqv hna hnb
      (fun _ _ _ hlkb hdd =>
        diffClass_apply (fun _ ha => wca _ (lookup_mem ha)) (wcb _ (lookup_mem hlkb)) (csrc_of_paramSrcless hsrc hlkb) hdd)
      (fun _ _ _ hdd =>
        applySpec_remove classOps (applyClass 1 2) (fun _ ha => (wca _ (lookup_mem ha)).1) (diffClass_some hdd).1)
      hz
    refine ⟨{ ns := a.ns, doc := b.doc, classes := res }, ?_, h.2, rfl, hrel⟩
    unfold applyTo
    rw [Mappings.getNamespace_of_nodup (i := 1) (by simp [hns, hne]) (by rw [hns]; rfl)]
    simp only [applyAt, applyInfo, genDiffDoc_AB, h.1, hres]
  · cases hd

theorem eqvMap_of_rel {K V : Type} [BEq K] {R : V → V → Prop} {r : V → V → Bool}
    (hr : ∀ x y, R x y → r x y = true) {a b : AList K V} (h : ∀ k, OptRel R (lookup k a) (lookup k b)) :
    eqvMap r a b = true := by
  unfold eqvMap
  rw [List.all_eq_true]
  intro k _
  have hk := h k
  revert hk
  cases lookup k a <;> cases lookup k b <;> intro hk
  · rfl
  · exact hk.elim
  · exact hk.elim
  · exact hr _ _ hk

theorem eqvMap_of_eq {K V : Type} [BEq K] [BEq V] [ReflBEq V] {a b : AList K V}
    (h : ∀ k, lookup k a = lookup k b) : eqvMap (· == ·) a b = true :=
  eqvMap_of_rel (R := fun x y => x = y) (fun _ _ e => e ▸ BEq.rfl) fun k => optRel_eq_iff.mpr (h k)

theorem eqvMethod_of {m' mb : Method} (h : MethodEqv m' mb) : eqvMethod m' mb = true := by
  obtain ⟨h1, h2, h3, h4⟩ := h
  unfold eqvMethod
  simp only [h1, h2, h3, beq_self_eq_true, Bool.true_and]
  exact eqvMap_of_eq h4

theorem eqvClass_of {c' cb : Class} (h : ClassEqv c' cb) : eqvClass c' cb = true := by
  obtain ⟨h1, h2, h3, h4⟩ := h
  unfold eqvClass
  simp only [h1, h2, beq_self_eq_true, Bool.true_and, Bool.and_eq_true]
  exact ⟨eqvMap_of_eq h3, eqvMap_of_rel (fun _ _ => eqvMethod_of) h4⟩

theorem eqvMappings_of {r b : Mappings} (h : MappingsEqv r b) : eqvMappings r b = true := by
  obtain ⟨h1, h2, h3⟩ := h
  unfold eqvMappings
  simp only [h1, h2, beq_self_eq_true, Bool.true_and]
  exact eqvMap_of_rel (fun _ _ => eqvClass_of) h3

theorem genDiffNames_isSome (oa ob : Option Names) (h : oa ≠ none ∨ ob ≠ none) :
    (genDiffNames oa ob).isSome = (oa.all named && ob.all named) := by
  cases oa with
  | none =>
    cases ob with
    | none => simp at h
    | some b => simp only [genDiffNames, named, Option.all_none, Option.all_some, Bool.true_and]; cases nameAt b 1 <;> simp
  | some a =>
    cases ob with
    | none => simp only [genDiffNames, named, Option.all_none, Option.all_some, Bool.and_true]; cases nameAt a 1 <;> simp
    | some b => simp only [genDiffNames, named, Option.all_some]; cases nameAt a 1 <;> cases nameAt b 1 <;> simp

theorem genDiffNames_map_isSome {T : Type} (names : T → Names) (oa ob : Option T) (h : oa ≠ none ∨ ob ≠ none) :
    (genDiffNames (oa.map names) (ob.map names)).isSome =
      (oa.all (fun t => named (names t)) && ob.all fun t => named (names t)) := by
  rw [genDiffNames_isSome _ _ (by cases oa <;> cases ob <;> simp at h ⊢)]
  cases oa <;> cases ob <;> rfl

theorem isSome_bind_of {α β : Type} {o : Option α} {k : α → Option β} {q : Bool} (h : ∀ x, (k x).isSome = q) :
    (o.bind k).isSome = (o.isSome && q) := by
  cases o with
  | none => rfl
  | some x => exact h x

theorem diffParam_isSome (oa ob : Option Param) (h : oa ≠ none ∨ ob ≠ none) :
    (diffParam oa ob).isSome = (oa.all namedParam && ob.all namedParam) := by
  rw [diffParam_eq, Option.isSome_map, genDiffNames_map_isSome Param.names oa ob h]
  rfl

theorem diffField_isSome (oa ob : Option Field) (h : oa ≠ none ∨ ob ≠ none) :
    (diffField oa ob).isSome = (oa.all namedField && ob.all namedField) := by
  rw [diffField_eq, Option.isSome_map, genDiffNames_map_isSome Field.names oa ob h]
  rfl

theorem nodup_kids {T K V : Type} {o : Option T} {f : T → AList K V} (h : ∀ x, o = some x → NoDup (f x)) :
    NoDup (kids o f) := by
  cases o with
  | none => exact NoDup.nil
  | some x => exact h x rfl

theorem all_kids {T K V : Type} (o : Option T) (f : T → AList K V) (g : K × V → Bool) :
    (kids o f).all g = o.all fun t => (f t).all g := by
  cases o <;> rfl

theorem forall_kids {T K V : Type} {o : Option T} {f : T → AList K V} {P : K × V → Prop}
    (h : ∀ t ∈ o, ∀ e ∈ f t, P e) : ∀ e ∈ kids o f, P e := by
  cases o with
  | none => exact nofun
  | some t => exact h t rfl

theorem diffMethod_isSome (oa ob : Option Method) (ha : ∀ m ∈ oa, NoDup m.params) (hb : ∀ m ∈ ob, NoDup m.params)
    (h : oa ≠ none ∨ ob ≠ none) : (diffMethod oa ob).isSome = (oa.all namedMethod && ob.all namedMethod) := by
  rw [diffMethod_eq, isSome_bind_of fun _ => Option.isSome_map, genDiffNames_map_isSome Method.names oa ob h,
    zipMap_isSome (P := fun _ => True) (nodup_kids fun m hm => ha m hm) (nodup_kids fun m hm => hb m hm)
      (fun _ _ => trivial) (fun _ _ => trivial) (fun x y _ _ => diffParam_isSome x y), all_kids, all_kids]
  cases oa <;> cases ob <;> simp only [namedMethod, Option.all_some, Option.all_none, Bool.and_true, Bool.true_and] <;>
    ac_rfl

theorem diffClass_isSome (oa ob : Option Class) (ha : ∀ c ∈ oa, Class.KU c) (hb : ∀ c ∈ ob, Class.KU c)
    (h : oa ≠ none ∨ ob ≠ none) : (diffClass oa ob).isSome = (oa.all namedClass && ob.all namedClass) := by
  rw [diffClass_eq, isSome_bind_of fun _ => isSome_bind_of fun _ => Option.isSome_map,
    genDiffNames_map_isSome Class.names oa ob h,
    zipMap_isSome (P := fun _ => True) (nodup_kids fun c hc => (ha c hc).1) (nodup_kids fun c hc => (hb c hc).1)
      (fun _ _ => trivial) (fun _ _ => trivial) (fun x y _ _ => diffField_isSome x y),
    zipMap_isSome (P := fun m : Method => NoDup m.params) (nodup_kids fun c hc => (ha c hc).2.1)
      (nodup_kids fun c hc => (hb c hc).2.1) (forall_kids fun c hc => (ha c hc).2.2) (forall_kids fun c hc => (hb c hc).2.2)
      diffMethod_isSome, all_kids, all_kids, all_kids, all_kids]
  cases oa <;> cases ob <;> simp only [namedClass, Option.all_some, Option.all_none, Bool.and_true, Bool.true_and] <;>
    ac_rfl

end DiffModel
