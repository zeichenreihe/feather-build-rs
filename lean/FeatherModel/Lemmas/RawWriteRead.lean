import FeatherModel.Lemmas.RawReadWrite

/-! C20: what the checking reader (`strict = true`) accepts is re-written byte for byte: `write (readStrict b)` is the
consumed prefix of `b`. -/

namespace RawLayout

/-- the input consists of bytes -/
def IsBytes (bs : Bytes) : Prop := ∀ x ∈ bs, x < 256

theorem IsBytes.suffix {a r bs : Bytes} (h : IsBytes bs) (e : a ++ r = bs) : IsBytes r := by
  intro x hx; exact h x (by rw [← e]; simp [hx])

/-- bytes of constants with the given values -/
def encConsts : List Const → List Nat → Bytes
  | c :: cs, n :: ns => be c.p n ++ encConsts cs ns
  | _, _ => []

theorem readConsts_enc : ∀ (cs : List Const) (binds binds' : Binds) (bs r : Bytes) (vals : List Nat),
    IsBytes bs → readConsts binds cs bs = .ok (binds', vals, r) →
    encConsts cs vals ++ r = bs ∧ vals.length = cs.length := by
  intro cs
  induction cs with
  | nil =>
    intro binds binds' bs r vals _ h
    simp [readConsts] at h
    obtain ⟨_, rfl, rfl⟩ := h
    simp [encConsts]
  | cons c cs ih =>
    intro binds binds' bs r vals hb h
    simp only [readConsts] at h
    split at h
    · cases h
    · rename_i n r1 ht
      obtain ⟨_, he⟩ := be_takeBE c.p bs r1 n hb ht
      split at h
      · obtain ⟨⟨b2, ns, r2⟩, hrec, h⟩ := Res.bind_eq_ok.mp h
        simp at h
        obtain ⟨_, rfl, rfl⟩ := h
        obtain ⟨h1, h2⟩ := ih _ b2 r1 r2 ns (hb.suffix he) hrec
        simp [encConsts, h1, he, h2]
      · cases h

theorem writeConsts_eq (tl : Option Nat) (ctx : List (Nat × Val)) (cs : List Const) :
    writeConsts tl ctx cs = (constVals tl ctx cs).map (encConsts cs) := by
  induction cs with
  | nil => rfl
  | cons c cs ih =>
    simp only [writeConsts_cons, constVals_cons, ih]
    cases evalW c.e.bits tl ctx c.e.e <;> cases constVals tl ctx cs <;> rfl

theorem constVals_split (tl : Option Nat) (ctx : List (Nat × Val)) (cs ds : List Const) (x y : List Nat)
    (hl : x.length = cs.length) (h : constVals tl ctx (cs ++ ds) = some (x ++ y)) :
    constVals tl ctx cs = some x ∧ constVals tl ctx ds = some y := by
  simp only [constVals_eq, List.mapM_eq_some_iff, List.map_append] at *
  exact List.append_inj h (by simp [hl])

/-- re-writing statement for a reader of referenced definitions -/
def RecWR (env : Env) (rc : Rec) : Prop :=
  ∀ id pool bs v r, IsBytes bs → rc id pool bs = .ok (v, r) → ∃ b, writeV env (.ref id) v = some b ∧ b ++ r = bs

/-- the loop calls itself at `n - 1` or `n - 2`, and `readSlots.induct` hands out both hypotheses -/
theorem readSlots_wr (env : Env) (wide : List Nat) (el : Ty) (rd : Bytes → Res (Val × Bytes))
    (hrd : ∀ bs v r, IsBytes bs → rd bs = .ok (v, r) → ∃ b, writeV env el v = some b ∧ b ++ r = bs) :
    ∀ (n : Nat) (bs : Bytes) (vs : List Val) (r : Bytes), IsBytes bs →
      readSlots wide rd n bs = .ok (vs, r) →
      slotsAll wide vs = n ∧ ∃ b, writeAll env el vs = some b ∧ b ++ r = bs := by
  intro n bs
  induction n, bs using readSlots.induct with
  | case1 bs =>
    intro vs r _ h
    simp [readSlots] at h
    obtain ⟨rfl, rfl⟩ := h
    exact ⟨rfl, [], rfl, rfl⟩
  | case2 n bs ih2 ih1 =>
    intro vs r hb h
    simp only [readSlots] at h
    obtain ⟨⟨v, bs1⟩, h1, h⟩ := Res.bind_eq_ok.mp h
    dsimp only at h
    obtain ⟨a, ha, hea⟩ := hrd bs v bs1 hb h1
    -- the item read is put in front of what the recursive call, on `m` slots, returns
    have step : ∀ {m ws r2}, (slotsAll wide ws = m ∧ ∃ b, writeAll env el ws = some b ∧ b ++ r2 = bs1) →
        slotsAll wide ws = m ∧ ∃ b, writeAll env el (v :: ws) = some b ∧ b ++ r2 = bs := by
      rintro m ws r2 ⟨hs, w, hw, hew⟩
      exact ⟨hs, a ++ w, by simp [writeAll_cons, ha, hw], by rw [List.append_assoc, hew, hea]⟩
    have hb1 := hb.suffix hea
    cases hwd : isWide wide v with
    | true =>
      simp only [hwd, if_true] at h
      cases n with
      | zero => cases h
      | succ m =>
        obtain ⟨⟨ws, r2⟩, h2, h⟩ := Res.bind_eq_ok.mp h
        cases h
        obtain ⟨hs, hb'⟩ := step (ih2 bs1 ws r2 hb1 h2)
        exact ⟨by simp [slotsAll, slotsV, hwd, hs]; omega, hb'⟩
    | false =>
      simp only [hwd, Bool.false_eq_true, if_false] at h
      obtain ⟨⟨ws, r2⟩, h2, h⟩ := Res.bind_eq_ok.mp h
      cases h
      obtain ⟨hs, hb'⟩ := step (ih1 bs1 ws r2 hb1 h2)
      exact ⟨by simp [slotsAll, slotsV, hwd, hs]; omega, hb'⟩

theorem readTy_wr (env : Env) (rc : Rec) (hrc : RecWR env rc) : ∀ (ty : Ty) (pool : Pool) (binds : Binds)
    (bs : Bytes) (v : Val) (r : Bytes), IsBytes bs → readTy rc pool binds ty bs = .ok (v, r) →
    ∃ b, writeV env ty v = some b ∧ b ++ r = bs := by
  intro ty
  induction ty with
  | prim p =>
    intro pool binds bs v r hb h
    simp only [readTy] at h
    split at h
    · rename_i n r1 ht
      simp at h; obtain ⟨rfl, rfl⟩ := h
      obtain ⟨hlt, he⟩ := be_takeBE p bs r1 n hb ht
      exact ⟨be p n, by simp [writeV, hlt], he⟩
    · cases h
  | vecCnt c el ih =>
    intro pool binds bs v r hb h
    simp only [readTy, readN_eq_readSlots] at h
    split at h
    · rename_i n r1 ht
      obtain ⟨hlt, he⟩ := be_takeBE c bs r1 n hb ht
      obtain ⟨⟨vs, r2⟩, h2, h⟩ := Res.bind_eq_ok.mp h
      cases h
      obtain ⟨hl, w, hw, hew⟩ := readSlots_wr env [] el _ (ih pool binds) n r1 vs r2 (hb.suffix he) h2
      rw [slotsAll_nil] at hl
      refine ⟨be c n ++ w, by simp [writeV_vecCnt, hw, hl, Nat.mod_eq_of_lt hlt], ?_⟩
      rw [List.append_assoc, hew, he]
    · cases h
  | vecLen e el ih =>
    intro pool binds bs v r hb h
    simp only [readTy, readN_eq_readSlots] at h
    split at h
    · rename_i n hn
      obtain ⟨⟨vs, r2⟩, h2, h⟩ := Res.bind_eq_ok.mp h
      cases h
      obtain ⟨_, w, hw, hew⟩ := readSlots_wr env [] el _ (ih pool binds) n bs vs r2 hb h2
      exact ⟨w, by simp [writeV, hw], hew⟩
    · cases h
  | vecSlots e wd el ih =>
    intro pool binds bs v r hb h
    simp only [readTy] at h
    split at h
    · rename_i n hn
      obtain ⟨⟨vs, r2⟩, h2, h⟩ := Res.bind_eq_ok.mp h
      cases h
      obtain ⟨_, w, hw, hew⟩ := readSlots_wr env wd el _ (ih pool binds) n bs vs r2 hb h2
      exact ⟨w, by simp [writeV, hw], hew⟩
    · cases h
  | ref id =>
    intro pool binds bs v r hb h
    exact hrc id pool bs v r hb h

theorem readFields_wr (env : Env) (rc : Rec) (hrc : RecWR env rc) : ∀ (fds : List Field) (pool : Pool) (binds : Binds)
    (bs : Bytes) (vs : List Val) (tr : List Nat) (r : Bytes), IsBytes bs →
    readFields rc pool binds fds bs = .ok (vs, tr, r) →
    ∀ (tl : Option Nat) (ctx : List (Nat × Val)), constVals tl ctx (allPost fds) = some tr →
      ∃ w, writeFields env tl ctx fds vs = some w ∧ w ++ r = bs := by
  intro fds
  induction fds with
  | nil =>
    intro pool binds bs vs tr r _ h tl ctx _
    simp [readFields] at h
    obtain ⟨rfl, _, rfl⟩ := h
    exact ⟨[], rfl, rfl⟩
  | cons f fds ih =>
    intro pool binds bs vs tr r hb h tl ctx hcv
    simp only [readFields] at h
    split at h
    · rename_i ty sp hk
      obtain ⟨⟨v, bs1⟩, h1, h⟩ := Res.bind_eq_ok.mp h
      dsimp only at h
      obtain ⟨a, ha, hea⟩ := readTy_wr env rc hrc ty pool binds bs v bs1 hb h1
      have hb1 := hb.suffix hea
      obtain ⟨⟨binds2, t1, bs2⟩, h2, h⟩ := Res.bind_eq_ok.mp h
      dsimp only at h
      obtain ⟨hec, hl1⟩ := readConsts_enc f.post _ binds2 bs1 bs2 t1 hb1 h2
      obtain ⟨⟨ws, t2, r3⟩, h3, h⟩ := Res.bind_eq_ok.mp h
      cases h
      obtain ⟨hc1, hc2⟩ := constVals_split tl ctx f.post (allPost fds) t1 t2 hl1 hcv
      obtain ⟨w, hw, hew⟩ := ih _ binds2 bs2 ws t2 r3 (hb1.suffix hec) h3 tl ctx hc2
      refine ⟨a ++ (encConsts f.post t1 ++ w), by simp [writeFields_cons, hk, ha, writeConsts_eq, hc1, hw], ?_⟩
      rw [List.append_assoc, List.append_assoc, hew, hec, hea]
    · rename_i p e hk
      split at h
      · cases h
      · rename_i n hn
        obtain ⟨⟨binds2, t1, bs2⟩, h2, h⟩ := Res.bind_eq_ok.mp h
        dsimp only at h
        obtain ⟨hec, hl1⟩ := readConsts_enc f.post _ binds2 bs bs2 t1 hb h2
        obtain ⟨⟨ws, t2, r3⟩, h3, h⟩ := Res.bind_eq_ok.mp h
        cases h
        obtain ⟨hc1, hc2⟩ := constVals_split tl ctx f.post (allPost fds) t1 t2 hl1 hcv
        obtain ⟨w, hw, hew⟩ := ih _ binds2 bs2 ws t2 r3 (hb.suffix hec) h3 tl ctx hc2
        refine ⟨encConsts f.post t1 ++ w, by simp [writeFields_cons, hk, writeConsts_eq, hc1, hw], ?_⟩
        rw [List.append_assoc, hew, hec]

theorem readBody_wr (env : Env) (rc : Rec) (hrc : RecWR env rc) (id : Nat) (tag : Option (TExpr × Prim × Nat))
    (pool : Pool) (binds : Binds) (k : Nat) (body : Body) (bs : Bytes) (v : Val) (r : Bytes) (hb : IsBytes bs)
    (h : readBody true env id tag rc pool binds k body bs = .ok (v, r)) :
    ∃ fs b, v = .node k fs ∧ writeBody env id k body fs = some b ∧ b ++ r = bs ∧ TagOk env id k body fs tag := by
  simp only [readBody] at h
  obtain ⟨⟨binds1, t1, bs1⟩, h1, h⟩ := Res.bind_eq_ok.mp h
  dsimp only at h
  obtain ⟨hec, hl1⟩ := readConsts_enc body.pre binds binds1 bs bs1 t1 hb h1
  obtain ⟨⟨fs, t2, r2⟩, h2, h⟩ := Res.bind_eq_ok.mp h
  simp only [Bool.true_and] at h
  split at h
  · cases h
  · rename_i hag
    simp at h
    obtain ⟨rfl, rfl⟩ := h
    simp only [Bool.not_eq_true', Bool.not_eq_false] at hag
    obtain ⟨hcv, htag⟩ := (nodeAgrees_iff env id k body tag fs (t1 ++ t2)).mp hag
    obtain ⟨hc1, hc2⟩ := constVals_split _ _ body.pre (allPost body.fields) t1 t2 hl1 hcv
    obtain ⟨w, hw, hew⟩ := readFields_wr env rc hrc body.fields pool binds1 bs1 fs t2 r2 (hb.suffix hec) h2 _ _ hc2
    exact ⟨fs, encConsts body.pre t1 ++ w, rfl, by simp [writeBody, writeConsts_eq, hc1, hw],
      by rw [List.append_assoc, hew, hec], htag⟩

theorem readDef_wr (env : Env) (rc : Rec) (hrc : RecWR env rc) : RecWR env (readDef true rc env) := by
  intro id pool bs v r hb h
  simp only [readDef] at h
  split at h
  · cases h
  · rename_i nm body hdef
    obtain ⟨fs, b, rfl, hw, he, _⟩ := readBody_wr env rc hrc id none pool [] 0 body bs v r hb h
    exact ⟨b, by simp [writeV_struct hdef, hw], he⟩
  · rename_i nm tn tagTy variants fb hdef
    split at h
    · cases h
    · rename_i tag bs1 ht
      obtain ⟨hlt, het⟩ := be_takeBE tagTy bs bs1 tag hb ht
      obtain ⟨⟨i, var⟩, hs, h⟩ := Res.bind_eq_ok.mp h
      dsimp only at h
      obtain ⟨_, hv⟩ := selectVariant_idx env.utf8 env.wide pool tag variants 0 i var hs
      simp at hv
      obtain ⟨fs, b, rfl, hw, he, n, hn, hnt⟩ :=
        readBody_wr env rc hrc id (some (var.tagWrite, tagTy, tag)) pool _ i var.body bs1 v r (hb.suffix het) h
      exact ⟨be tagTy tag ++ b, by simp [writeV_enum hdef hv, hn, hw, hnt], by rw [List.append_assoc, he, het]⟩

theorem readStrict_wr (env : Env) : ∀ fuel, RecWR env (readG true env fuel) := by
  intro fuel
  induction fuel with
  | zero => intro id pool bs v r _ h; simp [readG] at h
  | succ f ih => exact readDef_wr env _ ih

theorem constsAgree_iff {env : Env} {fuel id : Nat} {pool : Pool} {b : Bytes} :
    constsAgree env fuel id pool b = true ↔ ∃ x, readStrict env fuel id pool b = .ok x := by
  unfold constsAgree
  cases readStrict env fuel id pool b <;> simp

end RawLayout
