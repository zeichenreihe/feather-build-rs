import FeatherModel.Lemmas.ClassWriteFullAttr
import FeatherModel.Lemmas.Bytes

/-!
# C02 (whole writer) — annotations and type annotations: the fragment (`ElemVal.ok`, `AnnosOk`, `TypeAnnosOk`), the
element-value recursion, and the rows of the annotation attributes (`writeAnnotation_row`, `typeAnno_row`)
-/

namespace ClassRead

/-- the value of a constant element value is unchanged by the narrowing the reader applies for its tag: within `i8` (`B`),
`u16` (`C`), `i16` (`S`), 0 or 1 (`Z`); a bit pattern (`D`, `F`) is not negative; nothing is asked of `I` and `J`.  That
the `Integer` / `Long` / `Float` / `Double` entry put for it fits its width is `PoolEntryOk` of the pool written, the
other half of `InWriterFragment` -/
def constOk (tag : Nat) (v : Int) : Prop :=
  (tag = 66 ∧ -128 ≤ v ∧ v < 128) ∨ (tag = 67 ∧ 0 ≤ v ∧ v < 65536) ∨ (tag = 68 ∧ 0 ≤ v) ∨ (tag = 70 ∧ 0 ≤ v) ∨
    tag = 73 ∨ tag = 74 ∨ (tag = 83 ∧ -32768 ≤ v ∧ v < 32768) ∨ (tag = 90 ∧ (v = 0 ∨ v = 1))

instance (tag : Nat) (v : Int) : Decidable (constOk tag v) := by unfold constOk; infer_instance

mutual
/-- every constant is well typed -/
def ElemVal.ok : ElemVal → Prop
  | .const tag v => constOk tag v
  | .anno a => a.ok
  | .arr vs => elemsOk vs
  | _ => True
def Annotation.ok : Annotation → Prop
  | .mk _ ps => pairsOk ps
def pairsOk : List (JStr × ElemVal) → Prop
  | [] => True
  | (_, v) :: r => v.ok ∧ pairsOk r
def elemsOk : List ElemVal → Prop
  | [] => True
  | v :: r => v.ok ∧ elemsOk r
end

mutual
/-- how many levels of `@` / `[` an element value nests below itself (`SElem.nest` of what is written) -/
def ElemVal.depth : ElemVal → Nat
  | .anno a => a.depth + 1
  | .arr vs => elemsDepth vs + 1
  | _ => 0
def Annotation.depth : Annotation → Nat
  | .mk _ ps => pairsDepth ps
def pairsDepth : List (JStr × ElemVal) → Nat
  | [] => 0
  | (_, v) :: r => max v.depth (pairsDepth r)
def elemsDepth : List ElemVal → Nat
  | [] => 0
  | v :: r => max v.depth (elemsDepth r)
end

mutual
def decElemOk : (v : ElemVal) → Decidable v.ok
  | .const tag x => by unfold ElemVal.ok; infer_instance
  | .str _ => by unfold ElemVal.ok; infer_instance
  | .enum _ _ => by unfold ElemVal.ok; infer_instance
  | .cls _ => by unfold ElemVal.ok; infer_instance
  | .anno a => by unfold ElemVal.ok; exact decAnnoOk a
  | .arr vs => by unfold ElemVal.ok; exact decElemsOk vs
def decAnnoOk : (a : Annotation) → Decidable a.ok
  | .mk _ ps => by unfold Annotation.ok; exact decPairsOk ps
def decPairsOk : (ps : List (JStr × ElemVal)) → Decidable (pairsOk ps)
  | [] => by unfold pairsOk; infer_instance
  | (_, v) :: r => by
    unfold pairsOk
    exact @instDecidableAnd _ _ (decElemOk v) (decPairsOk r)
def decElemsOk : (vs : List ElemVal) → Decidable (elemsOk vs)
  | [] => by unfold elemsOk; infer_instance
  | v :: r => by
    unfold elemsOk
    exact @instDecidableAnd _ _ (decElemOk v) (decElemsOk r)
end

instance (v : ElemVal) : Decidable v.ok := decElemOk v
instance (a : Annotation) : Decidable a.ok := decAnnoOk a

end ClassRead

namespace ClassWriteFull
open PoolWrite (Entry)
open FramePool (Good Le)
open ClassRead ClassRead.Spec

/-! ## annotations: what `write_annotations_attribute` / `write_element_value_unnamed` emit is the JVMS
encoding of an `SAnno` / `SElem` that denotes the annotation and is legal in every pool still reachable -/

theorem wrapI8_id {v : Int} (h1 : -128 ≤ v) (h2 : v < 128) : wrapI8 v = v := Be.signed_emod 128 v h1 h2

theorem wrapI16_id {v : Int} (h1 : -32768 ≤ v) (h2 : v < 32768) : wrapI16 v = v := Be.signed_emod 32768 v h1 h2

theorem wrapU16_id {v : Int} (h1 : 0 ≤ v) (h2 : v < 65536) : wrapU16 v = v := by
  unfold wrapU16
  omega

theorem constValue_of {q : Pool} (hq : Good q) {tag : Nat} {v : Int} {e : Entry} {i : Nat} (hc : constEntry tag v = some e)
    (hok : constOk tag v) (hg : q.get i = some e) : constValue (rpool q) tag i = .ok v := by
  have hr := rget_of_get hq.1 hg
  -- the tag fixes the kind of `e`, hence the getter that answers; the narrowing is the identity on a value of the type
  rcases hok with ⟨rfl, _, _⟩ | ⟨rfl, _, _⟩ | ⟨rfl, _⟩ | ⟨rfl, _⟩ | rfl | rfl | ⟨rfl, _, _⟩ | ⟨rfl, rfl | rfl⟩
  all_goals
    cases hc
    simp [constValue, Pool.getInteger, Pool.getDouble, Pool.getFloat, Pool.getLong, conv, bind, Outcome.bind,
      wrapI8_id, wrapU16_id, wrapI16_id, Int.max_eq_left, *]

/-- what a written element value is: the encoding of `se`, which denotes `v`, nests as deep as `v`, and is legal in
every pool still reachable (`Sound p' fun rp => se.Legal rp`, written out here and in the three definitions below) -/
def ElemSpec (p' : Pool) (v : ElemVal) (b : Bytes) : Prop :=
  ∃ se : SElem, b = se.encode ∧ se.fact = v ∧ se.nest = v.depth ∧ ∀ q, Ext p' q → se.Legal (rpool q)

def AnnoSpec (p' : Pool) (a : Annotation) (b : Bytes) : Prop :=
  ∃ sa : SAnno, b = sa.encode ∧ sa.fact = a ∧ sa.nest = a.depth ∧ ∀ q, Ext p' q → sa.Legal (rpool q)

def PairsSpec (p' : Pool) (ps : List (JStr × ElemVal)) (b : Bytes) : Prop :=
  ∃ sps : List SPair, b = encPairs sps ∧ pairFacts sps = ps ∧ pairsNest sps = pairsDepth ps ∧ sps.length = ps.length ∧
    ∀ q, Ext p' q → pairsLegal (rpool q) sps

def ElemsSpec (p' : Pool) (vs : List ElemVal) (b : Bytes) : Prop :=
  ∃ ses : List SElem, b = encElems ses ∧ elemFacts ses = vs ∧ elemsNest ses = elemsDepth vs ∧ ses.length = vs.length ∧
    ∀ q, Ext p' q → elemsLegal (rpool q) ses

mutual
theorem writeElemVal_spec : ∀ (v : ElemVal) {p p' : Pool} {b : Bytes}, Good p → v.ok → writeElemVal p v = .ok (b, p') →
    Step p p' ∧ ElemSpec p' v b
  | .const tag x, p, p', b, hg, hok, h => by
    unfold writeElemVal at h
    unfold ElemVal.ok at hok
    split at h
    · cases h
    · rename_i e he
      split at h
      · cases h
      · rename_i i p1 hp
        cases h
        obtain ⟨s, a, hi⟩ := put_spec hg hp
        refine ⟨s, .const tag i x, rfl, rfl, rfl, ?_⟩
        intro q hq
        exact ⟨hi, constValue_of hq.good he hok (hq.le _ _ a)⟩
  | .str s, p, p', b, hg, _, h => by
    unfold writeElemVal at h
    split at h
    · cases h
    · rename_i i p1 hp
      cases h
      obtain ⟨st, a, hi⟩ := putUtf8_spec hg hp
      exact ⟨st, .str i s, rfl, rfl, rfl, fun q hq => ⟨hi, a.read hq⟩⟩
  | .enum ty name, p, p', b, hg, _, h => by
    unfold writeElemVal at h
    split at h
    · cases h
    · rename_i t p1 hp1
      split at h
      · cases h
      · rename_i n p2 hp2
        cases h
        obtain ⟨s1, a1, h1⟩ := putUtf8_spec hg hp1
        obtain ⟨s2, a2, h2⟩ := putUtf8_spec s1.good hp2
        exact ⟨s1.trans s2, .enum t ty n name, rfl, rfl, rfl, fun q hq =>
          ⟨h1, h2, a1.read (hq.of_le s2.le), a2.read hq⟩⟩
  | .cls d, p, p', b, hg, _, h => by
    unfold writeElemVal at h
    split at h
    · cases h
    · rename_i i p1 hp
      cases h
      obtain ⟨st, a, hi⟩ := putUtf8_spec hg hp
      exact ⟨st, .cls i d, rfl, rfl, rfl, fun q hq => ⟨hi, a.read hq⟩⟩
  | .anno a, p, p', b, hg, hok, h => by
    unfold writeElemVal at h
    unfold ElemVal.ok at hok
    split at h
    · cases h
    · rename_i bb p1 hp
      cases h
      obtain ⟨st, sa, rfl, hf, hn, hl⟩ := writeAnnotation_spec a hg hok hp
      exact ⟨st, .anno sa, rfl, by simp [SElem.fact, hf], by simp [SElem.nest, ElemVal.depth, hn], fun q hq => hl q hq⟩
  | .arr vs, p, p', b, hg, hok, h => by
    unfold writeElemVal at h
    unfold ElemVal.ok at hok
    split at h
    · cases h
    · rename_i c hc
      obtain ⟨hlen, rfl⟩ := cnt16_eq_ok.mp hc
      split at h
      · cases h
      · rename_i bb p1 hp
        cases h
        obtain ⟨st, ses, rfl, hf, hn, hl, hleg⟩ := writeElemVals_spec vs hg hok hp
        refine ⟨st, .arr ses, by simp [SElem.encode, hl], by simp [SElem.fact, hf], by simp [SElem.nest, ElemVal.depth, hn], ?_⟩
        intro q hq
        exact ⟨by omega, hleg q hq⟩
theorem writeAnnotation_spec : ∀ (a : Annotation) {p p' : Pool} {b : Bytes}, Good p → a.ok → writeAnnotation p a = .ok (b, p') →
    Step p p' ∧ AnnoSpec p' a b
  | .mk ty pairs, p, p', b, hg, hok, h => by
    unfold writeAnnotation at h
    unfold Annotation.ok at hok
    split at h
    · cases h
    · rename_i t p1 hp1
      split at h
      · cases h
      · rename_i c hc
        obtain ⟨hlen, rfl⟩ := cnt16_eq_ok.mp hc
        split at h
        · cases h
        · rename_i bb p2 hp2
          cases h
          obtain ⟨s1, a1, h1⟩ := putUtf8_spec hg hp1
          obtain ⟨s2, sps, rfl, hf, hn, hl, hleg⟩ := writePairs_spec pairs s1.good hok hp2
          refine ⟨s1.trans s2, .mk t ty sps, by simp [SAnno.encode, hl], by simp [SAnno.fact, hf],
            by simp [SAnno.nest, Annotation.depth, hn], ?_⟩
          intro q hq
          exact ⟨h1, a1.read (hq.of_le s2.le), by omega, hleg q hq⟩
theorem writePairs_spec : ∀ (ps : List (JStr × ElemVal)) {p p' : Pool} {b : Bytes}, Good p → pairsOk ps →
    writePairs p ps = .ok (b, p') → Step p p' ∧ PairsSpec p' ps b
  | [], p, p', b, hg, _, h => by
    unfold writePairs at h
    cases h
    exact ⟨Step.refl hg, [], rfl, rfl, rfl, rfl, fun _ _ => trivial⟩
  | (name, v) :: rest, p, p', b, hg, hok, h => by
    unfold writePairs at h
    unfold pairsOk at hok
    split at h
    · cases h
    · rename_i n p1 hp1
      split at h
      · cases h
      · rename_i b1 p2 hp2
        split at h
        · cases h
        · rename_i b2 p3 hp3
          cases h
          obtain ⟨s1, a1, h1⟩ := putUtf8_spec hg hp1
          obtain ⟨s2, se, rfl, hf, hn, hleg⟩ := writeElemVal_spec v s1.good hok.1 hp2
          obtain ⟨s3, sps, rfl, hfs, hns, hl, hlegs⟩ := writePairs_spec rest s2.good hok.2 hp3
          refine ⟨s1.trans (s2.trans s3), .mk n name se :: sps, by simp [encPairs, SPair.encode, List.append_assoc],
            by simp [pairFacts, SPair.fact, hf, hfs], by simp [pairsNest, SPair.nest, pairsDepth, hn, hns], by simp [hl], ?_⟩
          intro q hq
          exact ⟨⟨h1, a1.read (hq.of_le (s2.trans s3).le), hleg q (hq.of_le s3.le)⟩, hlegs q hq⟩
theorem writeElemVals_spec : ∀ (vs : List ElemVal) {p p' : Pool} {b : Bytes}, Good p → elemsOk vs →
    writeElemVals p vs = .ok (b, p') → Step p p' ∧ ElemsSpec p' vs b
  | [], p, p', b, hg, _, h => by
    unfold writeElemVals at h
    cases h
    exact ⟨Step.refl hg, [], rfl, rfl, rfl, rfl, fun _ _ => trivial⟩
  | v :: rest, p, p', b, hg, hok, h => by
    unfold writeElemVals at h
    unfold elemsOk at hok
    split at h
    · cases h
    · rename_i b1 p1 hp1
      split at h
      · cases h
      · rename_i b2 p2 hp2
        cases h
        obtain ⟨s1, se, rfl, hf, hn, hleg⟩ := writeElemVal_spec v hg hok.1 hp1
        obtain ⟨s2, ses, rfl, hfs, hns, hl, hlegs⟩ := writeElemVals_spec rest s1.good hok.2 hp2
        refine ⟨s1.trans s2, se :: ses, by simp [encElems], by simp [elemFacts, hf, hfs],
          by simp [elemsNest, elemsDepth, hn, hns], by simp [hl], ?_⟩
        intro q hq
        exact ⟨hleg q (hq.of_le s2.le), hlegs q hq⟩
end

/-- annotations the reader accepts again: well-typed constants, nesting within the reader's limit of 255 levels -/
def AnnosOk (as : List Annotation) : Prop := ∀ a ∈ as, a.ok ∧ a.depth ≤ 255

instance (o : Owner) (t : Target) : Decidable (targetOk o t) := by
  cases o <;> cases t <;> simp only [targetOk] <;> infer_instance

instance (path : List (Nat × Nat)) : Decidable (typePathOk path) := by unfold typePathOk; infer_instance

/-- type annotations of an owner: a target the owner admits with operands in range, a well-formed type path, and an
annotation as in `AnnosOk` -/
def TypeAnnosOk (o : Owner) (as : List TypeAnno) : Prop :=
  ∀ a ∈ as, targetOk o a.target ∧ typePathOk a.path ∧ a.anno.ok ∧ a.anno.depth ≤ 255

instance (as : List Annotation) : Decidable (AnnosOk as) := by unfold AnnosOk; infer_instance
instance (o : Owner) (as : List TypeAnno) : Decidable (TypeAnnosOk o as) := by unfold TypeAnnosOk; infer_instance

theorem writeTypePath_eq {path : List (Nat × Nat)} {b : Bytes} (h : writeTypePath path = .ok b) : b = encTypePath path := by
  obtain ⟨c, h1, h2⟩ := Except.bind_eq_ok.mp h
  obtain ⟨_, rfl⟩ := cnt8_eq_ok.mp h1
  cases h2
  simp [encTypePath]

theorem writeTargetField_eq {t : Target} {b : Bytes} (h : writeTargetField t = .ok b) : b = encTarget t := by
  cases t <;> cases h
  rfl

theorem writeTargetClass_eq {t : Target} {b : Bytes} (h : writeTargetClass t = .ok b) : b = encTarget t := by
  cases t <;> simp only [writeTargetClass] at h <;>
    first
    | (cases h <;> rfl)
    | (split at h <;> cases h; subst_vars; rfl)

theorem writeTargetMethod_eq {t : Target} {b : Bytes} (h : writeTargetMethod t = .ok b) : b = encTarget t := by
  cases t <;> simp only [writeTargetMethod] at h <;>
    first
    | (cases h <;> rfl)
    | (split at h <;> cases h; subst_vars; rfl)

theorem writeAnnotation_row :
    Row writeAnnotation SAnno.encode SAnno.fact id (fun rp sa => sa.Ok rp) (fun a => a.ok ∧ a.depth ≤ 255) := by
  intro p p' a b hg hP h
  obtain ⟨s, sa, rfl, hf, hn, hleg⟩ := writeAnnotation_spec a hg hP.1 h
  exact ⟨s, sa, rfl, hf, fun q hq => ⟨hleg q hq, by rw [hn]; exact hP.2⟩⟩

theorem typeAnno_row {wt : Target → Except Fail Bytes} {own : Owner} (hwt : ∀ {t b}, wt t = .ok b → b = encTarget t) :
    Row (fun p (a : TypeAnno) => do
        let t ← wt a.target
        let tp ← writeTypePath a.path
        let (b, p) ← writeAnnotation p a.anno
        pure (t ++ tp ++ b, p))
      STypeAnno.encode STypeAnno.fact id (fun rp sa => sa.Legal rp own)
      (fun a => targetOk own a.target ∧ typePathOk a.path ∧ a.anno.ok ∧ a.anno.depth ≤ 255) := by
  intro p p' a b hg hP h
  obtain ⟨htarget, hpath, hanno⟩ := hP
  obtain ⟨t, ht, h⟩ := Except.bind_eq_ok.mp h
  obtain ⟨tp, htp, h⟩ := Except.bind_eq_ok.mp h
  obtain ⟨⟨ab, p2⟩, ha, h⟩ := Except.bind_eq_ok.mp h
  cases h
  obtain ⟨s, sa, rfl, hf, hleg⟩ := writeAnnotation_row _ _ _ _ hg hanno ha
  refine ⟨s, ⟨a.target, a.path, sa⟩, ?_, ?_, fun q hq => ⟨htarget, hpath, hleg q hq⟩⟩
  · simp [STypeAnno.encode, hwt ht, writeTypePath_eq htp]
  · exact congrArg (TypeAnno.mk a.target a.path) hf

end ClassWriteFull
