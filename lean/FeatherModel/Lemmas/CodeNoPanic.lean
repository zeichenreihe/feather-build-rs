import FeatherModel.Lemmas.CodePatch

/-!
# The retry loop of `write_code` terminates and cannot panic

`pass` appends, for each instruction, a chunk of bytes and the unwritten labels of that chunk (`Chunks`, in terms of
the *final* position table of the attempt). Every failed attempt inserts the index of an instruction that was written
in its *narrow* form, i.e. one that is not yet in `wide`; indices are `< n`. So `wide` grows strictly inside `{0..n-1}`
and `n + 1` attempts always suffice.
No function of `Model/CodeWrite.lean` produces `Fail.panic`, for any input: the additions `opcode_pos + 1 + 2` of
`if_helper` and `high - low + 1` of the `tableswitch` arm are checked (136eeb3, dc41ad9; the inputs that reach them are
the `…_is_err` theorems of `Thm/C02.lean` §7); the third such place, `end - start` of `Labels::try_get_range` (f538c01), is
`range_err` in `Lemmas/CodeTables.lean`. This file proves it of `write`, the retry loop.
-/

namespace CodeWrite

theorem step_ok {wide : List Nat} {i : Insn} {s s' : St} (h : step wide i s = .ok s') :
    s.w.size ≤ 65535 ∧
    ∃ r, encInsn (wide.contains s.pos.size) (fun t => (s.pos.push s.w.size)[t]?) s.w.size s.pos.size i = .ok r ∧
      s' = ⟨s.w ++ r.1, s.pos.push s.w.size, s.unw ++ r.2⟩ := by
  obtain ⟨w, pos, unw⟩ := s
  simp only [step] at h
  split at h
  · cases h
  · rename_i hle
    split at h
    · cases h
    · rename_i r hr
      cases h
      exact ⟨Nat.le_of_not_lt hle, r, hr, rfl⟩

/-- the label table visible while instruction `k` is emitted: instructions `0..k` (their positions are final) -/
def lblUpTo (pos : Array Nat) (k : Nat) : Nat → Option Nat := fun t => if t ≤ k then pos[t]? else none

/-- `cs` are the chunks of the instructions `is`, the first of which is instruction number `k` at position `p` -/
inductive Chunks (wide : List Nat) (pos : Array Nat) : Nat → Nat → List Insn → List (Bytes × List Unwritten) → Prop
  | nil (k p : Nat) : Chunks wide pos k p [] []
  | cons {k p : Nat} {i : Insn} {is : List Insn} {r : Bytes × List Unwritten} {cs : List (Bytes × List Unwritten)} :
      p ≤ 65535 → pos[k]? = some p → encInsn (wide.contains k) (lblUpTo pos k) p k i = .ok r →
      Chunks wide pos (k + 1) (p + r.1.length) is cs → Chunks wide pos k p (i :: is) (r :: cs)

def chunkBytes (cs : List (Bytes × List Unwritten)) : Bytes := (cs.map (·.1)).flatten
def chunkUnw (cs : List (Bytes × List Unwritten)) : List Unwritten := (cs.map (·.2)).flatten

theorem chunkBytes_cons (r : Bytes × List Unwritten) (cs : List (Bytes × List Unwritten)) :
    chunkBytes (r :: cs) = r.1 ++ chunkBytes cs := rfl

theorem chunkUnw_cons (r : Bytes × List Unwritten) (cs : List (Bytes × List Unwritten)) :
    chunkUnw (r :: cs) = r.2 ++ chunkUnw cs := rfl

theorem lblUpTo_some {pos : Array Nat} {k t x : Nat} (h : lblUpTo pos k t = some x) : pos[t]? = some x := by
  unfold lblUpTo at h
  split at h
  · exact h
  · cases h

theorem pass_chunks (wide : List Nat) (is : List Insn) :
    ∀ (s s' : St), pass wide is s = .ok s' →
      ∃ cs, Chunks wide s'.pos s.pos.size s.w.size is cs ∧
        s'.w.toList = s.w.toList ++ chunkBytes cs ∧
        s'.unw.toList = s.unw.toList ++ chunkUnw cs ∧
        s'.pos.size = s.pos.size + is.length ∧
        (∀ t, t < s.pos.size → s'.pos[t]? = s.pos[t]?) := by
  induction is with
  | nil =>
    intro s s' h
    simp only [pass] at h
    cases h
    exact ⟨[], Chunks.nil _ _, by simp [chunkBytes], by simp [chunkUnw], by simp, fun _ _ => rfl⟩
  | cons i is ih =>
    intro s s' h
    simp only [pass] at h
    split at h
    · cases h
    · rename_i s1 hs1
      obtain ⟨hle, r, hr, rfl⟩ := step_ok hs1
      obtain ⟨cs, hc, hw, hu, hsz, hpre⟩ := ih _ s' h
      simp only [Array.size_push] at hc hsz hpre
      have hk : s'.pos[s.pos.size]? = some s.w.size := by
        rw [hpre s.pos.size (by omega)]
        simp
      have hl : (fun t => (s.pos.push s.w.size)[t]?) = lblUpTo s'.pos s.pos.size := by
        funext t
        unfold lblUpTo
        by_cases ht : t ≤ s.pos.size
        · simp only [ht, if_true]
          exact (hpre t (by omega)).symm
        · simp only [ht, if_false]
          apply Array.getElem?_eq_none
          simp; omega
      rw [hl] at hr
      have hc' : Chunks wide s'.pos (s.pos.size + 1) (s.w.size + r.1.length) is cs := by
        have e : (s.w ++ r.1).size = s.w.size + r.1.length := by
          rw [← Array.length_toList, Array.toList_appendList, List.length_append, Array.length_toList]
        rw [← e]; exact hc
      refine ⟨r :: cs, Chunks.cons hle hk hr hc', ?_, ?_, ?_, ?_⟩
      · rw [hw, chunkBytes_cons]; simp
      · rw [hu, chunkUnw_cons]; simp
      · rw [hsz]; simp; omega
      · intro t ht
        rw [hpre t (by omega)]
        simp [Array.getElem?_push, show t ≠ s.pos.size by omega]

/-- **the chunks of an attempt** from instruction `k` at position `p` on, `T` bytes in all: `T` is at most the sum of the
longest forms; every unwritten label names an instruction of the attempt, is narrow only if that instruction is not
marked wide, and has its opcode in front of its reserved space, which ends within the `T` bytes; the recorded positions
increase strictly inside them (every instruction occupies at least one byte) -/
structure Chunks.Inv (wide : List Nat) (pos : Array Nat) (k p : Nat) (is : List Insn)
    (cs : List (Bytes × List Unwritten)) : Prop where
  size : (chunkBytes cs).length ≤ (is.map maxLen).sum
  unw : ∀ u ∈ chunkUnw cs, u.Ok u.insnIdx (wide.contains u.insnIdx) (p + (chunkBytes cs).length) ∧
    u.insnIdx < k + is.length
  sorted : (pos.toList.drop k).Pairwise (· < ·)
  inside : ∀ x ∈ pos.toList.drop k, p ≤ x ∧ x ≤ 65535 ∧ x < p + (chunkBytes cs).length

theorem chunks_inv {wide : List Nat} {pos : Array Nat} {k p : Nat} {is : List Insn}
    {cs : List (Bytes × List Unwritten)} (hc : Chunks wide pos k p is cs) (hsz : pos.size = k + is.length) :
    Chunks.Inv wide pos k p is cs := by
  induction hc with
  | nil k p =>
    have : pos.toList.drop k = [] := List.drop_eq_nil_of_le (by simp at hsz ⊢; omega)
    exact ⟨Nat.le_refl _, nofun, this ▸ .nil, this ▸ nofun⟩
  | @cons k p i is r cs hp hk henc _ ih =>
    obtain ⟨h1, h2, hok⟩ := encInsn_emits henc
    obtain ⟨i1, i2, i3, i4⟩ := ih (by simp only [List.length_cons] at hsz; omega)
    have hl : (chunkBytes (r :: cs)).length = r.1.length + (chunkBytes cs).length := List.length_append
    have hlt : k < pos.toList.length := by simp only [Array.length_toList, List.length_cons] at hsz ⊢; omega
    have hx : pos.toList[k] = p := by simpa using (Array.getElem?_eq_some_iff.mp hk).2
    have hd : pos.toList.drop k = p :: pos.toList.drop (k + 1) := by rw [List.drop_eq_getElem_cons hlt, hx]
    rw [Nat.add_assoc] at i2 i4
    refine ⟨by rw [hl]; simp only [List.map_cons, List.sum_cons]; omega, fun u hu => ?_,
      hd ▸ .cons (fun y hy => by have := (i4 y hy).1; omega) i3, fun x hx => ?_⟩
    · rw [hl, List.length_cons]
      rcases List.mem_append.mp (show u ∈ r.2 ++ chunkUnw cs from hu) with h | h
      · have ok := hok u h
        rw [ok.idx]
        exact ⟨ok.mono (by omega), by omega⟩
      · exact ⟨(i2 u h).1, by have := (i2 u h).2; omega⟩
    · rw [hl]
      rcases List.mem_cons.mp (hd ▸ hx) with rfl | hx
      · omega
      · have := i4 x hx; omega

theorem chunks_pos_le {wide : List Nat} {pos : Array Nat} {k p : Nat} {is : List Insn}
    {cs : List (Bytes × List Unwritten)} (hc : Chunks wide pos k p is cs) (hsz : pos.size = k + is.length)
    (j x : Nat) (hj : k ≤ j) (hx : pos[j]? = some x) : x ≤ p + (chunkBytes cs).length := by
  obtain ⟨h1, h2⟩ := Array.getElem?_eq_some_iff.mp hx
  have hm : x ∈ pos.toList.drop k := by
    rw [← h2, ← Array.getElem_toList (h := by simpa using h1)]
    exact List.mem_drop_iff_getElem.mpr ⟨j - k, by simp; omega, by simp [Nat.add_sub_cancel' hj]⟩
  exact Nat.le_of_lt ((chunks_inv hc hsz).inside x hm).2.2

theorem resolve_retry (lp : Nat → Option Nat) (us : List Unwritten) :
    ∀ (w : Array Nat) (idx : Nat), resolve lp us w = .retry idx → ∃ u ∈ us, u.wide = false ∧ u.insnIdx = idx ∧
      ∃ tp, lp u.label = some tp ∧ fitsI16 (offs u.opcodePos tp) = false := by
  induction us with
  | nil => intro w idx h; simp [resolve] at h
  | cons u us ih =>
    intro w idx h
    simp only [resolve] at h
    split at h
    · cases h
    · split at h
      · obtain ⟨v, hv, hp⟩ := ih _ _ h
        exact ⟨v, List.mem_cons_of_mem _ hv, hp⟩
      · split at h
        · obtain ⟨v, hv, hp⟩ := ih _ _ h
          exact ⟨v, List.mem_cons_of_mem _ hv, hp⟩
        · rename_i tp htp hw hf
          cases h
          exact ⟨u, List.mem_cons_self, by simpa using hw, rfl, tp, htp, by simpa using hf⟩

/-- the measure of the retry loop: how many of the instructions `0..n-1` are not yet in `wide` -/
def free (n : Nat) (wide : List Nat) : Nat := ((List.range n).filter (fun k => !wide.contains k)).length

theorem free_cons_lt {n idx : Nat} {wide : List Nat} (hlt : idx < n) (hnot : wide.contains idx = false) :
    free n (idx :: wide) < free n wide := by
  have e : (List.range n).filter (fun k => !(idx :: wide).contains k)
      = ((List.range n).filter (fun k => !wide.contains k)).filter (fun k => !(k == idx)) := by
    rw [List.filter_filter]
    simp only [List.contains_cons, Bool.not_or]
  unfold free
  rw [e, List.length_filter_lt_length_iff_exists]
  exact ⟨idx, List.mem_filter.mpr ⟨List.mem_range.mpr hlt, by rw [hnot]; rfl⟩, by simp⟩

theorem free_le (n : Nat) (wide : List Nat) : free n wide ≤ n := by
  unfold free
  have := List.length_filter_le (fun k => !wide.contains k) (List.range n)
  simpa using this

theorem retry_fresh {is : List Insn} {wide : List Nat} {s : St} {idx : Nat}
    (hs : pass wide is St.init = .ok s)
    (hres : resolve (labelPos s.pos s.w.size) s.unw.toList s.w = .retry idx) :
    idx < is.length ∧ wide.contains idx = false := by
  obtain ⟨u, hu, hnarrow, rfl, -⟩ := resolve_retry _ _ _ _ hres
  obtain ⟨cs, hc, _, hunw, hsz, _⟩ := pass_chunks wide is St.init s hs
  obtain ⟨ok, hlt⟩ := (chunks_inv hc (by simpa [St.init] using hsz)).unw u (by simpa [hunw, St.init] using hu)
  exact ⟨by simpa [St.init] using hlt, ok.narrow hnarrow⟩

theorem write_fuel (is : List Insn) (fuel : Nat) (wide : List Nat) :
    free is.length wide < fuel → write is fuel wide ≠ .outOfFuel := by
  -- the branches of `write`, in this order: 1 no fuel; 2, 3 the pass failed (error, panic); 4 a label is missing;
  -- 5 retry with one more wide instruction; 6 the size check failed; 7 success
  fun_induction write is fuel wide <;> intro h
  case case1 => omega
  case case5 hs _ hres ih =>
    obtain ⟨hlt, hnc⟩ := retry_fresh hs hres
    exact ih (by have := free_cons_lt hlt hnc; omega)
  all_goals nofun

theorem write_fuel_mono (is : List Insn) (fuel : Nat) (wide : List Nat) :
    ∀ fuel', write is fuel wide ≠ .outOfFuel → fuel ≤ fuel' → write is fuel' wide = write is fuel wide := by
  fun_induction write is fuel wide <;> intro fuel' h hle
  case case1 => exact absurd rfl h
  all_goals
    obtain _ | fuel' := fuel'
    · omega
    simp only [write, *, if_true, if_false]
  case case5 ih => exact ih fuel' h (by omega)

/-- on success: one element of `wide` per failed attempt, all distinct instruction indices -/
theorem write_wide_bound (is : List Insn) (fuel : Nat) (wide : List Nat) (res : Result) :
    write is fuel wide = .ok res →
      wide.length + free is.length wide ≤ is.length → res.wide.length + free is.length res.wide ≤ is.length := by
  fun_induction write is fuel wide <;> intro h hb
  -- branch 5 of `write` is the retry, branch 7 the success (the order is listed at `write_fuel`)
  case case5 hs _ hres ih =>
    obtain ⟨hlt, hnc⟩ := retry_fresh hs hres
    exact ih h (by have := free_cons_lt hlt hnc; simp only [List.length_cons]; omega)
  case case7 => cases h; exact hb
  all_goals cases h

theorem argsLoop_no_panic (fuel : Nat) (cs : List Nat) (size : Nat) : argsLoop fuel cs size ≠ .error .panic := by
  fun_induction argsLoop fuel cs size <;> first | assumption | nofun

theorem argsSize_no_panic (desc : JStr) : argsSize desc ≠ .error .panic := by
  unfold argsSize
  split
  · exact argsLoop_no_panic _ _ _
  · nofun

theorem encInsn_no_panic {isWide : Bool} {lbl : Nat → Option Nat} {p k : Nat} {i : Insn} :
    encInsn isWide lbl p k i ≠ .error .panic := by
  cases i with
  | ifc c t => show encIf c isWide lbl p k t ≠ _; fun_cases encIf c isWide lbl p k t <;> nofun
  | goto t => show encGoto 0xa7 0xc8 isWide lbl p k t ≠ _; fun_cases encGoto 0xa7 0xc8 isWide lbl p k t <;> nofun
  | jsr t => show encGoto 0xa8 0xc9 isWide lbl p k t ≠ _; fun_cases encGoto 0xa8 0xc9 isWide lbl p k t <;> nofun
  | tableswitch d lo hi tb =>
    show encTableSwitch lbl p k d lo hi tb ≠ _; fun_cases encTableSwitch lbl p k d lo hi tb <;> nofun
  | lookupswitch d ps => show encLookupSwitch lbl p k d ps ≠ _; fun_cases encLookupSwitch lbl p k d ps <;> nofun
  | invokeinterface idx desc =>
    simp only [encInsn]
    split
    · rename_i e ha; intro h; cases h; exact argsSize_no_panic desc ha
    · nofun
  | _ => nofun

theorem step_no_panic (wide : List Nat) (i : Insn) (s : St) : step wide i s ≠ .error .panic := by
  fun_cases step wide i s <;> intro he <;> cases he
  exact encInsn_no_panic ‹_›

theorem pass_no_panic (wide : List Nat) (is : List Insn) (s : St) : pass wide is s ≠ .error .panic := by
  fun_induction pass wide is s
  · nofun
  · intro he; cases he; exact step_no_panic _ _ _ ‹_›
  · assumption

theorem write_no_panic (is : List Insn) (fuel : Nat) (wide : List Nat) : write is fuel wide ≠ .panic := by
  fun_induction write is fuel wide
  -- branch 3 of `write`: the pass ended in a panic; branch 5: the retry (the order is listed at `write_fuel`)
  case case3 => exact fun _ => pass_no_panic _ _ _ ‹_›
  case case5 => assumption
  all_goals nofun

end CodeWrite
