import FeatherModel.Lemmas.ArmsWriterDefs
import FeatherModel.Lemmas.ArmsReaderJvms

/-!
# The generated writer tables against the generated reader tables and against the JVMS tables (finite checks)

C02, translator tie for `write_code` (`Gen/WriterArms.lean`; the Rust functions read are named in `Thm/C02.lean` §11). Three
results, by walks over the whole tables: the arms of `write_code` invert the arms of `read_code`'s second loop
(`writer_arms_inverse_reader`, from the row lemmas `wArm_of_rArm`, `wArm_of_rWideArm`, `rArm_of_wArm`), the two small tag
tables are the reader's, and every arm writes JVMS opcodes with the JVMS operand layout (`writer_arms_are_jvms`). That an
arm's own opcodes are named like its constructor is not walked again: the reader builds that constructor from them, and the
reader's constructors are named right (`namedLike_of_rArm`).
-/

namespace Arms

open JvmsTables

/-- the row `wArm` reads past the end of its table (kind 7: no arm) -/
abbrev noWRow : Nat × Nat × Nat × List Nat := (7, 0, 0, [])

/-- reader row for opcode `op` building constructor `c`: the writer arm of `c` may write `op`, with the same operand layout -/
def invFwdCheck (op : Nat) (e : Nat × Nat × List Nat × Nat) : Bool :=
  let a := rArmOf e op
  match a.ctor? with
  | some c => (wArm c).plain.contains op && sameLayout a (wArm c)
  | none => true

/-- the same for a row of the `wide` sub-match: the writer arm of `c` may write `wide w` -/
def invWideFwdCheck (w : Nat) (e : Nat × Nat × List Nat × Nat) : Bool :=
  match (rArmOf e w).ctor? with
  | some c => (wArm c).prefixed.contains (Gen.ReaderArms.wideOpcode, w)
  | none => true

/-- writer row of constructor `c`: it writes something, and the reader builds `c` from every opcode (and every
`wide` pair) it may write -/
def invBwdCheck (c : Nat) (e : Nat × Nat × Nat × List Nat) : Bool :=
  let a := wArmOf e
  !a.plain.isEmpty && (a.plain.all fun op => (rArm op).ctor? == some c) &&
    (a.prefixed.all fun pw => pw.1 == Gen.ReaderArms.wideOpcode && (rWideArm pw.2).ctor? == some c)

theorem ctor_tables : Gen.WriterArms.ctorNames = Gen.ReaderArms.ctorNames ∧
    Gen.WriterArms.wDense.length = Gen.ReaderArms.ctorNames.length := by decide +kernel

theorem inv_fwd_all : allFrom invFwdCheck Gen.ReaderArms.p2Dense = true := by
  delta invFwdCheck wArm
  simp only [← Tab.getD_ofList 8 Gen.WriterArms.wDense]
  decide +kernel
theorem inv_wide_fwd_all : allFrom invWideFwdCheck Gen.ReaderArms.p2WideDense = true := by decide +kernel
theorem inv_bwd_all : allFrom invBwdCheck Gen.WriterArms.wDense = true := by
  delta invBwdCheck rArm rWideArm
  simp only [← Tab.getD_ofList 8 Gen.ReaderArms.p2Dense, ← Tab.getD_ofList 8 Gen.ReaderArms.p2WideDense]
  decide +kernel

theorem wArm_of_rArm {op c : Nat} (hop : op < 256) (hc : (rArm op).ctor? = some c) :
    op ∈ (wArm c).plain ∧ sameLayout (rArm op) (wArm c) = true := by
  have h := allFrom_getD noRow p2Dense_length inv_fwd_all op hop
  have e : rArmOf (Gen.ReaderArms.p2Dense.getD op noRow) op = rArm op := rfl
  simp only [invFwdCheck, e, hc, Bool.and_eq_true, List.contains_iff_mem] at h
  exact h

theorem wArm_of_rWideArm {w c : Nat} (hw : w < 256) (hc : (rWideArm w).ctor? = some c) :
    (Gen.ReaderArms.wideOpcode, w) ∈ (wArm c).prefixed := by
  have h := allFrom_getD noRow p2WideDense_length inv_wide_fwd_all w hw
  have e : rArmOf (Gen.ReaderArms.p2WideDense.getD w noRow) w = rWideArm w := rfl
  simp only [invWideFwdCheck, e, hc, List.contains_iff_mem] at h
  exact h

theorem rArm_of_wArm {c : Nat} (hc : c < Gen.WriterArms.ctorNames.length) :
    ((wArm c).plain ≠ [] ∧ ∀ op ∈ (wArm c).plain, (rArm op).ctor? = some c) ∧
    ∀ pw ∈ (wArm c).prefixed, pw.1 = Gen.ReaderArms.wideOpcode ∧ (rWideArm pw.2).ctor? = some c := by
  have hc' : c < Gen.WriterArms.wDense.length := by rw [ctor_tables.2, ← ctor_tables.1]; exact hc
  have h := allFrom_getD noWRow rfl inv_bwd_all c hc'
  have e : wArmOf (Gen.WriterArms.wDense.getD c noWRow) = wArm c := rfl
  simp only [invBwdCheck, e, Bool.and_eq_true, List.all_eq_true, beq_iff_eq, Bool.not_eq_true', List.isEmpty_eq_false_iff] at h
  exact ⟨h.1, h.2⟩

/-- C02: reader and writer have the same constructors, and their arms are inverse: what the reader turns into `c` the arm
of `c` may write (same operand layout), every arm writes something, and whatever it may write — plain or behind `wide` —
the reader turns into `c` -/
theorem writer_arms_inverse_reader :
    Gen.WriterArms.ctorNames = Gen.ReaderArms.ctorNames ∧
    (∀ op c, op < 256 → (rArm op).ctor? = some c → op ∈ (wArm c).plain ∧ sameLayout (rArm op) (wArm c) = true) ∧
    (∀ c, c < Gen.WriterArms.ctorNames.length → (wArm c).plain ≠ [] ∧ ∀ op ∈ (wArm c).plain, (rArm op).ctor? = some c) ∧
    (∀ w c, w < 256 → (rWideArm w).ctor? = some c → (Gen.ReaderArms.wideOpcode, w) ∈ (wArm c).prefixed) ∧
    (∀ c, c < Gen.WriterArms.ctorNames.length → ∀ pw ∈ (wArm c).prefixed,
      pw.1 = Gen.ReaderArms.wideOpcode ∧ (rWideArm pw.2).ctor? = some c) :=
  ⟨ctor_tables.1, fun _ _ hop hc => wArm_of_rArm hop hc, fun _ hc => (rArm_of_wArm hc).1,
    fun _ _ hw hc => wArm_of_rWideArm hw hc, fun _ hc => (rArm_of_wArm hc).2⟩

/-- C02: `write_verification_type_info` and `PoolWrite::write` use the tags and payload widths
`read_verification_type_info` and `PoolRead::read` use -/
theorem writer_tag_arms_inverse_reader :
    Gen.WriterArms.vtypeArms = Gen.ReaderArms.vtypeArms ∧
    (Gen.WriterArms.poolArms.map fun a => (a.2.1, a.1, a.2.2.1.sum, a.2.2.2)) =
      (Gen.ReaderArms.poolArms.map fun a => (a.1, a.2.1, a.2.2.1.sum, a.2.2.2.1)) := by decide +kernel

/-- `jvmsWriterCheck` without the names of the opcodes an arm writes as the instruction's own (`WArm.plain`) -/
def jvmsWriterRest (c : Nat) (e : Nat × Nat × Nat × List Nat) : Bool :=
  match wArmOf e with
  | .unit op => operands? op == some (.bytes 0)
  | .operands op _ ws => operands? op == some (.bytes ws.sum)
  | .cond op opp => negations.lookup op == some opp
  | .jump op wop => baseOf wop == op && operands? op == some .branch16 && operands? wop == some .branch32
  | .local_ limit _ _ _ wide base =>
    operands? base == some (.bytes 1) && operands? wide == some .wide && wideForms.lookup base == some 2 &&
      ((List.range limit).all fun i => forms.lookup ((wArmOf e).plain.getD (i + 1) 0) == some (base, some i))
  | .forms _ pre => pre.all fun pw => operands? pw.1 == some .wide && (wideForms.lookup pw.2).isSome && namedLike c pw.2
  | .switch op k => operands? op == some (if k = 0 then .tableswitch else .lookupswitch)
  | .none => false

theorem jvmsWriterCheck_of_rest {c : Nat} {e : Nat × Nat × Nat × List Nat} (hr : jvmsWriterRest c e = true)
    (hn : ∀ op ∈ (wArmOf e).plain, namedLike c op = true) : jvmsWriterCheck c e = true := by
  unfold jvmsWriterCheck
  unfold jvmsWriterRest at hr
  generalize wArmOf e = a at hr hn ⊢
  cases a <;> dsimp only at hr ⊢
  case forms => exact Bool.and_eq_true _ _ ▸ ⟨List.all_eq_true.mpr hn, hr⟩
  case none => exact hr
  -- every other arm asks the name of the first opcode of `plain` only
  all_goals rw [hn _ List.mem_cons_self, Bool.true_and]; exact hr

theorem namedLike_of_rArm {op c : Nat} (h : (rArm op).ctor? = some c) : namedLike c op = true := by
  have hop : op < 256 := by
    refine Nat.lt_of_not_le fun hge => ?_
    simp [rArm, List.getD, List.getElem?_eq_none (p2Dense_length ▸ hge), rArmOf, RArm.ctor?] at h
  have hn := (arms_are_jvms op hop).2.2.1 fun e => by rw [e] at h; cases h
  rw [h] at hn
  simp [namedLike, ← hn]

theorem jvms_writer_all :
    allFrom jvmsWriterRest Gen.WriterArms.wDense = true ∧
    mnemonic? Gen.WriterArms.trampolineOpcode = some (jstr "goto_w") := by
  delta jvmsWriterRest namedLike mnemonic? operands? ctorName
  simp only [← Tab.get?_ofList 8 opcodes, ← Tab.get?_ofList 8 Gen.ReaderArms.ctorNames]
  simp -index only [opcodes, jstr_ofList]
  decide +kernel

/-- C02: the arm of every constructor passes `jvmsWriterCheck` (the opcodes it may write are named like the constructor and
have the operand layout, negation, wide form and short forms the arm assumes), and the trampoline jump is `goto_w` -/
theorem writer_arms_are_jvms (c : Nat) (hc : c < Gen.WriterArms.ctorNames.length) :
    jvmsWriterCheck c (Gen.WriterArms.wDense.getD c (7, 0, 0, [])) = true ∧
    mnemonic? Gen.WriterArms.trampolineOpcode = some (jstr "goto_w") := by
  have hc' : c < Gen.WriterArms.wDense.length := by rw [ctor_tables.2, ← ctor_tables.1]; exact hc
  exact ⟨jvmsWriterCheck_of_rest (allFrom_getD noWRow rfl jvms_writer_all.1 c hc')
    fun op hop => namedLike_of_rArm ((rArm_of_wArm hc).1.2 op hop), jvms_writer_all.2⟩

end Arms
