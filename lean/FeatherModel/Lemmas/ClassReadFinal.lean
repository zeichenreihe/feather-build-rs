import FeatherModel.Lemmas.ClassReadMembers

/-! `read_method`, the class attribute loop and `class_reader::read` on an encoded `ClassLayout`. -/

namespace ClassRead
open Outcome Spec

theorem readMethod_enc (p : Pool) (bsms : Option (List Bsm)) (m : MethodLayout) (hm : m.Legal p bsms) (mf : MethodFacts)
    (hfacts : m.facts = some mf) (r : Bytes) :
    ∃ mr, readMethod p bsms (m.encode ++ r) = ok (mr, r) ∧ mr.resolve = some mf := by
  obtain ⟨h1, h2, h3, h4, h5, h6, h7, h8⟩ := hm
  obtain ⟨mr, hloop, hR⟩ := attrLoopRel_enc (readMethodAttrs p bsms) (readMethodAttr p bsms) (fun _ _ => rfl) (fun _ _ _ => rfl)
    SMethodAttr.raw SMethodAttr.apply MRel m.attrs
    (fun a ha sr st st' r hR hs => readMethodAttr_enc p bsms a (h8 a ha) sr st st' r hR hs)
    ⟨m.access &&& maskMethod, m.name, m.desc, false, false, none, none, none, [], [], [], [], none, none, []⟩ _ mf
    ⟨rfl, Or.inl ⟨rfl, rfl⟩⟩ hfacts r
  refine ⟨mr, ?_, hR.resolve⟩
  simp only [MethodLayout.encode, encAttrs, List.append_assoc]
  exact bind_ok (u16_be16 _ h1 _) (bind_ok (u16_be16 _ h2 _) (bind_ok h4 (bind_ok (if_pos h5) (bind_ok (u16_get_enc p.getUtf8 _ _ _ h3 h6)
    (bind_ok (u16_be16 _ (by rw [List.length_map]; exact h7) _) (by rw [List.length_map]; exact hloop))))))

/-- the reader's loop state for the description accumulated so far -/
def accState (acc : ClassAcc) : ClassAttrState := ⟨acc.1, acc.2.1, acc.2.2⟩

theorem readInner_enc (p : Pool) (e : SInner) (he : e.Legal p) (r : Bytes) :
    readInnerClass p (e.encode ++ r) = ok (⟨e.inner, e.outer, e.name, e.flags &&& maskInner⟩, r) := by
  obtain ⟨h1, h2, h3, h4, h5, h6, h7⟩ := he
  simp only [SInner.encode, List.append_assoc]
  exact bind_ok (u16_get_enc p.getClass _ _ _ h1 h5) (bind_ok (u16_be16 _ h2 _) (bind_ok h6
    (bind_ok (u16_get_enc (p.getOptional · Pool.getUtf8) _ _ _ h3 h7) (bind_ok (u16_be16 _ h4 r) rfl))))

theorem readBsm_enc (p : Pool) (m : SBsm) (hm : m.Legal p) (r : Bytes) :
    readBsm p (m.encode ++ r) = ok (⟨m.handle, m.args⟩, r) := by
  obtain ⟨h1, h2, h3, h4⟩ := hm
  have := readVec_flatMap u16 be16 id m.args (fun a ha r => u16_be16 a (h4 a ha) r) r
  rw [List.map_id] at this
  simp only [SBsm.encode, List.append_assoc]
  exact bind_ok (u16_be16 _ h1 _) (bind_ok h2 (bind_ok (bind_ok (u16_be16 _ h3 _) this) rfl))

theorem readClassAttr_enc (p : Pool) (a : SClassAttr) (ha : a.Legal p) (acc acc' : ClassAcc) (r : Bytes)
    (h : a.apply acc = some acc') :
    readClassAttr p (accState acc) (attrFrame a.raw.1 a.raw.2 ++ r) = ok (accState acc', r) := by
  cases a with
  | deprecated nc | synthetic nc => cases h; exact attrHeader_bind ha.1 ha.2 (by decide : 0 < 4294967296) rfl
  | sourceFile nc cp s | signature nc cp s | nestHost nc cp s | moduleMainClass nc cp s =>
    obtain ⟨h1, h2, h3, h4⟩ := ha
    obtain ⟨hc, rfl⟩ := ite_isNone_eq_some h
    exact attrHeader_bind h1 h2 (by decide : 2 < 4294967296)
      (bind_ok (u16_get_enc _ cp s r h3 h4) (bind_ok (insertIfEmpty_of_none hc s) rfl))
  | innerClasses nc es =>
    obtain ⟨h1, h2, h3, h4⟩ := ha
    obtain ⟨hc, rfl⟩ := ite_isNone_eq_some h
    have hbody := length_counted_lt SInner.encode 8 (be16 es.length) es (Nat.le_refl 2) h3 (by decide) (fun _ _ => rfl)
    exact attrHeader_bind h1 h2 hbody (bind_ok (readVec16_flatMap (readInnerClass p) SInner.encode _ es h3
      (fun e he r => readInner_enc p e (h4 e he) r) r) (bind_ok (insertIfEmpty_of_none hc _) rfl))
  | enclosingMethod nc clsCp cls mCp m =>
    obtain ⟨h1, h2, h3, h4, h5, h6⟩ := ha
    obtain ⟨hc, rfl⟩ := ite_isNone_eq_some h
    exact attrHeader_bind h1 h2 (by decide : 4 < 4294967296) (bind_ok (u16_get_enc p.getClass clsCp cls (be16 mCp ++ r) h3 h5)
      (bind_ok (u16_be16 mCp h4 r) (bind_ok h6 (bind_ok (insertIfEmpty_of_none hc _) rfl))))
  | nestMembers nc cps names | permittedSubclasses nc cps names =>
    obtain ⟨h1, h2, h3⟩ := ha
    obtain ⟨hc, rfl⟩ := ite_isNone_eq_some h
    exact attrHeader_bind h1 h2 (classRefs_length_lt h3)
      (bind_ok (readClassRefs_enc p cps names h3 r) (bind_ok (insertIfEmpty_of_none hc names) rfl))
  | bootstrapMethods nc ms =>
    obtain ⟨h1, h2, h3, h4, hbody⟩ := ha
    obtain ⟨hc, rfl⟩ := ite_isNone_eq_some h
    exact attrHeader_bind h1 h2 hbody (bind_ok (readVec16_flatMap (readBsm p) SBsm.encode _ ms h3
      (fun m hm r => readBsm_enc p m (h4 m hm) r) r) (bind_ok (insertIfEmpty_of_none hc _) rfl))
  | annotations nc visible as =>
    obtain ⟨h1, h2, h3, h4, h5⟩ := ha
    cases visible <;> cases h <;> exact attrHeader_bind h1 h2 h5 (bind_ok (readAnnotations_enc p as h3 h4 r) rfl)
  | typeAnnotations nc visible as =>
    obtain ⟨h1, h2, h3, h4, h5⟩ := ha
    cases visible <;> cases h <;> exact attrHeader_bind h1 h2 h5 (bind_ok (readTypeAnnos_enc p .cls as h3 h4 r) rfl)
  | sourceDebugExtension nc sde =>
    obtain ⟨h1, h2, h3, h4⟩ := ha
    obtain ⟨hc, rfl⟩ := ite_isNone_eq_some h
    exact attrHeader_bind h1 h2 h4 (bind_ok (takeN_append _ r) (bind_ok (congrArg ofOption (Mutf8.decode_encode sde h3))
      (bind_ok (insertIfEmpty_of_none hc sde) rfl)))
  | record nc comps =>
    obtain ⟨h1, h2, h3, h4, hbody⟩ := ha
    obtain ⟨af, ab, ar⟩ := acc
    cases ar with
    | true => cases h
    | false =>
      cases hcs : mapOpt RecordLayout.facts comps with
      | none => simp only [SClassAttr.apply, hcs] at h; cases h
      | some cs =>
        simp only [SClassAttr.apply, hcs] at h; cases h
        have hvec := readVec_mapOpt_eq (readRecordComponent p) RecordLayout.encode RecordLayout.facts comps cs hcs
          (fun c hc y hy r => readRecordComponent_enc p c (h4 c hc) y hy r) r
        exact attrHeader_bind h1 h2 hbody (bind_ok (bind_ok (u16_be16 _ h3 _) hvec) rfl)
  | module nc m =>
    obtain ⟨h1, h2, h3, h4⟩ := ha
    obtain ⟨hc, rfl⟩ := ite_isNone_eq_some h
    exact attrHeader_bind h1 h2 h4 (bind_ok (readModule_enc p m h3 r) (bind_ok (insertIfEmpty_of_none hc _) rfl))
  | modulePackages nc ps =>
    obtain ⟨h1, h2, h3⟩ := ha
    obtain ⟨hc, rfl⟩ := ite_isNone_eq_some h
    have hbody : (encRefs ps).length < 4294967296 :=
      length_counted_lt (fun x : Nat × JStr => be16 x.1) 2 _ ps (Nat.le_refl 2) h3.1 (by decide) (fun _ _ => rfl)
    exact attrHeader_bind h1 h2 hbody (bind_ok (readRefs_enc p.getPackage ps h3 r) (bind_ok (insertIfEmpty_of_none hc _) rfl))
  | unknown nc name b =>
    obtain ⟨h1, h2, hnot, hlen⟩ := ha
    cases h
    refine attrHeader_bind h1 h2 hlen ?_
    simp only [classAttrNames, List.mem_cons, List.not_mem_nil, or_false, not_or] at hnot
    simp only [hnot, ↓reduceIte]
    exact bind_ok (readUnknown_enc name b r) rfl

/-- **class fidelity**: every legal encoding of a class file is read back, after label resolution, as exactly the
description it was made from, and the reader stops exactly at the end of the class file -/
theorem read_encode (c : ClassLayout) (hleg : c.Legal) (facts : ClassFacts) (hfacts : c.facts = some facts) (r : Bytes) :
    ∃ raw, read (c.encode ++ r) = ok (raw, r) ∧ raw.resolve = some facts := by
  unfold ClassLayout.facts at hfacts
  cases hacc : applyAll SClassAttr.apply (c.base, none, false) c.attrs with
  | none => simp [hacc] at hfacts
  | some acc =>
    cases hfs : mapOpt FieldLayout.facts c.fields with
    | none => simp [hacc, hfs] at hfacts
    | some fs =>
      cases hms : mapOpt MethodLayout.facts c.methods with
      | none => simp [hacc, hfs, hms] at hfacts
      | some ms =>
        simp only [hacc, hfs, hms, Option.some.injEq] at hfacts
        have hbs : c.bsms = acc.2.1 := by simp [ClassLayout.bsms, hacc]
        have hattrs := attrLoopRel_enc (readClassAttrs (poolTable c.pool)) (readClassAttr (poolTable c.pool)) (fun _ _ => rfl)
          (fun _ _ _ => rfl) SClassAttr.raw SClassAttr.apply (fun sr st => sr = accState st) c.attrs
          (fun a ha _ st st' r hR hs => hR ▸ ⟨_, readClassAttr_enc (poolTable c.pool) a (hleg.attrs a ha) st st' r hs, rfl⟩)
          _ _ acc rfl hacc r
        obtain ⟨_, hloop, rfl⟩ := hattrs
        have hfields := readVec_mapOpt_eq (readField (poolTable c.pool)) FieldLayout.encode FieldLayout.facts c.fields fs hfs
          (fun f hf y hy r => readField_enc (poolTable c.pool) f (hleg.fields f hf) y hy r)
        obtain ⟨mrs, hmeth, hmR⟩ := readVec_mapOpt (readMethod (poolTable c.pool) acc.2.1) MethodLayout.encode MethodLayout.facts
          MethodFacts.resolve c.methods ms hms
          (fun m hm y hy r => readMethod_enc (poolTable c.pool) _ m (hbs ▸ hleg.methods m hm) y hy r)
          (encAttrs (c.attrs.map SClassAttr.raw) ++ r)
        have hskipF := skipMembers_enc FieldLayout.encode (fun f => f.attrs.map SFieldAttr.raw)
          (fun f => be16 f.access ++ be16 f.nameCp ++ be16 f.descCp) c.fields hleg.nFields
          (fun f hf => by
            obtain ⟨_, _, _, _, _, _, h7, h8⟩ := hleg.fields f hf
            exact ⟨by simp only [FieldLayout.encode, List.append_assoc], rfl, by rw [List.length_map]; exact h7,
              List.forall_mem_map.mpr fun b hb => fieldFrameOk (poolTable c.pool) b (h8 b hb)⟩)
        have hskipM := skipMembers_enc MethodLayout.encode (fun m => m.attrs.map SMethodAttr.raw)
          (fun m => be16 m.access ++ be16 m.nameCp ++ be16 m.descCp) c.methods hleg.nMethods
          (fun m hm => by
            obtain ⟨_, _, _, _, _, _, h7, h8⟩ := hleg.methods m hm
            exact ⟨by simp only [MethodLayout.encode, List.append_assoc], rfl, by rw [List.length_map]; exact h7,
              List.forall_mem_map.mpr fun b hb => methodFrameOk (poolTable c.pool) c.bsms b (h8 b hb)⟩)
        have hifs := readVec_flatMap (fun s => do
            let (i, s) ← u16 s
            let c ← (poolTable c.pool).getObjClass i
            pure (c, s)) (fun (i : Nat × JStr) => be16 i.1) (·.2) c.interfaces
          (fun i hi r => u16_get_enc _ i.1 i.2 r (hleg.interfaces i hi).1 (hleg.interfaces i hi).2)
        obtain ⟨hv1, hv2, hv3⟩ := hleg.version
        have hver : ¬ (decide (c.major > 67) || (decide (c.major = 67) && decide (c.minor > 0))) = true := by
          simp only [Bool.or_eq_true, Bool.and_eq_true, decide_eq_true_eq]; omega
        refine ⟨{ acc.1 with fields := fs, methods := mrs }, ?_, ?_⟩
        · simp only [ClassLayout.encode, encAttrs, List.length_map, List.append_assoc] at hloop hmeth hskipF hskipM ⊢
          exact bind_ok (u32_be32 0xCAFEBABE (by decide) _) <| bind_ok (u16_be16 _ hv1 _) <| bind_ok (u16_be16 _ hv2 _) <|
            (if_neg hver).trans <| bind_ok (readPool_enc c.pool hleg.poolOk hleg.poolCount _) <|
            bind_ok (u16_be16 _ hleg.access _) <| bind_ok (u16_be16 _ hleg.this.1 _) <| bind_ok hleg.this.2 <|
            bind_ok (u16_be16 _ hleg.super.1 _) <| bind_ok hleg.super.2 <| bind_ok (bind_ok (u16_be16 _ hleg.nInterfaces _) (hifs _)) <| bind_ok (hskipF _) <|
            bind_ok (hskipM _) <| bind_ok (u16_be16 _ hleg.nAttrs _) <| bind_ok hloop <|
            bind_ok (bind_ok (u16_be16 _ hleg.nFields _) (hfields _)) <|
            bind_ok (bind_ok (u16_be16 _ hleg.nMethods _) hmeth) rfl
        · simp only [ClassFacts.resolve, hmR, Option.bind_eq_bind, Option.bind_some, Option.pure_def, ← hfacts]

end ClassRead
