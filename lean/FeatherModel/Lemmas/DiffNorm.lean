import FeatherModel.Lemmas.DiffInverse

/-!
# Replacing `Edit(a, a)` by `None` (what the `.tinydiff` reader does) never changes a successful application
-/

namespace DiffModel
open AList

section generic
variable {K D T : Type} [BEq K] [LawfulBEq K]

omit [BEq K] [LawfulBEq K] in
/-- `normMethod`, `normClass`, `normDiff` map the values with a plain `List.map` -/
theorem map_eq_mapVals (f : D → D) (m : AList K D) : (m.map fun e => (e.1, f e.2)) = mapVals f m := rfl

omit [BEq K] [LawfulBEq K] in
theorem noDup_mapVals (f : D → D) {m : AList K D} (h : NoDup m) : NoDup (mapVals f m) := by
  rw [noDup_iff_keys] at h ⊢
  simpa [keys, mapVals, List.map_map, Function.comp_def] using h

/-- **normalising the diff entries keeps a successful `apply_diff_map`** (key by key, up to `R` on the children).
`Pt` is what `child` needs to know of a target entry (unique keys below it); it holds of the entries of `ts`, of an
entry created from a key, and renaming keeps it. -/
theorem norm_apply_map (ops : Ops K D T) (ns N : Nat) (child : D → T → Option T) (nrm : D → D) (R : T → T → Prop)
    (Pt : T → Prop)
    (hact : ∀ d, ops.action (nrm d) = normAction (ops.action d))
    (hset : ∀ t, ops.setNames t (ops.names t) = t)
    (hPset : ∀ t n, Pt t → Pt (ops.setNames t n)) (hPkey : ∀ k, Pt (ops.fromKey N k))
    (hrefl : ∀ t, R t t)
    {ds : AList K D} {ts res : AList K T} (hnD : NoDup ds) (hnT : NoDup ts)
    (hchild : ∀ e ∈ ds, ∀ t t', Pt t → child e.2 t = some t' → ∃ t'', child (nrm e.2) t = some t'' ∧ R t'' t')
    (hPt : ∀ e ∈ ts, Pt e.2)
    (h : applyMap ops ns N child ds ts = some res) :
    ∃ res', applyMap ops ns N child (ds.map fun e => (e.1, nrm e.2)) ts = some res' ∧
      ∀ k, OptRel R (lookup k res') (lookup k res) := by
  rw [map_eq_mapVals]
  refine applyMap_of_forall ops ns N child (noDup_mapVals nrm hnD) hnT (P := fun k o => OptRel R o (lookup k res))
    fun k => ?_
  have hk := applyMap_exact ops ns N child hnD hnT h k
  rw [lookup_mapVals]
  generalize lookup k res = o at hk ⊢
  cases hld : lookup k ds with
  | none =>
    rw [hld] at hk
    cases hk
    exact ⟨_, rfl, optRel_refl hrefl _⟩
  | some d =>
    -- the child step, wherever the table calls it
    have step : ∀ {t0}, Pt t0 → (child d t0).map some = some o →
        ∃ o', (child (nrm d) t0).map some = some o' ∧ OptRel R o' o := by
      intro t0 hp hc
      obtain ⟨t', hc', rfl⟩ := Option.map_eq_some_iff.mp hc
      obtain ⟨t'', h1, h2⟩ := hchild (k, d) (lookup_mem hld) t0 t' hp hc'
      exact ⟨some t'', by rw [h1]; rfl, h2⟩
    rw [hld] at hk
    cases hlt : lookup k ts with
    | none =>
      rw [hlt] at hk
      simp only [Option.map_some, applySpec, hact] at hk ⊢
      cases ha : ops.action d with
      | add b =>
        rw [ha] at hk
        simp only [normAction] at hk ⊢
        split at hk
        · rename_i hcond
          rw [if_pos hcond]
          exact step (hPset _ _ (hPkey k)) hk
        · cases hk
      | _ => rw [ha] at hk; cases hk
    | some t =>
      have hpt : Pt t := hPt (k, t) (lookup_mem hlt)
      rw [hlt] at hk
      simp only [Option.map_some, applySpec, hact] at hk ⊢
      cases ha : ops.action d with
      | none =>
        rw [ha] at hk
        exact step hpt hk
      | add b =>
        rw [ha] at hk
        simp only [normAction] at hk ⊢
        split at hk
        · rename_i hcond
          rw [if_pos hcond]
          exact step (hPset _ _ hpt) hk
        · cases hk
      | remove a =>
        rw [ha] at hk
        simp only [normAction] at hk ⊢
        split at hk
        · rename_i hcond
          cases hk
          exact ⟨none, if_pos hcond, trivial⟩
        · cases hk
      | edit a b =>
        rw [ha] at hk
        simp only [normAction] at hk ⊢
        split at hk
        · rename_i hcond
          by_cases hab : a = b
          · -- `Edit(a, a)` on an entry named `a` leaves it as it is
            subst hab
            rw [List.set_eq_self_of_getElem? hcond.2, hset] at hk
            rw [if_pos rfl]
            exact step hpt hk
          · rw [if_neg hab]
            simp only [if_pos hcond]
            exact step (hPset _ _ hpt) hk
        · cases hk
end generic

theorem norm_applyOption {a : Action JStr} {t r : Option JStr} (h : applyOption a t = some r) :
    applyOption (normAction a) t = some r := by
  cases a with
  | none => exact h
  | add b => exact h
  | remove x => exact h
  | edit x y =>
    simp only [normAction]
    by_cases hxy : x = y
    · subst hxy
      simp only [if_true]
      cases t with
      | none => simp [applyOption] at h
      | some v =>
        simp only [applyOption] at h ⊢
        split at h
        · rename_i hv
          subst hv
          exact h
        · cases h
    · simp only [hxy, if_false]; exact h

theorem norm_applyParam {d : PDiff} {p p' : Param} (h : applyParam d p = some p') :
    applyParam (normParam d) p = some p' := by
  rw [applyParam_eq] at h ⊢
  obtain ⟨doc, ho, rfl⟩ := Option.map_eq_some_iff.mp h
  simp only [normParam, norm_applyOption ho, Option.map_some]

theorem norm_applyField {d : FDiff} {f f' : Field} (h : applyField d f = some f') :
    applyField (normField d) f = some f' := by
  rw [applyField_eq] at h ⊢
  obtain ⟨doc, ho, rfl⟩ := Option.map_eq_some_iff.mp h
  simp only [normField, norm_applyOption ho, Option.map_some]

theorem norm_applyMethod {ns N : Nat} {d : MDiff} {m m' : Method} (hd : NoDup d.params) (hm : NoDup m.params)
    (h : applyMethod ns N d m = some m') :
    ∃ m'', applyMethod ns N (normMethod d) m = some m'' ∧ MethodEqv m'' m' := by
  obtain ⟨doc, ps, ho, hp, rfl⟩ := applyMethod_eq_some h
  obtain ⟨ps', hps', hrel⟩ := norm_apply_map paramOps ns N applyParam normParam (fun a b => a = b)
    (fun _ => True) (fun _ => rfl) (fun _ => rfl) (fun _ _ _ => trivial) (fun _ => trivial) (fun _ => rfl) hd hm
    (fun _ _ t t' _ hc => ⟨t', norm_applyParam hc, rfl⟩) (fun _ _ => trivial) hp
  refine ⟨{ m with doc := doc, params := ps' }, ?_, rfl, rfl, rfl, fun k => optRel_eq_iff.mp (hrel k)⟩
  simp only [applyMethod_eq, normMethod, norm_applyOption ho, hps', Option.bind_some, Option.map_some]

theorem norm_applyClass {ns N : Nat} {d : CDiff} {c c' : Class} (hd : CDiff.KU d) (hc : Class.KU c)
    (h : applyClass ns N d c = some c') :
    ∃ c'', applyClass ns N (normClass d) c = some c'' ∧ ClassEqv c'' c' := by
  obtain ⟨hdf, hdm, hdp⟩ := hd
  obtain ⟨hcf, hcm, hcp⟩ := hc
  obtain ⟨doc, fs, ms, ho, hf, hm, rfl⟩ := applyClass_eq_some h
  obtain ⟨fs', hfs', hrelf⟩ := norm_apply_map fieldOps ns N applyField normField (fun a b => a = b)
    (fun _ => True) (fun _ => rfl) (fun _ => rfl) (fun _ _ _ => trivial) (fun _ => trivial) (fun _ => rfl) hdf hcf
    (fun _ _ t t' _ hc => ⟨t', norm_applyField hc, rfl⟩) (fun _ _ => trivial) hf
  obtain ⟨ms', hms', hrelm⟩ := norm_apply_map methodOps ns N (applyMethod ns N) normMethod MethodEqv
    (fun m => NoDup m.params) (fun _ => rfl) (fun _ => rfl) (fun _ _ h => h) (fun _ => NoDup.nil) methodEqv_refl hdm hcm
    (fun e he t t' ht hc => norm_applyMethod (hdp e he) ht hc) hcp hm
  refine ⟨{ c with doc := doc, fields := fs', methods := ms' }, ?_, rfl, rfl, fun k => optRel_eq_iff.mp (hrelf k), hrelm⟩
  simp only [applyClass_eq, normClass, norm_applyOption ho, hfs', hms', Option.bind_some, Option.map_some]

end DiffModel
