import FeatherModel.Model.DiffSpec
import FeatherModel.Lemmas.AList
import FeatherModel.Lemmas.Mappings

/-!
# `apply_diff_map` key by key (C04)
The two loops of `apply_diff_map`, generic in the level: the result
under every key is what the table `applySpec` says; the result has unique keys; the node functions of `apply_to` as bind
chains; at every level `apply_diff_map` keeps the entries well formed (stored under the key their first name gives).
-/

namespace DiffModel
open AList

section generic
variable {K D T : Type}

theorem noDup_iff_keys {m : AList K T} : NoDup m ↔ m.keys.Nodup := Iff.rfl

/-- (`List.nodup_nil` does not unify with `NoDup ?m` while the map is still unknown) -/
theorem NoDup.nil : NoDup ([] : AList K T) := List.nodup_nil

theorem changeName_eq (ns : Nat) (frm to : Option JStr) (names : Names) :
    changeName ns frm to names = if ns ≠ 0 ∧ names[ns]? = some frm then some (names.set ns to) else none := by
  unfold changeName
  by_cases h0 : ns = 0
  · simp [h0]
  · by_cases h1 : names[ns]? = some frm <;> simp [h0, h1]

theorem map_some_inj {o : Option T} {t : T} (h : o.map some = some (some t)) : o = some t :=
  Option.map_injective (fun _ _ => Option.some.inj) h

theorem ite_map_some {c : Prop} [Decidable c] {o : Option T} {t : T}
    (h : (if c then o.map some else none) = some (some t)) : c ∧ o = some t := by
  split at h
  · exact ⟨‹c›, map_some_inj h⟩
  · cases h

/-- where an entry of the result comes from: it was not mentioned by the diff, or it is the child step applied to the
old entry (action `None`), to the old entry with the new name (`Add`, `Edit`), or to the entry created from the key -/
theorem applySpec_some_some {ops : Ops K D T} {ns N : Nat} {child : D → T → Option T} {k : K} {od : Option D}
    {ot : Option T} {t' : T} (h : applySpec ops ns N child k od ot = some (some t')) :
    (od = none ∧ ot = some t') ∨ ∃ d, od = some d ∧ ∃ t0, child d t0 = some t' ∧
      ((ot = some t0 ∧ ops.action d = .none) ∨
        (∃ t b, ot = some t ∧ ns ≠ 0 ∧ t0 = ops.setNames t ((ops.names t).set ns (some b))) ∨
        ∃ b, ot = none ∧ ns ≠ 0 ∧ (ops.names (ops.fromKey N k))[ns]? = some none ∧
          t0 = ops.setNames (ops.fromKey N k) ((ops.names (ops.fromKey N k)).set ns (some b))) := by
  cases od with
  | none => exact Or.inl ⟨rfl, Option.some.inj h⟩
  | some d =>
    refine Or.inr ⟨d, rfl, ?_⟩
    cases ot with
    | none =>
      simp only [applySpec] at h
      split at h
      · obtain ⟨hc, hx⟩ := ite_map_some h
        exact ⟨_, hx, Or.inr (Or.inr ⟨_, rfl, hc.1, hc.2, rfl⟩)⟩
      · cases h
    | some t =>
      simp only [applySpec] at h
      split at h
      · exact ⟨t, map_some_inj h, Or.inl ⟨rfl, ‹_›⟩⟩
      · obtain ⟨hc, hx⟩ := ite_map_some h
        exact ⟨_, hx, Or.inr (Or.inl ⟨t, _, rfl, hc.1, rfl⟩)⟩
      · split at h <;> cases h
      · obtain ⟨hc, hx⟩ := ite_map_some h
        exact ⟨_, hx, Or.inr (Or.inl ⟨t, _, rfl, hc.1, rfl⟩)⟩

theorem applySpec_absent (ops : Ops K D T) (ns N : Nat) (child : D → T → Option T) (k : K) (d : D) :
    applySpec ops ns N child k (some d) none = (applyAbsent ops ns N child k d).map some := by
  simp only [applySpec, applyAbsent, changeName_eq]
  cases ops.action d with
  | add b => simp only; split <;> rfl
  | _ => rfl

theorem applySpec_present (ops : Ops K D T) (ns N : Nat) (child : D → T → Option T) (k : K) (d : D) (t : T) :
    applySpec ops ns N child k (some d) (some t) = applyPresent ops ns child d t := by
  simp only [applySpec, applyPresent, changeName_eq]
  cases ops.action d with
  | none => rfl
  | _ => simp only; split <;> rfl

/-- the shape of every guarded row of `applySpec`: it is refused iff a guard fails or the step behind it does -/
theorem guarded_eq_none_iff {β : Type} {p q : Prop} [Decidable p] [Decidable q] {o : Option β} :
    (if ¬ p ∧ q then o else none) = none ↔ p ∨ ¬ q ∨ o = none := by
  by_cases hp : p <;> by_cases hq : q <;> simp [hp, hq]

variable [BEq K] [LawfulBEq K]

/-- what the first loop has done when it ends: it was refused because the table refuses a key of `targets`; or the diffs
that are left are those under keys `targets` does not have, keys outside `targets` hold in `res` what `results` held,
and every key of `targets` holds what the table says -/
def Loop1Post (ops : Ops K D T) (ns N : Nat) (child : D → T → Option T)
    (targets : AList K T) (diffs : AList K D) (results : AList K T) :
    Option (AList K T × AList K D) → Prop
  | .none => ∃ k t, lookup k targets = some t ∧ applySpec ops ns N child k (lookup k diffs) (some t) = none
  | some (res, left) =>
    NoDup left ∧
    (∀ k, lookup k targets = none → lookup k left = lookup k diffs ∧ lookup k res = lookup k results) ∧
    ∀ k t, lookup k targets = some t →
      lookup k left = none ∧ applySpec ops ns N child k (lookup k diffs) (some t) = some (lookup k res)

theorem nodup_cons_iff {V : Type} {k : K} {v : V} {m : AList K V} :
    NoDup ((k, v) :: m) ↔ lookup k m = none ∧ NoDup m := by
  rw [lookup_none_iff]
  exact List.nodup_cons

theorem applyLoop1_spec (ops : Ops K D T) (ns N : Nat) (child : D → T → Option T) :
    ∀ (targets : AList K T) (diffs : AList K D) (results : AList K T),
      NoDup targets → NoDup diffs → (∀ k, (lookup k targets).isSome → lookup k results = none) →
      Loop1Post ops ns N child targets diffs results (applyLoop1 ops ns child targets diffs results) := by
  intro targets
  induction targets with
  | nil =>
    intro diffs results _ hnD _
    exact ⟨hnD, fun k _ => ⟨rfl, rfl⟩, nofun⟩
  | cons e rest ih =>
    obtain ⟨key, target⟩ := e
    intro diffs results hnT hnD hres
    obtain ⟨hkr, hnR⟩ := nodup_cons_iff.mp hnT
    -- one round: the table gives `o` under `key`, the rest of the loop runs on `diffs'` (the diffs without `key`) and
    -- on `results'` (the results with `o` under `key`)
    have round : ∀ {diffs' : AList K D} {results' : AList K T} {o : Option T}, NoDup diffs' →
        lookup key diffs' = none → (∀ k, key ≠ k → lookup k diffs' = lookup k diffs) →
        (∀ k, key ≠ k → lookup k results' = lookup k results) → lookup key results' = o →
        applySpec ops ns N child key (lookup key diffs) (some target) = some o →
        Loop1Post ops ns N child ((key, target) :: rest) diffs results
          (applyLoop1 ops ns child rest diffs' results') := by
      intro diffs' results' o hnD' hkd hother hsame hkey hspec
      have hpre : ∀ k, (lookup k rest).isSome → lookup k results' = none := by
        intro k hk
        have hne : key ≠ k := by
          rintro rfl
          rw [hkr] at hk
          cases hk
        rw [hsame k hne]
        apply hres
        rw [lookup_cons_of_ne hne]
        exact hk
      have post := ih diffs' results' hnR hnD' hpre
      generalize applyLoop1 ops ns child rest diffs' results' = r at post
      cases r with
      | none =>
        obtain ⟨k, t, h1, h2⟩ := post
        have hne : key ≠ k := by
          rintro rfl
          rw [hkr] at h1
          cases h1
        exact ⟨k, t, (lookup_cons_of_ne hne).trans h1, hother k hne ▸ h2⟩
      | some q =>
        obtain ⟨res, left⟩ := q
        obtain ⟨hnL, hout, hin⟩ := post
        refine ⟨hnL, fun k hk => ?_, fun k t hk => ?_⟩
        · have hne : key ≠ k := by
            rintro rfl
            rw [lookup_cons_self] at hk
            cases hk
          rw [lookup_cons_of_ne hne] at hk
          exact ⟨((hout k hk).1).trans (hother k hne), ((hout k hk).2).trans (hsame k hne)⟩
        · by_cases hne : key = k
          · subst hne
            rw [lookup_cons_self] at hk
            cases hk
            exact ⟨((hout key hkr).1).trans hkd, by rw [hspec, (hout key hkr).2, hkey]⟩
          · rw [lookup_cons_of_ne hne] at hk
            exact ⟨(hin k t hk).1, hother k hne ▸ (hin k t hk).2⟩
    simp only [applyLoop1]
    cases hs : swapRemove key diffs with
    | none =>
      have hld := swapRemove_none hs
      exact round hnD hld (fun _ _ => rfl) (fun k hk => lookup_insert_of_ne hk) lookup_insert_self (by rw [hld]; rfl)
    | some q =>
      obtain ⟨d, diffs'⟩ := q
      obtain ⟨hld, _⟩ := swapRemove_some hs
      obtain ⟨hnD', hkd', hother⟩ := swapRemove_rest hs hnD
      have hspec := applySpec_present ops ns N child key d target
      rw [← hld] at hspec
      simp only
      cases hp : applyPresent ops ns child d target with
      | none => exact ⟨key, target, lookup_cons_self, hspec.trans hp⟩
      | some ot =>
        rw [hp] at hspec
        cases ot with
        | none => exact round hnD' hkd' hother (fun _ _ => rfl) (hres key (by rw [lookup_cons_self]; rfl)) hspec
        | some t' => exact round hnD' hkd' hother (fun k hk => lookup_insert_of_ne hk) lookup_insert_self hspec

omit [LawfulBEq K] in
theorem applyLoop2_eq (ops : Ops K D T) (ns N : Nat) (child : D → T → Option T) (left : AList K D) (results : AList K T) :
    applyLoop2 ops ns N child left results =
      (mapValsM (applyAbsent ops ns N child) left).map (·.foldl (fun r e => AList.insert e.1 e.2 r) results) := by
  rw [mapValsM_eq]
  exact List.loop_eq_mapM_foldl _ _ (applyLoop2 ops ns N child) (fun _ => rfl)
    (fun e _ _ => by rw [applyLoop2]; cases applyAbsent ops ns N child e.1 e.2 <;> rfl) left results

/-- **`apply_diff_map`, key by key**: it is refused exactly when some key is refused, and otherwise every key of the
result is what the per-key function says -/
def MapPost (ops : Ops K D T) (ns N : Nat) (child : D → T → Option T)
    (diffs : AList K D) (targets : AList K T) : Option (AList K T) → Prop
  | .none => ∃ k, applySpec ops ns N child k (lookup k diffs) (lookup k targets) = none
  | some res => ∀ k, applySpec ops ns N child k (lookup k diffs) (lookup k targets) = some (lookup k res)

theorem applyMap_spec (ops : Ops K D T) (ns N : Nat) (child : D → T → Option T)
    (diffs : AList K D) (targets : AList K T) (hnD : NoDup diffs) (hnT : NoDup targets) :
    MapPost ops ns N child diffs targets (applyMap ops ns N child diffs targets) := by
  have h1 := applyLoop1_spec ops ns N child targets diffs [] hnT hnD (fun _ _ => rfl)
  unfold applyMap
  generalize applyLoop1 ops ns child targets diffs [] = r1 at h1
  cases r1 with
  | none =>
    obtain ⟨k, t, hk, hbad⟩ := h1
    exact ⟨k, hk ▸ hbad⟩
  | some q =>
    obtain ⟨res1, left⟩ := q
    obtain ⟨hnL, hout, hin⟩ := h1
    simp only [applyLoop2_eq]
    cases hm : mapValsM (applyAbsent ops ns N child) left with
    | none =>
      obtain ⟨k, d, hmem, hbad⟩ := mapValsM_none_iff.mp hm
      have hk := lookup_of_mem_nodup hnL hmem
      refine ⟨k, ?_⟩
      cases ht : lookup k targets with
      | some t =>
        rw [(hin k t ht).1] at hk
        cases hk
      | none => rw [← (hout k ht).1, hk, applySpec_absent, hbad]; rfl
    | some ts =>
      rw [Option.map_some]
      intro k
      rw [lookup_foldl_insert_of_nodup k ts res1 (mapValsM_keys hm ▸ noDup_iff_keys.mp hnL), mapValsM_lookup hm]
      cases ht : lookup k targets with
      | some t => rw [(hin k t ht).2, (hin k t ht).1]; rfl
      | none =>
        obtain ⟨hl, hr⟩ := hout k ht
        rw [hl, hr]
        cases hd : lookup k diffs with
        | none => rfl
        | some d =>
          obtain ⟨t, ht', _⟩ := mapValsM_lookup_some hm (hl.trans hd)
          rw [applySpec_absent, Option.bind_some, ht']
          rfl

theorem applyMap_exact (ops : Ops K D T) (ns N : Nat) (child : D → T → Option T)
    {diffs : AList K D} {targets res : AList K T} (hnD : NoDup diffs) (hnT : NoDup targets)
    (h : applyMap ops ns N child diffs targets = some res) (k : K) :
    applySpec ops ns N child k (lookup k diffs) (lookup k targets) = some (lookup k res) := by
  have := applyMap_spec ops ns N child diffs targets hnD hnT
  rw [h] at this
  exact this k

theorem applyMap_eq_none_iff (ops : Ops K D T) (ns N : Nat) (child : D → T → Option T)
    {diffs : AList K D} {targets : AList K T} (hnD : NoDup diffs) (hnT : NoDup targets) :
    applyMap ops ns N child diffs targets = none ↔
      ∃ k, applySpec ops ns N child k (lookup k diffs) (lookup k targets) = none := by
  have hs := applyMap_spec ops ns N child diffs targets hnD hnT
  generalize applyMap ops ns N child diffs targets = r at hs
  cases r with
  | none => exact ⟨fun _ => hs, fun _ => rfl⟩
  | some res => exact ⟨nofun, fun ⟨k, hk⟩ => nomatch (hs k).symm.trans hk⟩

theorem applyMap_of_forall (ops : Ops K D T) (ns N : Nat) (child : D → T → Option T)
    {diffs : AList K D} {targets : AList K T} (hnD : NoDup diffs) (hnT : NoDup targets) {P : K → Option T → Prop}
    (key : ∀ k, ∃ o, applySpec ops ns N child k (lookup k diffs) (lookup k targets) = some o ∧ P k o) :
    ∃ res, applyMap ops ns N child diffs targets = some res ∧ ∀ k, P k (lookup k res) := by
  cases hr : applyMap ops ns N child diffs targets with
  | none =>
    obtain ⟨k, hk⟩ := (applyMap_eq_none_iff ops ns N child hnD hnT).mp hr
    obtain ⟨o, ho, _⟩ := key k
    rw [hk] at ho
    cases ho
  | some res =>
    refine ⟨res, rfl, fun k => ?_⟩
    obtain ⟨o, ho, hP⟩ := key k
    rw [applyMap_exact ops ns N child hnD hnT hr k] at ho
    cases ho
    exact hP

theorem nodup_loop1 (ops : Ops K D T) (ns : Nat) (child : D → T → Option T) :
    ∀ (targets : AList K T) (diffs : AList K D) (results : AList K T) {res : AList K T} {left : AList K D},
      NoDup results → applyLoop1 ops ns child targets diffs results = some (res, left) → NoDup res := by
  intro targets
  induction targets with
  | nil =>
    intro diffs results res left hn h
    cases h
    exact hn
  | cons e rest ih =>
    obtain ⟨key, target⟩ := e
    intro diffs results res left hn h
    simp only [applyLoop1] at h
    split at h
    · exact ih _ _ (nodup_keys_insert hn) h
    · split at h
      · cases h
      · exact ih _ _ hn h
      · exact ih _ _ (nodup_keys_insert hn) h

theorem nodup_applyMap (ops : Ops K D T) (ns N : Nat) (child : D → T → Option T)
    {diffs : AList K D} {targets res : AList K T} (h : applyMap ops ns N child diffs targets = some res) : NoDup res := by
  unfold applyMap at h
  split at h
  · cases h
  · rename_i results left h1
    obtain ⟨ts, _, rfl⟩ := Option.map_eq_some_iff.mp (applyLoop2_eq ops ns N child left results ▸ h)
    exact List.foldlRecOn ts _ (nodup_loop1 ops ns child targets diffs [] NoDup.nil h1) fun _ hn _ _ => nodup_keys_insert hn

/-- **an entry invariant `Q` (indexed by the key) survives `apply_diff_map`** when the child step and the name update
keep it and the entry created from a key has it (`hkeyQ` may assume that the row has a cell `ns`, so `N ≠ 0`) -/
theorem apply_preserves (ops : Ops K D T) (ns N : Nat) (child : D → T → Option T) (Q : K → T → Prop) (Pd : D → Prop)
    (hchildQ : ∀ k d t t', Pd d → Q k t → child d t = some t' → Q k t')
    (hsetQ : ∀ k t b, ns ≠ 0 → Q k t → Q k (ops.setNames t ((ops.names t).set ns (some b))))
    (hkeyQ : ∀ k, (ops.names (ops.fromKey N k))[ns]? = some none → Q k (ops.fromKey N k))
    {ds : AList K D} {ts res : AList K T} (hnD : NoDup ds) (hnT : NoDup ts)
    (hPd : ∀ e ∈ ds, Pd e.2) (hT : ∀ e ∈ ts, Q e.1 e.2)
    (h : applyMap ops ns N child ds ts = some res) : NoDup res ∧ ∀ e ∈ res, Q e.1 e.2 := by
  have hnr := nodup_applyMap ops ns N child h
  refine ⟨hnr, ?_⟩
  intro ⟨k, t'⟩ he
  have hk := applyMap_exact ops ns N child hnD hnT h k
  rw [lookup_of_mem_nodup hnr he] at hk
  rcases applySpec_some_some hk with ⟨_, ht⟩ | ⟨d, hd, t0, hc, hcase⟩
  · exact hT _ (lookup_mem ht)
  · refine hchildQ k d t0 t' (hPd _ (lookup_mem hd)) ?_ hc
    rcases hcase with ⟨ht, _⟩ | ⟨t, b, ht, hns, rfl⟩ | ⟨b, _, hns, hnm, rfl⟩
    · exact hT _ (lookup_mem ht)
    · exact hsetQ k t b hns (hT _ (lookup_mem ht))
    · exact hsetQ k _ b hns (hkeyQ k hnm)

end generic

theorem applyParam_eq (d : PDiff) (p : Param) :
    applyParam d p = (applyOption d.doc p.doc).map fun doc => { p with doc := doc } := by
  rw [Option.map_eq_match]
  set_option smartUnfolding false in rfl

theorem applyField_eq (d : FDiff) (f : Field) :
    applyField d f = (applyOption d.doc f.doc).map fun doc => { f with doc := doc } := by
  rw [Option.map_eq_match]
  set_option smartUnfolding false in rfl

theorem applyMethod_eq (ns N : Nat) (d : MDiff) (m : Method) :
    applyMethod ns N d m = (applyOption d.doc m.doc).bind fun doc =>
      (applyMap paramOps ns N applyParam d.params m.params).map fun ps => { m with doc := doc, params := ps } := by
  simp only [Option.bind_eq_match, Option.map_eq_match]
  set_option smartUnfolding false in rfl

theorem applyClass_eq (ns N : Nat) (d : CDiff) (c : Class) :
    applyClass ns N d c = (applyOption d.doc c.doc).bind fun doc =>
      (applyMap fieldOps ns N applyField d.fields c.fields).bind fun fs =>
        (applyMap methodOps ns N (applyMethod ns N) d.methods c.methods).map fun ms =>
          { c with doc := doc, fields := fs, methods := ms } := by
  simp only [Option.bind_eq_match, Option.map_eq_match]
  set_option smartUnfolding false in rfl

theorem applyTo_eq (d : Diff) (t : Mappings) (nsName : JStr) :
    applyTo d t nsName = (t.getNamespace nsName).bind fun ns => (applyInfo d.info t.ns ns).bind fun nss =>
      (applyOption d.doc t.doc).bind fun doc =>
        (applyMap classOps ns t.ns.length (applyClass ns t.ns.length) d.classes t.classes).map fun cs =>
          { ns := nss, doc := doc, classes := cs } := by
  simp only [Option.bind_eq_match, Option.map_eq_match]
  set_option smartUnfolding false in rfl

theorem applyMethod_eq_some {ns N : Nat} {d : MDiff} {m m' : Method} (h : applyMethod ns N d m = some m') :
    ∃ doc ps, applyOption d.doc m.doc = some doc ∧ applyMap paramOps ns N applyParam d.params m.params = some ps ∧
      m' = { m with doc := doc, params := ps } := by
  simp only [applyMethod_eq, Option.bind_eq_some_iff, Option.map_eq_some_iff] at h
  obtain ⟨doc, h1, ps, h2, h3⟩ := h
  exact ⟨doc, ps, h1, h2, h3.symm⟩

theorem applyClass_eq_some {ns N : Nat} {d : CDiff} {c c' : Class} (h : applyClass ns N d c = some c') :
    ∃ doc fs ms, applyOption d.doc c.doc = some doc ∧ applyMap fieldOps ns N applyField d.fields c.fields = some fs ∧
      applyMap methodOps ns N (applyMethod ns N) d.methods c.methods = some ms ∧
      c' = { c with doc := doc, fields := fs, methods := ms } := by
  simp only [applyClass_eq, Option.bind_eq_some_iff, Option.map_eq_some_iff] at h
  obtain ⟨doc, h1, fs, h2, ms, h3, h4⟩ := h
  exact ⟨doc, fs, ms, h1, h2, h3, h4.symm⟩

theorem applyTo_eq_some {d : Diff} {t r : Mappings} {nsName : JStr} (h : applyTo d t nsName = some r) :
    ∃ ns nss doc cs, t.getNamespace nsName = some ns ∧ applyInfo d.info t.ns ns = some nss ∧
      applyOption d.doc t.doc = some doc ∧
      applyMap classOps ns t.ns.length (applyClass ns t.ns.length) d.classes t.classes = some cs ∧
      r = { ns := nss, doc := doc, classes := cs } := by
  simp only [applyTo_eq, Option.bind_eq_some_iff, Option.map_eq_some_iff] at h
  obtain ⟨ns, h0, nss, h1, doc, h2, cs, h3, h4⟩ := h
  exact ⟨ns, nss, doc, cs, h0, h1, h2, h3, h4.symm⟩

theorem fromFirstName_row {N ns : Nat} {s : JStr} {x : Option JStr} (h : (fromFirstName N s)[ns]? = some x) :
    (fromFirstName N s).length = N ∧ (fromFirstName N s)[0]? = some (some s) := by
  cases N with
  | zero => cases h
  | succ n => exact ⟨by rw [fromFirstName, List.length_cons, List.length_replicate], rfl⟩

theorem params_preserve {ns N : Nat} {ds : AList Nat PDiff} {ts res : AList Nat Param} (hnD : NoDup ds) (hnT : NoDup ts)
    (hT : ∀ e ∈ ts, Param.WF N e.1 e.2) (h : applyMap paramOps ns N applyParam ds ts = some res) :
    NoDup res ∧ ∀ e ∈ res, Param.WF N e.1 e.2 :=
  apply_preserves paramOps ns N applyParam (Param.WF N) (fun _ => True)
    (by
      intro k d t t' _ hq hc
      obtain ⟨doc, _, rfl⟩ := Option.map_eq_some_iff.mp (applyParam_eq d t ▸ hc)
      exact hq)
    (fun k t b _ hq => ⟨hq.1, List.length_set.trans hq.2⟩)
    (fun k _ => ⟨rfl, List.length_replicate⟩)
    hnD hnT (fun _ _ => trivial) hT h

theorem fields_preserve {ns N : Nat} {ds : AList MemberKey FDiff} {ts res : AList MemberKey Field}
    (hnD : NoDup ds) (hnT : NoDup ts) (hT : ∀ e ∈ ts, Field.WF N e.1 e.2)
    (h : applyMap fieldOps ns N applyField ds ts = some res) : NoDup res ∧ ∀ e ∈ res, Field.WF N e.1 e.2 :=
  apply_preserves fieldOps ns N applyField (Field.WF N) (fun _ => True)
    (by
      intro k d t t' _ hq hc
      obtain ⟨doc, _, rfl⟩ := Option.map_eq_some_iff.mp (applyField_eq d t ▸ hc)
      exact hq)
    (fun k t b hns hq => ⟨hq.1, List.length_set.trans hq.2.1, (List.getElem?_set_ne hns).trans hq.2.2⟩)
    (fun k hc => ⟨rfl, fromFirstName_row hc⟩)
    hnD hnT (fun _ _ => trivial) hT h

theorem methods_preserve {ns N : Nat} {ds : AList MemberKey MDiff} {ts res : AList MemberKey Method}
    (hnD : NoDup ds) (hnT : NoDup ts) (hPd : ∀ e ∈ ds, NoDup e.2.params) (hT : ∀ e ∈ ts, Method.WF N e.1 e.2)
    (h : applyMap methodOps ns N (applyMethod ns N) ds ts = some res) : NoDup res ∧ ∀ e ∈ res, Method.WF N e.1 e.2 :=
  apply_preserves methodOps ns N (applyMethod ns N) (Method.WF N) (fun d => NoDup d.params)
    (by
      intro k d t t' hd hq hc
      obtain ⟨h1, h2, h3, h4, h5⟩ := hq
      obtain ⟨doc, ps, _, hp, rfl⟩ := applyMethod_eq_some hc
      exact ⟨h1, h2, h3, params_preserve hd h4 h5 hp⟩)
    (by
      intro k t b hns hq
      obtain ⟨h1, h2, h3, h45⟩ := hq
      exact ⟨h1, List.length_set.trans h2, (List.getElem?_set_ne hns).trans h3, h45⟩)
    (fun k hc => ⟨rfl, (fromFirstName_row hc).1, (fromFirstName_row hc).2, NoDup.nil, nofun⟩)
    hnD hnT hPd hT h

/-- key uniqueness inside a class diff / a class: what `Diff.WF` and `KeysUnique` say of every entry -/
def CDiff.KU (d : CDiff) : Prop := NoDup d.fields ∧ NoDup d.methods ∧ ∀ m ∈ d.methods, NoDup m.2.params
def Class.KU (c : Class) : Prop := NoDup c.fields ∧ NoDup c.methods ∧ ∀ m ∈ c.methods, NoDup m.2.params

theorem diffWF_iff {d : Diff} : Diff.WF d ↔ NoDup d.classes ∧ ∀ c ∈ d.classes, CDiff.KU c.2 := Iff.rfl

theorem keysUnique_iff {m : Mappings} : KeysUnique m ↔ NoDup m.classes ∧ ∀ c ∈ m.classes, Class.KU c.2 := Iff.rfl

theorem Class.WF.ku {N : Nat} {k : JStr} {c : Class} (h : Class.WF N k c) : Class.KU c := by
  obtain ⟨_, _, hnf, _, hnm, hwm⟩ := h
  exact ⟨hnf, hnm, fun me hme => (hwm me hme).2.2.2.1⟩

theorem classes_preserve {ns N : Nat} {ds : AList JStr CDiff} {ts res : AList JStr Class}
    (hnD : NoDup ds) (hnT : NoDup ts) (hPd : ∀ e ∈ ds, CDiff.KU e.2) (hT : ∀ e ∈ ts, Class.WF N e.1 e.2)
    (h : applyMap classOps ns N (applyClass ns N) ds ts = some res) : NoDup res ∧ ∀ e ∈ res, Class.WF N e.1 e.2 :=
  apply_preserves classOps ns N (applyClass ns N) (Class.WF N) CDiff.KU
    (by
      intro k d t t' hd hq hc
      obtain ⟨h1, h2, h3, h4, h5, h6⟩ := hq
      obtain ⟨doc, fs, ms, _, hf, hm, rfl⟩ := applyClass_eq_some hc
      obtain ⟨hnf, hwf⟩ := fields_preserve hd.1 h3 h4 hf
      exact ⟨h1, h2, hnf, hwf, methods_preserve hd.2.1 h5 hd.2.2 h6 hm⟩)
    (by
      intro k t b hns hq
      obtain ⟨h1, h2, h36⟩ := hq
      exact ⟨List.length_set.trans h1, (List.getElem?_set_ne hns).trans h2, h36⟩)
    (fun k hc => ⟨(fromFirstName_row hc).1, (fromFirstName_row hc).2, NoDup.nil, nofun, NoDup.nil, nofun⟩)
    hnD hnT hPd hT h

theorem getNamespace_lt {m : Mappings} {name : JStr} {ns : Nat} (h : m.getNamespace name = some ns) : ns < m.ns.length :=
  (List.getElem?_eq_some_iff.mp (Mappings.getNamespace_some h)).1

theorem applyInfo_length {info : Action JStr} {nss nss' : List JStr} {ns : Nat} (h : applyInfo info nss ns = some nss') :
    nss'.length = nss.length := by
  cases info with
  | none =>
    cases h
    rfl
  | add _ | remove _ => cases h
  | edit a b =>
    simp only [applyInfo] at h
    split at h
    · cases h
      exact List.length_set
    · cases h

end DiffModel
