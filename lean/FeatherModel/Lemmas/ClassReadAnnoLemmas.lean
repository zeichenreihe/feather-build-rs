import FeatherModel.Lemmas.ClassReadCursor

/-! Annotations and element values are read back from their encoding, at any nesting depth the reader admits (deeper ones
are rejected); type paths and type annotations outside `Code`. -/

namespace ClassRead
open Outcome Spec

mutual
/-- recursion fuel an element value needs: one unit per nesting level and per loop iteration on the path -/
def Spec.SElem.need : SElem → Nat
  | .anno a => 1 + a.need
  | .arr vs => 1 + needElems vs
  | _ => 1
def Spec.SAnno.need : SAnno → Nat
  | .mk _ _ ps => needPairs ps
def Spec.SPair.need : SPair → Nat
  | .mk _ _ v => v.need
def needElems : List SElem → Nat
  | [] => 1
  | v :: r => 1 + max v.need (needElems r)
def needPairs : List SPair → Nat
  | [] => 1
  | q :: r => 1 + max q.need (needPairs r)
end

theorem readConstElem_enc (p : Pool) (tag cp : Nat) (v : Int) (hcp : cp < 65536) (hv : constValue p tag cp = ok v) (r : Bytes) :
    isConstTag tag = true ∧ readConstElem p tag (be16 cp ++ r) = ok (.const tag v, r) := by
  have hu := u16_be16 cp hcp r
  unfold constValue at hv
  -- the arms of `constValue` in order: 5 and 6 (`I` = 73, `J` = 74) deliver the pool value itself, 9 is the default arm,
  -- the other tags deliver a function of the pool value
  split at hv
  case h_5 | h_6 => exact ⟨rfl, bind_ok hu (bind_ok hv rfl)⟩
  case h_9 => cases hv
  all_goals
    obtain ⟨x, hx, hk⟩ := bind_eq_ok hv
    cases hk
    exact ⟨rfl, bind_ok hu (bind_ok hx rfl)⟩

/-- entering `@` / `[` at depth `d`: the contents, which nest `n` levels, are read at depth `d + 1` if the check admits it -/
theorem depth_gate {α : Type} {d n : Nat} {x y : Outcome α} (h : d + 1 ≤ 255 → x = if d + 1 + n ≤ 255 then y else err) :
    (if d + 1 > maxElemDepth then err else x) = if d + (n + 1) ≤ 255 then y else err := by
  unfold maxElemDepth
  by_cases hd : d + 1 ≤ 255
  · exact (if_neg (by omega)).trans <| (h hd).trans (ite_iff (by omega) _ _)
  · exact (if_pos (by omega)).trans (if_neg (by omega)).symm

theorem bind_ite_and {α β : Type} {x : Outcome α} {c c' : Prop} [Decidable c] [Decidable c'] {v : α} {k : α → Outcome β}
    {y : Outcome β} (hx : x = if c then ok v else err) (hk : k v = if c' then y else err) :
    x >>= k = if c ∧ c' then y else err := by
  by_cases h : c
  · simp only [hx, h, if_true, true_and]; exact hk
  · simp only [hx, h, if_false, false_and]; rfl

/- One statement per reader for every depth: it accepts exactly when the nesting below `d` stays within 255.  `hd0` cannot be
dropped: the depth is checked on entering `@` / `[` only, so a constant is read at any `d`. -/
mutual
theorem readElemVal_eq (p : Pool) (e : SElem) (he : e.Legal p) (fuel : Nat) (hf : e.need ≤ fuel) (d : Nat) (hd0 : d ≤ 255)
    (r : Bytes) : readElemVal p fuel d (e.encode ++ r) = if d + e.nest ≤ 255 then ok (e.fact, r) else err := by
  cases fuel with
  | zero => cases e <;> simp [SElem.need] at hf
  | succ fuel =>
    rw [readElemVal]
    cases e with
    | const tag cp v =>
      obtain ⟨k1, k2⟩ := readConstElem_enc p tag cp v he.1 he.2 r
      exact bind_ok (u8_cons tag _) <| (if_pos k1).trans <| k2.trans (if_pos hd0).symm
    | str cp s => exact bind_ok (u8_cons 115 _) <| bind_ok (u16_be16 _ he.1 r) <| bind_ok he.2 (if_pos hd0).symm
    | enum tcp ty ncp name =>
      exact bind_ok (u8_cons 101 _) <| bind_ok (u16_be16 _ he.1 _) <| bind_ok he.2.2.1 <| bind_ok (u16_be16 _ he.2.1 r) <|
        bind_ok he.2.2.2 (if_pos hd0).symm
    | cls cp d => exact bind_ok (u8_cons 99 _) <| bind_ok (u16_be16 _ he.1 r) <| bind_ok he.2 (if_pos hd0).symm
    | anno a =>
      cases a with
      | mk tcp ty ps =>
        obtain ⟨h1, h2, h3, h4⟩ := he
        simp only [SElem.need, SAnno.need] at hf
        exact bind_ok (u8_cons 64 _) <| bind_ok (u16_be16 _ h1 _) <| bind_ok h2 <| depth_gate fun hd => bind_ok (u16_be16 _ h3 _) <|
          bind_ite (readNamedPairs_eq p ps h4 fuel (by omega) (d + 1) hd r) rfl
    | arr vs =>
      obtain ⟨h1, h2⟩ := he
      simp only [SElem.need] at hf
      exact bind_ok (u8_cons 91 _) <| depth_gate fun hd => bind_ok (u16_be16 _ h1 _) <|
        bind_ite (readUnnamed_eq p vs h2 fuel (by omega) (d + 1) hd r) rfl
theorem readNamedPairs_eq (p : Pool) (ps : List SPair) (hps : pairsLegal p ps) (fuel : Nat) (hf : needPairs ps ≤ fuel) (d : Nat)
    (hd0 : d ≤ 255) (r : Bytes) :
    readNamedPairs p fuel d ps.length (encPairs ps ++ r) = if d + pairsNest ps ≤ 255 then ok (pairFacts ps, r) else err := by
  cases fuel with
  | zero => cases ps <;> simp [needPairs] at hf
  | succ fuel =>
    cases ps with
    | nil => rw [List.length_nil, readNamedPairs]; exact (if_pos hd0).symm
    | cons q qs =>
      cases q with
      | mk ncp name v =>
        obtain ⟨⟨h1, h2, h3⟩, h4⟩ := hps
        simp only [needPairs, SPair.need] at hf
        simp only [List.length_cons, readNamedPairs, encPairs, SPair.encode, List.append_assoc]
        exact bind_ok (u16_be16 _ h1 _) <| bind_ok h2 <|
          (bind_ite_and (readElemVal_eq p v h3 fuel (by omega) d hd0 _)
            (bind_ite (readNamedPairs_eq p qs h4 fuel (by omega) d hd0 r) rfl)).trans
          (ite_iff (by simp only [pairsNest, SPair.nest]; omega) _ _)
theorem readUnnamed_eq (p : Pool) (vs : List SElem) (hvs : elemsLegal p vs) (fuel : Nat) (hf : needElems vs ≤ fuel) (d : Nat)
    (hd0 : d ≤ 255) (r : Bytes) :
    readUnnamed p fuel d vs.length (encElems vs ++ r) = if d + elemsNest vs ≤ 255 then ok (elemFacts vs, r) else err := by
  cases fuel with
  | zero => cases vs <;> simp [needElems] at hf
  | succ fuel =>
    cases vs with
    | nil => rw [List.length_nil, readUnnamed]; exact (if_pos hd0).symm
    | cons v ws =>
      simp only [needElems] at hf
      simp only [List.length_cons, readUnnamed, encElems, List.append_assoc]
      exact (bind_ite_and (readElemVal_eq p v hvs.1 fuel (by omega) d hd0 _)
          (bind_ite (readUnnamed_eq p ws hvs.2 fuel (by omega) d hd0 r) rfl)).trans
        (ite_iff (by simp only [elemsNest]; omega) _ _)
end

theorem readUnnamed_enc (p : Pool) (vs : List SElem) (hvs : elemsLegal p vs) (fuel : Nat) (hf : needElems vs ≤ fuel) (d : Nat)
    (hd : d + elemsNest vs ≤ 255) (r : Bytes) : readUnnamed p fuel d vs.length (encElems vs ++ r) = ok (elemFacts vs, r) :=
  (readUnnamed_eq p vs hvs fuel hf d (by omega) r).trans (if_pos hd)

theorem readElemVal_deep (p : Pool) (e : SElem) (he : e.Legal p) (fuel : Nat) (hf : e.need ≤ fuel) (d : Nat) (hd0 : d ≤ 255)
    (hd : 255 < d + e.nest) (r : Bytes) : readElemVal p fuel d (e.encode ++ r) = err :=
  (readElemVal_eq p e he fuel hf d hd0 r).trans (if_neg (by omega))

theorem readUnnamed_deep (p : Pool) (vs : List SElem) (hvs : elemsLegal p vs) (fuel : Nat) (hf : needElems vs ≤ fuel) (d : Nat)
    (hd0 : d ≤ 255) (hd : 255 < d + elemsNest vs) (r : Bytes) : readUnnamed p fuel d vs.length (encElems vs ++ r) = err :=
  (readUnnamed_eq p vs hvs fuel hf d hd0 r).trans (if_neg (by omega))

theorem need_pos_elem (e : SElem) : 1 ≤ e.need := by cases e <;> simp [SElem.need] <;> omega

mutual
theorem need_le_elem (e : SElem) : e.need ≤ e.encode.length := by
  cases e with
  | anno a =>
    have := need_le_anno a
    simp [SElem.need, SElem.encode]; omega
  | arr vs =>
    have := need_le_elems vs
    simp [SElem.need, SElem.encode, be16_length]; omega
  | _ => simp [SElem.need, SElem.encode, be16_length]
theorem need_le_anno (a : SAnno) : a.need ≤ a.encode.length := by
  cases a with
  | mk tcp ty ps =>
    have := need_le_pairs ps
    simp [SAnno.need, SAnno.encode, be16_length]; omega
theorem need_le_pair (q : SPair) : q.need ≤ q.encode.length := by
  cases q with
  | mk ncp name v =>
    have := need_le_elem v
    simp [SPair.need, SPair.encode, be16_length]; omega
theorem need_le_elems (vs : List SElem) : needElems vs ≤ 1 + (encElems vs).length := by
  cases vs with
  | nil => simp [needElems, encElems]
  | cons v ws =>
    have := need_le_elem v
    have := need_le_elems ws
    have := need_pos_elem v
    simp [needElems, encElems]; omega
theorem need_le_pairs (ps : List SPair) : needPairs ps ≤ 1 + (encPairs ps).length := by
  cases ps with
  | nil => simp [needPairs, encPairs]
  | cons q qs =>
    have := need_le_pair q
    have := need_le_pairs qs
    have : 1 ≤ q.need := by cases q with | mk _ _ v => simpa [SPair.need] using need_pos_elem v
    simp [needPairs, encPairs]; omega
end

/-- the fuel `readAnnotation` supplies (`annoFuel`, `2 * bytes + 2`) is always enough, by `need_le_pairs` -/
theorem readAnnotation_eq (p : Pool) (a : SAnno) (ha : a.Legal p) (r : Bytes) :
    readAnnotation p (a.encode ++ r) = if a.nest ≤ 255 then ok (a.fact, r) else err := by
  cases a with
  | mk tcp ty ps =>
    obtain ⟨h1, h2, h3, h4⟩ := ha
    have hn := need_le_pairs ps
    simp only [SAnno.encode, List.append_assoc]
    exact bind_ok (u16_be16 _ h1 _) <| bind_ok h2 <| bind_ok (u16_be16 _ h3 _) <| bind_ite
      (readNamedPairs_eq p ps h4 (annoFuel (encPairs ps ++ r)) (by simp only [annoFuel, List.length_append]; omega) 0 (by omega) r)
      (ite_iff (by simp only [SAnno.nest, Nat.zero_add]) _ _)

theorem readAnnotation_enc (p : Pool) (a : SAnno) (ha : a.Ok p) (r : Bytes) :
    readAnnotation p (a.encode ++ r) = ok (a.fact, r) :=
  (readAnnotation_eq p a ha.1 r).trans (if_pos ha.2)

theorem readAnnotation_deep (p : Pool) (a : SAnno) (ha : a.Legal p) (hn : 255 < a.nest) (r : Bytes) :
    readAnnotation p (a.encode ++ r) = err :=
  (readAnnotation_eq p a ha r).trans (if_neg (by omega))

theorem readAnnotations_enc (p : Pool) (as : List SAnno) (hn : as.length < 65536) (has : ∀ a ∈ as, a.Ok p) (r : Bytes) :
    readAnnotations p (encAnnos as ++ r) = ok (as.map SAnno.fact, r) :=
  readVec16_flatMap (readAnnotation p) SAnno.encode SAnno.fact as hn (fun a ha r => readAnnotation_enc p a (has a ha) r) r

theorem readAnnotationDefault_enc (p : Pool) (e : SElem) (he : e.Ok p) (r : Bytes) :
    readAnnotationDefault p (e.encode ++ r) = ok (e.fact, r) := by
  have hn := need_le_elem e
  exact (readElemVal_eq p e he.1 (annoFuel (e.encode ++ r)) (by simp only [annoFuel, List.length_append]; omega) 0
    (by omega) r).trans (if_pos (by have := he.2; omega))

theorem readTypePath_enc (path : List (Nat × Nat)) (h : typePathOk path) (r : Bytes) :
    readTypePath (encTypePath path ++ r) = ok (path, r) := by
  obtain ⟨hn, hall⟩ := h
  have := readVec_flatMap (fun s => do
      let (kind, s) ← u8 s
      let (idx, s) ← u8 s
      if kind ≤ 2 then (if idx != 0 then err else pure ((kind, 0), s))
      else if kind = 3 then pure ((3, idx), s)
      else err) (fun q : Nat × Nat => [q.1, q.2]) id path
    (fun q hq r => by
      obtain ⟨a, b⟩ := q
      rcases hall _ hq with ⟨h1, rfl⟩ | ⟨rfl, h2⟩
      · exact bind_ok (u8_cons a _) <| bind_ok (u8_cons 0 r) <| if_pos h1
      · rfl) r
  rw [List.map_id] at this
  exact bind_ok (u8_cons path.length _) this

/-- the `TargetInfoRead` the owner's attribute loop passes to `read_type_annotations_attribute`; the model's loops name
the three readers directly, so `readTypeAnnos_enc` meets them by unfolding -/
def targetReader : Owner → Rd Target
  | .cls => readTargetClass
  | .field => readTargetField
  | .method => readTargetMethod

theorem readTarget_enc (o : Owner) (t : Target) (h : targetOk o t) (r : Bytes) :
    targetReader o (encTarget t ++ r) = ok (t, r) := by
  cases o <;> cases t <;> try exact h.elim
  case cls.typeParam | cls.typeParamBound | method.typeParam | method.typeParamBound => obtain ⟨rfl, _⟩ := h; rfl
  case cls.extends_ => exact bind_ok (u8_cons 0x10 _) <| bind_ok (u16_be16 65535 (by decide) r) rfl
  case cls.implements i =>
    exact bind_ok (u8_cons 0x10 _) <| bind_ok (u16_be16 _ (Nat.lt_trans h (by decide)) r) <|
      congrArg (fun x => ok (x, r)) (if_neg (Nat.ne_of_lt h))
  case method.throws i => exact bind_ok (u8_cons 0x17 _) <| bind_ok (u16_be16 _ h r) rfl
  all_goals rfl

theorem readTypeAnnos_enc (p : Pool) (o : Owner) (as : List STypeAnno) (hn : as.length < 65536) (has : ∀ a ∈ as, a.Legal p o) (r : Bytes) :
    readTypeAnnos p (targetReader o) (encTypeAnnos as ++ r) = ok (as.map STypeAnno.fact, r) :=
  readVec16_flatMap _ STypeAnno.encode STypeAnno.fact as hn
    (fun a ha r => by
      obtain ⟨h1, h2, h3⟩ := has a ha
      simp only [STypeAnno.encode, List.append_assoc]
      exact bind_ok (readTarget_enc o a.target h1 _) <| bind_ok (readTypePath_enc a.path h2 _) <| bind_ok (readAnnotation_enc p a.anno h3 r) rfl) r

end ClassRead
