import FeatherModel.Lemmas.RemapTree

/-!
# Lemmas for C07: the shape of annotation pairs and dynamic constants under `remap.rs`; inner names

`remap.rs` finds the simple name a class name spells out with `rsplit_once` (`afterLast`); the specification says
"after the last occurrence" with `reverse` / `takeWhile` (`lastPiece`). They are the same function.
-/

namespace RemapTree

section
variable (r : Remapper)

/-! The shape half of `Remaps` (the owner plays no part in it). -/

theorem pairs_shape : ∀ ps qs : List Pair, remapPairs r ps = some qs → erasePairs qs = erasePairs ps :=
  fun ps => (Asks.view_iff.1 (pairs_remaps r [] ps)).2

theorem pair_shape : ∀ p q : Pair, remapPair r p = some q → erasePair q = erasePair p :=
  fun p => (Asks.view_iff.1 (pair_remaps r [] p)).2

theorem elementValues_shape : ∀ vs ws : List ElementValue, remapElementValues r vs = some ws →
    eraseElementValues ws = eraseElementValues vs :=
  fun vs => (Asks.view_iff.1 (elementValues_remaps r [] vs)).2

theorem constDyn_shape : ∀ c d : ConstDyn, remapConstDyn r c = some d → eraseConstDyn d = eraseConstDyn c :=
  fun c => (Asks.view_iff.1 (constDyn_remaps r [] c)).2

end

theorem takeWhile_append_stop {α : Type} (p : α → Bool) (l1 l2 : List α) (h : ∃ a ∈ l1, p a = false) :
    (l1 ++ l2).takeWhile p = l1.takeWhile p := by
  induction l1 with
  | nil => obtain ⟨a, ha, _⟩ := h; simp at ha
  | cons x xs ih =>
    simp only [List.cons_append, List.takeWhile_cons]
    cases hx : p x with
    | false => rfl
    | true =>
      obtain ⟨a, ha, hpa⟩ := h
      simp only [List.mem_cons] at ha
      rcases ha with rfl | ha
      · rw [hx] at hpa; cases hpa
      · simp [ih ⟨a, ha, hpa⟩]

theorem afterLast_eq_lastPiece (c : Nat) (s : JStr) : afterLast c s = lastPiece c s := by
  induction s with
  | nil => simp [afterLast, lastPiece]
  | cons x xs ih =>
    simp only [afterLast, ih, lastPiece, List.reverse_cons]
    by_cases hc : c ∈ xs
    · have hstop : ∃ a ∈ xs.reverse, (decide (a ≠ c)) = false := ⟨c, by simpa using hc, by simp⟩
      simp only [hc, ↓reduceIte, List.mem_cons, or_true, takeWhile_append_stop _ _ _ hstop]
    · have hall : ∀ a ∈ xs.reverse, (decide (a ≠ c)) = true := by
        intro a ha
        have : a ≠ c := fun e => hc (by simpa [e] using ha)
        simpa using this
      simp only [hc, ↓reduceIte, List.mem_cons, or_false, List.takeWhile_append_of_pos hall]
      by_cases hx : x = c
      · subst hx; simp
      · have : ¬ c = x := fun e => hx e.symm
        simp [hx, this]

theorem simpleName_eq (n : JStr) : simpleName n = spelledSimpleName n := by
  -- the specification writes `/`, `$` and the digit range as numerals: the model's named constants are unfolded to meet it
  have hd : isAsciiDigit = fun c => decide (48 ≤ c ∧ c ≤ 57) := by
    funext c; simp [isAsciiDigit, Bool.decide_and]
  simp only [simpleName, spelledSimpleName, afterLast_eq_lastPiece, SLASH, DOLLAR, hd]
  cases lastPiece 47 n with
  | none => simp only [Option.getD_none]; cases lastPiece 36 n <;> rfl
  | some p => simp only [Option.getD_some]; cases lastPiece 36 p <;> rfl

/-- **inner names**: what `remap.rs` makes of `inner_name` is what a consistent renaming makes of it -/
theorem innerClass_innerName (r : Remapper) (i j : InnerClass) (h : remapInnerClass r i = some j) :
    j.innerName = expectedInnerName i.inner j.inner i.innerName := by
  simp only [remapInnerClass] at h
  split at h
  · cases h
  split at h
  · cases h
  cases h
  simp only [expectedInnerName, ← simpleName_eq]
  cases i.innerName with
  | none => rfl
  | some s =>
    simp only [Option.map_some, mapInnerClassName]
    by_cases hs : simpleName i.inner = some s
    · simp only [hs, ↓reduceIte]; cases simpleName _ <;> rfl
    · simp only [hs, ↓reduceIte]

end RemapTree
