import FeatherModel.Lemmas.VisitProj

/-!
# C17 lemmas — when a read succeeds, and what it delivers

One `Rd` statement (`Lemmas/VisitPos`) for each loop of the reader whose events `proj cfg` speaks of, for every
configuration, not only `full`. Read as "success once the bytes are there" they give `readWith_looked`: a read whose
configuration looks only at well-formed parts of the class succeeds as soon as the bytes are there, ends at the end of the
file and delivers `proj cfg` of `fullEvents c`: the full read of a well-formed class, every masked or declining read of
it, and the reads that pass over the members by their declared lengths (a declined class; a class visitor that reports
`interests.fields = false` and `interests.methods = false`, 52da0aa) whatever is inside them. Read as "what a success
tells" they give `readWith_pos` (the cursor ends at the end of the file, whatever the configuration) and
`readWith_full_inv` (the full read succeeds only on a well-formed class whose bytes are there). Streams of class files.
-/

namespace Visit

/-- a loop over items: where it ends and what it delivers, what each item's read tells (`Q`), and, if every item that
starts within the bytes that are there ends within them, so does the loop (under `W`, which the users set to `cfg = full` for the
record components and to `False` for fields and methods, whose bytes the class attributes after them bound) -/
theorem readSeq_rd {α : Type} {f : Nat → α → Nat → R (Nat × List Ev)} {sz : α → Nat} {ev : Nat → α → List Ev}
    {avail hw : Nat} {A W : Prop} {Q : α → Prop} : ∀ (as : List α) (i p : Nat),
    (∀ a ∈ as, ∀ i p, p + sz a ≤ hw → Rd avail A hw (fun x => x = (p + sz a, ev i a) ∧ Q a ∧
      (W → p ≤ avail → p + sz a ≤ avail)) (f i a p)) →
    p + (as.map sz).sum ≤ hw →
    Rd avail A hw (fun x => x = (p + (as.map sz).sum, seqEv ev i as) ∧ (∀ a ∈ as, Q a) ∧
      (W → p ≤ avail → p + (as.map sz).sum ≤ avail)) (readSeq f i as p)
  | [], _, _, _, _ => ⟨rfl, nofun, fun _ h => h⟩
  | a :: as, i, p, hf, hh => by
    rw [List.map_cons, List.sum_cons] at hh ⊢
    refine .bindv (hf a List.mem_cons_self i p (by omega)) fun ⟨q1, w1⟩ => ?_
    refine .bindv (readSeq_rd as (i + 1) (p + sz a) (fun b hb => hf b (List.mem_cons_of_mem _ hb)) (by omega)) fun ⟨q2, w2⟩ => ?_
    refine ⟨?_, List.forall_mem_cons.mpr ⟨q1, q2⟩, fun hw hp => ?_⟩
    · simp only [seqEv, Nat.add_assoc]
    · have := w2 hw (w1 hw hp)
      omega

theorem readCodeAttrs_rd {avail hw i : Nat} {A : Prop} {P : Ev → Option Ev} {cm : Mask}
    (hP : ∀ unk k pay, P (.kAttr i unk k pay) = keepIf (cm (evBit unk k)) (.kAttr i unk k pay)) :
    ∀ (as : List Attr) (aF aM : KAcc) (p : Nat), as.all codeAttrExact = true →
      (A → codeAttrsWf aF.frames.isSome as = true) → AccRel P cm aF aM → p + lensSize (attrLens as) ≤ hw →
      Rd avail A hw (fun r => r.1 = p + lensSize (attrLens as) ∧ AccRel P cm (codeAcc i aF as) r.2 ∧
          (cm .stackMapTable = true → codeAttrsWf aM.frames.isSome as = true))
        (readCodeAttrs avail i cm aM as p)
  | [], _, _, _, _, _, hr, _ => ⟨rfl, hr, fun _ => rfl⟩
  | a :: as, aF, aM, p, hx, hA, hr, hh => by
    simp only [List.all_cons, Bool.and_eq_true, codeAttrExact, beq_iff_eq] at hx
    simp only [attrLens, List.map_cons, lensSize_cons] at hh ⊢
    have hrel := accAddPure_rel (a := a) hP hr
    have hA' := fun h => (codeAttrsWf_cons i a as aF).mp (hA h)
    refine .bindv (.need (n := 6) (by omega)) fun _ => ?_
    simp only [codeAcc, codeAttrsWf_cons i a as aM]
    cases hm : cm (codeBit a.k) <;> simp only [hm, Bool.false_eq_true, if_false, if_true] at hrel ⊢
    · refine (readCodeAttrs_rd hP as _ _ _ hx.2 (fun h => (hA' h).2) hrel (by simp only [attrLens]; omega)).imp ?_
      rintro _ ⟨e, hr', w⟩
      -- a masked attribute is no stack map the visitor asked for
      have hk : cm .stackMapTable = true → isFramesKind a.k = false := fun hs =>
        (accAddPure_cases i a).elim (fun c => absurd (c.2.1 ▸ hs) (by simp [hm])) (·.1)
      refine ⟨by simp only [attrLens] at e; omega, hr', fun hs => ⟨by simp [hk hs], ?_⟩⟩
      rw [accAddPure_frames, hk hs]
      exact w hs
    · refine .bindv (.need (hx.1 ▸ by omega)) fun _ => ?_
      refine .bind (.exactly hx.1) fun _ _ => ?_
      rw [accAdd_eq]
      split
      · -- a second stack map on the masked side is a second one on the full side
        rename_i h2
        simp only [Bool.and_eq_true, hr.frames] at h2
        intro h
        rw [(hA' h).1 h2.1, ite_self] at h2
        exact nomatch h2.2
      · rename_i h2
        refine (readCodeAttrs_rd hP as _ _ _ hx.2 (fun h => (hA' h).2) hrel (by simp only [attrLens]; omega)).imp ?_
        rintro _ ⟨e, hr', w⟩
        refine ⟨by simp only [attrLens, hx.1] at e; omega, hr', fun hs => ⟨fun hk => ?_, w hs⟩⟩
        simpa [hk] using h2

theorem readCode_rd {avail hw : Nat} {A : Prop} {cfg : Cfg} {m : Mask} {mc : MethodCfg} {i : Nat}
    (hc : cfg.cls = some m) (hmi : cfg.methodsI = true) (hm : cfg.method i = some mc) {c : Code} {p : Nat}
    (hx : c.exact = true) (hA : A → codeAttrsWf false c.attrs = true) (hh : p + c.len ≤ hw) :
    Rd avail A hw (fun r => r = (p + c.len, (codeEv i c).filterMap (proj cfg)) ∧
        (mc = fullMc → codeAttrsWf false c.attrs = true))
      (readCode avail i mc c p) := by
  cases hcode : mc.code <;> cases hcv : mc.codeV
  case true.some cm =>
    have hcm : codeMaskOf cfg i = some cm := by simp [codeMaskOf, hc, hmi, hm, hcode, hcv]
    simp only [Code.exact, Bool.and_eq_true, beq_iff_eq] at hx
    have hlen := hx.1
    simp only [Code.size, attrsSize_eq] at hlen
    simp only [readCode, hcode, hcv, if_true]
    refine .bindv (.need (by omega)) fun _ => ?_
    refine .bindv (.need (n := 2) (by omega)) fun _ => ?_
    refine .bind (readCodeAttrs_rd (P := proj cfg) (by simp [hcm]) c.attrs {} {} _ hx.2 hA (accRel_init _ _) (by omega)) ?_
    rintro ⟨_, aM⟩ ⟨rfl, hrel, w⟩
    refine .bind (.exactly (by omega)) fun _ _ => ⟨?_, fun hmc => ?_⟩
    · -- of the events `codeBegin`, `codeMaxs`, `codeEnd` are kept (`hcm`) and the rest is `codeTail_proj`
      simp [codeEv, codeTail_proj (c := c) hcm hrel, hc, hmi, hm, hcm, hcode, keepIf, List.filterMap_append]
      omega
    · subst hmc
      cases hcv
      exact w rfl
  -- no code visitor: `Code` is skipped by its declared length, and at most `codeBegin` survives the projection
  all_goals
    have hn : codeMaskOf cfg i = none := by simp [codeMaskOf, hc, hm, hcode, hcv]
    simp only [readCode, hcode, hcv, Bool.false_eq_true, if_false, if_true]
    refine ⟨by simp [codeEv_drop hn, hc, hmi, hm, hcode, keepIf], fun hmc => ?_⟩
    subst hmc
    simp [fullMc] at hcode hcv

theorem readMethodAttrs_rd {avail hw : Nat} {A : Prop} {cfg : Cfg} {m : Mask} {mc : MethodCfg} {i : Nat}
    (hc : cfg.cls = some m) (hmi : cfg.methodsI = true) (hm : cfg.method i = some mc) :
    ∀ (as : List MAttr) (p : Nat), as.all mattrExact = true → (A → as.all mattrWf = true) →
      p + lensSize (mattrLens as) ≤ hw →
      Rd avail A hw (fun r => r = (p + lensSize (mattrLens as), (methodAttrsEv i as).1.filterMap (proj cfg),
          (methodAttrsEv i as).2.1, (methodAttrsEv i as).2.2) ∧ (mc = fullMc → as.all mattrWf = true))
        (readMethodAttrs avail i mc as p)
  | [], _, _, _, _ => ⟨rfl, fun _ => rfl⟩
  | a :: as, p, hx, hA, hh => by
    simp only [List.all_cons, Bool.and_eq_true] at hx hA ⊢
    simp only [mattrLens, List.map_cons, lensSize_cons] at hh ⊢
    cases a with
    | leaf a =>
      refine .bindv (.need (n := 6) (by omega)) fun _ => ?_
      refine .bindv (leaf1_rd (proj cfg) (by simp [hc, hmi, hm]) hx.1 (by simp only [mattrLen] at hh ⊢; omega)) fun _ => ?_
      refine .bindv (readMethodAttrs_rd hc hmi hm as _ hx.2 (fun h => (hA h).2)
        (by simp only [mattrLen, mattrLens] at hh ⊢; omega)) fun w => ?_
      refine ⟨?_, fun h => ⟨rfl, w h⟩⟩
      simp only [methodAttrsEv, List.filterMap_append, mattrLen, mattrLens]
      exact Prod.ext (by simp only; omega) rfl
    | code c =>
      refine .bindv (.need (n := 6) (by omega)) fun _ => ?_
      refine .bindv (readCode_rd hc hmi hm hx.1 (fun h => (hA h).1) (by simp only [mattrLen] at hh ⊢; omega)) fun w1 => ?_
      refine .bindv (readMethodAttrs_rd hc hmi hm as _ hx.2 (fun h => (hA h).2)
        (by simp only [mattrLen, mattrLens] at hh ⊢; omega)) fun w => ?_
      refine ⟨?_, fun h => ⟨w1 h, w h⟩⟩
      simp only [methodAttrsEv, List.filterMap_append, mattrLen, mattrLens]
      exact Prod.ext (by simp only; omega) rfl

theorem readRecComps_rd {avail hw : Nat} {A : Prop} {cfg : Cfg} {m : Mask} (hc : cfg.cls = some m) (hr : m .record = true)
    (comps : List RecComp) (r p : Nat) (hx : comps.all (fun rc => rc.attrs.all (leafExact recAct)) = true)
    (hh : p + compsSize comps ≤ hw) :
    Rd avail A hw (fun x => x = (p + compsSize comps, (recCompsEv r comps).filterMap (proj cfg)) ∧
        (cfg = full → p ≤ avail → p + compsSize comps ≤ avail))
      (readRecComps avail cfg r comps p) := by
  rw [readRecComps_eq, recCompsEv_eq, seqEv_filterMap]
  refine (readSeq_rd (W := cfg = full) (Q := fun _ => True) comps r p (fun rc hrc r p h => ?_) hh).imp
    fun _ h => ⟨h.1, h.2.2⟩
  have hx := List.all_eq_true.mp hx rc hrc
  refine (readItem_rd (Q := fun _ => cfg = full → p + RecComp.size rc ≤ avail)
    (leafsEv recAct (Ev.rAttr r) rc.attrs) (proj cfg) (by simp [hc, hr, keepIf]) (fun _ => rfl) ?_ h).imp
    fun _ h => ⟨h.1, trivial, fun hf _ => ?_⟩
  · cases hcr : cfg.recc r with
    | none =>
      exact ⟨List.filterMap_eq_nil_iff.mpr (leafsEv_all (by simp [recMaskOf, hc, hr, hcr]) _),
        by simp [recMaskOf, hc, hr, hcr, keepIf]⟩
    | some rm =>
      refine ⟨by simp [recMaskOf, hc, hr, hcr, keepIf], (readLeafs_rd (proj cfg) (by simp [recMaskOf, hc, hr, hcr]) _ _ hx
        (by simp only [RecComp.size, attrsSize_eq] at h; omega)).imp fun _ h => ⟨h.1, fun h2 hf => ?_⟩⟩
      subst hf
      have := h.2 (Option.some.inj hcr).symm (fun k => by cases k <;> decide) h2
      simp only [RecComp.size, attrsSize_eq]
      omega
  · subst hf
    exact h.2.2 _ rfl rfl

/-- the state `st'` of the masked loop follows `st` (what the well-formedness of the rest is stated for) exactly for
`BootstrapMethods` (always parsed), one way for `Record`: the masked run may have skipped a `Record` -/
theorem readClassAttrs_rd {avail hw : Nat} {A : Prop} {cfg : Cfg} {m : Mask} (hc : cfg.cls = some m) :
    ∀ (as : List CAttr) (st st' : CSt) (p : Nat), as.all cattrExact = true → (A → classAttrsWf st as = true) →
      st'.hadBsm = st.hadBsm → (st'.hadRecord = true → st.hadRecord = true) → p + lensSize (cattrLens as) ≤ hw →
      Rd avail A hw (fun r => r = (p + lensSize (cattrLens as), (classAttrsEv as).1.filterMap (proj cfg),
          (classAttrsEv as).2.1, (classAttrsEv as).2.2) ∧ (m .record = true → classAttrsWf st' as = true) ∧
          (cfg = full → m = allMask → p ≤ avail → p + lensSize (cattrLens as) ≤ avail))
        (readClassAttrs avail cfg m st' as p)
  | [], _, _, _, _, _, _, _, _ => ⟨rfl, fun _ => rfl, fun _ _ h => h⟩
  | .leaf a :: as, st, st', p, hx, hA, hb, hrec, hh => by
    simp only [List.all_cons, Bool.and_eq_true] at hx
    simp only [cattrLens, List.map_cons, cattrLen, lensSize_cons] at hh ⊢
    -- a `BootstrapMethods` must be the first, and is remembered
    have hA' := fun h => (classAttrsWf_leaf a as st).mp (hA h)
    refine .bindv (.need (n := 6) (by omega)) fun h6 => ?_
    split
    · rename_i h2
      exact fun h => absurd (hb ▸ h2) (hA' h).1
    · rename_i hnb
      refine .bindv (leaf1_rd (proj cfg) (by simp [hc]) hx.1 (by omega)) fun b1 => ?_
      refine .bindv (readClassAttrs_rd hc as _ _ _ hx.2 (fun h => (hA' h).2) (by split <;> simp [hb])
        (by split <;> simpa using hrec) (by simp only [cattrLens]; omega)) fun ⟨w, b⟩ => ?_
      refine ⟨?_, fun hm => (classAttrsWf_leaf a as st').mpr ⟨hnb, w hm⟩, fun hf hm _ => ?_⟩
      · simp only [classAttrsEv, List.filterMap_append, cattrLens]
        exact Prod.ext (by simp only; omega) rfl
      · have := b hf hm (b1 hm (by cases a.k <;> decide) h6)
        simp only [cattrLens] at this
        omega
  | .record len comps :: as, st, st', p, hx, hA, hb, hrec, hh => by
    simp only [List.all_cons, Bool.and_eq_true, cattrExact, beq_iff_eq] at hx
    simp only [cattrLens, List.map_cons, cattrLen, lensSize_cons] at hh ⊢
    have hlen : len = 2 + compsSize comps := hx.1.1.trans (recSize_eq comps)
    have hA' : A → st.hadRecord = false ∧ classAttrsWf { st with hadRecord := true } as = true := fun h => by
      simpa [classAttrsWf] using hA h
    refine .bindv (.need (n := 6) (by omega)) fun h6 => ?_
    simp only [classAttrsEv, List.filterMap_append]
    cases hm : m .record <;> simp only [Bool.false_eq_true, if_false, if_true]
    · refine .bindv (readClassAttrs_rd hc as { st with hadRecord := true } st' _ hx.2 (fun h => (hA' h).2) hb
        (fun _ => rfl) (by simp only [cattrLens]; omega)) fun ⟨_, _⟩ => ?_
      refine ⟨?_, nofun, fun _ hm' => absurd (hm' ▸ hm) (by decide)⟩
      rw [recCompsEv_drop (cfg := cfg) (by simp [hc, hm, keepIf]) (by simp [recMaskOf, hc, hm]) comps 0]
      exact Prod.ext (by simp only [cattrLens]; omega) rfl
    · split
      · rename_i h2
        exact fun h => absurd ((hA' h).1 ▸ hrec h2) (by decide)
      · rename_i hnr
        refine .bindv (.need (n := 2) (by omega)) fun h8 => ?_
        refine .bindv (readRecComps_rd hc hm comps 0 _ hx.1.2 (by omega)) fun b1 => ?_
        refine .bind (.exactly (by omega)) fun _ _ => ?_
        refine .bindv (readClassAttrs_rd hc as { st with hadRecord := true } { st' with hadRecord := true } _ hx.2
          (fun h => (hA' h).2) hb (fun _ => rfl) (by simp only [cattrLens]; omega)) fun ⟨w, b⟩ => ?_
        refine ⟨?_, fun _ => by simpa [classAttrsWf, hnr] using w hm, fun hf hm' _ => ?_⟩
        · exact Prod.ext (by simp only [cattrLens]; omega) rfl
        · have := b hf hm' (b1 hf h8)
          simp only [cattrLens] at this
          omega

/-- the fields inside `with_pos`: visited and projected, or — `interests.fields = false` — skipped, with no event -/
theorem readFieldsI_rd {avail hw : Nat} {A : Prop} {cfg : Cfg} {m : Mask} (hc : cfg.cls = some m) {fs : List Field} {p : Nat}
    (hx : cfg.fieldsI = true → fs.all (fun f => f.attrs.all (leafExact fieldAct)) = true)
    (hA : A → cfg.fieldsI = true → fs.all (·.ok) = true) (hh : p + fieldsSize fs ≤ hw) :
    Rd avail A hw (fun r => r = (p + fieldsSize fs, (fieldsEv 0 fs).filterMap (proj cfg)) ∧
        (cfg.fieldsI = true → fs.all (·.ok) = true))
      (readFieldsI avail cfg fs p) := by
  unfold readFieldsI
  cases hf : cfg.fieldsI with
  | true =>
    rw [if_pos rfl, readFields_eq, fieldsEv_eq, seqEv_filterMap]
    refine (readSeq_rd (W := False) (Q := fun f => f.ok = true) fs 0 p (fun f hfm i p h => ?_) hh).imp
      fun _ h => ⟨h.1, fun _ => List.all_eq_true.mpr h.2.1⟩
    refine (readItem_rd (Q := fun _ => True) (leafsEv fieldAct (Ev.fAttr i) f.attrs) (proj cfg) (by simp [hc, hf, keepIf])
      (fun h => List.all_eq_true.mp (hA h hf) f hfm) ?_ h).imp fun _ h => ⟨h.1, h.2.1, nofun⟩
    cases hcf : cfg.field i with
    | none => exact ⟨List.filterMap_eq_nil_iff.mpr (leafsEv_all (by simp [hc, hcf]) _), by simp [hc, hf, hcf, keepIf]⟩
    | some fm =>
      exact ⟨by simp [hc, hf, hcf, keepIf], (readLeafs_rd (proj cfg) (by simp [hc, hf, hcf]) _ _
        (List.all_eq_true.mp (hx hf) f hfm) (by simp only [Field.size, attrsSize_eq] at h; omega)).imp
          fun _ h => ⟨h.1, fun _ => trivial⟩⟩
  | false =>
    refine .bind (skipMembers_rd _ _ (by rw [fields_sum]; omega)) ?_
    rintro _ rfl
    exact ⟨by rw [fields_sum, fieldsEv_drop (Or.inr hf)], nofun⟩

theorem readMethods_rd {avail hw : Nat} {A : Prop} {cfg : Cfg} {m : Mask} (hc : cfg.cls = some m)
    (hmi : cfg.methodsI = true) (ms : List Method) (i p : Nat) (hx : ms.all (fun m => m.attrs.all mattrExact) = true)
    (hA : A → ms.all (fun m => m.attrs.all mattrWf) = true ∧ ms.all (·.ok) = true) (hh : p + methodsSize ms ≤ hw) :
    Rd avail A hw (fun r => r = (p + methodsSize ms, (methodsEv i ms).filterMap (proj cfg)) ∧
        ∀ mt ∈ ms, mt.ok = true ∧ (cfg = full → mt.attrs.all mattrWf = true))
      (readMethods avail cfg i ms p) := by
  rw [readMethods_eq, methodsEv_eq, seqEv_filterMap]
  refine (readSeq_rd (W := False) ms i p (fun mt hmt i p h => ?_) hh).imp fun _ h => ⟨h.1, h.2.1⟩
  refine (readItem_rd (Q := fun mc => mc = fullMc → mt.attrs.all mattrWf = true) (methodAttrsEv i mt.attrs) (proj cfg)
    (by simp [hc, hmi, keepIf]) (fun h => List.all_eq_true.mp (hA h).2 mt hmt) ?_ h).imp
      fun _ h => ⟨h.1, ⟨h.2.1, fun hf => by subst hf; exact h.2.2 _ rfl rfl⟩, nofun⟩
  cases hcm : cfg.method i with
  | none =>
    exact ⟨methodAttrsEv_drop (by simp [hc, hcm]) (by simp [hc, hcm]) (by simp [codeMaskOf, hc, hcm]) _,
      by simp [hc, hmi, hcm, keepIf]⟩
  | some mc =>
    exact ⟨by simp [hc, hmi, hcm, keepIf], (readMethodAttrs_rd hc hmi hcm _ _ (List.all_eq_true.mp hx mt hmt)
      (fun h => List.all_eq_true.mp (hA h).1 mt hmt) (by simp only [Method.size, attrsSize_eq] at h; omega)).imp
        fun _ h => ⟨h.1, fun _ => h.2⟩⟩

/-- the methods inside `with_pos`: read and projected, or — `interests.methods = false` — not read at all -/
theorem readMethodsI_rd {avail hw : Nat} {A : Prop} {cfg : Cfg} {m : Mask} (hc : cfg.cls = some m) {ms : List Method}
    {q : Nat} (hx : cfg.methodsI = true → ms.all (fun m => m.attrs.all mattrExact) = true)
    (hA : A → cfg.methodsI = true → ms.all (fun m => m.attrs.all mattrWf) = true ∧ ms.all (·.ok) = true)
    (hh : q + 2 + methodsSize ms ≤ hw) :
    Rd avail A hw (fun r => r = (methodsEv 0 ms).filterMap (proj cfg) ∧
        (cfg.methodsI = true → ∀ mt ∈ ms, mt.ok = true ∧ (cfg = full → mt.attrs.all mattrWf = true)))
      (readMethodsI avail cfg ms q) := by
  unfold readMethodsI
  cases hmi : cfg.methodsI with
  | true =>
    refine .bindv (.need (n := 2) (by omega)) fun _ => ?_
    refine .bindv (readMethods_rd hc hmi ms 0 _ (hx hmi) (fun h => hA h hmi) hh) fun w => ?_
    exact ⟨rfl, fun _ => w⟩
  | false => exact ⟨by simp [methodsEv_drop (Or.inr hmi)], nofun⟩

theorem readMethods_pos {avail : Nat} {cfg : Cfg} : ∀ (ms : List Method) (i p : Nat) (res : Nat × List Ev),
    ms.all (fun m => m.attrs.all mattrExact) = true →
    readMethods avail cfg i ms p = .ok res → res.1 = p + methodsSize ms := by
  intro ms i p res hx h
  -- the loop asks the configuration for the method visitors only
  have h' : readMethods avail { full with method := cfg.method } i ms p = .ok res := by
    rw [readMethods_eq] at h ⊢
    exact h
  exact congrArg Prod.fst ((readMethods_rd rfl rfl ms i p hx id (Nat.le_refl _)).ok h').1

/-- the cursor ends exactly at the end of the class file, whatever the configuration — also when the fields are skipped
or the methods are not read inside `with_pos` (the position handed back is the one remembered after the class attributes) -/
theorem readWith_pos {cfg : Cfg} {c : ClassFrame} {avail : Nat} {res : Nat × List Ev}
    (hx : c.attrs.all cattrExact = true) (h : readWith cfg c avail = .ok res) : res.1 = c.size := by
  obtain ⟨hok, hle⟩ := readWith_ok_prefix h
  rw [readWith_prefix hok hle] at h
  rw [c.size_eq]
  split at h
  · obtain ⟨p, hp, h⟩ := Except.bind_eq_ok.mp h
    cases h
    exact (skipAttrsGo_rd (A := True) _ _ (Nat.le_refl _)).ok hp
  · rename_i m hc
    obtain ⟨⟨p, evs, d, sy⟩, hr', h⟩ := Except.bind_eq_ok.mp h
    obtain ⟨_, _, h⟩ := Except.bind_eq_ok.mp h
    obtain ⟨_, _, h⟩ := Except.bind_eq_ok.mp h
    cases h
    exact congrArg Prod.fst ((readClassAttrs_rd hc c.attrs {} {} _ hx id rfl id (Nat.le_refl _)).ok hr').1

/-- **the read of a class file whose parts the configuration looks at are well formed**: it succeeds as soon as the bytes
are there, ends at the end of the file and delivers `proj cfg` of `fullEvents c`. A declined class needs a readable
header only; fields (methods) that the class visitor does not ask for may hold anything. -/
theorem readWith_looked {cfg : Cfg} {c : ClassFrame} {avail : Nat} (hok : c.hdrOk = true) (hle : c.size ≤ avail)
    (ha : cfg.cls.isSome → c.attrs.all cattrExact = true ∧ classAttrsWf {} c.attrs = true)
    (hf : cfg.cls.isSome → cfg.fieldsI = true →
      c.fields.all (fun f => f.attrs.all (leafExact fieldAct)) = true ∧ c.fields.all (·.ok) = true)
    (hm : cfg.cls.isSome → cfg.methodsI = true → c.methods.all (fun m => m.attrs.all mattrExact) = true ∧
      c.methods.all (fun m => m.attrs.all mattrWf) = true ∧ c.methods.all (·.ok) = true) :
    readWith cfg c avail = .ok (c.size, (fullEvents c).filterMap (proj cfg)) := by
  rw [c.size_eq] at hle ⊢
  rw [readWith_prefix hok (by omega)]
  cases hc : cfg.cls with
  | none =>
    have h6 := (skipAttrsGo_rd (A := True) (cattrLens c.attrs) _ (Nat.le_refl _)).of_bytes (fun _ h => h) trivial hle
    simp [h6, pure_ok, Except.ok_bind, fullEvents, List.filterMap_append, classAttrsEv_drop hc,
      fieldsEv_drop (.inl hc), methodsEv_drop (.inl hc), hc, keepIf]
  | some m =>
    have hs : cfg.cls.isSome = true := by rw [hc]; rfl
    have h6 := (readClassAttrs_rd (A := True) hc c.attrs {} {} _ (ha hs).1 (fun _ => (ha hs).2) rfl id
      (Nat.le_refl _)).of_bytes (fun _ h => h.1) trivial hle
    have h7 := (readFieldsI_rd (A := True) (p := c.hdr + 2) hc (fun h => (hf hs h).1) (fun _ h => (hf hs h).2)
      (Nat.le_refl _)).of_bytes (avail := avail) (fun _ h => h.1) trivial (by omega)
    have h8 := (readMethodsI_rd (A := True) (q := c.hdr + 2 + fieldsSize c.fields) hc (fun h => (hm hs h).1)
      (fun _ h => (hm hs h).2) (Nat.le_refl _)).of_bytes (avail := avail) (fun _ h => h.1) trivial (by omega)
    simp only [h6, h7, h8, Except.ok_bind, pure_ok, fullEvents, List.filterMap_append, List.filterMap_cons, List.filterMap_nil,
      proj_classBegin, proj_classFlags, proj_classEnd, hc, Option.isSome_some, keepIf, if_true, List.cons_append]

theorem readWith_full_inv {c : ClassFrame} {avail n : Nat} {evs : List Ev} (hx : framesExact c = true)
    (h : readWith full c avail = .ok (n, evs)) : wellFormed c = true ∧ c.size ≤ avail := by
  obtain ⟨hxf, hxm, hxa⟩ := framesExact_parts hx
  obtain ⟨hok, hp⟩ := readWith_ok_prefix h
  rw [readWith_prefix hok hp] at h
  simp only [full_cls] at h
  obtain ⟨⟨p6, cevs, d, sy⟩, hr', h⟩ := Except.bind_eq_ok.mp h
  obtain ⟨⟨q2, fevs⟩, hr2, h⟩ := Except.bind_eq_ok.mp h
  obtain ⟨mevs, hm, h⟩ := Except.bind_eq_ok.mp h
  have ⟨_, hcw, hle⟩ := (readClassAttrs_rd full_cls c.attrs {} {} _ hxa id rfl id (Nat.le_refl _)).ok hr'
  have ⟨_, hfn⟩ := (readFieldsI_rd full_cls (fun _ => hxf) (fun h _ => h) (Nat.le_refl _)).ok hr2
  have ⟨_, hmn⟩ := (readMethodsI_rd full_cls (fun _ => hxm) (fun h _ => h) (Nat.le_refl _)).ok hm
  refine ⟨?_, c.size_eq ▸ hle rfl rfl hp⟩
  simp only [wellFormed, hx, hcw rfl, hok, Bool.and_eq_true, List.all_eq_true, true_and]
  exact ⟨⟨fun m hm => List.all_eq_true.mp ((hmn rfl m hm).2 rfl), List.all_eq_true.mp (hfn rfl)⟩,
    fun m hm => (hmn rfl m hm).1⟩

/-- the bytes of class files back to back -/
def sizes (cs : List ClassFrame) : Nat := (cs.map ClassFrame.size).sum

theorem readStream_of_reads (g : Cfg → ClassFrame → List Ev) : ∀ (cs : List ClassFrame) (cfgs : List Cfg)
    (base total : Nat), cfgs.length = cs.length → total = base + sizes cs →
    (∀ x ∈ cfgs.zip cs, ∀ avail, x.2.size ≤ avail → readWith x.1 x.2 avail = .ok (x.2.size, g x.1 x.2)) →
    readStream cfgs cs base total = List.zipWith (fun cfg c => .ok (c.size, g cfg c)) cfgs cs := by
  intro cs
  induction cs with
  | nil =>
    intro cfgs base total hl _ _
    cases cfgs with
    | nil => rfl
    | cons _ _ => cases hl
  | cons c cs ih =>
    intro cfgs base total hl ht hr
    cases cfgs with
    | nil => cases hl
    | cons cfg cfgs =>
      have hs : sizes (c :: cs) = c.size + sizes cs := by simp [sizes]
      rw [hs] at ht
      have hr1 := hr (cfg, c) List.mem_cons_self (total - base) (by simp only; omega)
      have hrest := ih cfgs (base + c.size) total (Nat.succ.inj hl) (by omega)
        (fun x hx => hr x (List.mem_cons_of_mem _ hx))
      simp only [readStream, hr1, if_true, hrest, List.zipWith_cons_cons]

end Visit
