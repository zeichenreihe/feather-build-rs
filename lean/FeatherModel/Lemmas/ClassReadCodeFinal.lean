import FeatherModel.Lemmas.ClassReadCodeAttrs
import FeatherModel.Model.ClassReadResolve
import FeatherModel.Lemmas.OptionList

/-! Reading the label ids of the delivered `Code` back as instruction positions gives the facts of the layout. -/

namespace ClassRead
open Outcome Spec

theorem mapM'_eq {α β : Type} (f : α → Option β) (l : List α) : mapM' f l = l.mapM f := by
  induction l with
  | nil => rfl
  | cons a l ih =>
    rw [mapM', List.mapM_option_cons, ih]
    cases f a with
    | none => rfl
    | some b => cases l.mapM f <;> rfl

theorem mapM'_map {α β γ : Type} (f : β → Option γ) (g : α → β) (h : α → γ) (xs : List α)
    (hx : ∀ x ∈ xs, f (g x) = some (h x)) : mapM' f (xs.map g) = some (xs.map h) := by
  rw [mapM'_eq, List.mapM_eq_some_iff, List.map_map, List.map_map]
  exact List.map_congr_left hx

theorem mapM'_map_id {α β : Type} (f : β → Option α) (g : α → β) (xs : List α) (hx : ∀ x ∈ xs, f (g x) = some x) :
    mapM' f (xs.map g) = some xs := by
  simpa using mapM'_map f g id xs hx

theorem mapM'_append {α β : Type} {f : α → Option β} {xs ys : List α} {xs' ys' : List β}
    (h1 : mapM' f xs = some xs') (h2 : mapM' f ys = some ys') : mapM' f (xs ++ ys) = some (xs' ++ ys') := by
  rw [mapM'_eq, List.mapM_eq_some_iff] at *
  rw [List.map_append, List.map_append, h1, h2]

theorem mapM'_some {α : Type} (xs : List α) : mapM' some xs = some xs := by
  rw [mapM'_eq, List.mapM_eq_some_iff]

/-- `resolveLines` and `resolveLocals` (`res`) on the lists behind the options -/
theorem mapM'_getD {α β : Type} {f : α → Option β} (res : Option (List α) → Option (Option (List β)))
    (h0 : res none = some none) (h1 : ∀ ls, res (some ls) = (mapM' f ls).map some) {x : Option (List α)}
    {y : Option (List β)} (h : res x = some y) : mapM' f (x.getD []) = some (y.getD []) := by
  cases x with
  | none => cases h0.symm.trans h; rfl
  | some ls =>
    rw [h1] at h
    cases hm : mapM' f ls with
    | none => simp [hm] at h
    | some ls' => simp [hm] at h; subst h; exact hm

theorem entriesFrom_cons (l : Labels) (pos : Nat → Nat) (rem : List SFrame) (k : Nat) (x : SInsn) (xs : List SInsn) :
    ∃ fr rem', entriesFrom l pos rem k (x :: xs) = ⟨l.get (pos k), fr, mapT (labOf l pos) x.insn⟩ :: entriesFrom l pos rem' (k + 1) xs := by
  cases rem with
  | nil => exact ⟨none, [], rfl⟩
  | cons f rest =>
    by_cases h : f.at_ = k
    · exact ⟨some (f.kind.raw l pos), rest, by simp [entriesFrom, h]⟩
    · exact ⟨none, f :: rest, by simp [entriesFrom, h]⟩

/-- the label carriers from instruction `k` on: the id at offset `pos j` is carried by entry `j` -/
theorem lookupLabel_labelIndex_go (lf : Labels) (hwf : lf.WF) (pos : Nat → Nat) (N : Nat)
    (hinj : ∀ i j, i ≤ N → j ≤ N → pos i = pos j → i = j) (xs : List SInsn) (k : Nat) (hk : k + xs.length = N)
    (t id : Nat) (hkt : k ≤ t) (htN : t ≤ N) (hg : lf.get (pos t) = some id) (rem : List SFrame) :
    lookupLabel (labelIndex.go (lf.get (pos N)) (entriesFrom lf pos rem k xs) k) id = some t := by
  induction xs generalizing k rem with
  | nil =>
    have htk : t = N := by simp only [List.length_nil, Nat.add_zero] at hk; omega
    subst htk
    cases rem <;> simp [entriesFrom, labelIndex.go, hg, lookupLabel, show k = t from hk]
  | cons x xs ih =>
    simp only [List.length_cons] at hk
    obtain ⟨fr, rem', he⟩ := entriesFrom_cons lf pos rem k x xs
    rw [he]
    by_cases hkt' : k = t
    · subst hkt'
      simp [labelIndex.go, hg, lookupLabel]
    · -- the head carries no label, or (ids are handed out once) another one
      have ih := ih (k + 1) (by omega) (by omega) rem'
      cases hgk : lf.get (pos k) with
      | none => simpa [labelIndex.go, hgk] using ih
      | some idk =>
        have hne : (idk == id) = false := by
          rw [beq_eq_false_iff_ne]
          intro e
          subst e
          exact hkt' (hinj k t (by omega) htN (hwf.inj _ _ _ hgk hg))
        simpa [labelIndex.go, hgk, lookupLabel, List.find?, hne] using ih

/-- `m` sends the label of every labelled instruction `t ≤ N` back to `t` -/
def Resolves (m : List (Nat × Nat)) (lf : Labels) (pos : Nat → Nat) (N : Nat) : Prop :=
  ∀ t, t ≤ N → (lf.get (pos t)).isSome = true → lookupLabel m (labOf lf pos t) = some t

theorem resolves_of_wf (lf : Labels) (hwf : lf.WF) (insns : List SInsn) (rem : List SFrame) :
    Resolves (labelIndex (entriesFrom lf (codePos insns) rem 0 insns) (lf.get (codePos insns insns.length))) lf
      (codePos insns) insns.length := by
  intro t ht hs
  obtain ⟨id, hg⟩ := Option.isSome_iff_exists.mp hs
  rw [labOf_of_le (Labels.Le.refl lf) hg]
  exact lookupLabel_labelIndex_go lf hwf (codePos insns) insns.length (codePos_inj insns) insns 0 (by simp) t id (Nat.zero_le _) ht hg rem

theorem insn_resolve (m : List (Nat × Nat)) (lab : Nat → Nat) (i : Insn)
    (ht : ∀ t ∈ targetsOf i, lookupLabel m (lab t) = some t) : Insn.resolve m (mapT lab i) = some i := by
  cases i with
  | branch op t | goto t | jsr t => simp [Insn.resolve, mapT, ht t (by simp [targetsOf])]
  | tableswitch d lo hi tbl =>
    simp [Insn.resolve, mapT, ht d (by simp [targetsOf]),
      mapM'_map_id _ lab tbl fun t htm => ht t (by simp [targetsOf, htm])]
  | lookupswitch d pairs =>
    simp only [Insn.resolve, mapT]
    rw [ht d (by simp [targetsOf]), mapM'_map_id _ _ pairs fun kt hkt => ?_]
    · rfl
    · simp [ht kt.2 (by simp only [targetsOf, List.mem_cons, List.mem_map]; exact Or.inr ⟨kt, hkt, rfl⟩)]
  | _ => simp [Insn.resolve, mapT]

theorem entries_resolve (m : List (Nat × Nat)) (lf : Labels) (pos : Nat → Nat) (xs : List SInsn) (k : Nat) (rem : List SFrame)
    (ht : ∀ si ∈ xs, Insn.resolve m (mapT (labOf lf pos) si.insn) = some si.insn)
    (hf : ∀ f ∈ rem, Frame.resolve m (f.kind.raw lf pos) = some f.kind.fact) :
    mapM' (InsnEntry.resolve m) (entriesFrom lf pos rem k xs) = some (factEntries rem k xs) := by
  induction xs generalizing k rem with
  | nil => cases rem <;> rfl
  | cons x xs ih =>
    have h1 := ht x (by simp)
    have ih := fun rem' => ih (k + 1) rem' (fun si hsi => ht si (by simp [hsi]))
    cases rem with
    | nil => simp [entriesFrom, factEntries, mapM', InsnEntry.resolve, h1, ih [] (by simp)]
    | cons f rest =>
      by_cases hfk : f.at_ = k
      · simp [entriesFrom, factEntries, mapM', InsnEntry.resolve, h1, ih rest (fun g hg => hf g (by simp [hg])),
          hf f (by simp), hfk]
      · simp [entriesFrom, factEntries, mapM', InsnEntry.resolve, h1, ih (f :: rest) hf, hfk]

section
variable {m : List (Nat × Nat)} {lf : Labels} {pos : Nat → Nat} {N : Nat} (hr : Resolves m lf pos N)
include hr

theorem vtype_resolve (p : Pool) (v : SVType) (hv : v.Legal p N) (hl : ∀ pc ∈ v.refs pos, (lf.get pc).isSome = true) :
    VType.resolve m (v.raw lf pos) = some v.fact := by
  cases v with
  | uninit t => simp [VType.resolve, SVType.raw, SVType.fact, hr t (Nat.le_of_lt hv) (hl _ (.head _))]
  | _ => rfl

theorem vtypes_resolve (p : Pool) (vs : List SVType) (hv : ∀ v ∈ vs, v.Legal p N)
    (hl : ∀ pc ∈ vs.flatMap (SVType.refs pos), (lf.get pc).isSome = true) :
    mapM' (VType.resolve m) (vs.map (SVType.raw lf pos)) = some (vs.map SVType.fact) :=
  mapM'_map _ _ _ vs fun v hvm => vtype_resolve hr p v (hv v hvm) fun pc h => hl pc (List.mem_flatMap.mpr ⟨v, hvm, h⟩)

theorem frame_resolve (p : Pool) (k : SFrameKind) (hk : k.Legal p N) (hl : ∀ pc ∈ k.refs pos, (lf.get pc).isSome = true) :
    Frame.resolve m (k.raw lf pos) = some k.fact := by
  cases k with
  | same | chop _ => rfl
  | same1 v => simp [Frame.resolve, SFrameKind.raw, SFrameKind.fact, vtype_resolve hr p v hk hl]
  | append vs => simp [Frame.resolve, SFrameKind.raw, SFrameKind.fact, vtypes_resolve hr p vs hk.2.2 hl]
  | full ls ss =>
    have h1 := vtypes_resolve hr p ls hk.2.2.1 fun pc h => hl pc (List.mem_append_left _ h)
    have h2 := vtypes_resolve hr p ss hk.2.2.2 fun pc h => hl pc (List.mem_append_right _ h)
    simp [Frame.resolve, SFrameKind.raw, SFrameKind.fact, h1, h2]

theorem target_resolve (t : Target) (ht : codeTargetOk N t) (hl : ∀ pc ∈ targetRefs pos t, (lf.get pc).isSome = true) :
    Target.resolve m (targetRaw lf pos t) = some t := by
  cases t with
  | localVar tag tbl =>
    simp only [Target.resolve, targetRaw]
    rw [mapM'_map_id _ _ tbl fun e he => ?_]
    · rfl
    · obtain ⟨h1, _, h2, _⟩ := ht.2.2 e he
      have hm : ∀ pc ∈ [pos e.1, pos e.2.1], (lf.get pc).isSome = true := fun pc h => hl pc (List.mem_flatMap.mpr ⟨e, he, h⟩)
      simp [hr _ (Nat.le_of_lt h1) (hm _ (.head _)), hr _ h2 (hm _ (.tail _ (.head _)))]
  | offset tag t => simp [Target.resolve, targetRaw, hr t (Nat.le_of_lt ht.2.2) (hl _ (.head _))]
  | offsetArg tag t i => simp [Target.resolve, targetRaw, hr t (Nat.le_of_lt ht.2.2.1) (hl _ (.head _))]
  | _ => rfl

theorem attrs_resolve (p : Pool) (as : List SCodeAttr) (hleg : ∀ a ∈ as, a.Legal p N pos)
    (hlab : ∀ a ∈ as, ∀ pc ∈ attrRefs pos a, (lf.get pc).isSome = true) :
    resolveLines m (linesRaw lf pos as) = some (linesOf as) ∧ resolveLocals m (localsRaw lf pos as) = some (localsOf as) ∧
      ∀ v, mapM' (TypeAnno.resolve m) (tAnnosRaw lf pos v as) = some (typeAnnosOf v as) := by
  induction as with
  | nil => exact ⟨rfl, rfl, fun _ => rfl⟩
  | cons a as ih =>
    obtain ⟨i1, i2, i3⟩ := ih (fun b hb => hleg b (.tail _ hb)) (fun b hb => hlab b (.tail _ hb))
    have hl := hleg a (.head _)
    have hlab := hlab a (.head _)
    cases a with
    | lines nc es =>
      refine ⟨?_, i2, i3⟩
      simp only [linesRaw, linesOf, resolveLines]
      refine congrArg (Option.map some) (mapM'_append (mapM'_map_id _ _ es fun e he => ?_) (mapM'_getD (resolveLines m) rfl (fun _ => rfl) i1))
      simp [hr e.1 (Nat.le_of_lt (hl.2.2.2 e he).1) (hlab _ (List.mem_flatMap.mpr ⟨e, he, .head _⟩))]
    | lvt nc es | lvtt nc es =>
      refine ⟨i1, ?_, i3⟩
      simp only [localsRaw, localsOf, resolveLocals]
      refine congrArg (Option.map some) (mapM'_append (mapM'_map _ _ _ es fun v hv => ?_) (mapM'_getD (resolveLocals m) rfl (fun _ => rfl) i2))
      obtain ⟨hs, _, hen, _⟩ := hl.2.2.2 v hv
      have hm : ∀ pc ∈ [pos v.start, pos v.end_], (lf.get pc).isSome = true := fun pc h => hlab pc (List.mem_flatMap.mpr ⟨v, hv, h⟩)
      simp [lvRaw, SLv.fact, hr _ (Nat.le_of_lt hs) (hm _ (.head _)), hr _ hen (hm _ (.tail _ (.head _)))]
    | typeAnnos nc v' xs =>
      refine ⟨i1, i2, fun v => ?_⟩
      have hxs : mapM' (TypeAnno.resolve m) (xs.map (typeAnnoRaw lf pos)) = some (xs.map SCodeTypeAnno.fact) :=
        mapM'_map _ _ _ xs fun a ha => by
          have := target_resolve hr a.target (hl.2.2.2.1 a ha).1 fun pc h => hlab pc (List.mem_flatMap.mpr ⟨a, ha, h⟩)
          simp [TypeAnno.resolve, typeAnnoRaw, this, SCodeTypeAnno.fact]
      simp only [tAnnosRaw, typeAnnosOf]
      split
      · exact mapM'_append hxs (i3 v)
      · exact mapM'_append rfl (i3 v)
    | _ => exact ⟨i1, i2, i3⟩

end

/-- whatever well-formed label table labels every offset the layout refers to: reading its ids back as instruction
positions turns the reader's output into the facts of the layout (no reader involved) -/
theorem raw_resolve (p : Pool) (bsms : Option (List Bsm)) (c : CodeLayout) (hleg : c.Legal p bsms) (lf : Labels) (hwf : lf.WF)
    (hrefs : ∀ pc ∈ c.refOffsets, (lf.get pc).isSome = true) : (c.raw lf).resolve = some c.facts := by
  obtain ⟨m, hm, hr⟩ : ∃ m, m = labelIndex (entriesFrom lf c.pos (framesOf c.attrs) 0 c.insns) (lf.get (c.pos c.insns.length)) ∧
      Resolves m lf c.pos c.insns.length := ⟨_, rfl, resolves_of_wf lf hwf c.insns (framesOf c.attrs)⟩
  have hattr : ∀ a ∈ c.attrs, ∀ pc ∈ attrRefs c.pos a, (lf.get pc).isSome = true :=
    fun a hm pc h => hrefs pc (List.mem_append_right _ (List.mem_flatMap.mpr ⟨a, hm, h⟩))
  have hins := entries_resolve m lf c.pos c.insns 0 (framesOf c.attrs)
    (fun si hsi => insn_resolve m _ si.insn fun t ht => by
      obtain ⟨i, hi, rfl⟩ := List.getElem_of_mem hsi
      refine hr t (Nat.le_of_lt (legal_targets_lt p bsms _ _ _ _ (hleg.code.legal i hi) t ht)) (hrefs _ ?_)
      exact List.mem_append_left _ (List.mem_append_left _ (List.mem_flatMap.mpr ⟨_, List.getElem_mem hi, List.mem_map.mpr ⟨t, ht, rfl⟩⟩)))
    (fun f hf => by
      rcases framesOf_eq c.attrs with h | ⟨nc, hm⟩
      · rw [h] at hf; cases hf
      · exact frame_resolve hr p f.kind ((framesLegal_increasing p _ c.pos none _ (hleg.attrs _ hm).2.2.2.1).2 f hf).2
          fun pc h => hattr _ hm pc (List.mem_flatMap.mpr ⟨f, hf, List.mem_append_left _ h⟩))
  have hexc : resolveExceptions m (c.raw lf).exceptions = some c.facts.exceptions :=
    mapM'_map _ _ _ c.exceptions (fun e he => by
      obtain ⟨hs, hen, hh, _, _⟩ := hleg.exc e he
      have hm : ∀ pc ∈ [c.pos e.start, c.pos e.end_, c.pos e.handler], (lf.get pc).isSome = true := fun pc h =>
        hrefs pc (List.mem_append_left _ (List.mem_append_right _ (List.mem_flatMap.mpr ⟨e, he, h⟩)))
      simp [hr e.start (Nat.le_of_lt hs) (hm _ (.head _)), hr e.end_ hen (hm _ (.tail _ (.head _))),
        hr e.handler (Nat.le_of_lt hh) (hm _ (.tail _ (.tail _ (.head _))))])
  obtain ⟨hlines, hlocals, htas⟩ := attrs_resolve hr p c.attrs hleg.attrs hattr
  simp only [CodeLayout.raw, CodeLayout.facts] at hexc
  simp only [Code.resolve, CodeLayout.raw, CodeLayout.facts, ← hm, hins, hexc, hlines, hlocals, htas, Option.bind_eq_bind,
    Option.bind_some, Option.pure_def]

/-- **Code fidelity**: every legal encoding of a method body is read back, after label resolution, as exactly the
description it was made from. -/
theorem readCode_resolve (p : Pool) (bsms : Option (List Bsm)) (c : CodeLayout) (hleg : c.Legal p bsms) (r : Bytes) :
    ∃ raw, readCode p bsms (c.encode ++ r) = ok (raw, r) ∧ raw.resolve = some c.facts := by
  obtain ⟨lf, _, hwf, _, hrefs, hread⟩ := readCode_encode p bsms c hleg r
  exact ⟨c.raw lf, hread, raw_resolve p bsms c hleg lf hwf hrefs⟩

end ClassRead
