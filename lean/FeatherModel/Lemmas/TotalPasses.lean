import FeatherModel.Lemmas.TotalCode

/-!
# C16 — the two passes of `read_code` decode the same instruction boundaries

Consequence: when the second pass allocates `Vec::with_capacity(n)` for a `tableswitch` / `lookupswitch` (sites 33,
34), the first pass has already read all `n` offsets (pairs) from the same bytes, so `4n` (`8n`) is at most the code
length. With that bound `read_code` as a whole is put together here (`readCode_spec_sharp`; `Thm.C16.alloc_bound_code`).

Method: the length of the instruction at a cursor is a function of the bytes there (`insnLen`), and a step of either
pass that succeeds ends that many bytes on (`pass1Step_spec`, `pass2Step_spec`). The first pass skips operands without
looking whether they are there; but where it went on after an instruction, the instruction lies inside the code, and
the capacity the second pass requests for it is less than its length (`pass2_spec_scanned`).

`pass2Step_spec` is one instruction, `pass2_spec_scanned` the loop after a first pass that succeeded,
`readCode_spec_sharp` all of `read_code`; `Thm.C16` takes the last, at `codeOp_spec_sharp`.
-/

namespace Total.Code

open TM

/-! `Cur.branch16` does not look at the account: it is a pure function of the cursor (`branch16P`, over `takeP` and
`i16P`; `branch16_eq`), which returns a cursor two bytes on when it returns one (`branch16P_some`). -/

def takeP (k : Nat) (c : Cur) : Option (Bytes × Cur) :=
  match Cur.splitExact k c.rest with
  | some (x, r) => some (x, { c with pos := c.pos + k, rest := r })
  | none => none

theorem take_eq (k : Nat) (c : Cur) : c.take k = TM.ofOption (takeP k c) := by
  unfold Cur.take takeP
  cases Cur.splitExact k c.rest with
  | none => rfl
  | some p => rfl

def i16P (c : Cur) : Option (Int × Cur) :=
  match takeP 2 c with
  | some ([a, b], c') => some (toI16 (byte a * 256 + byte b), c')
  | _ => none

theorem i16_eq (c : Cur) : c.i16 = TM.ofOption (i16P c) := by
  unfold Cur.i16 Cur.u16 i16P
  rw [take_eq]
  cases takeP 2 c with
  | none => rfl
  | some p =>
    obtain ⟨b, c'⟩ := p
    rcases b with _ | ⟨_, _ | ⟨_, _ | _⟩⟩ <;> rfl

def branch16P (p : Nat) (c : Cur) : Option (Nat × Cur) :=
  match i16P c with
  | some (off, c') => if 0 ≤ (p : Int) + off ∧ (p : Int) + off ≤ 65535 then some (((p : Int) + off).toNat, c') else none
  | none => none

theorem branch16_eq (p : Nat) (c : Cur) : c.branch16 p = TM.ofOption (branch16P p c) := by
  unfold Cur.branch16 branch16P
  rw [i16_eq]
  cases i16P c with
  | none => rfl
  | some q =>
    obtain ⟨off, c'⟩ := q
    show (if _ then _ else _) = TM.ofOption (if _ then _ else _)
    split <;> rfl

theorem branch16P_some {p : Nat} {c : Cur} {t : Nat} {c' : Cur} (h : branch16P p c = some (t, c')) :
    c' = c.skip 2 ∧ 2 ≤ c.rest.length := by
  have hs := Cur.branch16_spec (B := 0) p c
  rw [branch16_eq, h] at hs
  exact hs.of_ok (st := {}) rfl

/-- the dispatch of the first pass read off that of the second: a plain arm of the second pass reads as many operand
bytes as the first pass skips, `iload_n` / `istore_n` skip nothing, and an opcode in no arm of the second pass is in no
plain arm of the first -/
theorem tables_agree : ∀ op, op < 256 → (∀ o ∈ operandOf op, skipOf op = some o.size) ∧
    (operandOf op = none → skipOf op = if (26 ≤ op ∧ op ≤ 45) ∨ (59 ≤ op ∧ op ≤ 78) then some 0 else none) := by
  decide +kernel

/-- the remaining arms: no plain arm in either pass -/
theorem tables_special {op : Nat} (h : op ≤ 255)
    (hs : isBranch16 op = true ∨ isBranch32 op = true ∨ op = 170 ∨ op = 171 ∨ op = 196) :
    operandOf op = none ∧ skipOf op = none ∧ ¬ (26 ≤ op ∧ op ≤ 45) ∧ ¬ (59 ≤ op ∧ op ≤ 78) := by
  have all : ∀ op, op < 256 → isBranch16 op = true ∨ isBranch32 op = true ∨ op = 170 ∨ op = 171 ∨ op = 196 →
      operandOf op = none ∧ skipOf op = none ∧ ¬ (26 ≤ op ∧ op ≤ 45) ∧ ¬ (59 ≤ op ∧ op ≤ 78) := by
    decide +kernel
  exact all op (by omega) hs

theorem tables_wide : ∀ w, w ≤ 255 →
    (wideSkipOf w = (if (21 ≤ w ∧ w ≤ 25) ∨ (54 ≤ w ∧ w ≤ 58) ∨ w = 169 then some 2 else if w = 132 then some 4 else none)) := by
  intro w _; rfl

variable {B : Nat}

/-- the operand bytes of an instruction with opcode `op` whose operands start at `c` -/
def operandLen (op : Nat) (c : Cur) : Nat :=
  match skipOf op with
  | some k => k
  | none =>
    if isBranch16 op then 2
    else if isBranch32 op then 4
    else
      let c3 := (c.skip (pad c)).skip 4
      if op = 170 then pad c + 12 + 4 * (peekI32 (c3.skip 4) - peekI32 c3 + 1).toNat
      else if op = 171 then pad c + 8 + 8 * (peekI32 c3).toNat
      else if op = 196 then 1 + (wideSkipOf (peek8 c)).getD 0
      else 0

/-- The length of the instruction at `c`, as both passes must find it: each is proved to end a successful step that
many bytes on. It is total; where the bytes are no instruction, or are cut short, its value means nothing, and no step
succeeds. -/
def insnLen (c : Cur) : Nat := 1 + operandLen (peek8 c) (c.skip 1)

theorem operandLen_plain {op k : Nat} (c : Cur) (h : skipOf op = some k) : operandLen op c = k := by
  simp only [operandLen, h]

theorem operandLen_wide (c : Cur) : operandLen 196 c = 1 + (wideSkipOf (peek8 c)).getD 0 := rfl

theorem operandLen_b16 {op : Nat} (c : Cur) (h : skipOf op = none) (h2 : isBranch16 op = true) :
    operandLen op c = 2 := by
  simp only [operandLen, h, h2, if_true]

theorem operandLen_b32 {op : Nat} (c : Cur) (h : skipOf op = none) (h2 : ¬ isBranch16 op = true)
    (h3 : isBranch32 op = true) : operandLen op c = 4 := by
  simp only [operandLen, h, if_neg h2, h3, if_true]

theorem operandLen_table (c : Cur) : operandLen 170 c = pad c + 12 +
    4 * (peekI32 (((c.skip (pad c)).skip 4).skip 4) - peekI32 ((c.skip (pad c)).skip 4) + 1).toNat := rfl

theorem operandLen_pairs (c : Cur) : operandLen 171 c = pad c + 8 + 8 * (peekI32 ((c.skip (pad c)).skip 4)).toNat := rfl

theorem insnLen_pos (c : Cur) : 0 < insnLen c := Nat.lt_of_lt_of_le Nat.zero_lt_one (Nat.le_add_right _ _)

theorem insnLen_eq {c c1 : Cur} {op : Nat} (h1 : op = peek8 c ∧ Reads c 1 c1) : insnLen c = 1 + operandLen op c1 := by
  rw [h1.1, h1.2.1, insnLen]

theorem insn_end {c c1 c' : Cur} {op j : Nat} (k : Nat) (h1 : op = peek8 c ∧ Reads c 1 c1) (h : Reads c1 j c')
    (e : operandLen op c1 = j + k) : c'.skip k = c.skip (insnLen c) := by
  rw [insnLen_eq h1, e, h.1, h1.2.1, skip_skip, skip_skip]

theorem Reads.insn {c c1 c' : Cur} {op j : Nat} (h1 : op = peek8 c ∧ Reads c 1 c1) (h : Reads c1 j c')
    (e : operandLen op c1 = j) : Reads c (insnLen c) c' := by
  rw [insnLen_eq h1, e]
  exact h1.2.trans h

theorem pass1Step_spec (l : Labels) (c : Cur) :
    Spec openSites B (pass1Step l c) (fun r => r.2 = c.skip (insnLen c)) := by
  unfold pass1Step
  refine Spec.bind (Cur.u8_spec c) (fun ⟨op, c1⟩ h1 => ?_)
  have fin : ∀ {c' : Cur} {j : Nat}, Reads c1 j c' → operandLen op c1 = j → c' = c.skip (insnLen c) :=
    fun h e => (Reads.insn h1 h e).1
  dsimp only
  cases hk : skipOf op with
  | some k => exact Spec.ret _ (insn_end k h1 (Reads.refl c1) (by rw [operandLen_plain _ hk, Nat.zero_add]))
  | none =>
    dsimp only
    refine Spec.byCases (fun h196 => ?_) fun _ => Spec.byCases (fun hb16 => ?_) fun hb16 =>
      Spec.byCases (fun hb32 => ?_) fun hb32 => Spec.byCases (fun h170 => ?_) fun h170 =>
      Spec.byCases (fun h171 => ?_) fun _ => Spec.fail
    · subst h196
      refine Spec.bind (Cur.u8_spec c1) (fun ⟨w, c2⟩ h2 => ?_)
      dsimp only at h2 ⊢
      cases hw : wideSkipOf w with
      | none => exact Spec.fail
      | some k => exact Spec.ret _ (insn_end k h1 h2.2 (by rw [operandLen_wide, ← h2.1, hw]; rfl))
    · refine Spec.bind (Cur.branch16_spec _ c1) (fun ⟨t, c2⟩ h2 => ?_)
      exact Spec.bind (Labels.getOrCreate_spec l t) (fun _ _ => Spec.ret _ (fin h2 (operandLen_b16 _ hk hb16)))
    · refine Spec.bind (Cur.branch32_spec _ c1) (fun ⟨t, c2⟩ h2 => ?_)
      exact Spec.bind (Labels.getOrCreate_spec l t) (fun _ _ => Spec.ret _ (fin h2 (operandLen_b32 _ hk hb16 hb32)))
    · subst h170
      refine Spec.bind (Cur.align_spec c1) (fun c2 h2 => ?_)
      refine Spec.bind (Cur.branch32_spec _ c2) (fun ⟨t, c3⟩ h3 => ?_)
      refine Spec.bind (Labels.getOrCreate_spec l t) (fun l1 _ => ?_)
      refine Spec.bind (Cur.i32_spec c3) (fun ⟨low, c4⟩ h4 => ?_)
      refine Spec.bind (Cur.i32_spec c4) (fun ⟨high, c5⟩ h5 => ?_)
      refine Spec.bind (tableCount_spec low high) (fun n hn => ?_)
      refine Spec.weaken (pass1Table_spec _ n l1 c5) (fun r hr => fin ((((h2.trans h3).trans h4.2).trans h5.2).trans hr) ?_)
      dsimp only at h3 h4 h5
      rw [operandLen_table, ← h2.1, ← h3.1, ← h4.2.1, ← h4.1, ← h5.1, ← hn]
    · subst h171
      refine Spec.bind (Cur.align_spec c1) (fun c2 h2 => ?_)
      refine Spec.bind (Cur.branch32_spec _ c2) (fun ⟨t, c3⟩ h3 => ?_)
      refine Spec.bind (Labels.getOrCreate_spec l t) (fun l1 _ => ?_)
      refine Spec.bind (Cur.i32_spec c3) (fun ⟨np, c4⟩ h4 => ?_)
      refine Spec.bind (pairCount_spec np) (fun n hn => ?_)
      refine Spec.weaken (pass1Pairs_spec _ n l1 c4) (fun r hr => fin (((h2.trans h3).trans h4.2).trans hr) ?_)
      dsimp only at h3 h4
      rw [operandLen_pairs, ← h2.1, ← h3.1, ← h4.1, ← hn]

/-- what a first pass that succeeds from `c` has found (`pass1_spec`): the instructions from `c` on end exactly at the
end of the code -/
inductive Scanned : Cur → Prop
  | done {c : Cur} : c.pos = c.len → Scanned c
  | insn {c : Cur} : c.pos < c.len → Scanned (c.skip (insnLen c)) → Scanned c

theorem Scanned.le {c : Cur} : Scanned c → c.pos ≤ c.len
  | .done h => Nat.le_of_eq h
  | .insn h _ => Nat.le_of_lt h

theorem pass1_spec : ∀ (fuel : Nat) (l : Labels) (c : Cur), Spec openSites B (pass1 fuel l c) (fun _ => Scanned c)
  | 0, l, c => by
    unfold pass1
    exact Spec.byCases (fun h => Spec.ret _ (.done h)) fun _ => Spec.fail
  | fuel + 1, l, c => by
    unfold pass1
    refine Spec.byCases (fun hlt => ?_) fun _ => Spec.byCases (fun h => Spec.ret _ (.done h)) fun _ => Spec.fail
    refine Spec.bind (pass1Step_spec l c) (fun ⟨l1, c1⟩ e => ?_)
    exact Spec.weaken (pass1_spec fuel l1 c1) (fun _ h => .insn hlt (e ▸ h))

/-- fuel: more than `len - pos` never matters -/
theorem pass1_fuel : ∀ (f1 f2 : Nat) (l : Labels) (c : Cur), c.len - c.pos ≤ f1 → c.len - c.pos ≤ f2 →
    pass1 f1 l c = pass1 f2 l c
  | 0, 0, l, c, _, _ => rfl
  | 0, f2 + 1, l, c, h1, _ => by
    have : ¬ c.pos < c.len := by omega
    simp [pass1, this]
  | f1 + 1, 0, l, c, _, h2 => by
    have : ¬ c.pos < c.len := by omega
    simp [pass1, this]
  | f1 + 1, f2 + 1, l, c, h1, h2 => by
    unfold pass1
    split
    · exact Spec.bind_congr (pass1Step_spec (B := 0) l c) (fun ⟨l1, c1⟩ e => by
        have := insnLen_pos c
        dsimp only at e
        subst e
        exact pass1_fuel f1 f2 l1 _ (by rw [skip_len, skip_pos]; omega) (by rw [skip_len, skip_pos]; omega))
    · rfl

/-- One instruction of the second pass. `hB` pays for the two `Vec::with_capacity(n)` (sites 33, 34): the `n` entries
are part of the instruction. It can be had where the instruction is known to lie inside the code (`pass2_spec_scanned`);
where the account does not matter, take `B := insnLen c`. -/
theorem pass2Step_spec (l : Labels) (c : Cur) (hB : insnLen c ≤ B) :
    Spec openSites B (pass2Step l c) (fun c' => Reads c (insnLen c) c') := by
  unfold pass2Step
  refine Spec.bind (Cur.u8_spec c) (fun ⟨op, c1⟩ h1 => ?_)
  have hop : op < 256 := Nat.lt_succ_of_le (le_of_eq_of_le h1.1 (peek8_le c))
  have fin : ∀ {c' : Cur} {j : Nat}, Reads c1 j c' → operandLen op c1 = j → Reads c (insnLen c) c' :=
    fun h e => Reads.insn h1 h e
  have req : ∀ {n : Nat}, n ≤ operandLen op c1 → n ≤ B := fun h => by
    have : insnLen c = 1 + operandLen op c1 := insnLen_eq h1
    omega
  dsimp only
  cases ho : operandOf op with
  | some o =>
    exact Spec.weaken (readOperand_spec o c1) (fun c' h => fin h (operandLen_plain _ ((tables_agree op hop).1 o ho)))
  | none =>
    have hs := (tables_agree op hop).2 ho
    dsimp only
    refine Spec.byCases (fun h26 => ?_) fun h26 => Spec.byCases (fun h59 => ?_) fun h59 => ?_
    · exact Spec.bind (loadStoreN_spec _ _ _ 26 21 op h26.1 (by omega) (by decide)) (fun _ _ =>
        Spec.ret _ (fin (Reads.refl c1) (operandLen_plain _ (by rw [hs, if_pos (Or.inl h26)]))))
    · exact Spec.bind (loadStoreN_spec _ _ _ 59 54 op h59.1 (by omega) (by decide)) (fun _ _ =>
        Spec.ret _ (fin (Reads.refl c1) (operandLen_plain _ (by rw [hs, if_pos (Or.inr h59)]))))
    have hk : skipOf op = none := by rw [hs, if_neg (not_or.mpr ⟨h26, h59⟩)]
    refine Spec.byCases (fun hb16 => ?_) fun hb16 => Spec.byCases (fun hb32 => ?_) fun hb32 =>
      Spec.byCases (fun h170 => ?_) fun h170 => Spec.byCases (fun h171 => ?_) fun h171 =>
      Spec.byCases (fun h196 => ?_) fun _ => Spec.fail
    · refine Spec.bind (Cur.branch16_spec _ c1) (fun ⟨t, c2⟩ h2 => ?_)
      exact Spec.bind (Labels.tryGet_spec l t) (fun _ _ => Spec.ret _ (fin h2 (operandLen_b16 _ hk hb16)))
    · refine Spec.bind (Cur.branch32_spec _ c1) (fun ⟨t, c2⟩ h2 => ?_)
      exact Spec.bind (Labels.tryGet_spec l t) (fun _ _ => Spec.ret _ (fin h2 (operandLen_b32 _ hk hb16 hb32)))
    · subst h170
      refine Spec.bind (Cur.align_spec c1) (fun c2 h2 => ?_)
      refine Spec.bind (Cur.branch32_spec _ c2) (fun ⟨t, c3⟩ h3 => ?_)
      refine Spec.bind (Labels.tryGet_spec l t) (fun _ _ => ?_)
      refine Spec.bind (Cur.i32_spec c3) (fun ⟨low, c4⟩ h4 => ?_)
      refine Spec.bind (Cur.i32_spec c4) (fun ⟨high, c5⟩ h5 => ?_)
      refine Spec.bind (tableCount_spec low high) (fun n hn => ?_)
      dsimp only at h3 h4 h5
      have e : operandLen 170 c1 = pad c1 + 4 + 4 + 4 + 4 * n := by
        rw [operandLen_table, ← h2.1, ← h3.1, ← h4.2.1, ← h4.1, ← h5.1, ← hn]
      refine Spec.bind (Spec.request (req (by omega))) (fun _ _ => ?_)
      exact Spec.weaken (pass2Table_spec l _ n c5) (fun c' h =>
        fin ((((h2.trans h3).trans h4.2).trans h5.2).trans h) e)
    · subst h171
      refine Spec.bind (Cur.align_spec c1) (fun c2 h2 => ?_)
      refine Spec.bind (Cur.branch32_spec _ c2) (fun ⟨t, c3⟩ h3 => ?_)
      refine Spec.bind (Labels.tryGet_spec l t) (fun _ _ => ?_)
      refine Spec.bind (Cur.i32_spec c3) (fun ⟨np, c4⟩ h4 => ?_)
      refine Spec.bind (pairCount_spec np) (fun n hn => ?_)
      dsimp only at h3 h4
      have e : operandLen 171 c1 = pad c1 + 4 + 4 + 8 * n := by
        rw [operandLen_pairs, ← h2.1, ← h3.1, ← h4.1, ← hn]
      refine Spec.bind (Spec.request (req (by omega))) (fun _ _ => ?_)
      exact Spec.weaken (pass2Pairs_spec l _ n c4) (fun c' h => fin (((h2.trans h3).trans h4.2).trans h) e)
    · subst h196
      refine Spec.bind (Cur.u8_spec c1) (fun ⟨w, c2⟩ h2 => ?_)
      dsimp only at h2 ⊢
      refine Spec.byCases (fun hw2 => ?_) fun hw2 => Spec.byCases (fun hw4 => ?_) fun _ => Spec.fail
      · exact Spec.bind (Cur.take_spec 2 c2) (fun ⟨_, c3⟩ h3 => Spec.ret _ (fin (h2.2.trans h3.2) (by
          rw [operandLen_wide, ← h2.1, wideSkipOf, if_pos hw2]; rfl)))
      · exact Spec.bind (Cur.take_spec 4 c2) (fun ⟨_, c3⟩ h3 => Spec.ret _ (fin (h2.2.trans h3.2) (by
          rw [operandLen_wide, ← h2.1, wideSkipOf, if_neg hw2, if_pos hw4]; rfl)))

theorem pass2_fuel (l : Labels) : ∀ (f1 f2 : Nat) (c : Cur), WF c → c.len - c.pos ≤ f1 → c.len - c.pos ≤ f2 →
    pass2 l f1 c = pass2 l f2 c
  | 0, 0, c, _, _, _ => rfl
  | 0, f2 + 1, c, _, h1, _ => by
    have : ¬ c.pos < c.len := by omega
    simp [pass2, this]
  | f1 + 1, 0, c, _, _, h2 => by
    have : ¬ c.pos < c.len := by omega
    simp [pass2, this]
  | f1 + 1, f2 + 1, c, hw, h1, h2 => by
    unfold pass2
    -- both sides are the same slice check in front of the loop body
    congr 1
    funext _
    split
    · exact Spec.bind_congr (pass2Step_spec l c (Nat.le_refl _)) (fun c1 hr => by
        have := insnLen_pos c
        have e := hr.1
        subst e
        exact pass2_fuel l f1 f2 _ (hw.reads hr) (by rw [skip_len, skip_pos]; omega) (by rw [skip_len, skip_pos]; omega))
    · rfl

theorem passes_agree {l l2 : Labels} {c : Cur} {st st2 : Acct} {l1 : Labels} {c1 c2 : Cur}
    (h1 : (pass1Step l c st).1 = .ok (l1, c1)) (h2 : (pass2Step l2 c st2).1 = .ok c2) : c2 = c1 :=
  ((pass2Step_spec l2 c (Nat.le_refl _)).of_ok h2).1.trans
    ((pass1Step_spec (B := 0) l c).of_ok h1).symm

/-- the second pass after a successful first pass: it never slices past the end (site 20: it only reads), and every
request, including the two `with_capacity(n)` of the switch arms, is at most 65535 -/
theorem pass2_spec_scanned (hB : 65535 ≤ B) (l2 : Labels) : ∀ (fuel : Nat) (c : Cur), WF c → c.len ≤ 65535 → Scanned c →
    Spec openSites B (pass2 l2 fuel c) (fun _ => True)
  | 0, c, h, _, _ => by
    unfold pass2
    exact Spec.bind (Spec.check_true (decide_eq_true h.le)) (fun _ _ =>
      Spec.ite Spec.fail (Spec.ret _ trivial))
  | fuel + 1, c, h, hl, hs => by
    unfold pass2
    refine Spec.bind (Spec.check_true (decide_eq_true h.le)) (fun _ _ => ?_)
    refine Spec.byCases (fun hlt => ?_) fun _ => Spec.ret _ trivial
    cases hs with
    | done e => exact absurd e (Nat.ne_of_lt hlt)
    | insn _ hs1 =>
      -- the first pass went on from the end of this instruction, so the instruction lies inside the code
      have := hs1.le
      rw [skip_pos, skip_len] at this
      refine Spec.bind (pass2Step_spec l2 c (by omega)) (fun c2 hr => ?_)
      exact pass2_spec_scanned hB l2 fuel c2 (h.reads hr) (by rw [hr.1]; exact hl) (hr.1 ▸ hs1)

/-- `read_code`: no panic, and every allocation request is at most `B` for any `B ≥ 65535` that also bounds the input
length: 16-bit counts, the switch capacities of the second pass (through the agreement of the passes) and the buffers
of `read_u8_vec`, which hold bytes that are present -/
theorem readCode_spec_sharp (hB : 65535 ≤ B) (s : Bytes) (hs : s.length ≤ B) : Spec openSites B (readCode s) (fun _ => True) := by
  unfold readCode
  refine Spec.u16I hs fun _ s h _ => Spec.u16I h fun _ s h _ => Spec.u32I h fun cl s h _ => ?_
  refine Spec.bind (Spec.guard _) (fun _ hg => ?_)
  have hcl : cl ≤ 65535 := by
    simp only [Bool.and_eq_true, decide_eq_true_eq] at hg
    exact hg.2
  refine Spec.bind (Labels.new_spec hB hcl) (fun l _ => Spec.bind (Spec.takeVecI h) (fun ⟨code, s⟩ hcode => ?_))
  have hlen : code.length = cl := hcode.1
  refine Spec.bind (pass1_spec code.length l (Cur.start code)) (fun l1 hsc => ?_)
  refine Spec.bind (vec16L_spec hB readException_spec l1 hcode.2) (fun ⟨l2, s⟩ h => Spec.u16I h (fun n s h _ => ?_))
  refine Spec.bind (readCodeAttrs_spec hB n _ s h) (fun ⟨st, _⟩ _ => ?_)
  exact pass2_spec_scanned hB st.labels code.length (Cur.start code) (WF.start code) (by show code.length ≤ 65535; omega) hsc

/-- in particular for `B ≥ 2^31 - 1`, the bound the switch capacities of the second pass have by themselves -/
theorem readCode_spec (hB : 2147483647 ≤ B) (s : Bytes) (hs : s.length ≤ B) : Spec openSites B (readCode s) (fun _ => True) :=
  readCode_spec_sharp (by omega) s hs

theorem codeOp_spec_sharp (body : Bytes) : Spec openSites (max 65535 (body.length + 2)) (codeOp body) (fun _ => True) :=
  readCode_spec_sharp (Nat.le_max_left _ _) _ (by simp only [List.length_append, List.length_cons, List.length_nil]; omega)

end Total.Code
