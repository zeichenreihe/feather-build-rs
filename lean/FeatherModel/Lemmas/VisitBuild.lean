import FeatherModel.Model.VisitTree
import FeatherModel.Lemmas.Machine

/-!
# C17 lemmas — the shape of the trees the builder produces; attribute slots are rebuilt by replaying them
-/

namespace Visit

/-- slots as a tree object of a visitor trait offering the kinds `ord` can have them: `insert_if_empty` slots only for
single-valued kinds of `ord`, annotation vectors only for the annotation kinds of `ord` -/
def Slots.ShapedFor (ord : List K) (s : Slots) : Prop :=
  (∀ k, (k ∉ ord ∨ isMulti k = true) → s.single k = none) ∧ (∀ k, (k ∉ ord ∨ isMulti k = false) → s.multi k = [])

def CodeTree.Shaped (k : CodeTree) : Prop := k.slots.ShapedFor codeOrder

def MethodTree.Shaped (m : MethodTree) : Prop := m.slots.ShapedFor methodOrder ∧ ∀ k, m.code = some k → k.Shaped

def ClassTree.Shaped (t : ClassTree) : Prop :=
  t.slots.ShapedFor classOrder ∧ (∀ r ∈ t.recs, r.slots.ShapedFor recOrder) ∧
    (∀ f ∈ t.fields, f.slots.ShapedFor fieldOrder) ∧ (∀ m ∈ t.methods, m.Shaped)

theorem Slots.ext' {a b : Slots} (h1 : a.single = b.single) (h2 : a.multi = b.multi) (h3 : a.attrs = b.attrs) : a = b := by
  cases a
  cases b
  cases h1
  cases h2
  cases h3
  rfl

theorem shaped_empty (ord : List K) : ({} : Slots).ShapedFor ord := ⟨fun _ _ => rfl, fun _ _ => rfl⟩

theorem add_shaped {ord : List K} {s s' : Slots} {unk : Bool} {k : K} {pay : Pay}
    (hs : s.ShapedFor ord) (h : s.add ord unk k pay = some s') : s'.ShapedFor ord := by
  unfold Slots.add at h
  split at h
  · simp at h; subst h; exact hs
  · split at h
    · simp at h
    · rename_i hin
      have hk : k ∈ ord := by simpa using hin
      split at h
      · rename_i hmu
        simp at h; subst h
        refine ⟨hs.1, ?_⟩
        intro k' hk'
        simp only [upd]
        split
        · rename_i heq
          subst heq
          rcases hk' with hk' | hk'
          · exact absurd hk hk'
          · rw [hmu] at hk'; simp at hk'
        · exact hs.2 k' hk'
      · rename_i hmu
        split at h
        · simp at h
        · simp at h; subst h
          refine ⟨?_, hs.2⟩
          intro k' hk'
          simp only [upd]
          split
          · rename_i heq
            subst heq
            rcases hk' with hk' | hk'
            · exact absurd hk hk'
            · exact absurd hk' hmu
          · exact hs.1 k' hk'

structure BSt.Shaped (st : BSt) : Prop where
  cls : ∀ c, st.cls = some c → c.Shaped
  rc : ∀ r, st.rc = some r → r.slots.ShapedFor recOrder
  fld : ∀ f, st.fld = some f → f.slots.ShapedFor fieldOrder
  mth : ∀ m, st.mth = some m → m.Shaped
  code : ∀ k, st.code = some k → k.Shaped

/-- the fields of `BSt.Shaped` (`∀ b, slot = some b → p b`) at a filled and at an empty slot -/
theorem of_some {α : Type} {p : α → Prop} {a : α} (h : p a) : ∀ b, some a = some b → p b :=
  fun _ hb => Option.some.inj hb ▸ h

theorem of_none {α : Type} {p : α → Prop} : ∀ b, (none : Option α) = some b → p b :=
  fun _ h => nomatch h

theorem step_shaped {st st' : BSt} {e : Ev} (hs : st.Shaped) (h : step st e = some st') : st'.Shaped := by
  -- `h` spelled out: the objects the event needs are open, the slots took the attribute, and what `st'` is
  cases e <;> simp only [step, Option.bind_eq_bind, Option.bind_eq_some_iff, pure, Option.some.injEq, Option.ite_none_left_eq_some] at h
  case classBegin hh =>
    obtain ⟨_, rfl⟩ := h
    exact { hs with cls := of_some ⟨shaped_empty _, by simp, by simp, by simp⟩ }
  case cAttr unk k pay =>
    obtain ⟨c, hc, s, hadd, rfl⟩ := h
    exact { hs with cls := of_some ⟨add_shaped (hs.cls c hc).1 hadd, (hs.cls c hc).2⟩ }
  case recBegin r hh =>
    subst h
    exact { hs with rc := of_some (shaped_empty _) }
  case rAttr r unk k pay =>
    obtain ⟨rc, hrc, s, hadd, rfl⟩ := h
    exact { hs with rc := of_some (add_shaped (hs.rc rc hrc) hadd) }
  case recEnd r =>
    obtain ⟨c, hc, rc, hrc, rfl⟩ := h
    have hcs := hs.cls c hc
    have hr := List.forall_mem_append.mpr ⟨hcs.2.1, List.forall_mem_singleton.mpr (hs.rc _ hrc)⟩
    exact { hs with cls := of_some ⟨hcs.1, hr, hcs.2.2⟩, rc := of_none }
  case classFlags d s =>
    obtain ⟨c, hc, rfl⟩ := h
    exact { hs with cls := of_some (hs.cls c hc) }
  case fieldBegin i hh =>
    subst h
    exact { hs with fld := of_some (shaped_empty _) }
  case fAttr i unk k pay =>
    obtain ⟨f, hf, s, hadd, rfl⟩ := h
    exact { hs with fld := of_some (add_shaped (hs.fld f hf) hadd) }
  case fieldFlags i d s =>
    obtain ⟨f, hf, rfl⟩ := h
    exact { hs with fld := of_some (hs.fld f hf) }
  case fieldEnd i =>
    obtain ⟨c, hc, f, hf, rfl⟩ := h
    have hcs := hs.cls c hc
    have hfs := List.forall_mem_append.mpr ⟨hcs.2.2.1, List.forall_mem_singleton.mpr (hs.fld _ hf)⟩
    exact { hs with cls := of_some ⟨hcs.1, hcs.2.1, hfs, hcs.2.2.2⟩, fld := of_none }
  case methodBegin i hh =>
    subst h
    exact { hs with mth := of_some ⟨shaped_empty _, by simp⟩ }
  case mAttr i unk k pay =>
    obtain ⟨m, hm, s, hadd, rfl⟩ := h
    exact { hs with mth := of_some ⟨add_shaped (hs.mth m hm).1 hadd, (hs.mth m hm).2⟩ }
  case methodFlags i d s =>
    obtain ⟨m, hm, rfl⟩ := h
    exact { hs with mth := of_some (hs.mth m hm) }
  case methodEnd i =>
    obtain ⟨c, hc, m, hm, rfl⟩ := h
    have hcs := hs.cls c hc
    have hms := List.forall_mem_append.mpr ⟨hcs.2.2.2, List.forall_mem_singleton.mpr (hs.mth _ hm)⟩
    exact { hs with cls := of_some ⟨hcs.1, hcs.2.1, hcs.2.2.1, hms⟩, mth := of_none }
  case codeBegin i =>
    subst h
    exact { hs with code := of_some (shaped_empty _) }
  case kAttr i unk k pay =>
    obtain ⟨c, hc, s, hadd, rfl⟩ := h
    exact { hs with code := of_some (add_shaped (hs.code c hc) hadd) }
  case codeMaxs | codeInsns | codeExc =>
    obtain ⟨k, hk, rfl⟩ := h
    exact { hs with code := of_some (hs.code k hk) }
  case codeLines | codeLocals =>
    obtain ⟨k, hk, _, rfl⟩ := h
    exact { hs with code := of_some (hs.code k hk) }
  case codeEnd i =>
    obtain ⟨m, hm, k, hk, _, rfl⟩ := h
    exact { hs with mth := of_some ⟨(hs.mth m hm).1, of_some (hs.code k hk)⟩, code := of_none }
  case classEnd =>
    subst h
    exact ⟨hs.cls, hs.rc, hs.fld, hs.mth, hs.code⟩

theorem isRun : IsRun step run := List.isRun_foldlM step

theorem build_shaped {evs : List Ev} {t : ClassTree} (h : build evs = some t) : t.Shaped := by
  unfold build at h
  obtain ⟨st, hst, h⟩ := Option.bind_eq_some_iff.mp h
  have hs : st.Shaped := isRun.invariant step_shaped hst ⟨of_none, of_none, of_none, of_none, of_none⟩
  split at h
  · exact hs.cls t h
  · simp at h

def addItems (ord : List K) (s : Slots) (items : List Item) : Option Slots :=
  items.foldlM (fun acc it => acc.add ord it.1 it.2.1 it.2.2) s

theorem addItems_nil (ord : List K) (s : Slots) : addItems ord s [] = some s := rfl

theorem addItems_cons (ord : List K) (s : Slots) (it : Item) (its : List Item) :
    addItems ord s (it :: its) = (s.add ord it.1 it.2.1 it.2.2).bind (fun s' => addItems ord s' its) := by
  simp [addItems, List.foldlM_cons, bind]

theorem addItems_append (ord : List K) (s : Slots) (a b : List Item) :
    addItems ord s (a ++ b) = (addItems ord s a).bind (fun s' => addItems ord s' b) := by
  simp [addItems, List.foldlM_append, bind]

theorem kindItems_cons (m : Mask) (k : K) (rest : List K) (s : Slots) :
    kindItems m (k :: rest) s = (kindItem m s k).toList ++ kindItems m rest s := by
  simp only [kindItems, List.filterMap_cons]
  cases kindItem m s k <;> rfl

theorem upd_self {α : Type} (f : K → α) (k : K) : upd f k (f k) = f := by
  funext k'
  simp only [upd]
  split
  · rename_i h; rw [h]
  · rfl

theorem addItems_kind {ord : List K} {s acc : Slots} {k : K} (hk : k ∈ ord)
    (ha : acc.single k = none ∧ acc.multi k = [])
    (hs : (isMulti k = true → s.single k = none) ∧ (isMulti k = false → s.multi k = [])) :
    addItems ord acc (kindItem allMask s k).toList = some { acc with
      single := upd acc.single k (s.single k), multi := upd acc.multi k (s.multi k) } := by
  have e1 : upd acc.single k none = acc.single := by rw [← ha.1]; exact upd_self _ _
  have e2 : upd acc.multi k [] = acc.multi := by rw [← ha.2]; exact upd_self _ _
  cases hmu : isMulti k with
  | true =>
    rw [hs.1 hmu, e1]
    cases hem : (s.multi k).isEmpty with
    | true => simp [kindItem, allMask, hmu, addItems_nil, List.isEmpty_iff.mp hem, e2]
    | false => simp [kindItem, allMask, hmu, hem, addItems_cons, addItems_nil, Slots.add, hk, ha.2]
  | false =>
    rw [hs.2 hmu, e2]
    cases hsing : s.single k with
    | none => simp [kindItem, allMask, hmu, hsing, addItems_nil, e1]
    | some p => simp [kindItem, allMask, hmu, hsing, addItems_cons, addItems_nil, Slots.add, hk, ha.1]

/-- the known attributes of a tree object `s`, replayed in `accept`'s order: an object that holds nothing of the kinds
`post` still to come, and what `s` holds of every other kind, ends up with the slots of `s` -/
theorem addItems_kinds {ord : List K} {s : Slots} :
    ∀ (post : List K) (acc : Slots), post.Nodup → (∀ k ∈ post, k ∈ ord) →
      (∀ k ∈ post, acc.single k = none ∧ acc.multi k = []) →
      (∀ k, k ∉ post → acc.single k = s.single k ∧ acc.multi k = s.multi k) →
      (∀ k ∈ post, (isMulti k = true → s.single k = none) ∧ (isMulti k = false → s.multi k = [])) →
      addItems ord acc (kindItems allMask post s) = some { s with attrs := acc.attrs } := by
  intro post
  induction post with
  | nil =>
    intro acc _ _ _ hout _
    exact congrArg some (Slots.ext' (funext fun k => (hout k List.not_mem_nil).1) (funext fun k => (hout k List.not_mem_nil).2) rfl)
  | cons k rest ih =>
    intro acc hnd hord hacc hout hs
    have hk : k ∉ rest := (List.nodup_cons.mp hnd).1
    rw [kindItems_cons, addItems_append, addItems_kind (hord k List.mem_cons_self) (hacc k List.mem_cons_self)
      (hs k List.mem_cons_self), Option.bind]
    exact ih _ (List.nodup_cons.mp hnd).2 (fun k' h' => hord k' (List.mem_cons_of_mem _ h'))
      (fun k' h' => by
        have hne : k' ≠ k := fun h => hk (h ▸ h')
        simpa [upd, hne] using hacc k' (List.mem_cons_of_mem _ h'))
      (fun k' h' => by
        by_cases e : k' = k
        · subst e; simp [upd]
        · simpa [upd, e] using hout k' (by simp [e, h']))
      (fun k' h' => hs k' (List.mem_cons_of_mem _ h'))

theorem addItems_unknown (ord : List K) : ∀ (l : List (K × Pay)) (acc : Slots),
    addItems ord acc (l.map (fun kp => (true, kp.1, kp.2))) = some { acc with attrs := acc.attrs ++ l } := by
  intro l
  induction l with
  | nil => intro acc; simp [addItems_nil]
  | cons kp l ih =>
    intro acc
    simp only [List.map_cons, addItems_cons, Slots.add, if_true, Option.bind]
    rw [ih]
    simp

theorem addItems_kinds_shaped {ord : List K} (hnd : ord.Nodup) {s : Slots} (hs : s.ShapedFor ord) :
    addItems ord {} (kindItems allMask ord s) = some { s with attrs := [] } :=
  addItems_kinds ord {} hnd (fun _ h => h) (fun _ _ => ⟨rfl, rfl⟩)
    (fun k hk => ⟨(hs.1 k (.inl hk)).symm, (hs.2 k (.inl hk)).symm⟩)
    (fun k _ => ⟨fun hm => hs.1 k (.inr hm), fun hm => hs.2 k (.inr hm)⟩)

theorem addItems_rebuild {ord : List K} (hnd : ord.Nodup) {s : Slots} (hs : s.ShapedFor ord) :
    addItems ord {} (kindItems allMask ord s ++ unkItems allMask s) = some s := by
  rw [addItems_append, addItems_kinds_shaped hnd hs]
  simp only [Option.bind, unkItems, allMask, if_true]
  rw [addItems_unknown]
  simp

theorem classOrder_nodup : classOrder.Nodup := by decide +kernel
theorem fieldOrder_nodup : fieldOrder.Nodup := by decide +kernel
theorem methodOrder_nodup : methodOrder.Nodup := by decide +kernel
theorem recOrder_nodup : recOrder.Nodup := by decide +kernel
theorem codeOrder_nodup : codeOrder.Nodup := by decide +kernel

end Visit
