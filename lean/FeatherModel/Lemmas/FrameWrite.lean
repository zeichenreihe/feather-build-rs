import FeatherModel.Lemmas.FramePool
import FeatherModel.Lemmas.Bytes

/-!
# The `StackMapTable` writer

What each writer function answers, in one statement per function (`Out`). When it fails: never with a panic (for frames
at increasing offsets), and only for frames JVMS §4.7.4 cannot express, a label without offset, or a full constant pool.
When it succeeds from a good pool, the pool stays good and only grows, and the bytes — whatever follows them — are read
by the decoder of JVMS §4.7.4 to an item that denotes the input in the resulting pool (`denotes*_le` carry that to every
later pool).
-/

namespace FrameWrite
open CodeWrite (Fail u16b)
open PoolWrite (Pool)
open FrameDecode FrameDenote FramePool

theorem u2_u16b (n : Nat) (h : n ≤ 65535) (r : Bytes) : u2 (u16b n ++ r) = some (n, r) :=
  congrArg (fun v => some (v, r)) (Be.val16 n (Nat.lt_succ_of_le h))

theorem denotesV_le {lp : Nat → Option Nat} {p q : Pool} (h : Le p q) {v : VType} {d : DType}
    (hd : denotesV lp p v d = true) : denotesV lp q v d = true := by
  cases v <;> cases d <;> simp only [denotesV, Bool.false_eq_true] at hd ⊢
  · exact clsAt_le h hd
  · exact hd

theorem denotesVs_le {lp : Nat → Option Nat} {p q : Pool} (h : Le p q) (vs : List VType) (ds : List DType) :
    denotesVs lp p vs ds = true → denotesVs lp q vs ds = true := by
  fun_induction denotesVs lp p vs ds
  · exact id
  · rename_i ih
    simp only [denotesVs, Bool.and_eq_true]
    exact fun hd => ⟨denotesV_le h hd.1, ih hd.2⟩
  · nofun

theorem denotesF_le {lp : Nat → Option Nat} {p q : Pool} (h : Le p q) {f : Frame} {d : DFrame}
    (hd : denotesF lp p f d = true) : denotesF lp q f d = true := by
  cases f <;> cases d <;> simp only [denotesF, Bool.false_eq_true, Bool.and_eq_true] at hd ⊢
  · exact denotesV_le h hd
  · exact hd
  · exact denotesVs_le h _ _ hd
  · exact ⟨denotesVs_le h _ _ hd.1, denotesVs_le h _ _ hd.2⟩

theorem denotesAll_le {lp : Nat → Option Nat} {p q : Pool} (h : Le p q) :
    ∀ {fs : List (Nat × Frame)} {ds : List (Nat × DFrame)}, denotesAll lp p fs ds = true → denotesAll lp q fs ds = true
  | [], [], _ => rfl
  | [], _ :: _, hd => by simp [denotesAll] at hd
  | _ :: _, [], hd => by simp [denotesAll] at hd
  | (o, f) :: fs, (o', d) :: ds, hd => by
    simp only [denotesAll, Bool.and_eq_true] at hd ⊢
    exact ⟨⟨hd.1.1, denotesF_le h hd.1.2⟩, denotesAll_le h hd.2⟩

theorem denotesVs_length {lp : Nat → Option Nat} {p : Pool} :
    ∀ {vs : List VType} {ds : List DType}, denotesVs lp p vs ds = true → ds.length = vs.length
  | [], [], _ => rfl
  | [], _ :: _, hd => by simp [denotesVs] at hd
  | _ :: _, [], hd => by simp [denotesVs] at hd
  | _ :: vs, _ :: ds, hd => by
    simp only [denotesVs, Bool.and_eq_true] at hd
    simp [denotesVs_length hd.2]

theorem denotesAll_spec {lp : Nat → Option Nat} {p : Pool} (fs : List (Nat × Frame)) (ds : List (Nat × DFrame)) :
    denotesAll lp p fs ds = true →
      ds.length = fs.length ∧
      (∀ o f, (o, f) ∈ fs → ∃ d, (o, d) ∈ ds ∧ denotesF lp p f d = true) ∧
      ∀ o d, (o, d) ∈ ds → ∃ f, (o, f) ∈ fs ∧ denotesF lp p f d = true := by
  fun_induction denotesAll lp p fs ds
  · exact fun _ => ⟨rfl, nofun, nofun⟩
  · rename_i o f fs o' d ds ih
    simp only [Bool.and_eq_true, beq_iff_eq, List.mem_cons, Prod.mk.injEq]
    rintro ⟨⟨rfl, hf⟩, hr⟩
    obtain ⟨hl, h1, h2⟩ := ih hr
    refine ⟨congrArg (· + 1) hl, ?_, ?_⟩
    · rintro _ _ (⟨rfl, rfl⟩ | hm)
      · exact ⟨d, .inl ⟨rfl, rfl⟩, hf⟩
      · exact (h1 _ _ hm).imp fun _ h => ⟨.inr h.1, h.2⟩
    · rintro _ _ (⟨rfl, rfl⟩ | hm)
      · exact ⟨f, .inl ⟨rfl, rfl⟩, hf⟩
      · exact (h2 _ _ hm).imp fun _ h => ⟨.inr h.1, h.2⟩
  · nofun

/-- the outcome of a writer function on an input that is acceptable iff `a` and holds `o` `Object` types: success with
at most `2 * o` more pool slots used and, from a good pool with `u16` labels, a pool that `Grows` and bytes with `S`
(what the decoder reads them to, level by level); or the explicit error, for an unacceptable input or a pool without
that room -/
def Out (lp : Nat → Option Nat) (p : Pool) (a : Bool) (o : Nat) (S : Bytes → Pool → Prop) : W → Prop
  | .ok (b, p') => a = true ∧ p'.count ≤ p.count + 2 * o ∧ (LpOk lp → Good p → Grows p p' ∧ S b p')
  | .error e => e = .err ∧ (a = false ∨ 65535 < p.count + 2 * o)

/-- two writer functions in sequence, whatever is made of their bytes (the shape of the model's `match` chains); `S` of
the whole comes from `S1` in the pool between the two, `S2` in the final pool and `Le` from the one to the other -/
theorem Out.seq {lp : Nat → Option Nat} {p : Pool} {a1 a2 : Bool} {o1 o2 : Nat} {S1 S2 S : Bytes → Pool → Prop}
    {w1 : W} {w2 : Pool → W} {g : Bytes → Bytes → Bytes} :
    Out lp p a1 o1 S1 w1 → (∀ p1, Out lp p1 a2 o2 S2 (w2 p1)) →
    (∀ b1 p1 b2 p2, Le p1 p2 → S1 b1 p1 → S2 b2 p2 → S (g b1 b2) p2) →
    Out lp p (a1 && a2) (o1 + o2) S
      (match w1 with
       | .error e => .error e
       | .ok (b, p1) =>
         match w2 p1 with
         | .error e => .error e
         | .ok (bs, p2) => .ok (g b bs, p2)) := by
  intro h1 h2 hS
  cases w1 with
  | error e =>
    obtain ⟨rfl, h⟩ := h1
    exact ⟨rfl, h.imp (fun h => by simp [h]) (fun h => by omega)⟩
  | ok r =>
    obtain ⟨b, p1⟩ := r
    obtain ⟨ha, hc, hs⟩ := h1
    have := h2 p1
    simp only
    cases hw : w2 p1 with
    | error e =>
      rw [hw] at this
      obtain ⟨rfl, h⟩ := this
      exact ⟨rfl, h.imp (fun h => by simp [h]) (fun h => by omega)⟩
    | ok r2 =>
      rw [hw] at this
      obtain ⟨ha2, hc2, hs2⟩ := this
      refine ⟨by simp [ha, ha2], by omega, fun hlp hg => ?_⟩
      obtain ⟨g1, s1⟩ := hs hlp hg
      obtain ⟨g2, s2⟩ := hs2 hlp g1.good
      exact ⟨g1.trans g2, hS _ _ _ _ g2.le s1 s2⟩

theorem Out.map {lp : Nat → Option Nat} {p : Pool} {a : Bool} {o : Nat} {S S' : Bytes → Pool → Prop} {w : W}
    (g : Bytes → Bytes) (h : Out lp p a o S w) (hS : ∀ b p', S b p' → S' (g b) p') :
    Out lp p a o S' (match (generalizing := false) w with | .error e => .error e | .ok (b, p1) => .ok (g b, p1)) := by
  cases w with
  | error e => exact h
  | ok r => exact ⟨h.1, h.2.1, fun hlp hg => (h.2.2 hlp hg).imp_right (hS _ _)⟩

/-- a writer function behind a check (a count that must fit `u16`, the `1..=3` of an append frame) -/
theorem Out.guard {lp : Nat → Option Nat} {p : Pool} {a : Bool} {o : Nat} {S : Bytes → Pool → Prop} {w : W}
    (c : Prop) [Decidable c] (h : c → Out lp p a o S w) :
    Out lp p (decide c && a) o S (if c then w else .error .err) := by
  split
  · rw [decide_eq_true ‹c›, Bool.true_and]; exact h ‹c›
  · exact ⟨rfl, .inl (by simp [*])⟩

theorem writeVType_out (lp : Nat → Option Nat) (p : Pool) (v : VType) :
    Out lp p (vtypeOk lp v) (vObjects [v])
      (fun b p' => ∃ d, (∀ r, vtype (b ++ r) = some (d, r)) ∧ denotesV lp p' v d = true) (writeVType lp p v) := by
  fun_cases writeVType lp p v
  iterate 7 exact ⟨rfl, Nat.le_add_right _ _, fun _ hg => ⟨.refl hg, _, fun r => rfl, rfl⟩⟩
  · exact ⟨rfl, .inr (putClass_none ‹_›)⟩
  · rename_i i _ hp
    refine ⟨rfl, putClass_count hp, fun _ hg => ?_⟩
    obtain ⟨g, hc, hi⟩ := putClass_good hg hp
    exact ⟨g, .object i, fun r => by simp [vtype, u1, u2_u16b i hi r], hc⟩
  · rename_i l h
    exact ⟨rfl, .inl (by simp [vtypeOk, h])⟩
  · rename_i l o ho
    exact ⟨by simp [vtypeOk, ho], Nat.le_add_right _ _, fun hlp hg =>
      ⟨.refl hg, .uninit o, fun r => by simp [vtype, u1, u2_u16b o (hlp _ _ ho) r], by simp [denotesV, ho]⟩⟩

theorem vObjects_cons (v : VType) (vs : List VType) : vObjects (v :: vs) = vObjects [v] + vObjects vs := by
  cases v <;> simp only [vObjects] <;> omega

theorem writeVTypes_out (lp : Nat → Option Nat) : ∀ (vs : List VType) (p : Pool),
    Out lp p (vs.all (vtypeOk lp)) (vObjects vs)
      (fun b p' => ∃ ds, (∀ r, vtypes vs.length (b ++ r) = some (ds, r)) ∧ denotesVs lp p' vs ds = true)
      (writeVTypes lp p vs)
  | [], p => ⟨rfl, Nat.le_add_right _ _, fun _ hg => ⟨.refl hg, [], fun r => rfl, rfl⟩⟩
  | v :: vs, p => by
    rw [vObjects_cons, List.all_cons]
    refine Out.seq (g := (· ++ ·)) (writeVType_out lp p v) (writeVTypes_out lp vs) ?_
    rintro _ _ _ _ hle ⟨d, hd, hv⟩ ⟨ds, hds, hvs⟩
    refine ⟨d :: ds, fun r => ?_, ?_⟩
    · simp only [List.length_cons, vtypes, List.append_assoc, hd, hds]
    · simp only [denotesVs, Bool.and_eq_true]
      exact ⟨denotesV_le hle hv, hvs⟩

theorem writeVTypes16_out (lp : Nat → Option Nat) (vs : List VType) (p : Pool) :
    Out lp p (decide (vs.length ≤ 65535) && vs.all (vtypeOk lp)) (vObjects vs)
      (fun b p' => ∃ ds, (∀ r, vtypes16 (b ++ r) = some (ds, r)) ∧ denotesVs lp p' vs ds = true)
      (writeVTypes16 lp p vs) := by
  simp only [writeVTypes16, GT.gt, ← Nat.not_le, ite_not]
  refine .guard _ fun hlen => (writeVTypes_out lp vs p).map _ fun b p' ⟨ds, hds, hv⟩ => ⟨ds, fun r => ?_, hv⟩
  simp only [vtypes16, List.append_assoc, u2_u16b _ hlen, hds]

theorem writeFrame_out (lp : Nat → Option Nat) (p : Pool) (d : Nat) (f : Frame) :
    Out lp p (frameOk lp f) (objects f)
      (fun b p' => d ≤ 65535 → ∃ df, (∀ r, frame (b ++ r) = some ((d, df), r)) ∧ denotesF lp p' f df = true)
      (writeFrame lp p d f) := by
  cases f with
  | same =>
    simp only [writeFrame]
    split
    · rename_i h63
      exact ⟨rfl, Nat.le_add_right _ _, fun _ hg => ⟨.refl hg, fun _ => ⟨.same, fun r => by simp [frame, u1, h63], rfl⟩⟩⟩
    · exact ⟨rfl, Nat.le_add_right _ _, fun _ hg =>
        ⟨.refl hg, fun hd => ⟨.same, fun r => by simp [frame, u1, u2_u16b d hd r], rfl⟩⟩⟩
  | same1 v =>
    refine (writeVType_out lp p v).map _ fun b p' ⟨dv, hdv, hv⟩ hd => ⟨.same1 dv, fun r => ?_, hv⟩
    by_cases h63 : d ≤ 63
    · have a1 : ¬ (64 + d ≤ 63) := by omega
      have a2 : 64 + d ≤ 127 := by omega
      simp [frame, u1, h63, a1, a2, hdv]
    · simp [frame, u1, h63, u2_u16b d hd, hdv]
  | chop k =>
    simp only [writeFrame]
    split
    · rename_i hk
      refine ⟨by simp [frameOk, hk], Nat.le_add_right _ _, fun _ hg =>
        ⟨.refl hg, fun hd => ⟨.chop k, fun r => ?_, by simp [denotesF]⟩⟩⟩
      -- the tag is `251 - k`: three tags, each by evaluation
      obtain rfl | rfl | rfl : k = 1 ∨ k = 2 ∨ k = 3 := by omega
      all_goals simp [frame, u1, u2_u16b d hd]
    · rename_i hk; exact ⟨rfl, .inl (by simp [frameOk, hk])⟩
  | append ls =>
    refine .guard _ fun hk => (writeVTypes_out lp ls p).map _ fun b p' ⟨ds, hds, hv⟩ hd => ⟨.append ds, fun r => ?_, hv⟩
    obtain hl | hl | hl : ls.length = 1 ∨ ls.length = 2 ∨ ls.length = 3 := by omega
    all_goals
      rw [hl] at hds ⊢
      simp [frame, u1, u2_u16b d hd, hds]
  | full ls ss =>
    simp only [objects, frameOk]
    refine Out.seq (g := fun b1 b2 => 255 :: (u16b d ++ b1 ++ b2)) (writeVTypes16_out lp ls p) (writeVTypes16_out lp ss) ?_
    rintro _ _ _ _ hle ⟨dl, hdl, hv1⟩ ⟨dss, hdss, hv2⟩ hd
    refine ⟨.full dl dss, fun r => ?_, ?_⟩
    · simp [frame, u1, List.append_assoc, u2_u16b d hd, hdl, hdss]
    · simp only [denotesF, Bool.and_eq_true]
      exact ⟨denotesVs_le hle _ _ hv1, hv2⟩

theorem offsetDelta_ok {prev : Option Nat} {o : Nat} (h : match prev with | none => True | some q => q < o)
    (ho : o ≤ 65535) : ∃ d, offsetDelta prev o = .ok d ∧ d ≤ 65535 ∧ applyOffset prev d = o := by
  cases prev with
  | none => exact ⟨o, rfl, ho, rfl⟩
  | some q =>
    simp only at h
    have : ¬ o < q + 1 := by omega
    refine ⟨o - q - 1, by simp [offsetDelta, this], by omega, ?_⟩
    simp only [applyOffset]; omega

theorem writeFrames_ok_imp {lp : Nat → Option Nat} (fs : List (Nat × Frame)) {p p' : Pool} {prev : Option Nat}
    {b : Bytes} (h : writeFrames lp p prev fs = .ok (b, p')) : fs.all (fun f => frameOk lp f.2) = true := by
  revert h
  fun_induction writeFrames lp p prev fs generalizing p' b <;> intro h <;> cases h
  · rfl
  · rename_i p prev o f fs d _ _ _ h1 _ _ h2 ih
    have o1 := writeFrame_out lp p d f
    rw [h1] at o1
    simp only [List.all_cons, o1.1, ih h2, Bool.and_self]

/-- the only unchecked arithmetic, `offset - previous - 1`, cannot underflow for frames at increasing offsets -/
theorem writeFrames_out (lp : Nat → Option Nat) : ∀ (fs : List (Nat × Frame)) (p : Pool) (prev : Option Nat),
    Incr prev fs → Out lp p (fs.all (fun f => frameOk lp f.2)) (objectsAll fs)
      (fun b p' => ∃ ds, (∀ r, frames fs.length prev (b ++ r) = some (ds, r)) ∧ denotesAll lp p' fs ds = true)
      (writeFrames lp p prev fs)
  | [], p, _, _ => ⟨rfl, Nat.le_add_right _ _, fun _ hg => ⟨.refl hg, [], fun r => rfl, rfl⟩⟩
  | (o, f) :: fs, p, prev, ⟨hprev, ho, hrest⟩ => by
    obtain ⟨d, hd, hd16, happ⟩ := offsetDelta_ok hprev ho
    simp only [writeFrames, hd, List.all_cons, objectsAll]
    refine Out.seq (g := (· ++ ·)) (writeFrame_out lp p d f) (fun p1 => writeFrames_out lp fs p1 (some o) hrest) ?_
    rintro _ _ _ _ hle hf ⟨ds, hds, hvs⟩
    obtain ⟨df, hdf, hv⟩ := hf hd16
    refine ⟨(o, df) :: ds, fun r => ?_, ?_⟩
    · simp only [List.length_cons, frames, List.append_assoc, hdf, happ, hds]
    · simp only [denotesAll, Bool.and_eq_true, beq_self_eq_true, true_and]
      exact ⟨denotesF_le hle hv, hvs⟩

theorem body_ok {lp : Nat → Option Nat} {fs : List (Nat × Frame)} {p p' : Pool} {b : Bytes}
    (h : body lp p fs = .ok (b, p')) :
    fs.length ≤ 65535 ∧ ∃ bs, b = u16b fs.length ++ bs ∧ writeFrames lp p none fs = .ok (bs, p') := by
  revert h
  fun_cases body lp p fs <;> intro h <;> cases h
  exact ⟨by omega, _, rfl, ‹_›⟩

theorem body_out (lp : Nat → Option Nat) (fs : List (Nat × Frame)) (p : Pool) (hinc : Incr none fs) :
    Out lp p (tableOk lp fs) (objectsAll fs) (fun b p' => ∃ ds, table b = some ds ∧ denotesAll lp p' fs ds = true)
      (body lp p fs) := by
  simp only [body, tableOk, GT.gt, ← Nat.not_le, ite_not]
  refine .guard _ fun hlen => (writeFrames_out lp fs p none hinc).map _ fun b p' ⟨ds, hds, hv⟩ => ⟨ds, ?_, hv⟩
  have := hds []
  rw [List.append_nil] at this
  simp only [table, u2_u16b _ hlen, this]

theorem body_spec {lp : Nat → Option Nat} (hlp : LpOk lp) (fs : List (Nat × Frame)) {p p' : Pool} (hg : Good p)
    (hinc : Incr none fs) {b : Bytes} (h : body lp p fs = .ok (b, p')) :
    Grows p p' ∧ ∃ ds, table b = some ds ∧ denotesAll lp p' fs ds = true := by
  have := body_out lp fs p hinc
  rw [h] at this
  exact this.2.2 hlp hg

theorem body_err (lp : Nat → Option Nat) (fs : List (Nat × Frame)) (p : Pool) (hinc : Incr none fs) (e : Fail)
    (h : body lp p fs = .error e) : e = .err := by
  have := body_out lp fs p hinc
  rw [h] at this
  exact this.1

theorem attr_err (lp : Nat → Option Nat) (fs : List (Nat × Frame)) (p : Pool) (hinc : Incr none fs) (e : Fail)
    (h : attr lp p fs = .error e) : e = .err := by
  revert h
  fun_cases attr lp p fs <;> intro h <;> cases h
  · exact body_err lp fs p hinc _ ‹_›
  · rfl
  · rfl

end FrameWrite
