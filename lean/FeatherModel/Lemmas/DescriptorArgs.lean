import FeatherModel.Lemmas.DescriptorParse

/-! `get_arguments_size` and `dimension` on grammatical input. -/

namespace Descriptor
open DescriptorGrammar

theorem skipBrackets_replicate (d : Nat) (r : JStr) (hr : r.head? ≠ some LBRACKET) :
    skipBrackets (List.replicate d LBRACKET ++ r) = r := by
  induction d with
  | zero =>
    cases r with
    | nil => rfl
    | cons c rest => exact if_neg fun e => hr (congrArg some e)
  | succ d ih => simpa [List.replicate_succ, skipBrackets] using ih

theorem countBrackets_replicate (d : Nat) (r : JStr) (hr : r.head? ≠ some LBRACKET) :
    countBrackets (List.replicate d LBRACKET ++ r) = d := by
  induction d with
  | zero =>
    cases r with
    | nil => rfl
    | cons c rest => exact if_neg fun e => hr (congrArg some e)
  | succ d ih => simpa [List.replicate_succ, countBrackets] using ih

theorem countBrackets_of_FieldTy {s : JStr} {d : Nat} {b : Base} (h : FieldTy s (.arr d b)) : countBrackets s = d := by
  obtain ⟨_, _, p, hp, rfl⟩ := flat_of_FieldTy h
  exact countBrackets_replicate d p (by simpa using BaseTy_head hp [])

theorem dimension_of_FieldTy {s : JStr} {d : Nat} {b : Base} (h : FieldTy s (.arr d b)) : dimension s = some d := by
  obtain ⟨h1, h2, _⟩ := flat_of_FieldTy h
  unfold dimension
  rw [countBrackets_of_FieldTy h]
  have : d % 256 = d := Nat.mod_eq_of_lt (by omega)
  simp only [this]
  rw [if_neg (by omega)]

theorem argsLoop_rparen (fuel size : Nat) (r : JStr) : argsLoop fuel size (RPAREN :: r) = .ok size := by
  cases fuel <;> simp [argsLoop]

theorem argsLoop_wide {c : Nat} (hc : c = cD ∨ c = cJ) (fuel size : Nat) (rest : JStr) :
    argsLoop (fuel + 1) size (c :: rest) =
      if size + 2 > 255 then .err else argsLoop fuel (size + 2) rest := by
  have h1 : c ≠ RPAREN := by rcases hc with rfl | rfl <;> decide
  simp only [argsLoop, if_neg h1, if_pos hc]

theorem argsLoop_narrow {c : Nat} (h1 : c ≠ RPAREN) (h2 : ¬(c = cD ∨ c = cJ)) (h3 : c ≠ LBRACKET) (h4 : c ≠ cL)
    (fuel size : Nat) (rest : JStr) :
    argsLoop (fuel + 1) size (c :: rest) =
      if size + 1 > 255 then .err else argsLoop fuel (size + 1) rest := by
  simp only [argsLoop, if_neg h1, if_neg h2, skipBrackets, if_neg h3, if_neg h4]

/-- an array type, or (no brackets) a class type, takes one slot; primitives without brackets are `argsLoop_wide` / `argsLoop_narrow` -/
theorem argsLoop_base {p : JStr} {b : Base} (hb : BaseTy p b) (d : Nat) (fuel size : Nat) (rest : JStr)
    (hd : d = 0 → ∀ q, b ≠ .prim q) :
    argsLoop (fuel + 1) size (List.replicate d LBRACKET ++ p ++ rest) =
      if size + 1 > 255 then .err else argsLoop fuel (size + 1) rest := by
  have hskip : skipBrackets (List.replicate d LBRACKET ++ p ++ rest) = p ++ rest := by
    rw [List.append_assoc]
    exact skipBrackets_replicate d (p ++ rest) (BaseTy_head hb rest)
  have hfirst : ∃ c tl, List.replicate d LBRACKET ++ p ++ rest = c :: tl ∧ c ≠ RPAREN ∧ ¬(c = cD ∨ c = cJ) := by
    cases d with
    | zero =>
      cases hb with
      | prim q => exact absurd rfl (hd rfl q)
      | obj hn =>
        rename_i n
        exact ⟨cL, n ++ [SEMI] ++ rest, by simp, by decide, by decide⟩
    | succ d => exact ⟨LBRACKET, List.replicate d LBRACKET ++ p ++ rest, by simp [List.replicate_succ], by decide, by decide⟩
  obtain ⟨c, tl, he, hc1, hc2⟩ := hfirst
  rw [he]
  simp only [argsLoop, if_neg hc1, if_neg hc2]
  rw [← he, hskip]
  cases hb with
  | prim q =>
    simp only [List.cons_append, List.nil_append]
    rw [if_neg (prim_char_ne q).2.1]
  | obj hn =>
    rename_i n
    have e : (cL :: n ++ [SEMI]) ++ rest = cL :: (n ++ SEMI :: rest) := by simp
    rw [e]
    simp only [if_true]
    rw [readName_append n rest (ClassName_no_semi hn)]

theorem argsLoop_step {s : JStr} {t : Ty} (hf : FieldTy s t) (fuel size : Nat) (rest : JStr) :
    argsLoop (fuel + 1) size (s ++ rest) =
      if size + t.slots > 255 then .err else argsLoop fuel (size + t.slots) rest := by
  have hfl := flat_of_FieldTy hf
  cases t with
  | prim q =>
    simp only [Flat] at hfl
    subst hfl
    cases q
    case D => exact argsLoop_wide (Or.inl rfl) fuel size rest
    case J => exact argsLoop_wide (Or.inr rfl) fuel size rest
    all_goals exact argsLoop_narrow (by decide) (by decide) (by decide) (by decide) fuel size rest
  | obj n =>
    obtain ⟨hn, hs⟩ := hfl
    subst hs
    have := argsLoop_base (BaseTy.obj hn) 0 fuel size rest (fun _ q => by simp)
    simpa [Ty.slots] using this
  | arr d b =>
    obtain ⟨h1, _, p, hp, hs⟩ := hfl
    subst hs
    exact argsLoop_base hp d fuel size rest (fun h0 => by omega)

theorem argsLoop_params {ps : JStr} {ts : List Ty} (h : ParamsTy ps ts) :
    ∀ (fuel size : Nat) (r : JStr), ps.length ≤ fuel → size ≤ 255 →
      argsLoop fuel size (ps ++ RPAREN :: r) =
        if size + slotsSum ts ≤ 255 then .ok (size + slotsSum ts) else .err := by
  induction h with
  | nil =>
    intro fuel size r _ hs
    have e : size + slotsSum [] = size := rfl
    rw [List.nil_append, argsLoop_rparen, e, if_pos hs]
  | cons hf hps ih =>
    rename_i s rest t ts'
    intro fuel size r hfuel hs
    have hpos := FieldTy_length_pos hf
    cases fuel with
    | zero => rw [List.length_append] at hfuel; omega
    | succ fuel =>
      rw [List.append_assoc, argsLoop_step hf fuel size (rest ++ RPAREN :: r)]
      have e : slotsSum (t :: ts') = t.slots + slotsSum ts' := rfl
      rw [e]
      by_cases hov : size + t.slots > 255
      · have hno : ¬ (size + (t.slots + slotsSum ts') ≤ 255) := by omega
        rw [if_pos hov, if_neg hno]
      · rw [if_neg hov, ih fuel (size + t.slots) r (by rw [List.length_append] at hfuel; omega) (by omega)]
        simp only [Nat.add_assoc]

end Descriptor
