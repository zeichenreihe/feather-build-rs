import FeatherModel.Model.VisitFull
import FeatherModel.Lemmas.Except

/-!
# C17 lemmas — what a reader function answers

One statement per function of the reader (`Rd`), under exact framing. When the function succeeds: it ends at
`start + declared size`, whatever the visitor masks or declines, and delivers the projection of what the full read
delivers; it has met nothing the reader refuses to see twice among what it parsed, and a visitor interested in everything
has had every byte checked (the guarded conjuncts `m .record = true →`, `mc = fullMc →`, `cfg = full → m = allMask →`,
which `readWith_full_inv` applies to the full configuration). And it fails only on an input that is not well formed or
for want of bytes. `Rd.bind` walks a function once; the two readings are `Rd.ok` (what a successful read tells) and
`Rd.of_bytes` (success once the bytes are there). They are not the halves of an iff: a skip is not checked against the
bytes that are there, so a masked or declining read succeeds on fewer bytes than its input has.

Here: the relation, the skipping loops, one leaf attribute, the loop over leaf attributes, and the item reader (the loops
over record components, fields and methods are one loop `readSeq` over one item reader `readItem`); the functions whose
statement needs the projection are in `Lemmas/VisitFull`. The part of `read` before `visit_class` is settled once for
every later proof: it succeeds exactly on a readable header with the bytes up to the class attributes there, and leaves
the part from `visit_class` on (`readWith_ok_prefix`, `readWith_prefix`).
-/

namespace Visit

theorem pure_ok {α : Type} (a : α) : (pure a : R α) = .ok a := rfl

theorem need_ok {avail pos n p : Nat} (h : need avail pos n = .ok p) : p = pos + n ∧ pos + n ≤ avail := by
  unfold need at h
  split at h
  · simp at h; omega
  · simp at h

theorem need_of_le {avail pos n : Nat} (h : pos + n ≤ avail) : need avail pos n = .ok (pos + n) := by
  simp [need, h]

theorem exactly_ok {u l : Nat} (h : exactly u l = .ok ()) : u = l := by
  unfold exactly at h
  split at h
  · assumption
  · simp at h

theorem exactly_self (u : Nat) : exactly u u = .ok () := by simp [exactly]

theorem named_ok {b : Bool} {u : Unit} (h : named b = .ok u) : b = true := by
  cases b <;> simp [named] at h ⊢

theorem named_true : named true = .ok () := rfl

/-- the bytes of attributes with the declared lengths `lens`, without their count: `attrsSize lens = 2 + lensSize lens` -/
def lensSize (lens : List Nat) : Nat := (lens.map (· + 6)).sum

@[simp] theorem lensSize_nil : lensSize [] = 0 := rfl
@[simp] theorem lensSize_cons (l : Nat) (ls : List Nat) : lensSize (l :: ls) = l + 6 + lensSize ls := by
  simp [lensSize]

theorem attrsSize_eq (lens : List Nat) : attrsSize lens = 2 + lensSize lens := rfl

/-- the loop over record components, fields and methods: item `a` with its index is read by `f`, positions are
threaded, events concatenated -/
def readSeq {α : Type} (f : Nat → α → Nat → R (Nat × List Ev)) : Nat → List α → Nat → R (Nat × List Ev)
  | _, [], p => .ok (p, [])
  | i, a :: as, p => do
    let (p, e1) ← f i a p
    let (p, e2) ← readSeq f (i + 1) as p
    pure (p, e1 ++ e2)

/-- a record component, field or method: `hdr` header bytes (4 = name and descriptor index of a record component, 6 = access
flags, name and descriptor index of a field or method) and a valid name; then either the visitor `v` declines and the
attributes are skipped by their lengths, or the attribute loop `loop m` runs between `b` and `tail` -/
def readItem {μ : Type} (avail hdr : Nat) (ok : Bool) (lens : List Nat) (b : Ev) (tail : Bool → Bool → List Ev)
    (loop : μ → Nat → R (Nat × List Ev × Bool × Bool)) (v : Option μ) (pos : Nat) : R (Nat × List Ev) := do
  let p ← need avail pos hdr
  named ok
  match v with
  | none => do
    let p ← skipAttrs avail lens p
    pure (p, [b])
  | some m => do
    let p ← need avail p 2
    let (p, evs, d, sy) ← loop m p
    pure (p, b :: evs ++ tail d sy)

-- loop and item reader are the model's up to the names of their `match`es, which this option unfolds like any definition
set_option smartUnfolding false in
theorem readRecComps_eq (avail : Nat) (cfg : Cfg) : readRecComps avail cfg = readSeq (fun r rc =>
    readItem avail 4 true (attrLens rc.attrs) (.recBegin r rc.h) (fun _ _ => [.recEnd r])
      (fun m => readLeafs avail recAct m (Ev.rAttr r) rc.attrs) (cfg.recc r)) := rfl

set_option smartUnfolding false in
theorem readFields_eq (avail : Nat) (cfg : Cfg) : readFields avail cfg = readSeq (fun i f =>
    readItem avail 6 f.ok (attrLens f.attrs) (.fieldBegin i f.h) (fun d sy => [.fieldFlags i d sy, .fieldEnd i])
      (fun m => readLeafs avail fieldAct m (Ev.fAttr i) f.attrs) (cfg.field i)) := rfl

set_option smartUnfolding false in
theorem readMethods_eq (avail : Nat) (cfg : Cfg) : readMethods avail cfg = readSeq (fun i mt =>
    readItem avail 6 mt.ok (mattrLens mt.attrs) (.methodBegin i mt.h) (fun d sy => [.methodFlags i d sy, .methodEnd i])
      (fun mc => readMethodAttrs avail i mc mt.attrs) (cfg.method i)) := rfl

/-- what a reader function answers: `S` of its result when it succeeds; it fails only if `A` does not hold or fewer than
`hw` bytes are there. The lemmas leave `A` and `hw` to their user: anything that implies the well-formedness the function
needs, any position from the end of its input on. -/
def Rd {β : Type} (avail : Nat) (A : Prop) (hw : Nat) (S : β → Prop) : R β → Prop
  | .ok b => S b
  | .error _ => A → avail < hw

theorem Rd.bind {β γ : Type} {avail hw : Nat} {A : Prop} {S1 : β → Prop} {S : γ → Prop} {x : R β} {f : β → R γ}
    (h1 : Rd avail A hw S1 x) (h2 : ∀ b, S1 b → Rd avail A hw S (f b)) : Rd avail A hw S (x >>= f) := by
  cases x with
  | ok b => exact h2 b h1
  | error e => exact h1

theorem Rd.bindv {β γ : Type} {avail hw : Nat} {A T : Prop} {v : β} {S : γ → Prop} {x : R β} {f : β → R γ}
    (h1 : Rd avail A hw (fun b => b = v ∧ T) x) (h2 : T → Rd avail A hw S (f v)) : Rd avail A hw S (x >>= f) :=
  h1.bind fun _ h => h.1 ▸ h2 h.2

theorem Rd.imp {β : Type} {avail hw : Nat} {A : Prop} {S S' : β → Prop} {x : R β}
    (h : Rd avail A hw S x) (hS : ∀ b, S b → S' b) : Rd avail A hw S' x := by
  cases x with
  | ok b => exact hS b h
  | error e => exact h

theorem Rd.ok {β : Type} {avail hw : Nat} {A : Prop} {S : β → Prop} {x : R β} {b : β}
    (h : Rd avail A hw S x) (hx : x = .ok b) : S b := by
  subst hx; exact h

theorem Rd.of_bytes {β : Type} {avail hw : Nat} {A : Prop} {S : β → Prop} {x : R β} {v : β}
    (h : Rd avail A hw S x) (hS : ∀ b, S b → b = v) (hA : A) (hle : hw ≤ avail) : x = .ok v := by
  cases x with
  | ok b => rw [hS b h]
  | error e => exact absurd (h hA) (by omega)

theorem Rd.need {avail hw pos n : Nat} {A : Prop} (h : pos + n ≤ hw) :
    Rd avail A hw (fun q => q = pos + n ∧ pos + n ≤ avail) (Visit.need avail pos n) := by
  unfold Visit.need
  split
  · exact ⟨rfl, ‹_›⟩
  · exact fun _ => by omega

theorem Rd.exactly {avail hw u l : Nat} {A : Prop} (h : u = l) : Rd avail A hw (fun _ => True) (Visit.exactly u l) := by
  rw [h, exactly_self]
  trivial

theorem Rd.named {avail hw : Nat} {A : Prop} {b : Bool} (hA : A → b = true) :
    Rd avail A hw (fun _ => b = true) (Visit.named b) := by
  cases b
  · exact fun h => nomatch hA h
  · rfl

theorem skipAttrsGo_rd {avail hw : Nat} {A : Prop} : ∀ (lens : List Nat) (p : Nat), p + lensSize lens ≤ hw →
    Rd avail A hw (· = p + lensSize lens) (skipAttrsGo avail lens p)
  | [], _, _ => rfl
  | l :: ls, p, hh => by
    rw [lensSize_cons] at hh ⊢
    refine .bindv (.need (n := 6) (by omega)) fun _ => ?_
    exact (skipAttrsGo_rd ls (p + 6 + l) (by omega)).imp fun _ h => by omega

theorem skipAttrs_rd {avail hw : Nat} {A : Prop} (lens : List Nat) (p : Nat) (hh : p + attrsSize lens ≤ hw) :
    Rd avail A hw (· = p + attrsSize lens) (skipAttrs avail lens p) := by
  rw [attrsSize_eq] at hh ⊢
  refine .bindv (.need (n := 2) (by omega)) fun _ => ?_
  exact (skipAttrsGo_rd lens (p + 2) (by omega)).imp fun _ h => by omega

theorem skipMembers_rd {avail hw : Nat} {A : Prop} : ∀ (ls : List (List Nat)) (p : Nat),
    p + (ls.map (fun l => 6 + attrsSize l)).sum ≤ hw →
    Rd avail A hw (· = p + (ls.map (fun l => 6 + attrsSize l)).sum) (skipMembers avail ls p)
  | [], _, _ => rfl
  | l :: ls, p, hh => by
    rw [List.map_cons, List.sum_cons] at hh ⊢
    refine .bind (skipAttrs_rd l (p + 6) (by omega)) ?_
    rintro _ rfl
    exact (skipMembers_rd ls (p + 6 + attrsSize l) (by omega)).imp fun _ h => by omega

theorem leaf1_rd {avail hw : Nat} {A : Prop} {act : K → Act} {m : Mask} {mk : Bool → K → Pay → Ev} {a : Attr} {p : Nat}
    (P : Ev → Option Ev) (hP : ∀ unk k pay, P (mk unk k pay) = keepIf (m (evBit unk k)) (mk unk k pay))
    (hx : leafExact act a = true) (hh : p + a.len ≤ hw) :
    Rd avail A hw (fun s =>
        s = ⟨p + a.len, (leafEv act mk a).1.filterMap P, (leafEv act mk a).2.1, (leafEv act mk a).2.2⟩ ∧
        (m = allMask → act a.k ≠ .skipOnly → p ≤ avail → p + a.len ≤ avail))
      (leaf1 avail act m mk a p) := by
  obtain ⟨k, len, used, pay⟩ := a
  unfold leaf1 leafEv
  unfold leafExact at hx
  cases hact : act k <;> simp only [hact, beq_iff_eq] at hx ⊢
  case flagDep | flagSyn =>
    subst hx
    exact ⟨rfl, fun _ _ h => h⟩
  case skipOnly => exact ⟨rfl, fun _ h => absurd rfl h⟩
  case always =>
    subst hx
    refine .bindv (.need hh) fun hq => ?_
    exact .bind (.exactly rfl) fun _ _ => ⟨rfl, fun _ _ _ => hq⟩
  case gated =>
    subst hx
    cases hm : m k
    · exact ⟨by simp [hP, keepIf, evBit, hm], fun h => by simp [h, allMask] at hm⟩
    · refine .bindv (.need hh) fun hq => ?_
      exact .bind (.exactly rfl) fun _ _ => ⟨by simp [hP, keepIf, evBit, hm], fun _ _ _ => hq⟩
  case unknown =>
    cases hm : m .other
    · exact ⟨by simp [hP, keepIf, evBit, hm], fun h => by simp [h, allMask] at hm⟩
    · refine .bindv (.need hh) fun hq => ?_
      exact ⟨by simp [hP, keepIf, evBit, hm], fun _ _ _ => hq⟩

theorem readLeafs_rd {avail hw : Nat} {A : Prop} {act : K → Act} {m : Mask} {mk : Bool → K → Pay → Ev}
    (P : Ev → Option Ev) (hP : ∀ unk k pay, P (mk unk k pay) = keepIf (m (evBit unk k)) (mk unk k pay)) :
    ∀ (as : List Attr) (p : Nat), as.all (leafExact act) = true → p + lensSize (attrLens as) ≤ hw →
      Rd avail A hw (fun r =>
          r = (p + lensSize (attrLens as), (leafsEv act mk as).1.filterMap P, (leafsEv act mk as).2.1,
            (leafsEv act mk as).2.2) ∧
          (m = allMask → (∀ k, act k ≠ .skipOnly) → p ≤ avail → p + lensSize (attrLens as) ≤ avail))
        (readLeafs avail act m mk as p)
  | [], p, _, _ => ⟨rfl, fun _ _ h => h⟩
  | a :: as, p, hx, hh => by
    simp only [List.all_cons, Bool.and_eq_true] at hx
    simp only [attrLens, List.map_cons, lensSize_cons] at hh ⊢
    refine .bindv (.need (n := 6) (by omega)) fun h6 => ?_
    refine .bindv (leaf1_rd P hP hx.1 (by omega)) fun b1 => ?_
    dsimp only
    refine .bindv (readLeafs_rd P hP as _ hx.2 (by simp only [attrLens]; omega)) fun b2 => ?_
    refine ⟨?_, fun hm hns _ => ?_⟩
    · simp only [leafsEv, List.filterMap_append, attrLens]
      exact Prod.ext (by simp only; omega) rfl
    · have := b2 hm hns (b1 hm (hns _) h6)
      simp only [attrLens] at this
      omega

/-- an item: where it ends and what it delivers, its name is valid, and what the attribute loop of a visited item tells
(`Q`, known once the two bytes of the count are there). When the visitor that declines nothing would be told
`b :: r.1 ++ tail r.2.1 r.2.2`, a declining `v` is told `b` only, a visitor `m` what its loop delivers. -/
theorem readItem_rd {μ : Type} {avail hw hdr : Nat} {A : Prop} {ok : Bool} {lens : List Nat} {b : Ev}
    {tail : Bool → Bool → List Ev} {loop : μ → Nat → R (Nat × List Ev × Bool × Bool)} {v : Option μ} {pos : Nat}
    (r : List Ev × Bool × Bool) (P : Ev → Option Ev) {Q : μ → Prop} (hb : P b = some b) (hA : A → ok = true)
    (hv : match v with
      | none => r.1.filterMap P = [] ∧ (tail r.2.1 r.2.2).filterMap P = []
      | some m => (tail r.2.1 r.2.2).filterMap P = tail r.2.1 r.2.2 ∧
          Rd avail A hw (fun x => x = (pos + hdr + 2 + lensSize lens, r.1.filterMap P, r.2.1, r.2.2) ∧
            (pos + hdr + 2 ≤ avail → Q m)) (loop m (pos + hdr + 2)))
    (hh : pos + (hdr + attrsSize lens) ≤ hw) :
    Rd avail A hw (fun x => x = (pos + (hdr + attrsSize lens), (b :: r.1 ++ tail r.2.1 r.2.2).filterMap P) ∧ ok = true ∧
        ∀ m, v = some m → Q m)
      (readItem avail hdr ok lens b tail loop v pos) := by
  refine .bindv (.need (by omega)) fun _ => ?_
  refine .bind (.named hA) fun _ hok => ?_
  simp only [List.filterMap_cons, hb, List.filterMap_append]
  cases v with
  | none =>
    refine .bind (skipAttrs_rd lens _ (by omega)) ?_
    rintro _ rfl
    exact ⟨by simp only [hv.1, hv.2, List.append_nil, Nat.add_assoc], hok, nofun⟩
  | some m =>
    rw [attrsSize_eq] at hh ⊢
    refine .bindv (.need (n := 2) (by omega)) fun h2 => ?_
    refine .bindv hv.2 fun hq => ?_
    refine ⟨?_, hok, fun _ hm => Option.some.inj hm ▸ hq h2⟩
    rw [hv.1]
    exact Prod.ext (by simp only; omega) rfl

/-- the bytes of record components, without their count: `recSize comps = 2 + compsSize comps` -/
def compsSize (comps : List RecComp) : Nat := (comps.map RecComp.size).sum

theorem recSize_eq (comps : List RecComp) : recSize comps = 2 + compsSize comps := rfl

theorem accAdd_eq (i : Nat) (a : Attr) (acc : KAcc) :
    accAdd i a acc = if isFramesKind a.k && acc.frames.isSome then .error .err else .ok (accAddPure i a acc) := by
  obtain ⟨k, len, used, pay⟩ := a
  cases k <;> rfl

theorem accAddPure_cases (i : Nat) (a : Attr) :
    (isFramesKind a.k = true ∧ codeBit a.k = .stackMapTable ∧
      ∀ acc, accAddPure i a acc = { acc with frames := some a.pay }) ∨
    isFramesKind a.k = false ∧ (
      (codeBit a.k = .lineNumberTable ∧ ∀ acc, accAddPure i a acc = { acc with lines := acc.lines ++ [a.pay] }) ∨
      (codeBit a.k = .lvt ∧ ∀ acc, accAddPure i a acc = { acc with locals := acc.locals ++ [(.d, a.pay)] }) ∨
      (codeBit a.k = .lvtt ∧ ∀ acc, accAddPure i a acc = { acc with locals := acc.locals ++ [(.s, a.pay)] }) ∨
      (∃ unk, codeBit a.k = evBit unk a.k ∧
        ∀ acc, accAddPure i a acc = { acc with evs := acc.evs ++ [Ev.kAttr i unk a.k a.pay] })) := by
  obtain ⟨k, len, used, pay⟩ := a
  cases k <;> first
    | exact .inr ⟨rfl, .inr (.inr (.inr ⟨true, rfl, fun _ => rfl⟩))⟩
    | exact .inr ⟨rfl, .inr (.inr (.inr ⟨false, rfl, fun _ => rfl⟩))⟩
    | exact .inl ⟨rfl, rfl, fun _ => rfl⟩
    | exact .inr ⟨rfl, .inl ⟨rfl, fun _ => rfl⟩⟩
    | exact .inr ⟨rfl, .inr (.inl ⟨rfl, fun _ => rfl⟩)⟩
    | exact .inr ⟨rfl, .inr (.inr (.inl ⟨rfl, fun _ => rfl⟩))⟩

theorem accAddPure_frames {i : Nat} {a : Attr} {acc : KAcc} :
    (accAddPure i a acc).frames = if isFramesKind a.k then some a.pay else acc.frames := by
  rcases accAddPure_cases i a with ⟨hk, _, he⟩ | ⟨hk, ⟨_, he⟩ | ⟨_, he⟩ | ⟨_, he⟩ | ⟨_, _, he⟩⟩ <;> rw [he, hk] <;> rfl

theorem codeAttrsWf_cons (i : Nat) (a : Attr) (as : List Attr) (acc : KAcc) :
    codeAttrsWf acc.frames.isSome (a :: as) = true ↔
      (isFramesKind a.k = true → acc.frames = none) ∧ codeAttrsWf (accAddPure i a acc).frames.isSome as = true := by
  rw [accAddPure_frames, codeAttrsWf]
  cases isFramesKind a.k <;> cases acc.frames <;> simp

/-- the bytes of fields (methods), without their count -/
def fieldsSize (fs : List Field) : Nat := (fs.map Field.size).sum
def methodsSize (ms : List Method) : Nat := (ms.map Method.size).sum

theorem ClassFrame.size_eq (c : ClassFrame) : c.size = c.hdr + 2 + fieldsSize c.fields + 2 + methodsSize c.methods
    + 2 + lensSize (cattrLens c.attrs) := by
  simp only [ClassFrame.size, fieldsSize, methodsSize, attrsSize_eq]; omega

/-- what `full` answers for every method -/
def fullMc : MethodCfg := { mask := allMask, code := true, codeV := some allMask }

theorem full_method (i : Nat) : full.method i = some fullMc := rfl
theorem full_cls : full.cls = some allMask := rfl
theorem full_fieldsI : full.fieldsI = true := rfl
theorem full_methodsI : full.methodsI = true := rfl

/-- a `BootstrapMethods` must be the first; the attributes after it are judged with it remembered -/
theorem classAttrsWf_leaf (a : Attr) (as : List CAttr) (st : CSt) :
    classAttrsWf st (.leaf a :: as) = true ↔ ¬(classAct a.k = .always ∧ st.hadBsm = true) ∧
      classAttrsWf (if classAct a.k = .always then { st with hadBsm := true } else st) as = true := by
  by_cases hal : classAct a.k = .always <;> simp [classAttrsWf, hal]

theorem fields_sum (fs : List Field) :
    ((fs.map (fun f => attrLens f.attrs)).map (fun l => 6 + attrsSize l)).sum = fieldsSize fs := by
  rw [List.map_map]
  rfl

theorem methods_sum (ms : List Method) :
    ((ms.map (fun f => mattrLens f.attrs)).map (fun l => 6 + attrsSize l)).sum = methodsSize ms := by
  rw [List.map_map]
  rfl

theorem framesExact_parts {c : ClassFrame} (h : framesExact c = true) :
    c.fields.all (fun f => f.attrs.all (leafExact fieldAct)) = true ∧
    c.methods.all (fun m => m.attrs.all mattrExact) = true ∧ c.attrs.all cattrExact = true := by
  simp only [framesExact, Bool.and_eq_true] at h
  exact ⟨h.1.1, h.1.2, h.2⟩

/-- the part of `read` before `visit_class` (header, the two member-skipping loops, the count of the class attributes)
succeeds only on a readable header with the bytes up to the class attributes there -/
theorem readWith_ok_prefix {cfg : Cfg} {c : ClassFrame} {avail : Nat} {res : Nat × List Ev}
    (h : readWith cfg c avail = .ok res) :
    c.hdrOk = true ∧ c.hdr + 2 + fieldsSize c.fields + 2 + methodsSize c.methods + 2 ≤ avail := by
  obtain ⟨fs, hfs, h⟩ := Except.bind_eq_ok.mp h
  split at h
  · simp at h
  · rename_i hok
    obtain ⟨p1, hp1, h⟩ := Except.bind_eq_ok.mp h
    obtain ⟨p2, hp2, h⟩ := Except.bind_eq_ok.mp h
    obtain ⟨p3, hp3, h⟩ := Except.bind_eq_ok.mp h
    obtain ⟨p4, hp4, h⟩ := Except.bind_eq_ok.mp h
    have a0 := need_ok hfs
    have a1 := need_ok hp1
    have a2 := (skipMembers_rd (A := True) _ _ (Nat.le_refl _)).ok hp2
    have a3 := need_ok hp3
    have a4 := (skipMembers_rd (A := True) _ _ (Nat.le_refl _)).ok hp4
    rw [fields_sum] at a2
    rw [methods_sum] at a4
    refine ⟨by simpa using hok, ?_⟩
    split at h <;> obtain ⟨p5, hp5, h⟩ := Except.bind_eq_ok.mp h
    · obtain ⟨p5', hp5', _⟩ := Except.bind_eq_ok.mp hp5
      have := need_ok hp5'
      omega
    · have := need_ok hp5
      omega

/-- and then it leaves the cursor at the class attributes: the read is the part from `visit_class` on, the members read
from the remembered position -/
theorem readWith_prefix {cfg : Cfg} {c : ClassFrame} {avail : Nat} (hok : c.hdrOk = true)
    (hle : c.hdr + 2 + fieldsSize c.fields + 2 + methodsSize c.methods + 2 ≤ avail) :
    readWith cfg c avail =
      (match cfg.cls with
      | none => do
        let p ← skipAttrsGo avail (cattrLens c.attrs) (c.hdr + 2 + fieldsSize c.fields + 2 + methodsSize c.methods + 2)
        pure (p, [Ev.classBegin c.h])
      | some m => do
        let (p, evs, d, sy) ← readClassAttrs avail cfg m {} c.attrs
          (c.hdr + 2 + fieldsSize c.fields + 2 + methodsSize c.methods + 2)
        let (q, fevs) ← readFieldsI avail cfg c.fields (c.hdr + 2)
        let mevs ← readMethodsI avail cfg c.methods q
        pure (p, Ev.classBegin c.h :: evs ++ [Ev.classFlags d sy] ++ fevs ++ mevs ++ [Ev.classEnd])) := by
  have h0 : 0 + c.hdr ≤ avail := by omega
  have h1 : c.hdr + 2 ≤ avail := by omega
  have h2 := (skipMembers_rd (A := True) (c.fields.map (fun f => attrLens f.attrs)) (c.hdr + 2) (Nat.le_refl _)).of_bytes
    (avail := avail) (fun _ h => h) trivial (by rw [fields_sum]; omega)
  have h3 : c.hdr + 2 + fieldsSize c.fields + 2 ≤ avail := by omega
  have h4 := (skipMembers_rd (A := True) (c.methods.map (fun m => mattrLens m.attrs))
    (c.hdr + 2 + fieldsSize c.fields + 2) (Nat.le_refl _)).of_bytes (avail := avail) (fun _ h => h) trivial
    (by rw [methods_sum]; omega)
  rw [fields_sum] at h2
  rw [methods_sum] at h4
  simp only [readWith, need_of_le h0, Nat.zero_add, Except.ok_bind, hok, Bool.not_true, Bool.false_eq_true, if_false,
    need_of_le h1, h2, need_of_le h3, h4, skipAttrs, need_of_le hle]
  cases cfg.cls <;> rfl

end Visit
