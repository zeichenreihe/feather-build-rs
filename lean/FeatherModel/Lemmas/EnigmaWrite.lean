import FeatherModel.Lemmas.EnigmaPlacement

/-!
# C12: the writer on the Enigma-expressible domain
`write_one_tree_starting_at` succeeds and its lines are tokenised into `treeEL`; `figure_out_files` yields one entry per
class without a present parent; the lines of `write_all`; the files of `enigma_dir::write`; the output is sorted and
does not depend on the insertion order (at any level).
-/

namespace Enigma

theorem treeLines_succ (classes : AList JStr Class) (fuel : Nat) (key : JStr) (c : Class) (d : Nat) :
    treeLines classes (fuel + 1) key c d = (classLines key c d).bind fun own =>
      (concatOpts ((childrenOf classes key).map fun e => treeLines classes fuel e.1 e.2 (d + 1))).map (own ++ ·) := by
  rw [treeLines]
  cases classLines key c d with
  | none => rfl
  | some own => cases concatOpts ((childrenOf classes key).map fun e => treeLines classes fuel e.1 e.2 (d + 1)) <;> rfl

theorem concatOpts_map_lex {β : Type} (f : β → Option (List Text)) (g : β → List ELine) (l : List β)
    (h : ∀ e ∈ l, ∃ ls, f e = some ls ∧ Lexes ls (g e)) :
    ∃ ls, concatOpts (l.map f) = some ls ∧ Lexes ls (l.flatMap g) := by
  induction l with
  | nil => exact ⟨[], rfl, Lexes.nil⟩
  | cons e l ih =>
    obtain ⟨a, ha, la⟩ := h e List.mem_cons_self
    obtain ⟨b, hb, lb⟩ := ih (fun x hx => h x (List.mem_cons_of_mem _ hx))
    refine ⟨a ++ b, by simp only [List.map_cons, concatOpts, ha, hb], ?_⟩
    rw [List.flatMap_cons]
    exact la.append lb

/-- `write_one_tree_starting_at` succeeds and is read as `treeEL`. The fuel is never used up: a child's key is strictly
longer than its parent's, so `maxKeyLen classes < fuel + key.length` is kept along the recursion -/
theorem tree_lex (classes : AList JStr Class) (hok : ∀ e ∈ classes, classOk classes e = true) :
    ∀ (fuel : Nat) (key : JStr) (c : Class) (d : Nat), (key, c) ∈ classes → maxKeyLen classes < fuel + key.length →
      ∃ lines, treeLines classes fuel key c d = some lines ∧ Lexes lines (treeEL classes fuel key c d) := by
  intro fuel
  induction fuel with
  | zero =>
    intro key c d hin hf
    have := le_maxKeyLen hin
    simp only at this
    omega
  | succ fuel ih =>
    intro key c d hin hf
    have hc := hok (key, c) hin
    obtain ⟨hk, _, hd⟩ := classOk_dst_tok hc
    obtain ⟨hfs, _, hms, _⟩ := classOk_members hc
    obtain ⟨own, ho, lo⟩ := classLines_lex key c d hk (fun x hx => (hd x hx).1) (classOk_doc hc) hfs hms
    obtain ⟨below, hb, lb⟩ := concatOpts_map_lex (fun e : JStr × Class => treeLines classes fuel e.1 e.2 (d + 1))
      (fun e => treeEL classes fuel e.1 e.2 (d + 1)) (childrenOf classes key) (by
        intro e he
        obtain ⟨hec, hep⟩ := mem_childrenOf he
        have := parentInSet_length hep
        exact ih e.1 e.2 (d + 1) hec (by omega))
    exact ⟨own ++ below, by rw [treeLines_succ, ho, Option.bind_some, hb]; rfl, lo.append lb⟩

theorem concatOpts_isSome {α : Type} {l : List (Option (List α))} {b : List α} (h : concatOpts l = some b) :
    ∀ o ∈ l, o.isSome = true := by
  induction l generalizing b with
  | nil => exact fun o ho => absurd ho List.not_mem_nil
  | cons x l ih =>
    cases x with
    | none => exact absurd h (by simp [concatOpts])
    | some a =>
      cases hr : concatOpts l with
      | none => rw [concatOpts, hr] at h; exact absurd h (by simp)
      | some r =>
        intro o ho
        rcases List.mem_cons.mp ho with rfl | ho
        · rfl
        · exact ih hr o ho

theorem treeLines_mono (classes : AList JStr Class) : ∀ (fuel : Nat) (key : JStr) (c : Class) (d : Nat) (ls : List Text),
    treeLines classes fuel key c d = some ls → treeLines classes (fuel + 1) key c d = some ls := by
  intro fuel
  induction fuel with
  | zero => intro _ _ _ _ h; exact absurd h (by simp [treeLines])
  | succ fuel ih =>
    intro key c d ls h
    rw [treeLines_succ] at h ⊢
    obtain ⟨own, ho, h⟩ := Option.bind_eq_some_iff.mp h
    obtain ⟨below, hb, -⟩ := Option.map_eq_some_iff.mp h
    -- every child's tree was written, so each is written the same with one more unit of fuel
    have : (childrenOf classes key).map (fun e => treeLines classes (fuel + 1) e.1 e.2 (d + 1)) =
        (childrenOf classes key).map (fun e => treeLines classes fuel e.1 e.2 (d + 1)) := by
      refine List.map_congr_left fun e he => ?_
      obtain ⟨x, hx⟩ := Option.isSome_iff_exists.mp (concatOpts_isSome hb _ (List.mem_map_of_mem he))
      rw [hx, ih e.1 e.2 (d + 1) x hx]
    rw [this, ho]
    exact h

/-- `file_map.insert` is `IndexMap::insert` (facts: `AList.foldl_insert_of_nodup` …) -/
theorem mapInsert_eq {V : Type} : (mapInsert : JStr → V → AList JStr V → AList JStr V) = AList.insert := by
  set_option smartUnfolding false in rfl

/-- the entries of `file_map` before sorting: one per class without a present parent, under its file name -/
def rootEntries (classes : AList JStr Class) : AList JStr (JStr × Class) :=
  (rootsOf classes).map fun e => (fileNameOf e.1 e.2, e)

theorem rootEntries_keys (classes : AList JStr Class) : (rootEntries classes).map Prod.fst = rootFileNames classes :=
  List.map_map

theorem fileMapFold_eq (classes : AList JStr Class) : ∀ (l : AList JStr Class) (acc : AList JStr (JStr × Class)),
    (∀ e ∈ l, tokOk (fileNameOf e.1 e.2) = true) →
    fileMapFold classes l acc = some (((l.filter (isRoot classes)).map fun e => (fileNameOf e.1 e.2, e)).foldl
      (fun o e => AList.insert e.1 e.2 o) acc) := by
  intro l
  induction l with
  | nil => exact fun _ _ => rfl
  | cons x rest ih =>
    intro acc htok
    rw [fileMapFold, List.filter_cons, isRoot]
    cases parentInSet classes x.1 with
    | some p => exact ih acc fun e he => htok e (List.mem_cons_of_mem _ he)
    | none =>
      rw [tokOk_noSurrogate (htok x List.mem_cons_self), mapInsert_eq]
      exact ih _ fun e he => htok e (List.mem_cons_of_mem _ he)

theorem fileMap_spec {m : Mappings} (h : writableB m = true) :
    fileMap m = some (isort keyLe (rootEntries m.classes)) := by
  obtain ⟨hok, _, hrf⟩ := writableB_spec h
  rw [fileMap, fileMapFold_eq _ _ [] fun e he => (classOk_fileName (hok e he)).1,
    AList.foldl_insert_of_nodup _ [] (by rw [List.nil_append]; exact rootEntries_keys _ ▸ hrf)]
  rfl

/-- the sorted `file_map` -/
def fileEntries (m : Mappings) : AList JStr (JStr × Class) := isort keyLe (rootEntries m.classes)

theorem fileEntries_snd_perm (m : Mappings) : ((fileEntries m).map Prod.snd).Perm (rootsOf m.classes) := by
  have := (isort_perm keyLe (rootEntries m.classes)).map Prod.snd
  rwa [rootEntries, List.map_map, List.map_id''] at this
  exact fun _ => rfl

theorem mem_fileEntries {m : Mappings} {x : JStr × (JStr × Class)} (hx : x ∈ fileEntries m) :
    x.2 ∈ m.classes ∧ parentInSet m.classes x.2.1 = none ∧ x.1 = fileNameOf x.2.1 x.2.2 := by
  obtain ⟨e, he, rfl⟩ := List.mem_map.mp (mem_isort.mp hx)
  exact ⟨(mem_rootsOf.mp he).1, (mem_rootsOf.mp he).2, rfl⟩

theorem fileEntries_sorted (m : Mappings) : (fileEntries m).Pairwise (fun a b => keyLe a b = true) :=
  keyLe_ord.sorted _

theorem childrenOf_sorted (classes : AList JStr Class) (key : JStr) :
    (childrenOf classes key).Pairwise (fun a b => keyLe a b = true) :=
  keyLe_ord.sorted _

theorem canonClass_sorted (c : Class) :
    (canonClass c).fields.Pairwise (fun a b => fieldLe a b = true) ∧
    (isort methodLe c.methods).Pairwise (fun a b => methodLe a b = true) ∧
    ∀ e ∈ (canonClass c).methods, e.2.params.Pairwise (fun a b => paramLe a b = true) := by
  refine ⟨fieldLe_ord.sorted _, methodLe_ord.sorted _, fun e he => ?_⟩
  obtain ⟨x, _, rfl⟩ := List.mem_map.mp he
  exact paramLe_ord.sorted _

theorem fileTree_lex {m : Mappings} (hok : ∀ e ∈ m.classes, classOk m.classes e = true) {node : JStr × Class}
    (hin : node ∈ m.classes) :
    ∃ ls, fileTree m node = some ls ∧ Lexes ls (treeEL m.classes (treeFuel m.classes) node.1 node.2 0) :=
  tree_lex m.classes hok _ node.1 node.2 0 hin (lt_treeFuel_add _ _)

/-- what `write_all` writes for one entry of `file_map`: the header `#`, `# <file name>` and the tree -/
def fileLines (m : Mappings) (x : JStr × (JStr × Class)) : List Text :=
  [HASH] :: (HASH :: SP :: x.1) :: (fileTree m x.2).getD []

theorem writeAll_go_spec (m : Mappings) (fm : List (JStr × (JStr × Class)))
    (h : ∀ x ∈ fm, (fileTree m x.2).isSome = true) : writeAllLines.go m fm = some (fm.flatMap (fileLines m)) := by
  induction fm with
  | nil => rfl
  | cons x rest ih =>
    obtain ⟨a, ha⟩ := Option.isSome_iff_exists.mp (h _ List.mem_cons_self)
    rw [writeAllLines.go, ha, ih (fun x hx => h x (List.mem_cons_of_mem _ hx))]
    simp only [List.flatMap_cons, fileLines, ha, Option.getD_some, List.cons_append]

theorem writeAll_spec {m : Mappings} (h : writableB m = true) :
    writeAll m = some (render ((fileEntries m).flatMap (fileLines m))) := by
  obtain ⟨hok, _, _⟩ := writableB_spec h
  simp only [writeAll, writeAllLines, fileMap_spec h]
  show (writeAllLines.go m (fileEntries m)).map render = _
  rw [writeAll_go_spec m _ fun x hx => ?_]
  · rfl
  · obtain ⟨ls, hl, _⟩ := fileTree_lex hok (mem_fileEntries hx).1
    rw [hl]; rfl

/-- the `EnigmaLine`s of the stream written by `write_all` -/
def allEL (m : Mappings) : List ELine :=
  (fileEntries m).flatMap fun x => treeEL m.classes (treeFuel m.classes) x.2.1 x.2.2 0

theorem classOk_fileEntry {m : Mappings} (hok : ∀ e ∈ m.classes, classOk m.classes e = true) {x : JStr × (JStr × Class)}
    (hx : x ∈ fileEntries m) : tokOk x.1 = true ∧ validObjClass x.1 = true := by
  obtain ⟨h1, _, h3⟩ := mem_fileEntries hx
  rw [h3]
  exact classOk_fileName (hok x.2 h1)

theorem writeAll_lex {m : Mappings} (h : writableB m = true) :
    ∃ ls, writeAll m = some (render ls) ∧ Lexes ls (allEL m) := by
  obtain ⟨hok, _, _⟩ := writableB_spec h
  refine ⟨_, writeAll_spec h, Lexes.flatMap fun x hx => ?_⟩
  obtain ⟨ls, hl, lx⟩ := fileTree_lex hok (mem_fileEntries hx).1
  have h2 := lexLine_header2 x.1 (tokOk_tok (classOk_fileEntry hok hx).1)
  rw [fileLines, hl]
  exact Lexes.skip lexLine_header1.1 lexLine_header1.2 (Lexes.skip h2.1 h2.2 lx)

/-- a valid class name makes a relative path without `.` -/
theorem validObjClass_path {s : JStr} (h : validObjClass s = true) : (s.contains 46 || s.head? == some 47) = false := by
  simp only [validObjClass, Bool.and_eq_true, List.all_eq_true] at h
  obtain ⟨_, hall⟩ := h
  rw [Bool.or_eq_false_iff]
  constructor
  · cases hc : s.contains 46 with
    | false => rfl
    | true =>
      have hm : 46 ∈ s := List.contains_iff_mem.mp hc
      obtain ⟨x, hx, hcx⟩ := splitOn_cover (p := (· == 47)) hm (by decide)
      have := hall x hx
      simp only [validUnq, Bool.and_eq_true, List.all_eq_true, bne_iff_ne, ne_eq] at this
      exact absurd rfl (this.2 46 hcx).1.1.1
  · cases s with
    | nil => rfl
    | cons a rest =>
      by_cases ha : a = 47
      · subst ha
        have := hall [] (by simp [splitOn])
        simp [validUnq] at this
      · simp [ha]

/-- the text of the file of one tree -/
def treeText (m : Mappings) (node : JStr × Class) : Text := render ((fileTree m node).getD [])

def fileOf (m : Mappings) (x : JStr × (JStr × Class)) : JStr × Text := (x.1 ++ extMAPPING, treeText m x.2)

theorem files_go_spec {m : Mappings} (hok : ∀ e ∈ m.classes, classOk m.classes e = true)
    (fm : List (JStr × (JStr × Class))) (h : ∀ x ∈ fm, validObjClass x.1 = true ∧ x.2 ∈ m.classes) :
    files.go m fm = some (fm.map (fileOf m)) := by
  induction fm with
  | nil => rfl
  | cons x rest ih =>
    obtain ⟨hv, hin⟩ := h x List.mem_cons_self
    obtain ⟨a, ha, _⟩ := fileTree_lex hok hin
    simp only [files.go, validObjClass_path hv, Bool.false_eq_true, if_false, ha,
      ih (fun x hx => h x (List.mem_cons_of_mem _ hx)), List.map_cons, fileOf, treeText, Option.getD_some]

theorem files_spec {m : Mappings} (h : writableB m = true) : files m = some ((fileEntries m).map (fileOf m)) := by
  obtain ⟨hok, _, _⟩ := writableB_spec h
  simp only [files, fileMap_spec h]
  exact files_go_spec hok _ fun x hx => ⟨(classOk_fileEntry hok hx).2, (mem_fileEntries hx).1⟩

/-- element-wise relation of two lists -/
inductive All2 {α β : Type} (R : α → β → Prop) : List α → List β → Prop
  | nil : All2 R [] []
  | cons {a b as bs} : R a b → All2 R as bs → All2 R (a :: as) (b :: bs)

/-- `l'` has the entries of `l` in another order, entry by entry up to `R` -/
def PermRel {α : Type} (R : α → α → Prop) (l l' : List α) : Prop :=
  ∃ a b, l.Perm a ∧ All2 R a b ∧ b.Perm l'

/-- same method entry, parameters in any insertion order -/
def MethodSh (m m' : Method) : Prop :=
  m.desc = m'.desc ∧ m.names = m'.names ∧ m.doc = m'.doc ∧ m.params.Perm m'.params

/-- same class entry, fields / methods / parameters in any insertion order -/
def ClassSh (c c' : Class) : Prop :=
  c.names = c'.names ∧ c.doc = c'.doc ∧ c.fields.Perm c'.fields ∧
    PermRel (fun x y => x.1 = y.1 ∧ MethodSh x.2 y.2) c.methods c'.methods

def EntrySh (x y : JStr × Class) : Prop := x.1 = y.1 ∧ ClassSh x.2 y.2

/-- same content: the same entries under the same keys at every level, in any insertion order at every level -/
def Shuffled (m m' : Mappings) : Prop := PermRel EntrySh m.classes m'.classes

theorem All2.mem_left {α β : Type} {R : α → β → Prop} {l l'} (h : All2 R l l') : ∀ a ∈ l, ∃ b ∈ l', R a b := by
  induction h with
  | nil => exact fun a ha => absurd ha List.not_mem_nil
  | cons r _ ih =>
    intro a ha
    rcases List.mem_cons.mp ha with rfl | ha
    · exact ⟨_, List.mem_cons_self, r⟩
    · obtain ⟨b, hb, hr⟩ := ih a ha
      exact ⟨b, List.mem_cons_of_mem _ hb, hr⟩

theorem All2.mem_right {α β : Type} {R : α → β → Prop} {l l'} (h : All2 R l l') : ∀ b ∈ l', ∃ a ∈ l, R a b := by
  induction h with
  | nil => exact fun b hb => absurd hb List.not_mem_nil
  | cons r _ ih =>
    intro b hb
    rcases List.mem_cons.mp hb with rfl | hb
    · exact ⟨_, List.mem_cons_self, r⟩
    · obtain ⟨a, ha, hr⟩ := ih b hb
      exact ⟨a, List.mem_cons_of_mem _ ha, hr⟩

theorem All2.map_eq {α β γ : Type} {R : α → β → Prop} {f : α → γ} {g : β → γ} {l l'} (h : All2 R l l')
    (hfg : ∀ a ∈ l, ∀ b ∈ l', R a b → f a = g b) : l.map f = l'.map g := by
  induction h with
  | nil => rfl
  | cons r _ ih =>
    rw [List.map_cons, List.map_cons, hfg _ List.mem_cons_self _ List.mem_cons_self r,
      ih (fun a ha b hb => hfg a (List.mem_cons_of_mem _ ha) b (List.mem_cons_of_mem _ hb))]

theorem All2.map {α β γ δ : Type} {R : α → β → Prop} {S : γ → δ → Prop} {f : α → γ} {g : β → δ}
    (h : ∀ a b, R a b → S (f a) (g b)) {l l'} (hl : All2 R l l') : All2 S (l.map f) (l'.map g) := by
  induction hl with
  | nil => exact .nil
  | cons r _ ih => exact .cons (h _ _ r) ih

theorem All2.filter {α β : Type} {R : α → β → Prop} {p : α → Bool} {q : β → Bool} (h : ∀ a b, R a b → p a = q b) :
    ∀ {l l'}, All2 R l l' → All2 R (l.filter p) (l'.filter q) := by
  intro l l' hl
  induction hl with
  | nil => exact .nil
  | @cons a b _ _ r _ ih =>
    simp only [List.filter_cons, h a b r]
    split
    · exact .cons r ih
    · exact ih

theorem All2.insertBy {α β : Type} {R : α → β → Prop} {le : α → α → Bool} {le' : β → β → Bool}
    (hle : ∀ a b a' b', R a a' → R b b' → le a b = le' a' b') {x : α} {y : β} (hx : R x y) {l l'} (hl : All2 R l l') :
    All2 R (insertBy le x l) (insertBy le' y l') := by
  induction hl with
  | nil => exact .cons hx .nil
  | @cons a b _ _ r t ih =>
    simp only [Enigma.insertBy, hle x a y b hx r]
    split
    · exact .cons hx (.cons r t)
    · exact .cons r ih

theorem All2.isort {α β : Type} {R : α → β → Prop} {le : α → α → Bool} {le' : β → β → Bool}
    (hle : ∀ a b a' b', R a a' → R b b' → le a b = le' a' b') {l l'} (hl : All2 R l l') :
    All2 R (isort le l) (isort le' l') := by
  induction hl with
  | nil => exact .nil
  | cons r _ ih => exact All2.insertBy hle r ih

theorem PermRel.filter {α : Type} {R : α → α → Prop} {p q : α → Bool} (h : ∀ a b, R a b → p a = q b) {l l' : List α}
    (hp : PermRel R l l') : PermRel R (l.filter p) (l'.filter q) := by
  obtain ⟨a, b, h1, h2, h3⟩ := hp
  exact ⟨a.filter p, b.filter q, h1.filter p, All2.filter h h2, h3.filter q⟩

theorem PermRel.map {α β : Type} {R : α → α → Prop} {S : β → β → Prop} {f g : α → β} (h : ∀ a b, R a b → S (f a) (g b))
    {l l' : List α} (hp : PermRel R l l') : PermRel S (l.map f) (l'.map g) := by
  obtain ⟨a, b, h1, h2, h3⟩ := hp
  exact ⟨a.map f, b.map g, h1.map f, All2.map h h2, h3.map g⟩

theorem PermRel.mem_left {α : Type} {R : α → α → Prop} {l l' : List α} (hp : PermRel R l l') :
    ∀ x ∈ l, ∃ y ∈ l', R x y := by
  obtain ⟨a, b, h1, h2, h3⟩ := hp
  intro x hx
  obtain ⟨y, hy, r⟩ := h2.mem_left x (h1.subset hx)
  exact ⟨y, h3.subset hy, r⟩

theorem PermRel.mem_right {α : Type} {R : α → α → Prop} {l l' : List α} (hp : PermRel R l l') :
    ∀ y ∈ l', ∃ x ∈ l, R x y := by
  obtain ⟨a, b, h1, h2, h3⟩ := hp
  intro y hy
  obtain ⟨x, hx, r⟩ := h2.mem_right y (h3.symm.subset hy)
  exact ⟨x, h1.symm.subset hx, r⟩

theorem permRel_isort {α κ : Type} {R : α → α → Prop} {le : α → α → Bool} {key : α → κ} (ho : KeyOrd le key)
    (hR : ∀ a b, R a b → key a = key b) {l l' : List α}
    (hinj : ∀ a ∈ l, ∀ b ∈ l, key a = key b → a = b) (hinj' : ∀ a ∈ l', ∀ b ∈ l', key a = key b → a = b)
    (hp : PermRel R l l') : All2 R (isort le l) (isort le l') := by
  obtain ⟨a, b, h1, h2, h3⟩ := hp
  rw [ho.isort_eq_of_perm hinj h1, ho.isort_eq_of_perm hinj' h3.symm]
  exact All2.isort (fun x y x' y' hx hy => ho.congr x x' y y' (hR x x' hx) (hR y y' hy)) h2

/-- the `(names, descriptor)` sort key of a field or method determines its `(name, descriptor)` key -/
theorem memberKey_inj {V : Type} {names : V → Names} {desc : V → JStr} {l : AList MemberKey V}
    (hspec : ∀ e ∈ l, ∃ dst, names e.2 = [some e.1.1, dst] ∧ desc e.2 = e.1.2) (hnd : (l.map Prod.fst).Nodup) :
    ∀ a ∈ l, ∀ b ∈ l, (names a.2, desc a.2) = (names b.2, desc b.2) → a = b := by
  intro a ha b hb hk
  obtain ⟨hk1, hk2⟩ := Prod.mk.inj hk
  obtain ⟨_, ha1, ha2⟩ := hspec a ha
  obtain ⟨_, hb1, hb2⟩ := hspec b hb
  rw [ha1, hb1] at hk1
  exact AList.eq_of_key_eq hnd ha hb
    (Prod.ext (Option.some.inj (List.cons.inj hk1).1) (by rw [← ha2, ← hb2, hk2]))

theorem methodKey_inj {l : AList MemberKey Method} (hok : ∀ e ∈ l, methodOk e = true) (hnd : (l.map Prod.fst).Nodup) :
    ∀ a ∈ l, ∀ b ∈ l, (a.2.names, a.2.desc) = (b.2.names, b.2.desc) → a = b :=
  memberKey_inj (fun e he => let ⟨dst, h1, h2, _⟩ := methodOk_spec (hok e he); ⟨dst, h1, h2⟩) hnd

theorem methodLines_all2 (n : Nat) {l l' : List (MemberKey × Method)}
    (h : All2 (fun x y => x.1 = y.1 ∧ MethodSh x.2 y.2) l l') (hok : ∀ e ∈ l, methodOk e = true) :
    methodLines n l = methodLines n l' := by
  induction h with
  | nil => rfl
  | @cons a b _ _ r _ ih =>
    obtain ⟨⟨an, ad⟩, am⟩ := a
    obtain ⟨⟨bn, bd⟩, bm⟩ := b
    obtain ⟨hk, _, hnames, hdoc, hpar⟩ := r
    simp only [Prod.mk.injEq] at hk
    obtain ⟨rfl, rfl⟩ := hk
    obtain ⟨hps, hpnd⟩ := methodOk_params (hok _ List.mem_cons_self)
    simp only at hnames hdoc hpar hps hpnd
    have hd : methodDst am = methodDst bm := by simp only [methodDst, hnames]
    have hsort : isort paramLe am.params = isort paramLe bm.params :=
      paramLe_ord.isort_eq_of_perm (fun a ha b hb hk => AList.eq_of_key_eq hpnd ha hb (by
        rw [paramOk_index (hps a ha), paramOk_index (hps b hb), (Prod.mk.inj hk).1])) hpar
    rw [methodLines_cons_eq, methodLines_cons_eq, hd, hdoc, hsort, ih (fun e he => hok e (List.mem_cons_of_mem _ he))]

theorem shuffled_keys_perm {m m' : Mappings} (h : Shuffled m m') : (m.classes.map Prod.fst).Perm (m'.classes.map Prod.fst) := by
  obtain ⟨a, b, h1, h2, h3⟩ := h
  exact ((h1.map Prod.fst).trans (All2.map_eq h2 (fun _ _ _ _ r => r.1) ▸ List.Perm.refl _)).trans (h3.map Prod.fst)

theorem parentInSet_shuffled {m m' : Mappings} (h : Shuffled m m') (k : JStr) :
    parentInSet m.classes k = parentInSet m'.classes k := by
  have hc : ∀ p, AList.contains p m.classes = AList.contains p m'.classes := fun p => by
    rw [Bool.eq_iff_iff, contains_eq_true_iff, contains_eq_true_iff]
    exact (shuffled_keys_perm h).mem_iff
  unfold parentInSet
  cases InnerNames.split k with
  | none => rfl
  | some pi => simp only [hc]

theorem maxKeyLen_mono {cs cs' : AList JStr Class} (h : cs.map Prod.fst ⊆ cs'.map Prod.fst) :
    maxKeyLen cs ≤ maxKeyLen cs' := by
  rw [maxKeyLen_le_iff]
  intro e he
  obtain ⟨e', he', hk⟩ := List.mem_map.mp (h (List.mem_map_of_mem he))
  exact hk ▸ le_maxKeyLen he'

theorem entrySh_classLines {cs cs' : AList JStr Class} {x y : JStr × Class} (hx : classOk cs x = true)
    (hy : classOk cs' y = true) (r : EntrySh x y) (d : Nat) : classLines x.1 x.2 d = classLines y.1 y.2 d := by
  obtain ⟨hf, hfn, hm, hmn⟩ := classOk_members hx
  obtain ⟨_, _, hm', hmn'⟩ := classOk_members hy
  obtain ⟨hkey, hnames, hdoc, hfp, hmp⟩ := r
  have hms := permRel_isort methodLe_ord (fun a b r => by rw [r.2.2.1, r.2.1]) (methodKey_inj hm hmn) (methodKey_inj hm' hmn') hmp
  have hfs := fieldLe_ord.isort_eq_of_perm
    (memberKey_inj (fun e he => let ⟨dst, h1, h2, _⟩ := fieldOk_spec (hf e he); ⟨dst, h1, h2⟩) hfn) hfp
  simp only [classLines, ← hkey, hnames, hdoc, hfs, methodLines_all2 (d + 1) hms (mem_isort_all hm)]

theorem childrenOf_sh {m m' : Mappings} (hnd : (m.classes.map Prod.fst).Nodup) (hnd' : (m'.classes.map Prod.fst).Nodup)
    (h : Shuffled m m') (key : JStr) : All2 EntrySh (childrenOf m.classes key) (childrenOf m'.classes key) := by
  unfold childrenOf
  refine permRel_isort keyLe_ord (fun a b r => r.1) ?_ ?_ (PermRel.filter ?_ h)
  · intro a ha b hb
    exact AList.eq_of_key_eq hnd (List.mem_filter.mp ha).1 (List.mem_filter.mp hb).1
  · intro a ha b hb
    exact AList.eq_of_key_eq hnd' (List.mem_filter.mp ha).1 (List.mem_filter.mp hb).1
  · intro a b r
    rw [parentInSet_shuffled h, r.1]

theorem treeLines_sh {m m' : Mappings} (hok : ∀ e ∈ m.classes, classOk m.classes e = true)
    (hok' : ∀ e ∈ m'.classes, classOk m'.classes e = true) (hnd : (m.classes.map Prod.fst).Nodup)
    (hnd' : (m'.classes.map Prod.fst).Nodup) (h : Shuffled m m') (fuel : Nat) :
    ∀ (x y : JStr × Class), x ∈ m.classes → y ∈ m'.classes → EntrySh x y → ∀ d,
      treeLines m.classes fuel x.1 x.2 d = treeLines m'.classes fuel y.1 y.2 d := by
  induction fuel with
  | zero => exact fun _ _ _ _ _ _ => rfl
  | succ fuel ih =>
    intro x y hx hy r d
    rw [treeLines_succ, treeLines_succ, entrySh_classLines (hok x hx) (hok' y hy) r d,
      All2.map_eq (childrenOf_sh hnd hnd' h x.1) (fun a ha b hb rab =>
        ih a b (mem_childrenOf ha).1 (mem_childrenOf hb).1 rab (d + 1)), r.1]

def FileSh (x y : JStr × (JStr × Class)) : Prop := x.1 = y.1 ∧ EntrySh x.2 y.2

theorem fileEntries_sh {m m' : Mappings} (hw : writableB m = true) (hw' : writableB m' = true) (h : Shuffled m m') :
    All2 FileSh (fileEntries m) (fileEntries m') := by
  obtain ⟨_, _, hrf⟩ := writableB_spec hw
  obtain ⟨_, _, hrf'⟩ := writableB_spec hw'
  unfold fileEntries
  have hinj : ∀ cs : AList JStr Class, (rootFileNames cs).Nodup →
      ∀ a ∈ rootEntries cs, ∀ b ∈ rootEntries cs, a.1 = b.1 → a = b :=
    fun cs hn a ha b hb => List.eq_of_nodup_map (key := Prod.fst) (rootEntries_keys cs ▸ hn) ha hb
  refine permRel_isort keyLe_ord (fun a b r => r.1) (hinj _ hrf) (hinj _ hrf') ?_
  unfold rootEntries rootsOf
  refine PermRel.map ?_ (PermRel.filter ?_ h)
  · intro a b r
    refine ⟨?_, r⟩
    simp only [fileNameOf, r.1, r.2.1]
  · intro a b r
    simp only [isRoot, parentInSet_shuffled h, r.1]

/-- **insertion-order independence**: two Enigma-expressible sets with the same content give the same stream and the
same files -/
theorem write_shuffled {m m' : Mappings} (hw : writableB m = true) (hw' : writableB m' = true) (h : Shuffled m m') :
    writeAll m = writeAll m' ∧ files m = files m' := by
  have hfe := fileEntries_sh hw hw' h
  obtain ⟨hok, hnd, _⟩ := writableB_spec hw
  obtain ⟨hok', hnd', _⟩ := writableB_spec hw'
  have hfuel : maxKeyLen m.classes = maxKeyLen m'.classes :=
    Nat.le_antisymm (maxKeyLen_mono (shuffled_keys_perm h).subset) (maxKeyLen_mono (shuffled_keys_perm h).symm.subset)
  have htree : ∀ x ∈ fileEntries m, ∀ y ∈ fileEntries m', FileSh x y → fileTree m x.2 = fileTree m' y.2 := by
    intro x hx y hy r
    rw [fileTree, fileTree, treeFuel, treeFuel, hfuel]
    exact treeLines_sh hok hok' hnd hnd' h _ x.2 y.2 (mem_fileEntries hx).1 (mem_fileEntries hy).1 r.2 0
  constructor
  · rw [writeAll_spec hw, writeAll_spec hw', List.flatMap_def, List.flatMap_def,
      All2.map_eq (f := fileLines m) (g := fileLines m') hfe fun x hx y hy r => by
        rw [fileLines, fileLines, r.1, htree x hx y hy r]]
  · rw [files_spec hw, files_spec hw',
      All2.map_eq (f := fileOf m) (g := fileOf m') hfe fun x hx y hy r => by
        rw [fileOf, fileOf, treeText, treeText, r.1, htree x hx y hy r]]

end Enigma
