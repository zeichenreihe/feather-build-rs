import FeatherModel.Spec.CodeDenote
import FeatherModel.Lemmas.Bytes

/-!
# Big-endian two's complement: what the decoder reads back from what the writer wrote

`CodeDecode.s16` / `s32` take the bytes one by one and read the sign off the first, so the read-back lemmas are stated on
the digits of `i16b v` / `i32b v` (`i16b_eq`, `i32b_eq`), and `padLen` is the decoder's `switchPad`.
-/

namespace CodeWrite
open CodeDecode

theorem s8_i8b (v : Int) (h1 : -128 ≤ v) (h2 : v ≤ 127) : s8 (i8b v) = v :=
  Be.signed_emod 128 v h1 (by omega)

theorem i16b_eq (v : Int) : i16b v = [(v % 65536).toNat / 256 % 256, (v % 65536).toNat % 256] := rfl

theorem i32b_eq (v : Int) : i32b v =
    [(v % 4294967296).toNat / 16777216 % 256, (v % 4294967296).toNat / 65536 % 256,
     (v % 4294967296).toNat / 256 % 256, (v % 4294967296).toNat % 256] := rfl

theorem s16_bytes (n : Nat) (h : n < 65536) :
    s16 (n / 256 % 256) (n % 256) = if n < 32768 then (n : Int) else (n : Int) - 65536 := by
  unfold s16
  rw [Be.val16 n h, Nat.mod_eq_of_lt (Nat.div_lt_of_lt_mul h : n / 256 < 256)]
  simp only [Nat.div_lt_iff_lt_mul (by decide : 0 < 256), Nat.reduceMul]

theorem s32_bytes (n : Nat) (h : n < 4294967296) :
    s32 (n / 16777216 % 256) (n / 65536 % 256) (n / 256 % 256) (n % 256) =
      if n < 2147483648 then (n : Int) else (n : Int) - 4294967296 := by
  unfold s32 u32
  rw [Be.val32' n h, Nat.mod_eq_of_lt (Nat.div_lt_of_lt_mul h : n / 16777216 < 256)]
  simp only [Nat.div_lt_iff_lt_mul (by decide : 0 < 16777216), Nat.reduceMul]

theorem s16_digits (v : Int) (h1 : -32768 ≤ v) (h2 : v ≤ 32767) :
    s16 ((v % 65536).toNat / 256 % 256) ((v % 65536).toNat % 256) = v := by
  rw [s16_bytes _ (by omega)]
  exact Be.signed_emod 32768 v h1 (by omega)

theorem s32_digits (v : Int) (h1 : -2147483648 ≤ v) (h2 : v ≤ 2147483647) :
    s32 ((v % 4294967296).toNat / 16777216 % 256) ((v % 4294967296).toNat / 65536 % 256)
      ((v % 4294967296).toNat / 256 % 256) ((v % 4294967296).toNat % 256) = v := by
  rw [s32_bytes _ (by omega)]
  exact Be.signed_emod 2147483648 v h1 (by omega)

theorem fitsI16_iff (v : Int) : fitsI16 v = true ↔ -32768 ≤ v ∧ v ≤ 32767 := by
  unfold fitsI16; simp

theorem offs_range {p tp : Nat} (hp : p ≤ 65535) (ht : tp ≤ 65535) :
    -2147483648 ≤ offs p tp ∧ offs p tp ≤ 2147483647 := by
  unfold offs; omega

theorem padLen_eq_switchPad (p : Nat) : padLen p = switchPad p := by
  unfold padLen switchPad; omega

end CodeWrite
