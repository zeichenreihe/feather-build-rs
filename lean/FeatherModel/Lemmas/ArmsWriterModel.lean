import FeatherModel.Lemmas.ArmsWriter
import FeatherModel.Lemmas.ClassWriteFullCond
import FeatherModel.Lemmas.Except
import FeatherModel.Lemmas.CodePatch

/-!
# The hand-written writer model against the generated writer tables

`putInsn_name`: turning a reader-model instruction into a writer-model instruction keeps the instruction (same mnemonic).
`encInsn_head`: whatever the writer model emits for an instruction starts the way the Rust arm of the constructor with
that name starts (`HeadOf`): the arm's own opcode, the `wide` prefix and the opcode behind it, or the inverted condition in
front of the trampoline jump. For all operands, positions, label tables.

The constructor is found through the opcode: the model's instruction is named like its general-form opcode
(`cwMnemonic_base`); the constructor the Rust reader builds for the first byte `b` emitted is named like the general form
of `b` (`arms_are_jvms`), and its writer arm writes `b` (`wArm_of_rArm`).
-/

namespace Arms

open JvmsTables CodeWrite

/-- the constructor whose name is `name` up to case and underscores -/
def wFind (name : JStr) : Option Nat :=
  (List.range Gen.WriterArms.ctorNames.length).find? fun c => squash (ctorName c) == squash name

def wArmNamed (name : JStr) : Option WArm := (wFind name).map wArm

theorem ctor_lt {c : Nat} (h : wArm c ≠ .none) : c < Gen.WriterArms.ctorNames.length := by
  rw [ctor_tables.1, ← ctor_tables.2]
  refine Nat.lt_of_not_le fun hge => h ?_
  simp [wArm, List.getD, List.getElem?_eq_none hge, wArmOf]

theorem opcodes_length : opcodes.length = 202 := by decide +kernel

/-- `b` is the opcode of an instruction other than `wide`, and `g` the opcode of its general form. The bound is
`opcodes.length` (`opcodes_length`), as a numeral so that `decide` does not have to count the table. -/
structure FormOf (g b : Nat) : Prop where
  lt : b < 202
  ne_wide : b ≠ Gen.ReaderArms.wideOpcode
  base : baseOf b = g

instance (g b : Nat) : Decidable (FormOf g b) :=
  decidable_of_iff (b < 202 ∧ b ≠ Gen.ReaderArms.wideOpcode ∧ baseOf b = g)
    ⟨fun ⟨h1, h2, h3⟩ => ⟨h1, h2, h3⟩, fun ⟨h1, h2, h3⟩ => ⟨h1, h2, h3⟩⟩

theorem arm_of_opcode {b g : Nat} (h : FormOf g b) :
    ∃ c, (rArm b).ctor? = some c ∧ c < Gen.WriterArms.ctorNames.length ∧
      squash (ctorName c) = squash ((mnemonic? g).getD []) ∧ b ∈ (wArm c).plain := by
  obtain ⟨hb, hw, rfl⟩ := h
  have hb' : b < 256 := by omega
  obtain ⟨hbail, -, hname, -⟩ := arms_are_jvms b hb'
  have hnw : rArm b ≠ .wide := fun e => hw ((rArm_wide_iff b hb').mp e)
  have hnb : rArm b ≠ .bail := by
    intro e
    have := hbail.mp e
    simp [mnemonic?, List.getElem?_eq_getElem (opcodes_length ▸ hb)] at this
  obtain ⟨c, hc⟩ := RArm.ctor?_of_ne hnw hnb
  have hmem := (wArm_of_rArm hb' hc).1
  refine ⟨c, hc, ?_, ?_, hmem⟩
  · exact ctor_lt fun e => by rw [e] at hmem; cases hmem
  · have hn := hname hnw
    rw [hc] at hn
    obtain ⟨m, hm, hsq⟩ := Option.map_eq_some_iff.mp hn.symm
    rw [hm]
    exact hsq.symm

/-- `bytes` start the way the arm of a constructor named like the mnemonic of opcode `g` starts -/
def HeadOf (g : Nat) (bytes : Bytes) : Prop :=
  ∃ c, c < Gen.WriterArms.ctorNames.length ∧ squash (ctorName c) = squash ((mnemonic? g).getD []) ∧
    headOk (wArm c) Gen.WriterArms.trampolineOpcode bytes = true

theorem head_plain {b g : Nat} (h : FormOf g b) (rest : Bytes) : HeadOf g (b :: rest) := by
  obtain ⟨c, -, h1, h2, h3⟩ := arm_of_opcode h
  exact ⟨c, h1, h2, by simp [headOk, h3]⟩

/-- the `wide` prefix and the opcode `w` behind it: the arm of the constructor the `wide` sub-match reads from `w` -/
theorem head_wide {w : Nat} (h : w < 202 ∧ (wideForms.lookup w).isSome = true) (rest : Bytes) :
    HeadOf w (Gen.ReaderArms.wideOpcode :: w :: rest) := by
  obtain ⟨hw, hf⟩ := h
  have hw' : w < 256 := by omega
  obtain ⟨n, hn⟩ := Option.isSome_iff_exists.mp hf
  obtain ⟨-, -, -, -, -, -, -, h2w⟩ := arms_are_jvms w hw'
  rw [hn] at h2w
  cases hc : (rWideArm w).ctor? with
  | none => rw [hc] at h2w; cases h2w
  | some c =>
    rw [hc] at h2w
    simp only [Option.map_some, Option.some.injEq, Prod.mk.injEq] at h2w
    have hmem := wArm_of_rWideArm hw' hc
    refine ⟨c, ?_, ?_, by simp [headOk, hmem]⟩
    · exact ctor_lt fun e => by rw [e] at hmem; cases hmem
    · rw [h2w.1]
      cases mnemonic? w <;> rfl

/-- the opcode of the general form of the instruction a value stands for -/
def cwBase : Insn → Nat
  | .simple op => op
  | .cp op _ => op
  | .load k _ => 0x15 + k
  | .store k _ => 0x36 + k
  | .ifc c _ => c.opcode
  | .bipush _ => 0x10 | .sipush _ => 0x11 | .ldc _ _ => 0x12 | .iinc _ _ => 0x84 | .ret _ => 0xa9
  | .goto _ => 0xa7 | .jsr _ => 0xa8 | .tableswitch _ _ _ _ => 0xaa | .lookupswitch _ _ => 0xab
  | .invokeinterface _ _ => 0xb9 | .invokedynamic _ => 0xba | .newarray _ => 0xbc | .multianewarray _ _ => 0xc5

theorem cwMnemonic_base (ci : Insn) : cwMnemonic ci = (mnemonic? (cwBase ci)).getD [] := by
  cases ci with
  | ifc c _ => cases c <;> simp only [cwMnemonic, cwBase, condName, Cond.opcode] <;> decide +kernel
  | _ => simp only [cwMnemonic, cwBase] <;> decide +kernel

theorem trampoline_eq : Gen.WriterArms.trampolineOpcode = CodeWrite.GOTO_W := by decide

/-- the rows of `own_form`: `opcodes` walked with `forms` -/
theorem own_all : allRows (fun op (_ : Nat × JStr × Operands) (_ : Option Unit) (f? : Option (Nat × Option Nat)) =>
    !(ClassRead.isSimpleOp op || CodeDecode.isCp op) || (op != Gen.ReaderArms.wideOpcode && (f?.map (·.1)).getD op == op))
    0 opcodes [] forms = true := by decide +kernel

theorem own_form {op : Nat} (h : (ClassRead.isSimpleOp op || CodeDecode.isCp op) = true) : FormOf op op := by
  have hlt : op < 202 := by
    simp only [ClassRead.isSimpleOp, CodeDecode.isCp, Bool.or_eq_true, Bool.and_eq_true, decide_eq_true_eq, beq_iff_eq] at h
    omega
  have hr := allRows_getElem _ opcodes [] forms 0 own_all forms_sorted op (opcodes_length ▸ hlt)
  simp only [Nat.zero_add, h, Bool.not_true, Bool.false_or, Bool.and_eq_true, bne_iff_ne, beq_iff_eq] at hr
  exact ⟨hlt, hr.1, hr.2⟩

/-- a conditional branch is its own general form, and the arm of its constructor passes the opcode of the inverted
condition to `if_helper` -/
theorem cond_arm (cd : Cond) : FormOf cd.opcode cd.opcode ∧
    (rArm cd.opcode).ctor?.map wArm = some (.cond cd.opcode cd.opposite.opcode) := by
  cases cd <;> decide +kernel

/-- the local-variable instruction `base + k` (`<t>load` / `<t>store` of kind `k`) is its own general form and may follow
`wide`; the short forms, as `encLocal` computes them from `add`, have it as general form -/
structure LocalForms (base add k : Nat) : Prop where
  own : FormOf (base + k) (base + k)
  wide : base + k < 202 ∧ (wideForms.lookup (base + k)).isSome = true
  short : ∀ i, i < 4 → FormOf (base + k) (k * 4 + i + add)

instance (base add k : Nat) : Decidable (LocalForms base add k) :=
  decidable_of_iff (FormOf (base + k) (base + k) ∧ (base + k < 202 ∧ (wideForms.lookup (base + k)).isSome = true) ∧
      ∀ i, i < 4 → FormOf (base + k) (k * 4 + i + add))
    ⟨fun ⟨h1, h2, h3⟩ => ⟨h1, h2, h3⟩, fun ⟨h1, h2, h3⟩ => ⟨h1, h2, h3⟩⟩

theorem local_forms : ∀ k, k < 5 → LocalForms 0x15 0x1a k ∧ LocalForms 0x36 0x3b k := by decide +kernel

theorem head_local {base add k : Nat} (idx : Nat) (h : LocalForms base add k) :
    HeadOf (base + k) (encLocal base add k idx) := by
  unfold encLocal
  split
  · rename_i hi; exact head_plain (h.short idx hi) _
  · split
    · exact head_plain h.own _
    · exact head_wide h.wide _

theorem enc_ok {b bytes : Bytes} {v u : List Unwritten} (h : (.ok (b, v) : Enc) = .ok (bytes, u)) : b = bytes := by
  cases h; rfl

/-- `goto_helper` writes the narrow or the wide opcode -/
theorem head_goto {op wop g : Nat} (h1 : FormOf g op) (h2 : FormOf g wop)
    {wd : Bool} {lbl : Nat → Option Nat} {p k t : Nat} {bytes : Bytes} {u : List Unwritten}
    (h : encGoto op wop wd lbl p k t = .ok (bytes, u)) : HeadOf g bytes := by
  simp only [encGoto] at h
  split at h
  · split at h <;> (obtain rfl := enc_ok h)
    · exact head_plain h1 _
    · exact head_plain h2 _
  · split at h <;> (obtain rfl := enc_ok h)
    · exact head_plain h2 _
    · exact head_plain h1 _

theorem encInsn_head (wd : Bool) (lbl : Nat → Option Nat) (p k : Nat) (ci : Insn) (bytes : Bytes) (u : List Unwritten)
    (hd : CwDomain ci) (h : encInsn wd lbl p k ci = .ok (bytes, u)) :
    ∃ c, c < Gen.WriterArms.ctorNames.length ∧ squash (ctorName c) = squash (cwMnemonic ci) ∧
      headOk (wArm c) Gen.WriterArms.trampolineOpcode bytes = true := by
  rw [cwMnemonic_base]
  change HeadOf (cwBase ci) bytes
  cases ci with
  | simple op =>
    obtain rfl := enc_ok h
    exact head_plain (own_form (op := op) (by simp [show ClassRead.isSimpleOp op = true from hd])) _
  | cp op idx =>
    obtain rfl := enc_ok h
    exact head_plain (own_form (op := op) (by simp [show CodeDecode.isCp op = true from hd])) _
  | bipush _ | sipush _ | newarray _ | multianewarray _ _ | invokedynamic _ =>
    obtain rfl := enc_ok h
    exact head_plain ⟨by decide, by decide, by rfl⟩ _
  | ldc idx two =>
    obtain rfl := enc_ok h
    unfold encLdc
    split
    · exact head_plain (b := 0x14) (g := 0x12) (by decide) _
    · split
      · exact head_plain (b := 0x12) (g := 0x12) (by decide) _
      · exact head_plain (b := 0x13) (g := 0x12) (by decide) _
  | load kind idx =>
    obtain rfl := enc_ok h
    exact head_local idx (local_forms kind hd).1
  | store kind idx =>
    obtain rfl := enc_ok h
    exact head_local idx (local_forms kind hd).2
  | iinc idx v =>
    obtain rfl := enc_ok h
    unfold encIinc
    split
    · exact head_plain (b := 0x84) (g := 0x84) (by decide) _
    · exact head_wide (w := 0x84) (by decide) _
  | ret idx =>
    obtain rfl := enc_ok h
    unfold encRet
    split
    · exact head_plain (b := 0xa9) (g := 0xa9) (by decide) _
    · exact head_wide (w := 0xa9) (by decide) _
  | ifc c t =>
    obtain ⟨hown, harm⟩ := cond_arm c
    obtain ⟨c0, hc0, hlt, hname, hmem⟩ := arm_of_opcode hown
    rw [hc0] at harm
    refine ⟨c0, hlt, hname, ?_⟩
    rw [Option.some.inj harm, trampoline_eq]
    simp only [encInsn, encIf] at h
    split at h
    · split at h
      · obtain rfl := enc_ok h; simp [headOk, WArm.plain]
      · split at h
        · cases h
        · obtain rfl := enc_ok h
          simp [headOk, WArm.plain, i16b, u16b]
    · split at h
      · split at h
        · cases h
        · obtain rfl := enc_ok h
          simp [headOk, WArm.plain, i16b, u16b]
      · obtain rfl := enc_ok h; simp [headOk, WArm.plain]
  | goto t => exact head_goto (op := 0xa7) (wop := 0xc8) (g := 0xa7) (by decide) (by decide) h
  | jsr t => exact head_goto (op := 0xa8) (wop := 0xc9) (g := 0xa8) (by decide) (by decide) h
  | tableswitch d lo hi tb =>
    obtain ⟨-, -, h⟩ := encTableSwitch_ok h
    cases h
    exact head_plain (b := 0xaa) (g := 0xaa) (by decide) _
  | lookupswitch d ps =>
    cases encLookupSwitch_ok h
    exact head_plain (b := 0xab) (g := 0xab) (by decide) _
  | invokeinterface idx desc =>
    simp only [encInsn] at h
    split at h
    · cases h
    · obtain rfl := enc_ok h
      exact head_plain (b := 0xb9) (g := 0xb9) (by decide) _

theorem field_isCp {op : Nat} (h1 : 0xb2 ≤ op) (h2 : op ≤ 0xb5) : CodeDecode.isCp op = true := by
  simp only [CodeDecode.isCp, Bool.or_eq_true, Bool.and_eq_true, decide_eq_true_eq]
  omega

theorem putInsn_name (lab : Nat → Nat) (p p' : ClassWriteFull.Pool) (bs bs' : List ClassWriteFull.Bsm) (i : ClassRead.Insn)
    (ci : Insn) (hd : RdDomain i) (h : ClassWriteFull.putInsn lab p bs i = .ok (ci, p', bs')) :
    cwMnemonic ci = insnMnemonic i ∧ CwDomain ci := by
  cases i <;> simp only [ClassWriteFull.putInsn, Except.bind_eq_ok, Prod.exists, pure, Except.pure, Except.ok.injEq, Prod.mk.injEq] at h
  case simple | load | store => obtain ⟨rfl, -⟩ := h; exact ⟨rfl, hd⟩
  case bipush | sipush | iinc | goto | jsr | ret | tableswitch | lookupswitch | newarray =>
    obtain ⟨rfl, -⟩ := h; exact ⟨rfl, trivial⟩
  case ldc | invokedynamic => obtain ⟨_, _, _, _, rfl, -⟩ := h; exact ⟨rfl, trivial⟩
  case invokeinterface | multianewarray => obtain ⟨_, _, _, rfl, -⟩ := h; exact ⟨rfl, trivial⟩
  case invokevirtual | invokespecial | invokestatic | new | anewarray | checkcast | instanceof =>
    obtain ⟨_, _, _, rfl, -⟩ := h; exact ⟨rfl, (by decide : CodeDecode.isCp _ = true)⟩
  case branch op t =>
    split at h
    · cases h
    · rename_i c hc
      simp only [Except.ok.injEq, Prod.mk.injEq] at h
      obtain ⟨rfl, -⟩ := h
      refine ⟨?_, trivial⟩
      rw [cwMnemonic_base, ← (ClassWriteFull.condOfOp_spec hc).1]
      rfl
  case field op r =>
    obtain ⟨_, _, _, rfl, -⟩ := h
    exact ⟨rfl, field_isCp hd.1 hd.2⟩

end Arms
