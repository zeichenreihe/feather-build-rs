import FeatherModel.Lemmas.RawReadWrite

/-! C20: what carries over from the reader of nested definitions to the reader built on it, layer by layer, for any relation
between outcomes that `bind` keeps. Two instances: an answer other than `fuel` is the answer for every larger fuel (fuel
only bounds the nesting depth of definitions), and every success of the checking reader is a success of the plain one. -/

namespace RawLayout

/-- a relation between two runs of the reader that holds between equal outcomes and is kept by `bind`: what a layer of
the reader passes on from the reader of nested definitions to its own result -/
structure Kept (R : ∀ {α : Type}, Res α → Res α → Prop) : Prop where
  refl : ∀ {α : Type} (x : Res α), R x x
  bind : ∀ {α β : Type} {x y : Res α} {f g : α → Res β}, R x y → (∀ a, R (f a) (g a)) → R (x.bind f) (y.bind g)

section
variable {R : ∀ {α : Type}, Res α → Res α → Prop} (hR : Kept @R)
include hR

/-- `readSlots` at `n + 1` calls itself at `n` (one slot taken) or at `n - 1` (two slots taken); `readSlots.induct` hands
out both hypotheses -/
theorem readSlots_kept (wide : List Nat) (rd1 rd2 : Bytes → Res (Val × Bytes)) (h : ∀ bs, R (rd1 bs) (rd2 bs)) :
    ∀ n bs, R (readSlots wide rd1 n bs) (readSlots wide rd2 n bs) := by
  intro n bs
  induction n, bs using readSlots.induct with
  | case1 bs => exact hR.refl _
  | case2 n bs ih2 ih1 =>
    simp only [readSlots]
    refine hR.bind (h bs) fun (v, bs1) => ?_
    dsimp only
    split
    · cases n with
      | zero => exact hR.refl _
      | succ m => exact hR.bind (ih2 bs1) fun _ => hR.refl _
    · exact hR.bind (ih1 bs1) fun _ => hR.refl _

theorem readTy_kept (rc1 rc2 : Rec) (h : ∀ id pool bs, R (rc1 id pool bs) (rc2 id pool bs)) : ∀ ty pool binds bs,
    R (readTy rc1 pool binds ty bs) (readTy rc2 pool binds ty bs) := by
  intro ty
  induction ty with
  | prim p => intro pool binds bs; exact hR.refl _
  | vecCnt _ el ih | vecLen _ el ih =>
    intro pool binds bs
    simp only [readTy, readN_eq_readSlots]
    split
    · exact hR.bind (readSlots_kept hR [] _ _ (fun bs => ih pool binds bs) _ _) fun _ => hR.refl _
    · exact hR.refl _
  | vecSlots e wd el ih =>
    intro pool binds bs
    simp only [readTy]
    split
    · exact hR.bind (readSlots_kept hR wd _ _ (fun bs => ih pool binds bs) _ _) fun _ => hR.refl _
    · exact hR.refl _
  | ref id => intro pool binds bs; exact h id pool bs

theorem readFields_kept (rc1 rc2 : Rec) (h : ∀ id pool bs, R (rc1 id pool bs) (rc2 id pool bs)) : ∀ fds pool binds bs,
    R (readFields rc1 pool binds fds bs) (readFields rc2 pool binds fds bs) := by
  intro fds
  induction fds with
  | nil => intro pool binds bs; exact hR.refl _
  | cons f fds ih =>
    intro pool binds bs
    simp only [readFields]
    split
    · exact hR.bind (readTy_kept hR rc1 rc2 h _ _ _ _) fun _ =>
        hR.bind (hR.refl _) fun _ => hR.bind (ih _ _ _) fun _ => hR.refl _
    · split
      · exact hR.refl _
      · exact hR.bind (hR.refl _) fun _ => hR.bind (ih _ _ _) fun _ => hR.refl _

/-- the two runs may also differ in whether the final check is made (`s1`, `s2`), as long as `R` relates the two outcomes of
the check -/
theorem readBody_kept (s1 s2 : Bool)
    (hs : ∀ (c : Bool) (x : Val × Bytes), R (if s1 && c then Res.err else .ok x) (if s2 && c then Res.err else .ok x))
    (env : Env) (rc1 rc2 : Rec) (h : ∀ id pool bs, R (rc1 id pool bs) (rc2 id pool bs)) (id : Nat)
    (tag : Option (TExpr × Prim × Nat)) (pool : Pool) (binds : Binds) (k : Nat) (body : Body) (bs : Bytes) :
    R (readBody s1 env id tag rc1 pool binds k body bs) (readBody s2 env id tag rc2 pool binds k body bs) := by
  simp only [readBody]
  exact hR.bind (hR.refl _) fun _ => hR.bind (readFields_kept hR rc1 rc2 h _ _ _ _) fun _ => hs _ _

theorem readDef_kept (s1 s2 : Bool)
    (hs : ∀ (c : Bool) (x : Val × Bytes), R (if s1 && c then Res.err else .ok x) (if s2 && c then Res.err else .ok x))
    (env : Env) (rc1 rc2 : Rec) (h : ∀ id pool bs, R (rc1 id pool bs) (rc2 id pool bs)) :
    ∀ id pool bs, R (readDef s1 rc1 env id pool bs) (readDef s2 rc2 env id pool bs) := by
  intro id pool bs
  simp only [readDef]
  split
  · exact hR.refl _
  · exact readBody_kept hR s1 s2 hs env rc1 rc2 h _ _ _ _ _ _ _
  · split
    · exact hR.refl _
    · exact hR.bind (hR.refl _) fun _ => readBody_kept hR s1 s2 hs env rc1 rc2 h _ _ _ _ _ _ _

end

/-- `y` is the outcome `x` unless `x` ran out of fuel -/
def Stable {α : Type} (x y : Res α) : Prop := x = .fuel ∨ y = x

theorem stable_kept : Kept @Stable where
  refl _ := Or.inr rfl
  bind := by
    intro α β x y f g h1 h2
    rcases h1 with rfl | rfl
    · exact Or.inl rfl
    · cases y with
      | ok a => exact h2 a
      | err | panic => exact Or.inr rfl
      | fuel => exact Or.inl rfl

theorem readG_stable_succ (s : Bool) (env : Env) :
    ∀ fuel id pool bs, Stable (readG s env fuel id pool bs) (readG s env (fuel + 1) id pool bs) := by
  intro fuel
  induction fuel with
  | zero => intro id pool bs; exact Or.inl rfl
  | succ f ih => exact readDef_kept stable_kept s s (fun _ _ => Or.inr rfl) env _ _ ih

theorem readG_fuel_independent (s : Bool) (env : Env) (f g : Nat) (hfg : f ≤ g) (id : Nat) (pool : Pool) (bs : Bytes)
    (hne : readG s env f id pool bs ≠ .fuel) : readG s env g id pool bs = readG s env f id pool bs := by
  induction hfg with
  | refl => rfl
  | @step m _ ih =>
    rcases readG_stable_succ s env m id pool bs with h | h
    · rw [ih] at h; exact absurd h hne
    · rw [h, ih]

/-- every successful answer of `rc1` is also given by `rc2` -/
def RecLe (rc1 rc2 : Rec) : Prop := ∀ id pool bs x, rc1 id pool bs = .ok x → rc2 id pool bs = .ok x

/-- **fuel monotonicity**: a successful read stays the same with more fuel (fuel only bounds the nesting of definitions) -/
theorem readG_fuel_mono (s : Bool) (env : Env) (f g : Nat) (h : f ≤ g) : RecLe (readG s env f) (readG s env g) := by
  intro id pool bs x hx
  rw [readG_fuel_independent s env f g h id pool bs (by rw [hx]; exact nofun), hx]

/-- every success of `x` is a success of `y`; `RecLe rc1 rc2` is `Le` at every argument -/
def Le {α : Type} (x y : Res α) : Prop := ∀ v, x = .ok v → y = .ok v

theorem le_kept : Kept @Le where
  refl _ _ h := h
  bind := by
    intro α β x y f g h1 h2 v hv
    cases x with
    | ok a => rw [h1 a rfl]; exact h2 a v hv
    | err | panic | fuel => cases hv

/-- whatever the checking reader returns, the plain reader (the Rust code) returns too: dropping the check keeps every
success -/
theorem readStrict_le_read (env : Env) : ∀ fuel, RecLe (readG true env fuel) (readG false env fuel) := by
  intro fuel
  induction fuel with
  | zero => intro id pool bs x h; cases h
  | succ f ih =>
    exact fun id pool bs =>
      readDef_kept le_kept true false (fun c x v hv => by cases c; exact hv; cases hv) env _ _ ih id pool bs

end RawLayout
