import FeatherModel.Lemmas.VisitProj

/-!
# C17 lemmas — what a visitor does with one item is invisible in the events of the other items

`proj` consults a configuration only at the owner of the event (`proj_congr`) and keeps the owner (`proj_owner`): changing the
configuration at one item leaves the projected events of every other owner as they were (`filter_proj_congr`).
-/

namespace Visit

/-- the item an event belongs to -/
inductive Owner where
  | cls
  | comp (r : Nat)
  | field (i : Nat)
  | method (i : Nat)
  | code (i : Nat)
  deriving DecidableEq, Repr

def Ev.owner : Ev → Owner
  | .classBegin _ | .cAttr _ _ _ | .classFlags _ _ | .classEnd => .cls
  | .recBegin r _ | .rAttr r _ _ _ | .recEnd r => .comp r
  | .fieldBegin i _ | .fAttr i _ _ _ | .fieldFlags i _ _ | .fieldEnd i => .field i
  | .methodBegin i _ | .mAttr i _ _ _ | .methodFlags i _ _ | .methodEnd i => .method i
  | .codeBegin i | .codeMaxs i _ | .kAttr i _ _ _ | .codeInsns i _ _ | .codeExc i _ | .codeLines i _
  | .codeLocals i _ | .codeEnd i => .code i

theorem proj_congr {cfg cfg' : Cfg} (e : Ev) (hc : cfg'.cls = cfg.cls)
    (hr : ∀ r, e.owner = .comp r → cfg'.recc r = cfg.recc r)
    (hf : ∀ i, e.owner = .field i → cfg'.fieldsI = cfg.fieldsI ∧ cfg'.field i = cfg.field i)
    (hm : ∀ i, e.owner = .method i ∨ e.owner = .code i →
      cfg'.methodsI = cfg.methodsI ∧ cfg'.method i = cfg.method i) :
    proj cfg' e = proj cfg e := by
  cases e with
  | classBegin => rfl
  | cAttr | recBegin | classFlags | classEnd => simp only [proj, hc]
  | rAttr r | recEnd r => simp only [proj, recMaskOf, hc, hr r rfl]
  | fieldBegin i | fAttr i | fieldFlags i | fieldEnd i => simp only [proj, hc, hf i rfl]
  | methodBegin i | mAttr i | methodFlags i | methodEnd i => simp only [proj, hc, hm i (.inl rfl)]
  | codeBegin i | codeMaxs i | kAttr i | codeInsns i | codeExc i | codeLines i | codeLocals i | codeEnd i =>
    simp only [proj, codeMaskOf, hc, hm i (.inr rfl)]

theorem proj_owner {cfg : Cfg} {e e' : Ev} (h : proj cfg e = some e') : e'.owner = e.owner := by
  cases e <;> dsimp only [proj, keepIf] at h <;> (repeat' split at h) <;> cases h <;> rfl

def Cfg.setField (cfg : Cfg) (j : Nat) (x : Option Mask) : Cfg :=
  { cfg with field := fun i => if i = j then x else cfg.field i }

def Cfg.setMethod (cfg : Cfg) (j : Nat) (x : Option MethodCfg) : Cfg :=
  { cfg with method := fun i => if i = j then x else cfg.method i }

def Cfg.setRec (cfg : Cfg) (j : Nat) (x : Option Mask) : Cfg :=
  { cfg with recc := fun i => if i = j then x else cfg.recc i }

theorem proj_setField {cfg : Cfg} {j : Nat} {x : Option Mask} {e : Ev} (h : e.owner ≠ .field j) :
    proj (cfg.setField j x) e = proj cfg e :=
  proj_congr e rfl (fun _ _ => rfl) (fun i hi => ⟨rfl, if_neg (by rintro rfl; exact h hi)⟩) (fun _ _ => ⟨rfl, rfl⟩)

theorem proj_setMethod {cfg : Cfg} {j : Nat} {x : Option MethodCfg} {e : Ev}
    (h1 : e.owner ≠ .method j) (h2 : e.owner ≠ .code j) :
    proj (cfg.setMethod j x) e = proj cfg e :=
  proj_congr e rfl (fun _ _ => rfl) (fun _ _ => ⟨rfl, rfl⟩)
    (fun i hi => ⟨rfl, if_neg (by rintro rfl; exact hi.elim h1 h2)⟩)

theorem proj_setRec {cfg : Cfg} {j : Nat} {x : Option Mask} {e : Ev} (h : e.owner ≠ .comp j) :
    proj (cfg.setRec j x) e = proj cfg e :=
  proj_congr e rfl (fun i hi => if_neg (by rintro rfl; exact h hi)) (fun _ _ => ⟨rfl, rfl⟩) (fun _ _ => ⟨rfl, rfl⟩)

/-- change only what `visit_code()` of method `j` answers / which interests its code visitor reports -/
def Cfg.setCodeV (cfg : Cfg) (j : Nat) (x : Option Mask) : Cfg :=
  { cfg with method := fun i => if i = j then (cfg.method i).map (fun mc => { mc with codeV := x }) else cfg.method i }

/-- the events of method `j` itself see of the method's configuration only the mask, the `code` flag and whether the
method is visited: none of them looks at `codeV` -/
theorem proj_setCodeV {cfg : Cfg} {j : Nat} {x : Option Mask} {e : Ev} (h : e.owner ≠ .code j) :
    proj (cfg.setCodeV j x) e = proj cfg e := by
  by_cases hj : e.owner = .method j
  · have hm : (cfg.setCodeV j x).method j = (cfg.method j).map (fun mc => { mc with codeV := x }) := if_pos rfl
    have hc : (cfg.setCodeV j x).cls = cfg.cls := rfl
    have hI : (cfg.setCodeV j x).methodsI = cfg.methodsI := rfl
    cases e with
    | mAttr | methodFlags | methodEnd =>
      cases hj
      simp only [proj, hm, hc, hI]
      cases cfg.cls <;> cases cfg.method _ <;> rfl
    | methodBegin => rfl
    | _ => cases hj
  · exact proj_congr e rfl (fun _ _ => rfl) (fun _ _ => ⟨rfl, rfl⟩)
      (fun i hi => ⟨rfl, if_neg (by rintro rfl; exact hi.elim hj h)⟩)

theorem filter_proj_congr {cfg cfg' : Cfg} (q : Owner → Bool)
    (h : ∀ e : Ev, q e.owner = true → proj cfg' e = proj cfg e) (evs : List Ev) :
    (evs.filterMap (proj cfg')).filter (fun e => q e.owner) = (evs.filterMap (proj cfg)).filter (fun e => q e.owner) := by
  refine filterMap_filter_congr (fun e => ?_) evs
  cases hq : q e.owner with
  | true => rw [h e hq]
  | false =>
    -- what is left of an event of another owner is dropped by the filter
    have : ∀ c : Cfg, (proj c e).filter (fun e => q e.owner) = none := fun c => by
      cases hke : proj c e with
      | none => rfl
      | some e' => simp [Option.filter, proj_owner hke, hq]
    rw [this cfg', this cfg]

end Visit
