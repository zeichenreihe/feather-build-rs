import FeatherModel.Model.Tiny

/-!
# The stable insertion sort
`Tiny.insertBy` / `Tiny.sortBy` are model functions of `Model/Tiny.lean` (`sort_by_key` of `tiny_v2.rs`), hence the namespace
and the import; the orders it is used with (`TotalOrd`, and `pairLe`, `lexLe`, `optLe` as core Lean's `compare`) are in
`Lemmas/Order.lean`. Here: under a total preorder given by a Boolean `≤` the sort is a permutation, sorted, determined
by the elements where the order separates them, and commutes with maps that respect the order. `Enigma.isort` and
`VG.sortFiles` are the same function, by an equation next to their users.
-/

namespace Tiny

/-- a total preorder given by a Boolean `≤`: what the stable sort needs. The orders of the entries (`fieldLe` …) compare
a key and are no more than this. -/
structure TotalPre {α : Type} (le : α → α → Bool) : Prop where
  total : ∀ a b, le a b = true ∨ le b a = true
  trans : ∀ a b c, le a b = true → le b c = true → le a c = true

theorem TotalPre.on {α κ : Type} {kle : κ → κ → Bool} (h : TotalPre kle) (key : α → κ) :
    TotalPre fun a b => kle (key a) (key b) :=
  ⟨fun _ _ => h.total _ _, fun _ _ _ => h.trans _ _ _⟩

section sort
variable {α β : Type}

theorem insertBy_perm (le : α → α → Bool) (a : α) : ∀ l : List α, (insertBy le a l).Perm (a :: l)
  | [] => List.Perm.refl _
  | b :: l => by
    simp only [insertBy]
    split
    · exact List.Perm.refl _
    · exact ((insertBy_perm le a l).cons b).trans (List.Perm.swap a b l)

theorem sortBy_perm (le : α → α → Bool) : ∀ l : List α, (sortBy le l).Perm l
  | [] => List.Perm.refl _
  | a :: l => by
    show (insertBy le a (sortBy le l)).Perm (a :: l)
    exact (insertBy_perm le a _).trans ((sortBy_perm le l).cons a)

theorem sortBy_cons (le : α → α → Bool) (a : α) (l : List α) : sortBy le (a :: l) = insertBy le a (sortBy le l) := rfl

theorem mem_sortBy {le : α → α → Bool} {l : List α} {a : α} : a ∈ sortBy le l ↔ a ∈ l :=
  (sortBy_perm le l).mem_iff

theorem insertBy_pairwise {le : α → α → Bool} (h : TotalPre le) (a : α) :
    ∀ l : List α, l.Pairwise (fun x y => le x y = true) → (insertBy le a l).Pairwise (fun x y => le x y = true)
  | [], _ => by simp [insertBy]
  | b :: l, hl => by
    simp only [insertBy]
    have hb := List.pairwise_cons.mp hl
    split
    · rename_i hab
      refine List.pairwise_cons.mpr ⟨?_, hl⟩
      intro x hx
      rcases List.mem_cons.mp hx with rfl | hx
      · exact hab
      · exact h.trans _ _ _ hab (hb.1 x hx)
    · rename_i hab
      refine List.pairwise_cons.mpr ⟨?_, insertBy_pairwise h a l hb.2⟩
      intro x hx
      rcases List.mem_cons.mp ((insertBy_perm le a l).subset hx) with rfl | hx
      · exact (h.total x b).resolve_left hab
      · exact hb.1 x hx

theorem sortBy_pairwise {le : α → α → Bool} (h : TotalPre le) :
    ∀ l : List α, (sortBy le l).Pairwise (fun x y => le x y = true)
  | [] => List.Pairwise.nil
  | a :: l => insertBy_pairwise h a _ (sortBy_pairwise h l)

theorem sortBy_eq_of_perm {le : α → α → Bool} (hle : TotalPre le) {l l' : List α}
    (anti : ∀ a b, a ∈ l → b ∈ l → le a b = true → le b a = true → a = b) (h : l.Perm l') :
    sortBy le l = sortBy le l' := by
  apply List.Perm.eq_of_pairwise (le := fun x y => le x y = true)
  · intro a b ha hb
    exact anti a b (mem_sortBy.mp ha) (h.symm.subset (mem_sortBy.mp hb))
  · exact sortBy_pairwise hle l
  · exact sortBy_pairwise hle l'
  · exact (sortBy_perm le l).trans (h.trans (sortBy_perm le l').symm)

theorem insertBy_map {le : α → α → Bool} {le' : β → β → Bool} (f : α → β)
    (hf : ∀ a b, le' (f a) (f b) = le a b) (a : α) :
    ∀ l : List α, (insertBy le a l).map f = insertBy le' (f a) (l.map f)
  | [] => rfl
  | b :: l => by
    simp only [insertBy, List.map_cons, hf]
    split
    · rfl
    · simp only [List.map_cons, insertBy_map f hf a l]

theorem sortBy_map {le : α → α → Bool} {le' : β → β → Bool} (f : α → β)
    (hf : ∀ a b, le' (f a) (f b) = le a b) :
    ∀ l : List α, (sortBy le l).map f = sortBy le' (l.map f)
  | [] => rfl
  | a :: l => by
    simp only [sortBy_cons, List.map_cons]
    rw [insertBy_map f hf, sortBy_map f hf l]

theorem sortBy_of_pairwise {le : α → α → Bool} :
    ∀ l : List α, l.Pairwise (fun x y => le x y = true) → sortBy le l = l
  | [], _ => rfl
  | a :: l, h => by
    have hb := List.pairwise_cons.mp h
    rw [sortBy_cons, sortBy_of_pairwise l hb.2]
    cases l with
    | nil => rfl
    | cons b l => simp [insertBy, hb.1 b List.mem_cons_self]

end sort

end Tiny
