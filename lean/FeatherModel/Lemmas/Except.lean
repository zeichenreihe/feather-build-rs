/-! `Except ε` as the writers (`Except CodeWrite.Fail`) and the visitor reader (`Visit.R = Except Visit.Fail`) use it: a
successful `>>=` splits into its successful halves. (`Except.ok.inj` covers `pure a = .ok b`.) -/

namespace Except

variable {ε : Type u} {α β : Type v}

theorem bind_eq_ok {x : Except ε α} {f : α → Except ε β} {b : β} :
    (x >>= f) = .ok b ↔ ∃ a, x = .ok a ∧ f a = .ok b := by
  cases x <;> simp [bind, Except.bind]

theorem ok_bind (a : α) (f : α → Except ε β) : (Except.ok a >>= f) = f a := rfl

end Except
