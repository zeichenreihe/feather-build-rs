import FeatherModel.Model.ClassRead

/-!
# C01 — specification side: the JVMS encoding of a class file as a function of free *choices*

Independent of the reader (it only shares the *types* of the facts).  First the `Code` attribute, then annotations, the
constant pool, type annotations, the attributes of fields, methods and the class, and the class file itself.  A method body is described by
`CodeLayout`: the instructions with branch targets given as **instruction indices**, and for every instruction
the encoding choices that do not change its meaning:

* `form`: `short` (`xload_<n>`, `ldc`), `plain` (`xload n`, `ldc_w`, `goto`, `iinc`), `wide` (`wide xload`, `ldc2_w`,
  `goto_w`, `jsr_w`, `wide iinc`, `wide ret`);
* `cp`: which constant-pool index is used for the symbolic operand (any index that resolves to it: pool order,
  duplicates and unused entries are therefore free);
* `pad`: the value of the 0–3 padding bytes of a switch (their number is forced by the position) and of the `count`
  byte of `invokeinterface`.

`encode` lays the instructions out (JVMS §6.5), computes every offset from the positions this very layout
produces, then the exception table and the attributes of `Code` in the chosen order.
-/

namespace ClassRead
namespace Spec

inductive Form where
  | short | plain | wide
  deriving DecidableEq, Repr, Inhabited

structure SInsn where
  insn : Insn
  form : Form
  cp : Nat
  pad : Nat
  deriving Inhabited

/-- number of padding bytes of a switch whose opcode is at offset `at` -/
def padLen (at_ : Nat) : Nat := 3 - at_ % 4

/-- encoded size of an instruction placed at offset `at` -/
def SInsn.size (at_ : Nat) (si : SInsn) : Nat :=
  match si.insn, si.form with
  | .simple _, _ => 1
  | .bipush _, _ => 2
  | .sipush _, _ => 3
  | .ldc _, .short => 2
  | .ldc _, _ => 3
  | .load _ _, .short => 1
  | .load _ _, .plain => 2
  | .load _ _, .wide => 4
  | .store _ _, .short => 1
  | .store _ _, .plain => 2
  | .store _ _, .wide => 4
  | .iinc _ _, .wide => 6
  | .iinc _ _, _ => 3
  | .branch _ _, _ => 3
  | .goto _, .wide => 5
  | .goto _, _ => 3
  | .jsr _, .wide => 5
  | .jsr _, _ => 3
  | .ret _, .wide => 4
  | .ret _, _ => 2
  | .tableswitch _ _ _ tbl, _ => 1 + padLen at_ + 12 + 4 * tbl.length
  | .lookupswitch _ pairs, _ => 1 + padLen at_ + 8 + 8 * pairs.length
  | .field _ _, _ => 3
  | .invokevirtual _, _ => 3
  | .invokespecial _ _, _ => 3
  | .invokestatic _ _, _ => 3
  | .invokeinterface _, _ => 5
  | .invokedynamic _, _ => 5
  | .new _, _ => 3
  | .newarray _, _ => 2
  | .anewarray _, _ => 3
  | .checkcast _, _ => 3
  | .instanceof _, _ => 3
  | .multianewarray _ _, _ => 4

/-- offset reached after laying out `xs` from offset `at` -/
def endPos : List SInsn → Nat → Nat
  | [], at_ => at_
  | x :: xs, at_ => endPos xs (at_ + x.size at_)

/-- offset of instruction `i` (`i = length`: the code length) -/
def codePos (insns : List SInsn) (i : Nat) : Nat := endPos (insns.take i) 0

/-- signed offset from the instruction at `at` to instruction `t` -/
def relOff (pos : Nat → Nat) (at_ t : Nat) : Int := (pos t : Int) - (at_ : Int)

/-- bytes of one instruction placed at offset `at`; `pos` gives the offset of every instruction -/
def SInsn.encode (pos : Nat → Nat) (at_ : Nat) (si : SInsn) : Bytes :=
  match si.insn, si.form with
  | .simple op, _ => [op]
  | .bipush v, _ => [0x10, ofI8 v]
  | .sipush v, _ => 0x11 :: be16 (ofI16 v)
  | .ldc _, .short => [0x12, si.cp]
  | .ldc _, .plain => 0x13 :: be16 si.cp
  | .ldc _, .wide => 0x14 :: be16 si.cp
  | .load k i, .short => [0x1a + k * 4 + i]
  | .load k i, .plain => [0x15 + k, i]
  | .load k i, .wide => [0xc4, 0x15 + k] ++ be16 i
  | .store k i, .short => [0x3b + k * 4 + i]
  | .store k i, .plain => [0x36 + k, i]
  | .store k i, .wide => [0xc4, 0x36 + k] ++ be16 i
  | .iinc i v, .wide => [0xc4, 0x84] ++ be16 i ++ be16 (ofI16 v)
  | .iinc i v, _ => [0x84, i, ofI8 v]
  | .branch op t, _ => op :: be16 (ofI16 (relOff pos at_ t))
  | .goto t, .wide => 0xc8 :: be32 (ofI32 (relOff pos at_ t))
  | .goto t, _ => 0xa7 :: be16 (ofI16 (relOff pos at_ t))
  | .jsr t, .wide => 0xc9 :: be32 (ofI32 (relOff pos at_ t))
  | .jsr t, _ => 0xa8 :: be16 (ofI16 (relOff pos at_ t))
  | .ret i, .wide => [0xc4, 0xa9] ++ be16 i
  | .ret i, _ => [0xa9, i]
  | .tableswitch d lo hi tbl, _ =>
    0xaa :: List.replicate (padLen at_) si.pad ++ be32 (ofI32 (relOff pos at_ d)) ++ be32 (ofI32 lo) ++ be32 (ofI32 hi)
      ++ tbl.flatMap (fun t => be32 (ofI32 (relOff pos at_ t)))
  | .lookupswitch d pairs, _ =>
    0xab :: List.replicate (padLen at_) si.pad ++ be32 (ofI32 (relOff pos at_ d)) ++ be32 pairs.length
      ++ pairs.flatMap (fun kt => be32 (ofI32 kt.1) ++ be32 (ofI32 (relOff pos at_ kt.2)))
  | .field op _, _ => op :: be16 si.cp
  | .invokevirtual _, _ => 0xb6 :: be16 si.cp
  | .invokespecial _ _, _ => 0xb7 :: be16 si.cp
  | .invokestatic _ _, _ => 0xb8 :: be16 si.cp
  | .invokeinterface _, _ => 0xb9 :: be16 si.cp ++ [si.pad, 0]
  | .invokedynamic _, _ => 0xba :: be16 si.cp ++ [0, 0]
  | .new _, _ => 0xbb :: be16 si.cp
  | .newarray a, _ => [0xbc, a]
  | .anewarray _, _ => 0xbd :: be16 si.cp
  | .checkcast _, _ => 0xc0 :: be16 si.cp
  | .instanceof _, _ => 0xc1 :: be16 si.cp
  | .multianewarray _ d, _ => 0xc5 :: be16 si.cp ++ [d]

/-- the code array: instructions one after the other -/
def encInsns (pos : Nat → Nat) : List SInsn → Nat → Bytes
  | [], _ => []
  | x :: xs, at_ => x.encode pos at_ ++ encInsns pos xs (at_ + x.size at_)

def inI8 (v : Int) : Prop := -128 ≤ v ∧ v < 128
def inI16 (v : Int) : Prop := -32768 ≤ v ∧ v < 32768
def inI32 (v : Int) : Prop := -2147483648 ≤ v ∧ v < 2147483648

/-- the choices made for an instruction are admissible: the form can hold the operands, the pool index resolves to
the symbolic operand, targets exist.  `n` = number of instructions.  A switch must fit a code array of at most 65535
bytes: fewer than 65535/4 = 16384 table entries of 4 bytes, fewer than 65535/8 = 8192 pairs of 8 bytes.  For
`invokedynamic` the condition is `p.getInvokeDynamic bsms si.cp = .ok d`, written with the resolved value named first. -/
def SInsn.Legal (p : Pool) (bsms : Option (List Bsm)) (n : Nat) (pos : Nat → Nat) (at_ : Nat) (si : SInsn) : Prop :=
  match si.insn, si.form with
  | .simple op, _ => isSimpleOp op = true
  | .bipush v, _ => inI8 v
  | .sipush v, _ => inI16 v
  | .ldc k, .short => si.cp < 256 ∧ p.getLoadable bsms si.cp = .ok k
  | .ldc k, _ => si.cp < 65536 ∧ p.getLoadable bsms si.cp = .ok k
  | .load k i, .short => k < 5 ∧ i < 4
  | .load k i, .plain => k < 5 ∧ i < 256
  | .load k i, .wide => k < 5 ∧ i < 65536
  | .store k i, .short => k < 5 ∧ i < 4
  | .store k i, .plain => k < 5 ∧ i < 256
  | .store k i, .wide => k < 5 ∧ i < 65536
  | .iinc i v, .wide => i < 65536 ∧ inI16 v
  | .iinc i v, .plain => i < 256 ∧ inI8 v
  | .iinc _ _, .short => False
  | .branch op t, _ => isCondBranchOp op = true ∧ t < n ∧ inI16 (relOff pos at_ t)
  | .goto t, .wide => t < n
  | .goto t, .plain => t < n ∧ inI16 (relOff pos at_ t)
  | .goto _, .short => False
  | .jsr t, .wide => t < n
  | .jsr t, .plain => t < n ∧ inI16 (relOff pos at_ t)
  | .jsr _, .short => False
  | .ret i, .wide => i < 65536
  | .ret i, .plain => i < 256
  | .ret _, .short => False
  | .tableswitch d lo hi tbl, _ =>
    d < n ∧ (∀ t ∈ tbl, t < n) ∧ inI32 lo ∧ inI32 hi ∧ lo ≤ hi ∧ (tbl.length : Int) = hi - lo + 1 ∧ tbl.length < 16384 ∧ si.pad < 256
  | .lookupswitch d pairs, _ =>
    d < n ∧ (∀ kt ∈ pairs, kt.2 < n ∧ inI32 kt.1) ∧ pairs.length < 8192 ∧ si.pad < 256
  | .field op r, _ => 0xb2 ≤ op ∧ op ≤ 0xb5 ∧ si.cp < 65536 ∧ p.getFieldRef si.cp = .ok r
  | .invokevirtual m, _ => si.cp < 65536 ∧ p.getMethodRef si.cp = .ok m
  | .invokespecial m itf, _ => si.cp < 65536 ∧ p.getMethodRefOrInterface si.cp = .ok (m, itf)
  | .invokestatic m itf, _ => si.cp < 65536 ∧ p.getMethodRefOrInterface si.cp = .ok (m, itf)
  | .invokeinterface m, _ => si.cp < 65536 ∧ p.getInterfaceMethodRef si.cp = .ok m ∧ si.pad < 256
  | .invokedynamic d, _ => si.cp < 65536 ∧ ∃ d', p.getInvokeDynamic bsms si.cp = .ok d' ∧ d' = d
  | .new c, _ => si.cp < 65536 ∧ p.getClass si.cp = .ok c
  | .newarray a, _ => 4 ≤ a ∧ a ≤ 11
  | .anewarray c, _ => si.cp < 65536 ∧ p.getClass si.cp = .ok c
  | .checkcast c, _ => si.cp < 65536 ∧ p.getClass si.cp = .ok c
  | .instanceof c, _ => si.cp < 65536 ∧ p.getClass si.cp = .ok c
  | .multianewarray c d, _ => si.cp < 65536 ∧ p.getClass si.cp = .ok c ∧ d < 256

/-- branch targets of an instruction, in the order the first pass of the reader meets them -/
def targetsOf : Insn → List Nat
  | .branch _ t => [t]
  | .goto t => [t]
  | .jsr t => [t]
  | .tableswitch d _ _ tbl => d :: tbl
  | .lookupswitch d pairs => d :: pairs.map (·.2)
  | _ => []

/-- rename the targets of an instruction -/
def mapT (f : Nat → Nat) : Insn → Insn
  | .branch op t => .branch op (f t)
  | .goto t => .goto (f t)
  | .jsr t => .jsr (f t)
  | .tableswitch d lo hi tbl => .tableswitch (f d) lo hi (tbl.map f)
  | .lookupswitch d pairs => .lookupswitch (f d) (pairs.map fun kt => (kt.1, f kt.2))
  | i => i

/-! ## annotations (JVMS §4.7.16) -/

mutual
/-- `element_value` with the pool indices used -/
inductive SElem where
  /-- `B C D F I J S Z`: `const_value_index` and the value it denotes (after the narrowing the tag implies) -/
  | const (tag cp : Nat) (v : Int)
  | str (cp : Nat) (s : JStr)
  | enum (tcp : Nat) (ty : JStr) (ncp : Nat) (name : JStr)
  | cls (cp : Nat) (d : JStr)
  | anno (a : SAnno)
  | arr (vs : List SElem)
/-- `annotation`: type index, type descriptor, element-value pairs -/
inductive SAnno where
  | mk (tcp : Nat) (ty : JStr) (pairs : List SPair)
/-- `element_name_index`, the name, the value -/
inductive SPair where
  | mk (ncp : Nat) (name : JStr) (v : SElem)
end

instance : Inhabited SElem := ⟨.str 0 []⟩
instance : Inhabited SAnno := ⟨.mk 0 [] []⟩

mutual
def SElem.encode : SElem → Bytes
  | .const tag cp _ => tag :: be16 cp
  | .str cp _ => 115 :: be16 cp
  | .enum tcp _ ncp _ => 101 :: (be16 tcp ++ be16 ncp)
  | .cls cp _ => 99 :: be16 cp
  | .anno a => 64 :: a.encode
  | .arr vs => 91 :: (be16 vs.length ++ encElems vs)
def SAnno.encode : SAnno → Bytes
  | .mk tcp _ ps => be16 tcp ++ (be16 ps.length ++ encPairs ps)
def SPair.encode : SPair → Bytes
  | .mk ncp _ v => be16 ncp ++ v.encode
def encElems : List SElem → Bytes
  | [] => []
  | v :: r => v.encode ++ encElems r
def encPairs : List SPair → Bytes
  | [] => []
  | q :: r => q.encode ++ encPairs r
end

/-- the value a `const_value_index` denotes for a tag (JVMS table 4.7.16.1-A): `B C I S Z` name a `CONSTANT_Integer`
(narrowed to the type of the tag), `D` a `Double`, `F` a `Float`, `J` a `Long` -/
def constValue (p : Pool) (tag cp : Nat) : Outcome Int :=
  match tag with
  | 66 => do let v ← p.getInteger cp; pure (wrapI8 v)
  | 67 => do let v ← p.getInteger cp; pure (wrapU16 v)
  | 68 => do let v ← p.getDouble cp; pure (v : Int)
  | 70 => do let v ← p.getFloat cp; pure (v : Int)
  | 73 => p.getInteger cp
  | 74 => p.getLong cp
  | 83 => do let v ← p.getInteger cp; pure (wrapI16 v)
  | 90 => do let v ← p.getInteger cp; pure (if v != 0 then 1 else 0)
  | _ => .err

mutual
def SElem.Legal (p : Pool) : SElem → Prop
  | .const tag cp v => cp < 65536 ∧ constValue p tag cp = .ok v
  | .str cp s => cp < 65536 ∧ p.getUtf8 cp = .ok s
  | .enum tcp ty ncp name => tcp < 65536 ∧ ncp < 65536 ∧ p.getUtf8 tcp = .ok ty ∧ p.getUtf8 ncp = .ok name
  | .cls cp d => cp < 65536 ∧ p.getUtf8 cp = .ok d
  | .anno a => a.Legal p
  | .arr vs => vs.length < 65536 ∧ elemsLegal p vs
def SAnno.Legal (p : Pool) : SAnno → Prop
  | .mk tcp ty ps => tcp < 65536 ∧ p.getUtf8 tcp = .ok ty ∧ ps.length < 65536 ∧ pairsLegal p ps
def SPair.Legal (p : Pool) : SPair → Prop
  | .mk ncp name v => ncp < 65536 ∧ p.getUtf8 ncp = .ok name ∧ v.Legal p
def elemsLegal (p : Pool) : List SElem → Prop
  | [] => True
  | v :: r => v.Legal p ∧ elemsLegal p r
def pairsLegal (p : Pool) : List SPair → Prop
  | [] => True
  | q :: r => q.Legal p ∧ pairsLegal p r
end

mutual
/-- how many levels of `@` / `[` an element value nests below itself -/
def SElem.nest : SElem → Nat
  | .anno a => a.nest + 1
  | .arr vs => elemsNest vs + 1
  | _ => 0
def SAnno.nest : SAnno → Nat
  | .mk _ _ ps => pairsNest ps
def SPair.nest : SPair → Nat
  | .mk _ _ v => v.nest
def elemsNest : List SElem → Nat
  | [] => 0
  | v :: r => max v.nest (elemsNest r)
def pairsNest : List SPair → Nat
  | [] => 0
  | q :: r => max q.nest (pairsNest r)
end

/-- a top-level annotation inside the reader's domain: legal, and its element values nest at most
`MAX_ELEMENT_VALUE_DEPTH = 255` levels (deeper ones are rejected on purpose, see `annotation_depth_limit_witness`) -/
def SAnno.Ok (p : Pool) (a : SAnno) : Prop := a.Legal p ∧ a.nest ≤ 255

/-- a top-level element value (`AnnotationDefault`) inside the reader's domain -/
def SElem.Ok (p : Pool) (e : SElem) : Prop := e.Legal p ∧ e.nest ≤ 255

mutual
def SElem.fact : SElem → ElemVal
  | .const tag _ v => .const tag v
  | .str _ s => .str s
  | .enum _ ty _ name => .enum ty name
  | .cls _ d => .cls d
  | .anno a => .anno a.fact
  | .arr vs => .arr (elemFacts vs)
def SAnno.fact : SAnno → Annotation
  | .mk _ ty ps => .mk ty (pairFacts ps)
def SPair.fact : SPair → JStr × ElemVal
  | .mk _ name v => (name, v.fact)
def elemFacts : List SElem → List ElemVal
  | [] => []
  | v :: r => v.fact :: elemFacts r
def pairFacts : List SPair → List (JStr × ElemVal)
  | [] => []
  | q :: r => q.fact :: pairFacts r
end

/-- body of a `Runtime(In)VisibleAnnotations` attribute -/
def encAnnos (as : List SAnno) : Bytes := be16 as.length ++ as.flatMap SAnno.encode

/-- `type_path`: (kind 0..3, argument index; the index is 0 unless the kind is 3) -/
def encTypePath (path : List (Nat × Nat)) : Bytes := path.length :: path.flatMap (fun q => [q.1, q.2])

def typePathOk (path : List (Nat × Nat)) : Prop :=
  path.length < 256 ∧ ∀ q ∈ path, (q.1 ≤ 2 ∧ q.2 = 0) ∨ (q.1 = 3 ∧ q.2 < 256)

/-! ## the whole `Code` attribute -/

/-- all instructions of a method are legally encoded; the code array is non-empty and shorter than 65536 bytes -/
structure CodeLegal (p : Pool) (bsms : Option (List Bsm)) (insns : List SInsn) : Prop where
  nonempty : 0 < insns.length
  small : codePos insns insns.length ≤ 65535
  legal : ∀ i (h : i < insns.length), insns[i].Legal p bsms insns.length (codePos insns) (codePos insns i)

/-- exception table entry: protected range `[start, end_)` (`end_` may be the number of instructions = end of the
code), handler, and the pool index of the caught class (0 = any) -/
structure SException where
  start : Nat
  end_ : Nat
  handler : Nat
  catchCp : Nat
  catch_ : Option JStr
  deriving Inhabited

/-- one `LocalVariableTable` / `LocalVariableTypeTable` entry: live range `[start, end_)` in instructions -/
structure SLv where
  start : Nat
  end_ : Nat
  nameCp : Nat
  name : JStr
  descCp : Nat
  desc : JStr
  index : Nat
  deriving Inhabited

/-- `verification_type_info`; `object` with the pool index used, `uninit` with the index of the `new` instruction -/
inductive SVType where
  | top | int | float | double | long | null | uninitThis
  | object (cp : Nat) (c : JStr)
  | uninit (t : Nat)
  deriving Inhabited

inductive SFrameKind where
  | same
  | same1 (v : SVType)
  | chop (k : Nat)
  | append (vs : List SVType)
  | full (locals stack : List SVType)
  deriving Inhabited

/-- one `stack_map_frame`: the instruction it describes, the choice between the compact and the extended form
(`same_frame`/`same_frame_extended`, `same_locals_1_stack_item_frame`/`…_extended`), and its contents -/
structure SFrame where
  at_ : Nat
  ext : Bool
  kind : SFrameKind
  deriving Inhabited

/-- a type annotation inside `Code`: its target names instructions by index (`localVar`: live ranges `[start, end)`) -/
structure SCodeTypeAnno where
  target : Target
  path : List (Nat × Nat)
  anno : SAnno
  deriving Inhabited

/-- `target_type` and `target_info` of the targets admissible inside `Code` -/
def encCodeTarget (pos : Nat → Nat) : Target → Bytes
  | .localVar tag tbl => tag :: (be16 tbl.length ++ tbl.flatMap (fun e => be16 (pos e.1) ++ be16 (pos e.2.1 - pos e.1) ++ be16 e.2.2))
  | .exceptionParam i => 0x42 :: be16 i
  | .offset tag t => tag :: be16 (pos t)
  | .offsetArg tag t i => tag :: (be16 (pos t) ++ [i])
  | _ => []

def codeTargetOk (n : Nat) : Target → Prop
  | .localVar tag tbl => (tag = 0x40 ∨ tag = 0x41) ∧ tbl.length < 65536 ∧ ∀ e ∈ tbl, e.1 < n ∧ e.1 ≤ e.2.1 ∧ e.2.1 ≤ n ∧ e.2.2 < 65536
  | .exceptionParam i => i < 65536
  | .offset tag t => 0x43 ≤ tag ∧ tag ≤ 0x46 ∧ t < n
  | .offsetArg tag t i => 0x47 ≤ tag ∧ tag ≤ 0x4b ∧ t < n ∧ i < 256
  | _ => False

def codeTargetRefs : Target → Nat
  | .localVar _ tbl => 2 * tbl.length
  | .offset _ _ => 1
  | .offsetArg _ _ _ => 1
  | _ => 0

def SCodeTypeAnno.encode (pos : Nat → Nat) (a : SCodeTypeAnno) : Bytes :=
  encCodeTarget pos a.target ++ encTypePath a.path ++ a.anno.encode

def SCodeTypeAnno.Legal (p : Pool) (n : Nat) (a : SCodeTypeAnno) : Prop :=
  codeTargetOk n a.target ∧ typePathOk a.path ∧ a.anno.Ok p

def SCodeTypeAnno.fact (a : SCodeTypeAnno) : TypeAnno := ⟨a.target, a.path, a.anno.fact⟩

/-- the attributes of `Code` inside the proved fragment, in file order; `nameCp` is the pool index of the attribute name -/
inductive SCodeAttr where
  | frames (nameCp : Nat) (fs : List SFrame)
  | lines (nameCp : Nat) (entries : List (Nat × Nat))
  | lvt (nameCp : Nat) (entries : List SLv)
  | lvtt (nameCp : Nat) (entries : List SLv)
  /-- `RuntimeVisibleTypeAnnotations` (`visible`) / `RuntimeInvisibleTypeAnnotations` -/
  | typeAnnos (nameCp : Nat) (visible : Bool) (as : List SCodeTypeAnno)
  | unknown (nameCp : Nat) (name : JStr) (bytes : Bytes)
  deriving Inhabited

def SCodeAttr.isFrames : SCodeAttr → Bool
  | .frames _ _ => true
  | _ => false

structure CodeLayout where
  maxStack : Nat
  maxLocals : Nat
  insns : List SInsn
  exceptions : List SException
  attrs : List SCodeAttr
  deriving Inhabited

def SException.encode (pos : Nat → Nat) (e : SException) : Bytes :=
  be16 (pos e.start) ++ be16 (pos e.end_) ++ be16 (pos e.handler) ++ be16 e.catchCp

def SLv.encode (pos : Nat → Nat) (v : SLv) : Bytes :=
  be16 (pos v.start) ++ be16 (pos v.end_ - pos v.start) ++ be16 v.nameCp ++ be16 v.descCp ++ be16 v.index

/-- `attribute_name_index`, `attribute_length`, body -/
def attrFrame (nameCp : Nat) (body : Bytes) : Bytes := be16 nameCp ++ be32 body.length ++ body

def SVType.encode (pos : Nat → Nat) : SVType → Bytes
  | .top => [0] | .int => [1] | .float => [2] | .double => [3] | .long => [4] | .null => [5] | .uninitThis => [6]
  | .object cp _ => 7 :: be16 cp
  | .uninit t => 8 :: be16 (pos t)

/-- `offset_delta` of a frame at offset `off` when the previous frame (if any) is at offset `prev` -/
def frameDelta (prev : Option Nat) (off : Nat) : Nat :=
  match prev with
  | none => off
  | some p => off - p - 1

def SFrame.encode (pos : Nat → Nat) (prev : Option Nat) (f : SFrame) : Bytes :=
  let d := frameDelta prev (pos f.at_)
  match f.kind with
  | .same => if f.ext then 251 :: be16 d else [d]
  | .same1 v => if f.ext then 247 :: (be16 d ++ v.encode pos) else (64 + d) :: v.encode pos
  | .chop k => (251 - k) :: be16 d
  | .append vs => (251 + vs.length) :: (be16 d ++ vs.flatMap (SVType.encode pos))
  | .full ls ss => 255 :: (be16 d ++ (be16 ls.length ++ ls.flatMap (SVType.encode pos)) ++ (be16 ss.length ++ ss.flatMap (SVType.encode pos)))

def encFrames (pos : Nat → Nat) : Option Nat → List SFrame → Bytes
  | _, [] => []
  | prev, f :: fs => f.encode pos prev ++ encFrames pos (some (pos f.at_)) fs

def SCodeAttr.encode (pos : Nat → Nat) : SCodeAttr → Bytes
  | .frames n fs => attrFrame n (be16 fs.length ++ encFrames pos none fs)
  | .lines n es => attrFrame n (be16 es.length ++ es.flatMap (fun e => be16 (pos e.1) ++ be16 e.2))
  | .lvt n es => attrFrame n (be16 es.length ++ es.flatMap (SLv.encode pos))
  | .lvtt n es => attrFrame n (be16 es.length ++ es.flatMap (SLv.encode pos))
  | .typeAnnos n _ as => attrFrame n (be16 as.length ++ as.flatMap (SCodeTypeAnno.encode pos))
  | .unknown n _ b => attrFrame n b

def CodeLayout.pos (c : CodeLayout) : Nat → Nat := codePos c.insns

/-- the body of the `Code` attribute -/
def CodeLayout.encode (c : CodeLayout) : Bytes :=
  be16 c.maxStack ++ be16 c.maxLocals ++ be32 (c.pos c.insns.length) ++ encInsns c.pos c.insns 0
    ++ be16 c.exceptions.length ++ c.exceptions.flatMap (SException.encode c.pos)
    ++ be16 c.attrs.length ++ c.attrs.flatMap (SCodeAttr.encode c.pos)

/-- names the reader gives a meaning to inside `Code`; an `unknown` attribute must not use one of them -/
def codeAttrNames : List JStr :=
  [sStackMapTable, sStackMap, sLineNumberTable, sLocalVariableTable, sLocalVariableTypeTable, sRVTA, sRITA]

def SException.Legal (p : Pool) (n : Nat) (e : SException) : Prop :=
  e.start < n ∧ e.end_ ≤ n ∧ e.handler < n ∧ e.catchCp < 65536 ∧ p.getOptional e.catchCp Pool.getClass = .ok e.catch_

def SLv.Legal (p : Pool) (n : Nat) (v : SLv) : Prop :=
  v.start < n ∧ v.start ≤ v.end_ ∧ v.end_ ≤ n ∧ v.nameCp < 65536 ∧ v.descCp < 65536 ∧ v.index < 65536 ∧
    p.getUtf8 v.nameCp = .ok v.name ∧ validUnqualified v.name = true ∧ p.getUtf8 v.descCp = .ok v.desc

def SVType.Legal (p : Pool) (n : Nat) : SVType → Prop
  | .object cp c => cp < 65536 ∧ p.getClass cp = .ok c
  | .uninit t => t < n
  | _ => True

def SFrameKind.Legal (p : Pool) (n : Nat) : SFrameKind → Prop
  | .same => True
  | .same1 v => v.Legal p n
  | .chop k => 1 ≤ k ∧ k ≤ 3
  | .append vs => 1 ≤ vs.length ∧ vs.length ≤ 3 ∧ ∀ v ∈ vs, v.Legal p n
  | .full ls ss => ls.length < 65536 ∧ ss.length < 65536 ∧ (∀ v ∈ ls, v.Legal p n) ∧ ∀ v ∈ ss, v.Legal p n

/-- frames describe strictly increasing instructions; the compact forms need `offset_delta ≤ 63` -/
def framesLegal (p : Pool) (n : Nat) (pos : Nat → Nat) : Option Nat → List SFrame → Prop
  | _, [] => True
  | prev, f :: fs =>
    f.at_ < n ∧ (match prev with | none => True | some i => i < f.at_) ∧ f.kind.Legal p n ∧
      (f.ext = false → frameDelta (prev.map pos) (pos f.at_) ≤ 63) ∧ framesLegal p n pos (some f.at_) fs

def SCodeAttr.Legal (p : Pool) (n : Nat) (pos : Nat → Nat) : SCodeAttr → Prop
  | .frames nc fs => nc < 65536 ∧ p.getUtf8 nc = .ok sStackMapTable ∧ fs.length < 65536 ∧ framesLegal p n pos none fs ∧
      (be16 fs.length ++ encFrames pos none fs).length < 4294967296
  | .lines nc es => nc < 65536 ∧ p.getUtf8 nc = .ok sLineNumberTable ∧ es.length < 65536 ∧ ∀ e ∈ es, e.1 < n ∧ e.2 < 65536
  | .lvt nc es => nc < 65536 ∧ p.getUtf8 nc = .ok sLocalVariableTable ∧ es.length < 65536 ∧ ∀ e ∈ es, e.Legal p n
  | .lvtt nc es => nc < 65536 ∧ p.getUtf8 nc = .ok sLocalVariableTypeTable ∧ es.length < 65536 ∧ ∀ e ∈ es, e.Legal p n
  | .typeAnnos nc visible as => nc < 65536 ∧ p.getUtf8 nc = .ok (if visible then sRVTA else sRITA) ∧ as.length < 65536 ∧
      (∀ a ∈ as, a.Legal p n) ∧ (be16 as.length ++ as.flatMap (SCodeTypeAnno.encode pos)).length < 4294967296
  | .unknown nc name b => nc < 65536 ∧ p.getUtf8 nc = .ok name ∧ name ∉ codeAttrNames ∧ b.length < 4294967296

/-- number of label look-ups an attribute causes (bounds the label counter) -/
def SVType.labelRefs : SVType → Nat
  | .uninit _ => 1
  | _ => 0

def SFrameKind.labelRefs : SFrameKind → Nat
  | .same1 v => v.labelRefs
  | .append vs => (vs.map SVType.labelRefs).sum
  | .full ls ss => (ls.map SVType.labelRefs).sum + (ss.map SVType.labelRefs).sum
  | _ => 0

def SCodeAttr.labelRefs : SCodeAttr → Nat
  | .frames _ fs => (fs.map (fun f => f.kind.labelRefs + 1)).sum
  | .lines _ es => es.length
  | .lvt _ es => 2 * es.length
  | .lvtt _ es => 2 * es.length
  | .typeAnnos _ _ as => (as.map (fun a => codeTargetRefs a.target)).sum
  | .unknown _ _ _ => 0

def CodeLayout.labelRefs (c : CodeLayout) : Nat :=
  (c.insns.map (fun si => (targetsOf si.insn).length)).sum + 3 * c.exceptions.length + (c.attrs.map SCodeAttr.labelRefs).sum

structure CodeLayout.Legal (p : Pool) (bsms : Option (List Bsm)) (c : CodeLayout) : Prop where
  code : CodeLegal p bsms c.insns
  maxStack : c.maxStack < 65536
  maxLocals : c.maxLocals < 65536
  nExc : c.exceptions.length < 65536
  exc : ∀ e ∈ c.exceptions, e.Legal p c.insns.length
  nAttrs : c.attrs.length < 65536
  attrs : ∀ a ∈ c.attrs, a.Legal p c.insns.length c.pos
  /-- at most one `StackMapTable` -/
  oneFrames : (c.attrs.filter SCodeAttr.isFrames).length ≤ 1
  /-- the reader numbers labels in a `u16`: fewer than 65535 label references (a method with more panics the reader) -/
  refs : c.labelRefs < 65535

/-! ### what the layout denotes: the label-free description of the method body -/

def SLv.fact (typeTable : Bool) (v : SLv) : Lv :=
  if typeTable then ⟨v.start, v.end_, v.name, none, some v.desc, v.index⟩ else ⟨v.start, v.end_, v.name, some v.desc, none, v.index⟩

/-- line table delivered for the attributes seen so far (`none` until the first `LineNumberTable`) -/
def linesOf : List SCodeAttr → Option (List (Nat × Nat))
  | [] => none
  | .lines _ es :: r => some (es ++ (linesOf r).getD [])
  | _ :: r => linesOf r

def localsOf : List SCodeAttr → Option (List Lv)
  | [] => none
  | .lvt _ es :: r => some (es.map (SLv.fact false) ++ (localsOf r).getD [])
  | .lvtt _ es :: r => some (es.map (SLv.fact true) ++ (localsOf r).getD [])
  | _ :: r => localsOf r

/-- the type annotations of the given visibility, concatenated in file order -/
def typeAnnosOf (visible : Bool) : List SCodeAttr → List TypeAnno
  | [] => []
  | .typeAnnos _ v as :: r => (if v = visible then as.map SCodeTypeAnno.fact else []) ++ typeAnnosOf visible r
  | _ :: r => typeAnnosOf visible r

def unknownsOf : List SCodeAttr → List Attr
  | [] => []
  | .unknown _ name b :: r => ⟨name, b⟩ :: unknownsOf r
  | _ :: r => unknownsOf r

def SVType.fact : SVType → VType
  | .top => .top | .int => .int | .float => .float | .double => .double | .long => .long | .null => .null
  | .uninitThis => .uninitThis
  | .object _ c => .object c
  | .uninit t => .uninit t

def SFrameKind.fact : SFrameKind → Frame
  | .same => .same
  | .same1 v => .same1 v.fact
  | .chop k => .chop k
  | .append vs => .append (vs.map SVType.fact)
  | .full ls ss => .full (ls.map SVType.fact) (ss.map SVType.fact)

/-- the frames of the (at most one) `StackMapTable` -/
def framesOf : List SCodeAttr → List SFrame
  | [] => []
  | .frames _ fs :: _ => fs
  | _ :: r => framesOf r

/-- instruction entries from index `k` on; `rem` = the frames not yet attached, in increasing order of the instruction
they describe: a frame is attached to the instruction whose index it names -/
def factEntries : List SFrame → Nat → List SInsn → List InsnEntry
  | _, _, [] => []
  | [], k, si :: r => ⟨none, none, si.insn⟩ :: factEntries [] (k + 1) r
  | f :: rest, k, si :: r =>
    if f.at_ = k then ⟨none, some f.kind.fact, si.insn⟩ :: factEntries rest (k + 1) r
    else ⟨none, none, si.insn⟩ :: factEntries (f :: rest) (k + 1) r

/-- the facts: instructions with their targets as instruction indices and their frames, no label carriers -/
def CodeLayout.facts (c : CodeLayout) : Code :=
  { maxStack := c.maxStack, maxLocals := c.maxLocals,
    insns := factEntries (framesOf c.attrs) 0 c.insns,
    exceptions := c.exceptions.map (fun e => ⟨e.start, e.end_, e.handler, e.catch_⟩),
    lastLabel := none,
    lines := linesOf c.attrs, locals := localsOf c.attrs, rvta := typeAnnosOf true c.attrs,
    ritva := typeAnnosOf false c.attrs, attrs := unknownsOf c.attrs }

/-! ## constant pool -/

/-- `cp_info` (JVMS §4.4) -/
def encPoolEntry : PoolEntry → Bytes
  | .utf8 s => 1 :: (be16 (Mutf8.encode s).length ++ Mutf8.encode s)
  | .int v => 3 :: be32 (ofI32 v)
  | .float b => 4 :: be32 b
  | .long v => 5 :: be64 (ofI64 v)
  | .double b => 6 :: be64 b
  | .cls i => 7 :: be16 i
  | .str i => 8 :: be16 i
  | .fieldRef c n => 9 :: (be16 c ++ be16 n)
  | .methodRef c n => 10 :: (be16 c ++ be16 n)
  | .ifaceMethodRef c n => 11 :: (be16 c ++ be16 n)
  | .nameAndType n d => 12 :: (be16 n ++ be16 d)
  | .methodHandle k i => 15 :: k :: be16 i
  | .methodType d => 16 :: be16 d
  | .dynamic b n => 17 :: (be16 b ++ be16 n)
  | .invokeDynamic b n => 18 :: (be16 b ++ be16 n)
  | .module i => 19 :: be16 i
  | .package i => 20 :: be16 i

/-- `Long` and `Double` take two slots -/
def poolSlots : PoolEntry → Nat
  | .long _ => 2
  | .double _ => 2
  | _ => 1

def inI64 (v : Int) : Prop := -9223372036854775808 ≤ v ∧ v < 9223372036854775808

/-- the fields of an entry fit their widths; strings are encodable and shorter than 65536 bytes -/
def PoolEntryOk : PoolEntry → Prop
  | .utf8 s => Mutf8.Encodable s = true ∧ (Mutf8.encode s).length < 65536
  | .int v => inI32 v
  | .float b => b < 4294967296
  | .long v => inI64 v
  | .double b => b < 18446744073709551616
  | .cls i => i < 65536
  | .str i => i < 65536
  | .fieldRef c n => c < 65536 ∧ n < 65536
  | .methodRef c n => c < 65536 ∧ n < 65536
  | .ifaceMethodRef c n => c < 65536 ∧ n < 65536
  | .nameAndType n d => n < 65536 ∧ d < 65536
  | .methodHandle k i => k < 256 ∧ i < 65536
  | .methodType d => d < 65536
  | .dynamic b n => b < 65536 ∧ n < 65536
  | .invokeDynamic b n => b < 65536 ∧ n < 65536
  | .module i => i < 65536
  | .package i => i < 65536

/-- the slots the entries occupy, after slot 0 -/
def poolSlotsOf (es : List PoolEntry) : List (Option PoolEntry) :=
  es.flatMap (fun e => if poolSlots e = 2 then [some e, none] else [some e])

/-- the indexable table a list of entries denotes: slot 0 and the slot after a `Long`/`Double` are unusable -/
def poolTable (es : List PoolEntry) : Pool := none :: poolSlotsOf es

def poolCount (es : List PoolEntry) : Nat := 1 + (es.map poolSlots).sum

/-- `constant_pool_count` and the entries -/
def encPool (es : List PoolEntry) : Bytes := be16 (poolCount es) ++ es.flatMap encPoolEntry

/-! ## type annotations outside `Code` (JVMS §4.7.20) -/

/-- who owns the attribute: decides which `target_type`s are admissible -/
inductive Owner where
  | cls | field | method
  deriving DecidableEq, Repr, Inhabited

/-- `target_type` and `target_info` -/
def encTarget : Target → Bytes
  | .typeParam tag i => [tag, i]
  | .extends_ => 0x10 :: be16 65535
  | .implements i => 0x10 :: be16 i
  | .typeParamBound tag a b => [tag, a, b]
  | .field => [0x13]
  | .ret => [0x14]
  | .receiver => [0x15]
  | .formalParam i => [0x16, i]
  | .throws i => 0x17 :: be16 i
  | _ => []

/-- the targets an owner admits, with operands fitting their fields -/
def targetOk : Owner → Target → Prop
  | .cls, .typeParam tag i => tag = 0x00 ∧ i < 256
  | .cls, .extends_ => True
  | .cls, .implements i => i < 65535
  | .cls, .typeParamBound tag a b => tag = 0x11 ∧ a < 256 ∧ b < 256
  | .field, .field => True
  | .method, .typeParam tag i => tag = 0x01 ∧ i < 256
  | .method, .typeParamBound tag a b => tag = 0x12 ∧ a < 256 ∧ b < 256
  | .method, .ret => True
  | .method, .receiver => True
  | .method, .formalParam i => i < 256
  | .method, .throws i => i < 65536
  | _, _ => False

structure STypeAnno where
  target : Target
  path : List (Nat × Nat)
  anno : SAnno
  deriving Inhabited

def STypeAnno.encode (a : STypeAnno) : Bytes := encTarget a.target ++ encTypePath a.path ++ a.anno.encode

def STypeAnno.Legal (p : Pool) (o : Owner) (a : STypeAnno) : Prop := targetOk o a.target ∧ typePathOk a.path ∧ a.anno.Ok p

def STypeAnno.fact (a : STypeAnno) : TypeAnno := ⟨a.target, a.path, a.anno.fact⟩

def encTypeAnnos (as : List STypeAnno) : Bytes := be16 as.length ++ as.flatMap STypeAnno.encode

/-- a `Runtime(In)VisibleTypeAnnotations` attribute of the given owner -/
def typeAnnosLegal (p : Pool) (o : Owner) (nc : Nat) (visible : Bool) (as : List STypeAnno) : Prop :=
  nc < 65536 ∧ p.getUtf8 nc = .ok (if visible then sRVTA else sRITA) ∧ as.length < 65536 ∧ (∀ a ∈ as, a.Legal p o) ∧
    (encTypeAnnos as).length < 4294967296

/-! ## attributes of fields, methods and the class; the class file -/

/-- `attributes_count` and the attributes, each framed by name index and length -/
def encAttrs (as : List (Nat × Bytes)) : Bytes := be16 as.length ++ as.flatMap (fun a => attrFrame a.1 a.2)

/-- names with a meaning on a field -/
def fieldAttrNames : List JStr := [sDeprecated, sSynthetic, sConstantValue, sSignature, sRVA, sRIA, sRVTA, sRITA]
/-- names with a meaning on a method -/
def methodAttrNames : List JStr :=
  [sDeprecated, sSynthetic, sCode, sExceptions, sSignature, sRVA, sRIA, sRVTA, sRITA, sRVPA, sRIPA, sAnnotationDefault, sMethodParameters]
/-- names with a meaning on a class -/
def classAttrNames : List JStr :=
  [sDeprecated, sSynthetic, sInnerClasses, sEnclosingMethod, sSignature, sSourceFile, sSourceDebugExtension, sRVA, sRIA, sRVTA,
   sRITA, sModule, sModulePackages, sModuleMainClass, sNestHost, sNestMembers, sPermittedSubclasses, sRecord, sBootstrapMethods]

/-- a `Runtime(In)VisibleAnnotations` attribute: name, every annotation legal, body fits `attribute_length` -/
def annosLegal (p : Pool) (nc : Nat) (visible : Bool) (as : List SAnno) : Prop :=
  nc < 65536 ∧ p.getUtf8 nc = .ok (if visible then sRVA else sRIA) ∧ as.length < 65536 ∧ (∀ a ∈ as, a.Ok p) ∧
    (encAnnos as).length < 4294967296

/-- field attributes of the proved fragment (`nc` = pool index of the attribute name) -/
inductive SFieldAttr where
  | deprecated (nc : Nat)
  | synthetic (nc : Nat)
  | constantValue (nc cp : Nat) (v : ConstantValue)
  | signature (nc cp : Nat) (sig : JStr)
  /-- `RuntimeVisibleAnnotations` (`visible`) / `RuntimeInvisibleAnnotations` -/
  | annotations (nc : Nat) (visible : Bool) (as : List SAnno)
  | typeAnnotations (nc : Nat) (visible : Bool) (as : List STypeAnno)
  | unknown (nc : Nat) (name : JStr) (bytes : Bytes)
  deriving Inhabited

def SFieldAttr.raw : SFieldAttr → Nat × Bytes
  | .deprecated nc => (nc, [])
  | .synthetic nc => (nc, [])
  | .constantValue nc cp _ => (nc, be16 cp)
  | .signature nc cp _ => (nc, be16 cp)
  | .annotations nc _ as => (nc, encAnnos as)
  | .typeAnnotations nc _ as => (nc, encTypeAnnos as)
  | .unknown nc _ b => (nc, b)

def SFieldAttr.Legal (p : Pool) : SFieldAttr → Prop
  | .deprecated nc => nc < 65536 ∧ p.getUtf8 nc = .ok sDeprecated
  | .synthetic nc => nc < 65536 ∧ p.getUtf8 nc = .ok sSynthetic
  | .constantValue nc cp v => nc < 65536 ∧ p.getUtf8 nc = .ok sConstantValue ∧ cp < 65536 ∧ p.getConstantValue cp = .ok v
  | .signature nc cp sig => nc < 65536 ∧ p.getUtf8 nc = .ok sSignature ∧ cp < 65536 ∧ p.getUtf8 cp = .ok sig
  | .annotations nc visible as => annosLegal p nc visible as
  | .typeAnnotations nc visible as => typeAnnosLegal p .field nc visible as
  | .unknown nc name b => nc < 65536 ∧ p.getUtf8 nc = .ok name ∧ name ∉ fieldAttrNames ∧ b.length < 4294967296

/-- what an attribute adds to the description of the field; `none`: a second `ConstantValue` / `Signature` -/
def SFieldAttr.apply (f : FieldFacts) : SFieldAttr → Option FieldFacts
  | .deprecated _ => some { f with deprecated := true }
  | .synthetic _ => some { f with synthetic := true }
  | .constantValue _ _ v => if f.constant.isNone then some { f with constant := some v } else none
  | .signature _ _ sig => if f.signature.isNone then some { f with signature := some sig } else none
  | .annotations _ visible as =>
    if visible then some { f with rva := f.rva ++ as.map SAnno.fact } else some { f with ria := f.ria ++ as.map SAnno.fact }
  | .typeAnnotations _ visible as =>
    if visible then some { f with rvta := f.rvta ++ as.map STypeAnno.fact } else some { f with rita := f.rita ++ as.map STypeAnno.fact }
  | .unknown _ name b => some { f with attrs := f.attrs ++ [⟨name, b⟩] }

def mapOpt {α β : Type} (f : α → Option β) : List α → Option (List β)
  | [] => some []
  | a :: r => match f a, mapOpt f r with
    | some b, some bs => some (b :: bs)
    | _, _ => none

def applyAll {σ α : Type} (step : σ → α → Option σ) : σ → List α → Option σ
  | st, [] => some st
  | st, a :: as => match step st a with
    | some st' => applyAll step st' as
    | none => none

structure FieldLayout where
  access : Nat
  nameCp : Nat
  name : JStr
  descCp : Nat
  desc : JStr
  attrs : List SFieldAttr
  deriving Inhabited

def FieldLayout.encode (f : FieldLayout) : Bytes :=
  be16 f.access ++ be16 f.nameCp ++ be16 f.descCp ++ encAttrs (f.attrs.map SFieldAttr.raw)

def FieldLayout.Legal (p : Pool) (f : FieldLayout) : Prop :=
  f.access < 65536 ∧ f.nameCp < 65536 ∧ f.descCp < 65536 ∧ p.getUtf8 f.nameCp = .ok f.name ∧ validUnqualified f.name = true ∧
    p.getUtf8 f.descCp = .ok f.desc ∧ f.attrs.length < 65536 ∧ ∀ a ∈ f.attrs, a.Legal p

def FieldLayout.facts (f : FieldLayout) : Option FieldFacts :=
  applyAll SFieldAttr.apply ⟨f.access &&& maskField, f.name, f.desc, false, false, none, none, [], [], [], [], []⟩ f.attrs

/-- method attributes of the proved fragment -/
inductive SMethodAttr where
  | deprecated (nc : Nat)
  | synthetic (nc : Nat)
  | code (nc : Nat) (c : CodeLayout)
  | exceptions (nc : Nat) (cps : List Nat) (names : List JStr)
  | signature (nc cp : Nat) (sig : JStr)
  | annotations (nc : Nat) (visible : Bool) (as : List SAnno)
  | typeAnnotations (nc : Nat) (visible : Bool) (as : List STypeAnno)
  | annotationDefault (nc : Nat) (e : SElem)
  /-- `MethodParameters`: (name index, name, access flags) -/
  | methodParameters (nc : Nat) (ps : List (Nat × Option JStr × Nat))
  | unknown (nc : Nat) (name : JStr) (bytes : Bytes)
  deriving Inhabited

def SMethodAttr.raw : SMethodAttr → Nat × Bytes
  | .deprecated nc => (nc, [])
  | .synthetic nc => (nc, [])
  | .code nc c => (nc, c.encode)
  | .exceptions nc cps _ => (nc, be16 cps.length ++ cps.flatMap be16)
  | .signature nc cp _ => (nc, be16 cp)
  | .annotations nc _ as => (nc, encAnnos as)
  | .typeAnnotations nc _ as => (nc, encTypeAnnos as)
  | .annotationDefault nc e => (nc, e.encode)
  | .methodParameters nc ps => (nc, be8 ps.length ++ ps.flatMap (fun q => be16 q.1 ++ be16 q.2.2))
  | .unknown nc _ b => (nc, b)

def SMethodAttr.Legal (p : Pool) (bsms : Option (List Bsm)) : SMethodAttr → Prop
  | .deprecated nc => nc < 65536 ∧ p.getUtf8 nc = .ok sDeprecated
  | .synthetic nc => nc < 65536 ∧ p.getUtf8 nc = .ok sSynthetic
  | .code nc c => nc < 65536 ∧ p.getUtf8 nc = .ok sCode ∧ c.Legal p bsms ∧ c.encode.length < 4294967296
  | .exceptions nc cps names => nc < 65536 ∧ p.getUtf8 nc = .ok sExceptions ∧ cps.length < 65536 ∧ cps.length = names.length ∧
      ∀ x ∈ cps.zip names, x.1 < 65536 ∧ p.getClass x.1 = .ok x.2
  | .signature nc cp sig => nc < 65536 ∧ p.getUtf8 nc = .ok sSignature ∧ cp < 65536 ∧ p.getUtf8 cp = .ok sig
  | .annotations nc visible as => annosLegal p nc visible as
  | .typeAnnotations nc visible as => typeAnnosLegal p .method nc visible as
  | .annotationDefault nc e => nc < 65536 ∧ p.getUtf8 nc = .ok sAnnotationDefault ∧ e.Ok p ∧ e.encode.length < 4294967296
  | .methodParameters nc ps => nc < 65536 ∧ p.getUtf8 nc = .ok sMethodParameters ∧ ps.length < 256 ∧
      ∀ q ∈ ps, q.1 < 65536 ∧ q.2.2 < 65536 ∧
        p.getOptional q.1 (fun p i => do let n ← p.getUtf8 i; checked validUnqualified n) = .ok q.2.1
  | .unknown nc name b => nc < 65536 ∧ p.getUtf8 nc = .ok name ∧ name ∉ methodAttrNames ∧ b.length < 4294967296

def SMethodAttr.apply (m : MethodFacts) : SMethodAttr → Option MethodFacts
  | .deprecated _ => some { m with deprecated := true }
  | .synthetic _ => some { m with synthetic := true }
  | .code _ c => if m.code.isNone then some { m with code := some c.facts } else none
  | .exceptions _ _ names => if m.exceptions.isNone then some { m with exceptions := some names } else none
  | .signature _ _ sig => if m.signature.isNone then some { m with signature := some sig } else none
  | .annotations _ visible as =>
    if visible then some { m with rva := m.rva ++ as.map SAnno.fact } else some { m with ria := m.ria ++ as.map SAnno.fact }
  | .typeAnnotations _ visible as =>
    if visible then some { m with rvta := m.rvta ++ as.map STypeAnno.fact } else some { m with rita := m.rita ++ as.map STypeAnno.fact }
  | .annotationDefault _ e => some { m with annotationDefault := some e.fact }
  | .methodParameters _ ps =>
    if m.params.isNone then some { m with params := some (ps.map fun q => ⟨q.2.1, q.2.2 &&& maskParam⟩) } else none
  | .unknown _ name b => some { m with attrs := m.attrs ++ [⟨name, b⟩] }

structure MethodLayout where
  access : Nat
  nameCp : Nat
  name : JStr
  descCp : Nat
  desc : JStr
  attrs : List SMethodAttr
  deriving Inhabited

def MethodLayout.encode (m : MethodLayout) : Bytes :=
  be16 m.access ++ be16 m.nameCp ++ be16 m.descCp ++ encAttrs (m.attrs.map SMethodAttr.raw)

def MethodLayout.Legal (p : Pool) (bsms : Option (List Bsm)) (m : MethodLayout) : Prop :=
  m.access < 65536 ∧ m.nameCp < 65536 ∧ m.descCp < 65536 ∧ p.getUtf8 m.nameCp = .ok m.name ∧ validMethodName m.name = true ∧
    p.getUtf8 m.descCp = .ok m.desc ∧ m.attrs.length < 65536 ∧ ∀ a ∈ m.attrs, a.Legal p bsms

def MethodLayout.facts (m : MethodLayout) : Option MethodFacts :=
  applyAll SMethodAttr.apply
    ⟨m.access &&& maskMethod, m.name, m.desc, false, false, none, none, none, [], [], [], [], none, none, []⟩ m.attrs

/-- one `InnerClasses` entry with the pool indices used -/
structure SInner where
  innerCp : Nat
  inner : JStr
  outerCp : Nat
  outer : Option JStr
  nameCp : Nat
  name : Option JStr
  flags : Nat
  deriving Inhabited

/-- one bootstrap method: handle index, the handle it resolves to, raw argument indices -/
structure SBsm where
  handleCp : Nat
  handle : Handle
  args : List Nat
  deriving Inhabited

/-- attributes of a record component inside the proved fragment -/
inductive SRecordAttr where
  | signature (nc cp : Nat) (sig : JStr)
  | annotations (nc : Nat) (visible : Bool) (as : List SAnno)
  | typeAnnotations (nc : Nat) (visible : Bool) (as : List STypeAnno)
  | unknown (nc : Nat) (name : JStr) (bytes : Bytes)
  deriving Inhabited

/-- names with a meaning on a record component -/
def recordAttrNames : List JStr := [sSignature, sRVA, sRIA, sRVTA, sRITA]

def SRecordAttr.raw : SRecordAttr → Nat × Bytes
  | .signature nc cp _ => (nc, be16 cp)
  | .annotations nc _ as => (nc, encAnnos as)
  | .typeAnnotations nc _ as => (nc, encTypeAnnos as)
  | .unknown nc _ b => (nc, b)

def SRecordAttr.Legal (p : Pool) : SRecordAttr → Prop
  | .signature nc cp sig => nc < 65536 ∧ p.getUtf8 nc = .ok sSignature ∧ cp < 65536 ∧ p.getUtf8 cp = .ok sig
  | .annotations nc visible as => annosLegal p nc visible as
  | .typeAnnotations nc visible as => typeAnnosLegal p .field nc visible as
  | .unknown nc name b => nc < 65536 ∧ p.getUtf8 nc = .ok name ∧ name ∉ recordAttrNames ∧ b.length < 4294967296

def SRecordAttr.apply (c : RecordComponent) : SRecordAttr → Option RecordComponent
  | .signature _ _ sig => if c.signature.isNone then some { c with signature := some sig } else none
  | .annotations _ visible as =>
    if visible then some { c with rva := c.rva ++ as.map SAnno.fact } else some { c with ria := c.ria ++ as.map SAnno.fact }
  | .typeAnnotations _ visible as =>
    if visible then some { c with rvta := c.rvta ++ as.map STypeAnno.fact } else some { c with rita := c.rita ++ as.map STypeAnno.fact }
  | .unknown _ name b => some { c with attrs := c.attrs ++ [⟨name, b⟩] }

structure RecordLayout where
  nameCp : Nat
  name : JStr
  descCp : Nat
  desc : JStr
  attrs : List SRecordAttr
  deriving Inhabited

def RecordLayout.encode (c : RecordLayout) : Bytes :=
  be16 c.nameCp ++ be16 c.descCp ++ encAttrs (c.attrs.map SRecordAttr.raw)

def RecordLayout.Legal (p : Pool) (c : RecordLayout) : Prop :=
  c.nameCp < 65536 ∧ c.descCp < 65536 ∧ p.getUtf8 c.nameCp = .ok c.name ∧ p.getUtf8 c.descCp = .ok c.desc ∧
    c.attrs.length < 65536 ∧ ∀ a ∈ c.attrs, a.Legal p

def RecordLayout.facts (c : RecordLayout) : Option RecordComponent :=
  applyAll SRecordAttr.apply ⟨c.name, c.desc, none, [], [], [], [], []⟩ c.attrs

/-- `requires` entry: module index/name, flags, version index/version -/
structure SRequires where
  cp : Nat
  name : JStr
  flags : Nat
  vcp : Nat
  version : Option JStr
  deriving Inhabited

/-- `exports` / `opens` entry: package index/name, flags, target modules -/
structure SExports where
  cp : Nat
  name : JStr
  flags : Nat
  to : List (Nat × JStr)
  deriving Inhabited

/-- `provides` entry: service class, implementations -/
structure SProvides where
  cp : Nat
  name : JStr
  with_ : List (Nat × JStr)
  deriving Inhabited

structure SModule where
  cp : Nat
  name : JStr
  flags : Nat
  vcp : Nat
  version : Option JStr
  requires : List SRequires
  exports : List SExports
  opens : List SExports
  uses : List (Nat × JStr)
  provides : List SProvides
  deriving Inhabited

def encRefs (xs : List (Nat × JStr)) : Bytes := be16 xs.length ++ xs.flatMap (fun x => be16 x.1)

def SRequires.encode (r : SRequires) : Bytes := be16 r.cp ++ be16 r.flags ++ be16 r.vcp
def SExports.encode (e : SExports) : Bytes := be16 e.cp ++ be16 e.flags ++ encRefs e.to
def SProvides.encode (e : SProvides) : Bytes := be16 e.cp ++ encRefs e.with_

def SModule.encode (m : SModule) : Bytes :=
  be16 m.cp ++ be16 m.flags ++ be16 m.vcp ++ (be16 m.requires.length ++ m.requires.flatMap SRequires.encode)
    ++ (be16 m.exports.length ++ m.exports.flatMap SExports.encode) ++ (be16 m.opens.length ++ m.opens.flatMap SExports.encode)
    ++ encRefs m.uses ++ (be16 m.provides.length ++ m.provides.flatMap SProvides.encode)

/-- a `u2` count followed by that many pool indices, each resolving through `get` to the listed value -/
def refsLegal (get : Nat → Outcome JStr) (xs : List (Nat × JStr)) : Prop :=
  xs.length < 65536 ∧ ∀ x ∈ xs, x.1 < 65536 ∧ get x.1 = .ok x.2

def SRequires.Legal (p : Pool) (r : SRequires) : Prop :=
  r.cp < 65536 ∧ r.flags < 65536 ∧ r.vcp < 65536 ∧ p.getModule r.cp = .ok r.name ∧ p.getOptional r.vcp Pool.getUtf8 = .ok r.version

def SExports.Legal (p : Pool) (e : SExports) : Prop :=
  e.cp < 65536 ∧ e.flags < 65536 ∧ p.getPackage e.cp = .ok e.name ∧ refsLegal p.getModule e.to

def SProvides.Legal (p : Pool) (e : SProvides) : Prop :=
  e.cp < 65536 ∧ p.getClass e.cp = .ok e.name ∧ refsLegal p.getClass e.with_

def SModule.Legal (p : Pool) (m : SModule) : Prop :=
  m.cp < 65536 ∧ m.flags < 65536 ∧ m.vcp < 65536 ∧ p.getModule m.cp = .ok m.name ∧ p.getOptional m.vcp Pool.getUtf8 = .ok m.version ∧
    m.requires.length < 65536 ∧ (∀ r ∈ m.requires, r.Legal p) ∧ m.exports.length < 65536 ∧ (∀ e ∈ m.exports, e.Legal p) ∧
    m.opens.length < 65536 ∧ (∀ e ∈ m.opens, e.Legal p) ∧ refsLegal p.getClass m.uses ∧
    m.provides.length < 65536 ∧ (∀ e ∈ m.provides, e.Legal p)

def SModule.fact (m : SModule) : Module :=
  { name := m.name, flags := m.flags &&& maskModule, version := m.version,
    requires := m.requires.map (fun r => ⟨r.name, r.flags &&& maskRequires, r.version⟩),
    exports := m.exports.map (fun e => ⟨e.name, e.flags &&& maskExports, e.to.map (·.2)⟩),
    opens := m.opens.map (fun e => ⟨e.name, e.flags &&& maskExports, e.to.map (·.2)⟩),
    uses := m.uses.map (·.2),
    provides := m.provides.map (fun e => ⟨e.name, e.with_.map (·.2)⟩) }

/-- class attributes of the proved fragment -/
inductive SClassAttr where
  | deprecated (nc : Nat)
  | synthetic (nc : Nat)
  | sourceFile (nc cp : Nat) (s : JStr)
  | signature (nc cp : Nat) (sig : JStr)
  | innerClasses (nc : Nat) (es : List SInner)
  | enclosingMethod (nc clsCp : Nat) (cls : JStr) (mCp : Nat) (m : Option (JStr × JStr))
  | nestHost (nc cp : Nat) (c : JStr)
  | nestMembers (nc : Nat) (cps : List Nat) (names : List JStr)
  | permittedSubclasses (nc : Nat) (cps : List Nat) (names : List JStr)
  | bootstrapMethods (nc : Nat) (ms : List SBsm)
  | annotations (nc : Nat) (visible : Bool) (as : List SAnno)
  | typeAnnotations (nc : Nat) (visible : Bool) (as : List STypeAnno)
  | sourceDebugExtension (nc : Nat) (s : JStr)
  | record (nc : Nat) (comps : List RecordLayout)
  | module (nc : Nat) (m : SModule)
  | modulePackages (nc : Nat) (ps : List (Nat × JStr))
  | moduleMainClass (nc cp : Nat) (c : JStr)
  | unknown (nc : Nat) (name : JStr) (bytes : Bytes)
  deriving Inhabited

def SInner.encode (e : SInner) : Bytes := be16 e.innerCp ++ be16 e.outerCp ++ be16 e.nameCp ++ be16 e.flags
def SBsm.encode (m : SBsm) : Bytes := be16 m.handleCp ++ be16 m.args.length ++ m.args.flatMap be16

def SClassAttr.raw : SClassAttr → Nat × Bytes
  | .deprecated nc => (nc, [])
  | .synthetic nc => (nc, [])
  | .sourceFile nc cp _ => (nc, be16 cp)
  | .signature nc cp _ => (nc, be16 cp)
  | .innerClasses nc es => (nc, be16 es.length ++ es.flatMap SInner.encode)
  | .enclosingMethod nc clsCp _ mCp _ => (nc, be16 clsCp ++ be16 mCp)
  | .nestHost nc cp _ => (nc, be16 cp)
  | .nestMembers nc cps _ => (nc, be16 cps.length ++ cps.flatMap be16)
  | .permittedSubclasses nc cps _ => (nc, be16 cps.length ++ cps.flatMap be16)
  | .bootstrapMethods nc ms => (nc, be16 ms.length ++ ms.flatMap SBsm.encode)
  | .annotations nc _ as => (nc, encAnnos as)
  | .typeAnnotations nc _ as => (nc, encTypeAnnos as)
  | .sourceDebugExtension nc s => (nc, Mutf8.encode s)
  | .record nc comps => (nc, be16 comps.length ++ comps.flatMap RecordLayout.encode)
  | .module nc m => (nc, m.encode)
  | .modulePackages nc ps => (nc, encRefs ps)
  | .moduleMainClass nc cp _ => (nc, be16 cp)
  | .unknown nc _ b => (nc, b)

def SInner.Legal (p : Pool) (e : SInner) : Prop :=
  e.innerCp < 65536 ∧ e.outerCp < 65536 ∧ e.nameCp < 65536 ∧ e.flags < 65536 ∧ p.getClass e.innerCp = .ok e.inner ∧
    p.getOptional e.outerCp Pool.getClass = .ok e.outer ∧ p.getOptional e.nameCp Pool.getUtf8 = .ok e.name

def SBsm.Legal (p : Pool) (m : SBsm) : Prop :=
  m.handleCp < 65536 ∧ p.getMethodHandle m.handleCp = .ok m.handle ∧ m.args.length < 65536 ∧ ∀ a ∈ m.args, a < 65536

def classRefsLegal (p : Pool) (cps : List Nat) (names : List JStr) : Prop :=
  cps.length < 65536 ∧ cps.length = names.length ∧ ∀ x ∈ cps.zip names, x.1 < 65536 ∧ p.getClass x.1 = .ok x.2

def SClassAttr.Legal (p : Pool) : SClassAttr → Prop
  | .deprecated nc => nc < 65536 ∧ p.getUtf8 nc = .ok sDeprecated
  | .synthetic nc => nc < 65536 ∧ p.getUtf8 nc = .ok sSynthetic
  | .sourceFile nc cp s => nc < 65536 ∧ p.getUtf8 nc = .ok sSourceFile ∧ cp < 65536 ∧ p.getUtf8 cp = .ok s
  | .signature nc cp sig => nc < 65536 ∧ p.getUtf8 nc = .ok sSignature ∧ cp < 65536 ∧ p.getUtf8 cp = .ok sig
  | .innerClasses nc es => nc < 65536 ∧ p.getUtf8 nc = .ok sInnerClasses ∧ es.length < 65536 ∧ ∀ e ∈ es, e.Legal p
  | .enclosingMethod nc clsCp cls mCp m => nc < 65536 ∧ p.getUtf8 nc = .ok sEnclosingMethod ∧ clsCp < 65536 ∧ mCp < 65536 ∧
      p.getClass clsCp = .ok cls ∧ p.getOptional mCp Pool.getMethodNameAndType = .ok m
  | .nestHost nc cp c => nc < 65536 ∧ p.getUtf8 nc = .ok sNestHost ∧ cp < 65536 ∧ p.getClass cp = .ok c
  | .nestMembers nc cps names => nc < 65536 ∧ p.getUtf8 nc = .ok sNestMembers ∧ classRefsLegal p cps names
  | .permittedSubclasses nc cps names => nc < 65536 ∧ p.getUtf8 nc = .ok sPermittedSubclasses ∧ classRefsLegal p cps names
  | .bootstrapMethods nc ms => nc < 65536 ∧ p.getUtf8 nc = .ok sBootstrapMethods ∧ ms.length < 65536 ∧ (∀ m ∈ ms, m.Legal p) ∧
      (be16 ms.length ++ ms.flatMap SBsm.encode).length < 4294967296
  | .annotations nc visible as => annosLegal p nc visible as
  | .typeAnnotations nc visible as => typeAnnosLegal p .cls nc visible as
  | .sourceDebugExtension nc s => nc < 65536 ∧ p.getUtf8 nc = .ok sSourceDebugExtension ∧ Mutf8.Encodable s = true ∧
      (Mutf8.encode s).length < 4294967296
  | .record nc comps => nc < 65536 ∧ p.getUtf8 nc = .ok sRecord ∧ comps.length < 65536 ∧ (∀ c ∈ comps, c.Legal p) ∧
      (be16 comps.length ++ comps.flatMap RecordLayout.encode).length < 4294967296
  | .module nc m => nc < 65536 ∧ p.getUtf8 nc = .ok sModule ∧ m.Legal p ∧ m.encode.length < 4294967296
  | .modulePackages nc ps => nc < 65536 ∧ p.getUtf8 nc = .ok sModulePackages ∧ refsLegal p.getPackage ps
  | .moduleMainClass nc cp c => nc < 65536 ∧ p.getUtf8 nc = .ok sModuleMainClass ∧ cp < 65536 ∧ p.getClass cp = .ok c
  | .unknown nc name b => nc < 65536 ∧ p.getUtf8 nc = .ok name ∧ name ∉ classAttrNames ∧ b.length < 4294967296

/-- the description of the class so far, the bootstrap table, and whether a `Record` attribute was seen -/
abbrev ClassAcc := ClassFacts × Option (List Bsm) × Bool

def SClassAttr.apply (st : ClassAcc) : SClassAttr → Option ClassAcc
  | .deprecated _ => some ({ st.1 with deprecated := true }, st.2)
  | .synthetic _ => some ({ st.1 with synthetic := true }, st.2)
  | .sourceFile _ _ s => if st.1.sourceFile.isNone then some ({ st.1 with sourceFile := some s }, st.2) else none
  | .signature _ _ s => if st.1.signature.isNone then some ({ st.1 with signature := some s }, st.2) else none
  | .innerClasses _ es =>
    if st.1.innerClasses.isNone then
      some ({ st.1 with innerClasses := some (es.map fun e => ⟨e.inner, e.outer, e.name, e.flags &&& maskInner⟩) }, st.2)
    else none
  | .enclosingMethod _ _ cls _ m =>
    if st.1.enclosingMethod.isNone then some ({ st.1 with enclosingMethod := some (cls, m) }, st.2) else none
  | .nestHost _ _ c => if st.1.nestHost.isNone then some ({ st.1 with nestHost := some c }, st.2) else none
  | .nestMembers _ _ names => if st.1.nestMembers.isNone then some ({ st.1 with nestMembers := some names }, st.2) else none
  | .permittedSubclasses _ _ names =>
    if st.1.permittedSubclasses.isNone then some ({ st.1 with permittedSubclasses := some names }, st.2) else none
  | .bootstrapMethods _ ms => if st.2.1.isNone then some (st.1, some (ms.map fun m => ⟨m.handle, m.args⟩), st.2.2) else none
  | .annotations _ visible as =>
    if visible then some ({ st.1 with rva := st.1.rva ++ as.map SAnno.fact }, st.2)
    else some ({ st.1 with ria := st.1.ria ++ as.map SAnno.fact }, st.2)
  | .typeAnnotations _ visible as =>
    if visible then some ({ st.1 with rvta := st.1.rvta ++ as.map STypeAnno.fact }, st.2)
    else some ({ st.1 with rita := st.1.rita ++ as.map STypeAnno.fact }, st.2)
  | .sourceDebugExtension _ s =>
    if st.1.sourceDebugExtension.isNone then some ({ st.1 with sourceDebugExtension := some s }, st.2) else none
  | .record _ comps =>
    if st.2.2 then none
    else match mapOpt RecordLayout.facts comps with
      | some cs => some ({ st.1 with recordComponents := st.1.recordComponents ++ cs }, st.2.1, true)
      | none => none
  | .module _ m => if st.1.module.isNone then some ({ st.1 with module := some m.fact }, st.2) else none
  | .modulePackages _ ps =>
    if st.1.modulePackages.isNone then some ({ st.1 with modulePackages := some (ps.map (·.2)) }, st.2) else none
  | .moduleMainClass _ _ c =>
    if st.1.moduleMainClass.isNone then some ({ st.1 with moduleMainClass := some c }, st.2) else none
  | .unknown _ name b => some ({ st.1 with attrs := st.1.attrs ++ [⟨name, b⟩] }, st.2)

structure ClassLayout where
  minor : Nat
  major : Nat
  pool : List PoolEntry
  access : Nat
  thisCp : Nat
  name : JStr
  superCp : Nat
  super : Option JStr
  interfaces : List (Nat × JStr)
  fields : List FieldLayout
  methods : List MethodLayout
  attrs : List SClassAttr
  deriving Inhabited

/-- the `ClassFile` structure (JVMS §4.1) -/
def ClassLayout.encode (c : ClassLayout) : Bytes :=
  be32 0xCAFEBABE ++ be16 c.minor ++ be16 c.major ++ encPool c.pool ++ be16 c.access ++ be16 c.thisCp ++ be16 c.superCp
    ++ be16 c.interfaces.length ++ c.interfaces.flatMap (fun i => be16 i.1)
    ++ be16 c.fields.length ++ c.fields.flatMap FieldLayout.encode
    ++ be16 c.methods.length ++ c.methods.flatMap MethodLayout.encode
    ++ encAttrs (c.attrs.map SClassAttr.raw)

def ClassLayout.base (c : ClassLayout) : ClassFacts :=
  { minor := c.minor, major := c.major, access := c.access &&& maskClass, name := c.name, super := c.super,
    interfaces := c.interfaces.map (·.2), fields := [], methods := [], deprecated := false, synthetic := false,
    innerClasses := none, enclosingMethod := none, signature := none, sourceFile := none,
    sourceDebugExtension := none, rva := [], ria := [], rvta := [], rita := [], module := none,
    modulePackages := none, moduleMainClass := none, nestHost := none, nestMembers := none,
    permittedSubclasses := none, recordComponents := [], attrs := [] }

/-- the label-free facts the layout denotes (`none`: a single-instance attribute occurs twice) -/
def ClassLayout.facts (c : ClassLayout) : Option ClassFacts :=
  match applyAll SClassAttr.apply (c.base, none, false) c.attrs, mapOpt FieldLayout.facts c.fields, mapOpt MethodLayout.facts c.methods with
  | some (cf, _), some fs, some ms => some { cf with fields := fs, methods := ms }
  | _, _, _ => none

/-- the bootstrap table the class attributes establish -/
def ClassLayout.bsms (c : ClassLayout) : Option (List Bsm) :=
  match applyAll SClassAttr.apply (c.base, none, false) c.attrs with
  | some (_, b, _) => b
  | none => none

structure ClassLayout.Legal (c : ClassLayout) : Prop where
  version : c.minor < 65536 ∧ c.major < 65536 ∧ (c.major < 67 ∨ (c.major = 67 ∧ c.minor = 0))
  poolOk : ∀ e ∈ c.pool, PoolEntryOk e
  poolCount : poolCount c.pool < 65536
  access : c.access < 65536
  this : c.thisCp < 65536 ∧ (poolTable c.pool).getObjClass c.thisCp = .ok c.name
  super : c.superCp < 65536 ∧ (poolTable c.pool).getOptional c.superCp Pool.getObjClass = .ok c.super
  nInterfaces : c.interfaces.length < 65536
  interfaces : ∀ i ∈ c.interfaces, i.1 < 65536 ∧ (poolTable c.pool).getObjClass i.1 = .ok i.2
  nFields : c.fields.length < 65536
  fields : ∀ f ∈ c.fields, f.Legal (poolTable c.pool)
  nMethods : c.methods.length < 65536
  methods : ∀ m ∈ c.methods, m.Legal (poolTable c.pool) c.bsms
  nAttrs : c.attrs.length < 65536
  attrs : ∀ a ∈ c.attrs, a.Legal (poolTable c.pool)
  /-- single-instance attributes occur at most once -/
  unique : c.facts.isSome = true

end Spec
end ClassRead
