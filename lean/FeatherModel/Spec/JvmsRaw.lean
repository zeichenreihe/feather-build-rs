import FeatherModel.Model.RawLayout

/-!
# C20 — the class-file format as the JVMS prescribes it (trusted transcription of JVMS SE 21 §4.1, §4.4–§4.7)

Two independent artefacts, neither derived from `raw_class_file`:

* **signature tables** (`structs`, `enums`, `attrs`): for every structure the items on the wire, in order, with the JVMS
  item names and widths (`u1/u2/u4` = `Prim.u8/u16/u32`), tables with the width of their count item.  `Thm.C20.layouts_jvms`
  compares the layouts translated from `lib.rs` with these tables (by evaluation, in `Lemmas/RawLayoutsJvms.lean`).
  Structures are keyed by the crate's type names (the JVMS has no names for most table entries); attributes are keyed by
  their JVMS name.  Item names follow the JVMS; where the crate spells an item differently the crate's spelling is
  used and marked.
* **frame walker** (`Walk.classFile`): an executable reader that only follows the framing of a class file — constant-pool slots,
  counts, `attribute_length`s, and for every predefined attribute the shape of its body — and accepts iff every
  length matches and the input is consumed exactly.  It is what "other readers see the same structure" means in the
  oracles of C20 (the harness has the same walker in Rust, `fvh::jvmsframe`).
-/

namespace JvmsRaw
open RawLayout

/-! ## signature tables -/

inductive Elem where
  | p (w : Prim)
  | s (ty : JStr)
  deriving DecidableEq, Repr

inductive Item where
  /-- fixed-width item -/
  | p (name : JStr) (w : Prim)
  /-- `cnt`-wide count item followed by that many elements -/
  | tbl (name : JStr) (cnt : Prim) (el : Elem)
  /-- table whose number of elements is given by an earlier item -/
  | impl (name : JStr) (el : Elem)
  /-- table whose entries take up one or two *slots* each (§4.4.5) and which is filled until as many slots are taken as
  an earlier item says (§4.1: `cp_info constant_pool[constant_pool_count-1]`) -/
  | slots (name : JStr) (el : Elem)
  /-- one nested structure -/
  | one (name : JStr) (ty : JStr)
  deriving DecidableEq, Repr

def u1 (n : String) : Item := .p (jstr n) .u8
def u2 (n : String) : Item := .p (jstr n) .u16
def u4 (n : String) : Item := .p (jstr n) .u32
/-- `u2 xs_count; u2 xs[xs_count]` and friends -/
def tab (n : String) (cnt : Prim) (w : Prim) : Item := .tbl (jstr n) cnt (.p w)
def tabS (n : String) (cnt : Prim) (ty : String) : Item := .tbl (jstr n) cnt (.s (jstr ty))

/-- structures (§4.1, §4.5, §4.6 and the table entries of §4.7), by the crate's type name -/
def structs : List (JStr × List Item) := [
  (jstr "ClassFile", [u4 "magic", u2 "minor_version", u2 "major_version", u2 "constant_pool_count",
    .slots (jstr "constant_pool") (.s (jstr "CpInfo")), u2 "access_flags", u2 "this_class", u2 "super_class",
    tab "interfaces" .u16 .u16, tabS "fields" .u16 "FieldInfo", tabS "methods" .u16 "MethodInfo",
    tabS "attributes" .u16 "AttributeInfo"]),
  (jstr "FieldInfo", [u2 "access_flags", u2 "name_index", u2 "descriptor_index", tabS "attributes" .u16 "AttributeInfo"]),
  (jstr "MethodInfo", [u2 "access_flags", u2 "name_index", u2 "descriptor_index", tabS "attributes" .u16 "AttributeInfo"]),
  (jstr "ExceptionTableEntry", [u2 "start_pc", u2 "end_pc", u2 "handler_pc", u2 "catch_type"]),
  (jstr "InnerClassesEntry", [u2 "inner_class_info_index", u2 "outer_class_info_index", u2 "inner_name_index",
    u2 "inner_class_access_flags"]),
  (jstr "LineNumberTableEntry", [u2 "start_pc", u2 "line_number"]),
  (jstr "LocalVariableTableEntry", [u2 "start_pc", u2 "length", u2 "name_index", u2 "descriptor_index", u2 "index"]),
  (jstr "LocalVariableTypeTableEntry", [u2 "start_pc", u2 "length", u2 "name_index", u2 "signature_index", u2 "index"]),
  (jstr "Annotation", [u2 "type_index", tabS "element_value_pairs" .u16 "ElementValuePairsEntry"]),
  (jstr "ElementValuePairsEntry", [u2 "element_name_index", .one (jstr "value") (jstr "ElementValue")]),
  -- JVMS: `u2 num_annotations; annotation annotations[num_annotations]`
  (jstr "ParameterAnnotationEntry", [tabS "annotations" .u16 "Annotation"]),
  -- JVMS: `bootstrap_arguments`; the crate spells it `boostrap_arguments`
  (jstr "BootstrapMethodsEntry", [u2 "bootstrap_method_ref", tab "boostrap_arguments" .u16 .u16]),
  (jstr "MethodParametersEntry", [u2 "name_index", u2 "access_flags"]),
  (jstr "ModuleRequiresEntry", [u2 "requires_index", u2 "requires_flags", u2 "requires_version_index"]),
  (jstr "ModuleExportsEntry", [u2 "exports_index", u2 "exports_flags", tab "exports_to_index" .u16 .u16]),
  (jstr "ModuleOpensEntry", [u2 "opens_index", u2 "opens_flags", tab "opens_to_index" .u16 .u16]),
  (jstr "ModuleProvidesEntry", [u2 "provides_index", tab "provides_with_index" .u16 .u16]),
  (jstr "RecordComponentInfo", [u2 "name_index", u2 "descriptor_index", tabS "attributes" .u16 "AttributeInfo"])
]

/-- tagged unions other than `attribute_info`: tag width and, per tag (pattern), the items after the tag -/
def enums : List (JStr × Prim × List (Pat × List Item)) := [
  -- §4.4
  (jstr "CpInfo", .u8, [
    (.lit 7, [u2 "name_index"]),
    (.lit 9, [u2 "class_index", u2 "name_and_type_index"]),
    (.lit 10, [u2 "class_index", u2 "name_and_type_index"]),
    (.lit 11, [u2 "class_index", u2 "name_and_type_index"]),
    (.lit 8, [u2 "string_index"]),
    (.lit 3, [u4 "bytes"]),
    (.lit 4, [u4 "bytes"]),
    (.lit 5, [u4 "high_bytes", u4 "low_bytes"]),
    (.lit 6, [u4 "high_bytes", u4 "low_bytes"]),
    (.lit 12, [u2 "name_index", u2 "descriptor_index"]),
    -- `u2 length; u1 bytes[length]`
    (.lit 1, [tab "bytes" .u16 .u8]),
    (.lit 15, [u1 "reference_kind", u2 "reference_index"]),
    (.lit 16, [u2 "descriptor_index"]),
    (.lit 17, [u2 "bootstrap_method_attr_index", u2 "name_and_type_index"]),
    (.lit 18, [u2 "bootstrap_method_attr_index", u2 "name_and_type_index"]),
    (.lit 19, [u2 "name_index"]),
    (.lit 20, [u2 "name_index"])]),
  -- §4.7.4 verification_type_info
  (jstr "VerificationTypeInfo", .u8, [
    (.lit 0, []), (.lit 1, []), (.lit 2, []), (.lit 3, []), (.lit 4, []), (.lit 5, []), (.lit 6, []),
    (.lit 7, [u2 "cpool_index"]), (.lit 8, [u2 "offset"])]),
  -- §4.7.4 stack_map_frame (offset_delta / k of the first, second and fourth kind are part of frame_type)
  (jstr "StackMapFrame", .u8, [
    (.range 0 63, []),
    (.range 64 127, [.one (jstr "stack") (jstr "VerificationTypeInfo")]),
    (.lit 247, [u2 "offset_delta", .one (jstr "stack") (jstr "VerificationTypeInfo")]),
    (.range 248 250, [u2 "offset_delta"]),
    (.lit 251, [u2 "offset_delta"]),
    (.range 252 254, [u2 "offset_delta", .impl (jstr "locals") (.s (jstr "VerificationTypeInfo"))]),
    (.lit 255, [u2 "offset_delta", tabS "locals" .u16 "VerificationTypeInfo", tabS "stack" .u16 "VerificationTypeInfo"])]),
  -- §4.7.16.1 element_value
  (jstr "ElementValue", .u8, [
    (.lit 66, [u2 "const_value_index"]), (.lit 67, [u2 "const_value_index"]), (.lit 68, [u2 "const_value_index"]),
    (.lit 70, [u2 "const_value_index"]), (.lit 73, [u2 "const_value_index"]), (.lit 74, [u2 "const_value_index"]),
    (.lit 83, [u2 "const_value_index"]), (.lit 90, [u2 "const_value_index"]), (.lit 115, [u2 "const_value_index"]),
    (.lit 101, [u2 "type_name_index", u2 "const_name_index"]),
    (.lit 99, [u2 "class_info_index"]),
    (.lit 64, [.one (jstr "annotation_value") (jstr "Annotation")]),
    (.lit 91, [tabS "values" .u16 "ElementValue"])])
]

/-- §4.7.2 – §4.7.31: the items of each predefined attribute after `attribute_name_index` and `attribute_length`
(the two `*TypeAnnotations` attributes are not modelled by the crate and are read as unknown attributes) -/
def attrs : List (JStr × List Item) := [
  (jstr "ConstantValue", [u2 "constantvalue_index"]),
  (jstr "Code", [u2 "max_stack", u2 "max_locals", tab "code" .u32 .u8, tabS "exception_table" .u16 "ExceptionTableEntry",
    tabS "attributes" .u16 "AttributeInfo"]),
  (jstr "StackMapTable", [tabS "entries" .u16 "StackMapFrame"]),
  (jstr "Exceptions", [tab "exception_index_table" .u16 .u16]),
  (jstr "InnerClasses", [tabS "classes" .u16 "InnerClassesEntry"]),
  (jstr "EnclosingMethod", [u2 "class_index", u2 "method_index"]),
  (jstr "Synthetic", []),
  (jstr "Signature", [u2 "signature_index"]),
  (jstr "SourceFile", [u2 "sourcefile_index"]),
  -- `u1 debug_extension[attribute_length]`: the count item *is* `attribute_length`
  (jstr "SourceDebugExtension", [tab "debug_extension" .u32 .u8]),
  (jstr "LineNumberTable", [tabS "line_number_table" .u16 "LineNumberTableEntry"]),
  (jstr "LocalVariableTable", [tabS "local_variable_table" .u16 "LocalVariableTableEntry"]),
  (jstr "LocalVariableTypeTable", [tabS "local_variable_type_table" .u16 "LocalVariableTypeTableEntry"]),
  (jstr "Deprecated", []),
  (jstr "RuntimeVisibleAnnotations", [tabS "annotations" .u16 "Annotation"]),
  (jstr "RuntimeInvisibleAnnotations", [tabS "annotations" .u16 "Annotation"]),
  -- `u1 num_parameters`
  (jstr "RuntimeVisibleParameterAnnotations", [tabS "parameter_annotations" .u8 "ParameterAnnotationEntry"]),
  (jstr "RuntimeInvisibleParameterAnnotations", [tabS "parameter_annotations" .u8 "ParameterAnnotationEntry"]),
  (jstr "AnnotationDefault", [.one (jstr "default_value") (jstr "ElementValue")]),
  (jstr "BootstrapMethods", [tabS "bootstrap_methods" .u16 "BootstrapMethodsEntry"]),
  -- `u1 parameters_count` (§4.7.24)
  (jstr "MethodParameters", [tabS "parameters" .u8 "MethodParametersEntry"]),
  (jstr "Module", [u2 "module_name_index", u2 "module_flags", u2 "module_version_index",
    tabS "requires" .u16 "ModuleRequiresEntry", tabS "exports" .u16 "ModuleExportsEntry",
    tabS "opens" .u16 "ModuleOpensEntry", tab "uses_index" .u16 .u16, tabS "provides" .u16 "ModuleProvidesEntry"]),
  (jstr "ModulePackages", [tab "package_index" .u16 .u16]),
  (jstr "ModuleMainClass", [u2 "main_class_index"]),
  (jstr "NestHost", [u2 "host_class_index"]),
  (jstr "NestMembers", [tab "classes" .u16 .u16]),
  (jstr "Record", [tabS "components" .u16 "RecordComponentInfo"]),
  (jstr "PermittedSubclasses", [tab "classes" .u16 .u16])
]

/-- an attribute the format does not know: `u1 info[attribute_length]` -/
def unknownAttr : List Item := [tab "info" .u32 .u8]

/-- §4.4.5: `long` and `double` entries take two constant-pool slots -/
def slots (tag : Nat) : Nat := if tag = 5 ∨ tag = 6 then 2 else 1

/-! ## signature of a translated layout -/

def assoc {α : Type} (k : JStr) : List (JStr × α) → Option α
  | [] => none
  | (k', v) :: r => if k' = k then some v else assoc k r

def assocPat {α : Type} (k : Pat) : List (Pat × α) → Option α
  | [] => none
  | (k', v) :: r => if k' = k then some v else assocPat k r

def nameOf (names : List JStr) (id : Nat) : JStr := (names[id]?).getD []

def elemOf (names : List JStr) : Ty → Elem
  | .prim p => .p p
  | .ref id => .s (nameOf names id)
  | _ => .s []

def constItems (names : List JStr) : List Const → List Item
  | [] => []
  | c :: cs => .p (nameOf names c.name) c.p :: constItems names cs

def fieldItems (names : List JStr) : List Field → List Item
  | [] => []
  | f :: fds =>
    (match f.kind with
     | .field (.prim p) _ => [Item.p (nameOf names f.name) p]
     | .field (.vecCnt c el) _ => [Item.tbl (nameOf names f.name) c (elemOf names el)]
     | .field (.vecLen _ el) _ => [Item.impl (nameOf names f.name) (elemOf names el)]
     | .field (.vecSlots _ _ el) _ => [Item.slots (nameOf names f.name) (elemOf names el)]
     | .field (.ref id) _ => [Item.one (nameOf names f.name) (nameOf names id)]
     | .nowrite _ _ => []) ++ constItems names f.post ++ fieldItems names fds

/-- what a body puts on the wire: constants and fields in order (`nowrite` fields are not on the wire) -/
def bodyItems (names : List JStr) (b : Body) : List Item := constItems names b.pre ++ fieldItems names b.fields

def dropItem (n : JStr) : List Item → List Item
  | [] => []
  | .p m w :: r => if m = n then r else .p m w :: dropItem n r
  | i :: r => i :: dropItem n r

/-- items of an attribute variant after the two header items -/
def attrItems (names : List JStr) (v : Variant) : List Item := dropItem (jstr "attribute_length") (bodyItems names v.body)

/-- an attribute variant conforms: it is guarded by the attribute's name, is called like it, and has the JVMS items -/
def attrVariantConforms (names : List JStr) (v : Variant) : Bool :=
  match v.guard with
  | some g => nameOf names v.name == g && assoc g attrs == some (attrItems names v)
  | none => attrItems names v == unknownAttr

/-- conformance of one definition; attribute variants guarded by a name in `skip` are not compared -/
def defConformsX (names : List JStr) (skip : List JStr) : Def → Bool
  | .struct name body => assoc (nameOf names name) structs == some (bodyItems names body)
  | .enum name _ tagTy variants _ =>
    if nameOf names name = jstr "AttributeInfo" then
      tagTy == .u16 && variants.all fun v =>
        (match v.guard with | some g => skip.contains g | none => false) || attrVariantConforms names v
    else
      match assoc (nameOf names name) enums with
      | some (tt, vs) =>
        tagTy == tt && variants.length == vs.length &&
          variants.all fun v => v.guard.isNone && assocPat v.pat vs == some (bodyItems names v.body)
      | none => false

/-- full conformance of one definition with the JVMS tables -/
def defConforms (names : List JStr) : Def → Bool := defConformsX names []

/-- the tag a pool entry value is written with (variants of the pool entry type have literal tags) -/
def entryTag (variants : List Variant) : Val → Option Nat
  | .node k _ =>
    (match variants[k]? with
     | some v => (match v.tagWrite.e with | .lit t => some t | _ => none)
     | none => none)
  | _ => none

/-- §4.4.5 for one entry value -/
def jvmsSlots (variants : List Variant) (e : Val) : Nat :=
  match entryTag variants e with | some t => slots t | none => 1

/-- §4.1: "The value of the constant_pool_count item is equal to the number of entries in the constant_pool table plus
one", where long and double entries count twice (§4.4.5) -/
def jvmsPoolCount (variants : List Variant) (es : List Val) : Nat :=
  1 + (es.map (jvmsSlots variants)).sum

/-- §4.4.5 against the slot table of the implementation (`CpInfo::slots`, translated into `Env.wide`): the table names
variants of the pool entry type only, and a variant is in it iff the JVMS gives the tag it is written with two slots -/
def slotsConform (variants : List Variant) (wide : List Nat) : Bool :=
  wide.all (· < variants.length) &&
  (List.range variants.length).all fun k =>
    match variants[k]? with
    | some v => (match v.tagWrite.e with
                 | .lit t => wide.contains k == (slots t == 2)
                 | _ => false)
    | none => true

/-- every predefined attribute of the table is modelled by some variant -/
def attrsCovered (variants : List Variant) : Bool :=
  attrs.all fun a => variants.any fun v => v.guard == some a.1

/-! ## frame walker -/

namespace Walk

/-- a parser step: `none` = malformed, `some rest` = consumed a prefix -/
abbrev P := Bytes → Option Bytes

def n1 : Bytes → Option (Nat × Bytes)
  | a :: r => some (a, r)
  | _ => none
def n2 : Bytes → Option (Nat × Bytes)
  | a :: b :: r => some (a * 256 + b, r)
  | _ => none
def n4 : Bytes → Option (Nat × Bytes)
  | a :: b :: c :: d :: r => some (a * 16777216 + b * 65536 + c * 256 + d, r)
  | _ => none

def skip : Nat → P
  | 0, bs => some bs
  | _ + 1, [] => none
  | n + 1, _ :: r => skip n r

/-- the first `n` bytes (reversed accumulator `acc`) and the rest; `none` if the input is shorter -/
def splitAux : Nat → Bytes → Bytes → Option (Bytes × Bytes)
  | 0, acc, bs => some (acc.reverse, bs)
  | _ + 1, _, [] => none
  | n + 1, acc, a :: r => splitAux n (a :: acc) r
def splitN (n : Nat) (bs : Bytes) : Option (Bytes × Bytes) := splitAux n [] bs
def rep (f : P) : Nat → P
  | 0, bs => some bs
  | n + 1, bs => (f bs).bind (rep f n)
def tbl1 (f : P) : P := fun bs => (n1 bs).bind fun (n, r) => rep f n r
def tbl2 (f : P) : P := fun bs => (n2 bs).bind fun (n, r) => rep f n r
def seq (f g : P) : P := fun bs => (f bs).bind g

def vti : P := fun bs =>
  (n1 bs).bind fun (t, r) => if t ≤ 6 then some r else if t ≤ 8 then skip 2 r else none

def frame : P := fun bs =>
  (n1 bs).bind fun (t, r) =>
    if t ≤ 63 then some r
    else if t ≤ 127 then vti r
    else if t = 247 then seq (skip 2) vti r
    else if 248 ≤ t ∧ t ≤ 251 then skip 2 r
    else if 252 ≤ t ∧ t ≤ 254 then seq (skip 2) (rep vti (t - 251)) r
    else if t = 255 then seq (skip 2) (seq (tbl2 vti) (tbl2 vti)) r
    else none

mutual
def elementValue : Nat → P
  | 0, _ => none
  | f + 1, bs =>
    (n1 bs).bind fun (t, r) =>
      if t = 66 ∨ t = 67 ∨ t = 68 ∨ t = 70 ∨ t = 73 ∨ t = 74 ∨ t = 83 ∨ t = 90 ∨ t = 115 ∨ t = 99 then skip 2 r
      else if t = 101 then skip 4 r
      else if t = 64 then annotation f r
      else if t = 91 then tbl2 (elementValue f) r
      else none
def annotation : Nat → P
  | 0, _ => none
  | f + 1, bs => seq (skip 2) (tbl2 (seq (skip 2) (elementValue f))) bs
end

/-- the Utf8 entries of the constant pool by index -/
abbrev Utf8s := List (Nat × Bytes)

def utf8At (pool : Utf8s) (i : Nat) : Option Bytes :=
  match pool with
  | [] => none
  | (k, v) :: r => if k = i then some v else utf8At r i

def moduleBody : P :=
  seq (skip 6) (seq (tbl2 (skip 6)) (seq (tbl2 (seq (skip 4) (tbl2 (skip 2)))) (seq (tbl2 (seq (skip 4) (tbl2 (skip 2))))
    (seq (tbl2 (skip 2)) (tbl2 (seq (skip 2) (tbl2 (skip 2))))))))

/-- one attribute -/
def attrInfo (pool : Utf8s) : Nat → P
  | 0, _ => none
  | f + 1, bs =>
    (n2 bs).bind fun (ni, r1) =>
    (n4 r1).bind fun (len, r2) =>
    match splitN len r2 with
    | none => none
    | some (body, rest) =>
      match utf8At pool ni with
      | none => none
      | some name =>
        let attributes : P := tbl2 (attrInfo pool f)
        let p : Option P :=
          if name = jstr "ConstantValue" then some (skip 2)
          else if name = jstr "Code" then
            some (seq (skip 4) (seq (fun bs => (n4 bs).bind fun (n, r) => skip n r) (seq (tbl2 (skip 8)) attributes)))
          else if name = jstr "StackMapTable" then some (tbl2 frame)
          else if name = jstr "Exceptions" then some (tbl2 (skip 2))
          else if name = jstr "InnerClasses" then some (tbl2 (skip 8))
          else if name = jstr "EnclosingMethod" then some (skip 4)
          else if name = jstr "Synthetic" then some (skip 0)
          else if name = jstr "Signature" then some (skip 2)
          else if name = jstr "SourceFile" then some (skip 2)
          else if name = jstr "LineNumberTable" then some (tbl2 (skip 4))
          else if name = jstr "LocalVariableTable" then some (tbl2 (skip 10))
          else if name = jstr "LocalVariableTypeTable" then some (tbl2 (skip 10))
          else if name = jstr "Deprecated" then some (skip 0)
          else if name = jstr "RuntimeVisibleAnnotations" ∨ name = jstr "RuntimeInvisibleAnnotations" then
            some (tbl2 (annotation len))
          else if name = jstr "RuntimeVisibleParameterAnnotations" ∨ name = jstr "RuntimeInvisibleParameterAnnotations" then
            some (tbl1 (tbl2 (annotation len)))
          else if name = jstr "AnnotationDefault" then some (elementValue (len + 1))
          else if name = jstr "BootstrapMethods" then some (tbl2 (seq (skip 2) (tbl2 (skip 2))))
          else if name = jstr "MethodParameters" then some (tbl1 (skip 4))
          else if name = jstr "Module" then some moduleBody
          else if name = jstr "ModulePackages" then some (tbl2 (skip 2))
          else if name = jstr "ModuleMainClass" then some (skip 2)
          else if name = jstr "NestHost" then some (skip 2)
          else if name = jstr "NestMembers" then some (tbl2 (skip 2))
          else if name = jstr "Record" then some (tbl2 (seq (skip 4) attributes))
          else if name = jstr "PermittedSubclasses" then some (tbl2 (skip 2))
          else none
        match p with
        | none => some rest
        | some p => if p body = some [] then some rest else none

/-- constant pool: `i` = index of the next entry, `count` = constant_pool_count; collects the Utf8 entries.  A long or
double entry takes the indices `i` and `i + 1` (§4.4.5); an entry that ends past `count - 1` is malformed. -/
def pool (count : Nat) : Nat → Nat → Utf8s → Bytes → Option (Utf8s × Bytes)
  | 0, _, _, _ => none
  | fuel + 1, i, acc, bs =>
    if i = count then some (acc, bs)
    else if i > count then none
    else
      (n1 bs).bind fun (t, r) =>
        if t = 1 then
          (n2 r).bind fun (n, r2) =>
            match splitN n r2 with
            | some (s, r3) => pool count fuel (i + 1) ((i, s) :: acc) r3
            | none => none
        else if t = 3 ∨ t = 4 ∨ t = 9 ∨ t = 10 ∨ t = 11 ∨ t = 12 ∨ t = 17 ∨ t = 18 then (skip 4 r).bind (pool count fuel (i + 1) acc)
        else if t = 5 ∨ t = 6 then (skip 8 r).bind (pool count fuel (i + 2) acc)
        else if t = 7 ∨ t = 8 ∨ t = 16 ∨ t = 19 ∨ t = 20 then (skip 2 r).bind (pool count fuel (i + 1) acc)
        else if t = 15 then (skip 3 r).bind (pool count fuel (i + 1) acc)
        else none

/-- §4.1: the whole input is one well-framed class file -/
def classFile (bs : Bytes) : Bool :=
  match n4 bs with
  | some (magic, r0) =>
    if magic ≠ 3405691582 then false else
    match skip 4 r0 with
    | none => false
    | some r1 =>
      match n2 r1 with
      | none => false
      | some (count, r2) =>
        if count = 0 then false else
        match pool count (count + 1) 1 [] r2 with
        | none => false
        | some (utf8s, r3) =>
          let fuel := bs.length + 1
          let attributes : P := tbl2 (attrInfo utf8s fuel)
          let member : P := seq (skip 6) attributes
          (seq (skip 6) (seq (tbl2 (skip 2)) (seq (tbl2 member) (seq (tbl2 member) attributes))) r3) == some []
  | none => false

end Walk

end JvmsRaw
