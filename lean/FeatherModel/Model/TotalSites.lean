import FeatherModel.Model.TotalBase

/-!
# C16 — the audit as data: every operation of the parsers that can panic, overflow the stack or allocate from a size
taken from the input

Audited files (tree as of the `fix:` commits, see `known_findings.json`): `duke/src/lib.rs` (`ClassRead`),
`duke/src/class_reader.rs`, `class_reader/{pool,labels}.rs`, `duke/src/jstring.rs`, `duke/src/tree/descriptor.rs`,
`duke/src/tree/mod.rs` (`names`), `duke/src/simple_class_writer.rs`, `simple_class_writer/{pool,labels}.rs`,
`quill/src/{lines,tiny_v2,tiny_v2_diff,enigma_file}.rs`, `quill/src/tree/mod.rs`, `dukenest/src/io.rs`.

`status`:
* `open_`    — reachable from input on the audited tree; no entry has this status (`Thm.C16.open_sites`);
* `guarded`  — an unchecked operation that a preceding test makes safe; the model keeps it as a checked operation and
               the theorems prove it never fires;
* `bounded`  — an allocation whose size comes from the input but is bounded by a 16-bit count or by the bytes
               actually present;
* `fixed`    — was open, repaired by a `fix:` commit (40, 41: `52b8362`; 1–9: the commits named in the entry); a
               regression theorem in `Thm/C16.lean` and a request line in `corpus/regress/C16.txt`, replayed on every run.

`needle` is a piece of the source line: the harness maps a panic location to a site by reading that line, so the ids
survive line drift; `line` is informational.
-/

namespace Total.Sites

inductive Status where
  | open_ | guarded | bounded | fixed
  deriving DecidableEq, Repr, Inhabited

structure Info where
  id : Nat
  file : String
  line : Nat
  needle : String
  what : String
  guard : String
  status : Status
  deriving Repr, Inhabited

/-! ids used by the models -/
def labelsRange : Nat := 1
def labelsMaxId : Nat := 2
def frameOffset : Nat := 3
def stackDynamic : Nat := 4
def stackElementValue : Nat := 5
def allocU32 : Nat := 6
def argSizeWide : Nat := 7
def argSizeOne : Nat := 8
def writerIfWide : Nat := 9
def stackEnigmaClass : Nat := 10
def sliceCode : Nat := 20
def iloadSub : Nat := 21
def iloadAdd : Nat := 22
def iloadUnreachable : Nat := 23
def istoreSub : Nat := 24
def istoreAdd : Nat := 25
def istoreUnreachable : Nat := 26
def frameSub64 : Nat := 27
def frameChop : Nat := 28
def frameAppend : Nat := 29
def alignUnreachable : Nat := 30
def popFrontUnreachable : Nat := 31
def typePathUnreachable : Nat := 32
def capTableSwitch : Nat := 33
def capLookupSwitch : Nat := 34
def sliceTinyLine : Nat := 35
def sliceEnigmaLine : Nat := 36
def arrayDimension : Nat := 37
def descriptorWriteAssert : Nat := 38
def writerRangeSub : Nat := 39
def truncatedInsn : Nat := 40
def tableSwitchRange : Nat := 41
def writerTableSwitchCount : Nat := 42

def table : List Info := [
  -- 1–9: found open by this audit, all since repaired; 10: bounded, not exhibited
  ⟨1, "duke/src/class_reader/labels.rs", 59, "start_pc + length",
    "`start_pc + length` in u16 (LocalVariableTable, LocalVariableTypeTable, localvar/resource type-annotation targets)",
    "was open (no guard); fixed by e3534dd: `start_pc.checked_add(length)` is an error now", .fixed⟩,
  ⟨2, "duke/src/class_reader/labels.rs", 24, "self.max_id += 1",
    "label id counter in u16: the 65536th distinct label (code_length = 65535, every pc 0..=65535 labelled)",
    "was open (no guard); fixed by 4853513: the counter is a `u32`, ids `0..=65535` fit the label", .fixed⟩,
  ⟨3, "duke/src/class_reader.rs", 728, "offset += offset_delta",
    "StackMapTable: `offset_delta + 1` and `offset += …` in u16",
    "was open (no guard); fixed by 6b80d4b: `checked_add` twice, an error now", .fixed⟩,
  ⟨4, "duke/src/class_reader/pool.rs", 221, "pool.get_loadable(argument, bootstrap_methods)",
    "unbounded recursion: a Dynamic constant reachable from its own bootstrap arguments (also pool.rs:248 for InvokeDynamic); " ++
    "acyclic argument DAGs are expanded into trees of exponential size",
    "was open (no guard); fixed by cb2ce34: `get_loadable_at_depth` bails at depth > 16 (the expansion of acyclic DAGs into trees remains, bounded by fanout^16)", .fixed⟩,
  ⟨5, "duke/src/class_reader.rs", 1417, "let inner = read_element_values",
    "recursion depth = element_value nesting depth = |input| / 3 (`[` arrays) or / 7 (`@` annotations); lines 1329, 1334, 1411, 1416; " ++
    "the stack of the main thread ends between 5 000 and 20 000 levels",
    "was open (no guard); fixed by 835fdd2: `read_element_values_*` bail at depth > 255", .fixed⟩,
  ⟨6, "duke/src/lib.rs", 141, "std::vec::from_elem(0, size)",
    "`read_u8_vec(length as usize)` with the u32 `attribute_length` of SourceDebugExtension and of every unknown attribute " ++
    "(class_reader.rs:160, 250, 342, 459, 839, 1237): up to 4 GiB requested before a single byte is read",
    "was open (no guard); fixed by 8349742: `take(size).read_to_end`, the buffer grows only with bytes present", .fixed⟩,
  ⟨7, "duke/src/tree/descriptor.rs", 354, "size += 2",
    "`get_arguments_size` counts in u8; reached from the writer (simple_class_writer.rs:998, invokeinterface) on any descriptor the reader accepted",
    "was open (no guard); fixed by cf30e8c: `checked_add`, an error now", .fixed⟩,
  ⟨8, "duke/src/tree/descriptor.rs", 367, "size += 1",
    "same counter, one-slot arguments", "was open (no guard); fixed by cf30e8c: `checked_add`, an error now", .fixed⟩,
  ⟨9, "duke/src/simple_class_writer.rs", 470, "compute_signed_offset(opcode_pos + 1 + 2, target)",
    "`opcode_pos + 1 + 2` in u16 when a far backward `if` sits at opcode_pos >= 65533 (a 65535-byte method grows when `ldc` becomes `ldc_w`)",
    "was open (`opcode_pos <= 65535` only); fixed by 136eeb3: `opcode_pos.checked_add(1 + 2)` is an error now", .fixed⟩,
  ⟨10, "quill/src/enigma_file.rs", 120, "CLASS => parse_class(mappings, iter, line, Some",
    "recursion depth = indentation depth of nested CLASS lines (needs d lines with 0..d-1 tabs: |input| >= d*(d+11)/2, so depth <= sqrt(2|input|))",
    "none; sub-linear in the input, not exhibited (would need tens of MiB)", .bounded⟩,
  -- guarded: modelled as checked operations, proved silent
  ⟨20, "duke/src/class_reader.rs", 853, "r.get_ref()[(r.position() as usize)..]",
    "slice from the cursor position in the second pass", "the second pass only `read_exact`s: position <= len", .guarded⟩,
  ⟨21, "duke/src/class_reader.rs", 886, "opcode - opcode::ILOAD_0", "u8 subtraction", "match arm 0x1a..=0x2d", .guarded⟩,
  ⟨22, "duke/src/class_reader.rs", 888, "opcode::ILOAD + (shifted >> 2)", "u8 addition", "shifted <= 19", .guarded⟩,
  ⟨23, "duke/src/class_reader.rs", 898, "_ => unreachable!()", "iload_n family", "21 + shifted/4 in 21..=25", .guarded⟩,
  ⟨24, "duke/src/class_reader.rs", 915, "opcode - opcode::ISTORE_0", "u8 subtraction", "match arm 0x3b..=0x4e", .guarded⟩,
  ⟨25, "duke/src/class_reader.rs", 917, "opcode::ISTORE + (shifted >> 2)", "u8 addition", "shifted <= 19", .guarded⟩,
  ⟨26, "duke/src/class_reader.rs", 927, "_ => unreachable!()", "istore_n family", "54 + shifted/4 in 54..=58", .guarded⟩,
  ⟨27, "duke/src/class_reader.rs", 690, "(frame_type - 64) as u16", "u8 subtraction", "match arm 64..=127", .guarded⟩,
  ⟨28, "duke/src/class_reader.rs", 698, "251 - frame_type", "u8 subtraction", "match arm 248..=250", .guarded⟩,
  ⟨29, "duke/src/class_reader.rs", 703, "frame_type - 251", "u8 subtraction", "match arm 252..=254", .guarded⟩,
  ⟨30, "duke/src/class_reader.rs", 510, "_ => unreachable!()", "align_to_4_byte_boundary", "`x & 0b11 < 4`", .guarded⟩,
  ⟨31, "duke/src/class_reader.rs", 1146, "checked that it's Some above", "pop_front after front().is_some_and(..)",
    "same deque, no mutation in between (not modelled: frames do not influence the outcome)", .guarded⟩,
  ⟨32, "duke/src/class_reader.rs", 1596, "_ => unreachable!()", "type_path kind", "outer arm 0..=2", .guarded⟩,
  ⟨33, "duke/src/class_reader.rs", 1037, "let mut table = Vec::with_capacity(n as usize)",
    "allocation of `high - low + 1` (< 2^31) labels in the second pass",
    "the first pass read all n offsets from the same bytes: 4n <= code_length", .guarded⟩,
  ⟨34, "duke/src/class_reader.rs", 1054, "let mut pairs = Vec::with_capacity(n as usize)",
    "allocation of `npairs` (< 2^31) pairs in the second pass", "the first pass read all n pairs: 8n <= code_length", .guarded⟩,
  ⟨35, "quill/src/lines.rs", 86, "let line = &line[idents..]",
    "byte-offset slice of a `str` at the number of leading TAB *characters*", "TAB is one byte: the offset is a char boundary <= len", .guarded⟩,
  ⟨36, "quill/src/enigma_file.rs", 245, "let line = &line[idents..]", "same in EnigmaLine::new", "same", .guarded⟩,
  ⟨37, "duke/src/tree/descriptor.rs", 101, "array_dimension += 1", "u8 counter of `[`", "`if array_dimension == 255 { bail! }` before", .guarded⟩,
  ⟨38, "duke/src/tree/descriptor.rs", 180, "assert!(!class_name.as_inner().starts_with('['))",
    "descriptor printer (also line 199)", "since d22331d `ObjClassName::try_from` rejects a leading `[` (C18)", .guarded⟩,
  ⟨39, "duke/src/simple_class_writer/labels.rs", 41, "Ok((start, end - start))",
    "u16 subtraction of label positions in the writer", "on reader output `end = start + length` and the writer keeps instruction order (not modelled here: C02)", .guarded⟩,
  ⟨42, "duke/src/simple_class_writer.rs", 928, "(high - low + 1) as usize",
    "i32 arithmetic in the writer", "on reader output `high - low + 1 = table.len() <= 16383` (not modelled here: C02)", .guarded⟩,
  ⟨50, "duke/src/lib.rs", 115, "Vec::with_capacity(size)",
    "`read_vec`: the size is a u16 (u8 for MethodParameters, <= 3 for append frames) everywhere it is called",
    "<= 65535 elements per request; a request is outstanding only while its elements are being read", .bounded⟩,
  ⟨51, "duke/src/class_reader.rs", 539, "read_u8_vec(code_length as usize)", "bytecode buffer", "1 <= code_length <= 65535 tested before", .bounded⟩,
  ⟨52, "duke/src/class_reader/labels.rs", 16, "HashMap::with_capacity(code_length as usize / 3)", "label table", "<= 21845", .bounded⟩,
  ⟨53, "duke/src/class_reader.rs", 685, "VecDeque::with_capacity(number_of_entries)", "StackMapTable (742: StackMap)", "u16", .bounded⟩,
  ⟨54, "duke/src/class_reader/pool.rs", 300, "reader.read_u8_vec(length)", "Utf8 constant", "u16 length", .bounded⟩,
  ⟨40, "duke/src/class_reader.rs", 655, "the last instruction extends past",
    "was: `&bytecode[pos..]` with pos > len after `Cursor::seek` past the end (truncated last instruction)",
    "now: first pass ends with `position != len => bail!`", .fixed⟩,
  ⟨41, "duke/src/class_reader.rs", 623, "checked_sub(low)",
    "was: `high - low + 1` overflowing i32 (tableswitch low = i32::MIN, high = i32::MAX); also line 1033",
    "now: `checked_sub` / `checked_add`", .fixed⟩
]

def openIds : List Nat := (table.filter (·.status == .open_)).map (·.id)

/-- how the harness reports a site: the three stack sites are indistinguishable from outside (`panic stack`) -/
def report (s : Nat) : String :=
  if s == stackDynamic || s == stackElementValue || s == stackEnigmaClass then "stack"
  else if s == allocU32 then "alloc"
  else "S" ++ toString s

end Total.Sites
