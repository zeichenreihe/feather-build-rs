import FeatherModel.Base.Sexp

/-!
# Descriptors and name predicates (C18)

Model of `duke/src/tree/descriptor.rs` (`read_field_type`, `write_field_type`, the three `parse`s, the three
`write`s, `get_arguments_size`, `FieldDescriptor::from_class`), of `duke/src/tree/mod.rs` `mod names` and of the
checked newtypes built on it (`ClassName`, `ArrClassName`, `ObjClassName`, `FieldName`, `MethodName`, `ParameterName`,
`LocalVariableName`; the unchecked `FieldDescriptor` / `MethodDescriptor` / `ReturnDescriptor`),
`ArrClassNameSlice::dimension`, `ObjClassNameSlice::get_simple_name`.

Strings are `JStr = List Nat` (code points).  Every error of the Rust code is `none` (the correspondence prints
`err e`); the two places where the Rust code can *panic* are modelled explicitly:

* `write_field_type` contains `assert!(!class_name.starts_with('['))` in the `Type::Object` and in the
  `ArrayType::Object` arm.  `Type::Object` holds an `ObjClassName`, whose validity excludes a leading `[`, and
  `ObjClassName::from_inner_unchecked` is `unsafe`: that arm's assert is **not** reachable through safe API.
  `ArrayType::Object` holds a `ClassName`, and `ClassName::try_from("[I")` succeeds (array class names are class names),
  so `ParsedFieldDescriptor(Type::Array(1, ArrayType::Object("[I"))).write()` panics through safe API: `printTy` returns
  `none` there (theorem `print_assert_witness` in `Thm/C18.lean`).
* `get_arguments_size` accumulates in a `u8` with `checked_add` (an error above 255, cf30e8c; `ArgRes.overflow` stands for
  the panic of an overflow-checked build and is produced by no function of the model); `ArrClassNameSlice::dimension` casts the count `as u8` and `assert_ne!(dimension, 0)`
  (`dimension = none`; unreachable for a valid `ArrClassName` since b182f7d, theorem `dimension_total`).
-/

namespace Descriptor

/-! ## characters -/
def cB : Nat := 66
def cC : Nat := 67
def cD : Nat := 68
def cF : Nat := 70
def cI : Nat := 73
def cJ : Nat := 74
def cL : Nat := 76
def cS : Nat := 83
def cV : Nat := 86
def cZ : Nat := 90
def LBRACKET : Nat := 91
def LPAREN : Nat := 40
def RPAREN : Nat := 41
def SEMI : Nat := 59
def SLASH : Nat := 47
def DOT : Nat := 46
def cLT : Nat := 60
def cGT : Nat := 62

/-! ## types: mirror of `Type` / `ArrayType` -/

inductive Prim where
  | B | C | D | F | I | J | S | Z
  deriving DecidableEq, Repr, Inhabited

/-- `ArrayType`: a primitive or `ArrayType::Object(ClassName)`; also the payload shared with `Type` -/
inductive Base where
  | prim (p : Prim)
  | obj (name : JStr)
  deriving DecidableEq, Repr, Inhabited

/-- `Type`: `B … Z`, `Object(ObjClassName)`, `Array(u8, ArrayType)`.  As in Rust, `arr 0 b` is a value different from
the non-array type (and printed like it). -/
inductive Ty where
  | prim (p : Prim)
  | obj (name : JStr)
  | arr (dims : Nat) (b : Base)
  deriving DecidableEq, Repr, Inhabited

def Prim.char : Prim → Nat
  | .B => cB | .C => cC | .D => cD | .F => cF | .I => cI | .J => cJ | .S => cS | .Z => cZ

def primOf (c : Nat) : Option Prim :=
  if c = cB then some .B else if c = cC then some .C else if c = cD then some .D else if c = cF then some .F
  else if c = cI then some .I else if c = cJ then some .J else if c = cS then some .S else if c = cZ then some .Z
  else none

/-! ## `mod names` -/

/-- `JavaStr::split(c)`: always at least one piece -/
def splitOn (c : Nat) : JStr → List JStr
  | [] => [[]]
  | x :: xs =>
    if x = c then [] :: splitOn c xs
    else match splitOn c xs with
      | [] => [[x]]   -- unreachable
      | p :: ps => (x :: p) :: ps

def startsWithBracket (s : JStr) : Bool := s.head? == some LBRACKET

/-- `is_valid_unqualified_name` (field, parameter, local variable names) -/
def validUnqualified (s : JStr) : Bool :=
  !s.isEmpty && s.all (fun c => !(c == DOT || c == SEMI || c == LBRACKET || c == SLASH))

/-- `is_valid_method_name` -/
def validMethod (s : JStr) : Bool :=
  s == jstr "<init>" || s == jstr "<clinit>" ||
    (!s.isEmpty && s.all (fun c => !(c == DOT || c == SEMI || c == LBRACKET || c == SLASH || c == cLT || c == cGT)))

/-- `is_valid_obj_class_name` -/
def validObj (s : JStr) : Bool :=
  !startsWithBracket s && (splitOn SLASH s).all validUnqualified

/-- `FieldDescriptor::check_valid`, `MethodDescriptor::check_valid`, `ReturnDescriptor::check_valid`: `Ok(())` with
a `TODO: parse the desc and fail if invalid`; the descriptor newtypes accept every string, validation happens in
`parse()` only -/
def validDescriptorNewtype (_ : JStr) : Bool := true

/-- `ArrClassNameSlice::dimension`: `take_while(== '[').count() as u8`, then `assert_ne!(dimension, 0)`; `none` = panic -/
def countBrackets : JStr → Nat
  | [] => 0
  | c :: rest => if c = LBRACKET then countBrackets rest + 1 else 0

def dimension (s : JStr) : Option Nat :=
  let d := countBrackets s % 256
  if d = 0 then none else some d

/-- `str::rsplit_once('/')` then the part after it, or everything: `ObjClassNameSlice::get_simple_name` -/
def simpleName : JStr → JStr
  | [] => []
  | x :: xs => if SLASH ∈ xs then simpleName xs else if x = SLASH then xs else x :: xs

/-! ## reading -/

/-- the `while chars.next_if_eq(&'[')` loop of `read_field_type` with its 255 cap -/
def readBrackets : Nat → JStr → Option (Nat × JStr)
  | n, [] => some (n, [])
  | n, c :: rest =>
    if c = LBRACKET then (if n = 255 then none else readBrackets (n + 1) rest)
    else some (n, c :: rest)

/-- the `while char != ';'` loop: the characters before the first `;` and the rest after it -/
def readName : JStr → Option (JStr × JStr)
  | [] => none
  | c :: rest =>
    if c = SEMI then some ([], rest)
    else match readName rest with
      | some (n, r) => some (c :: n, r)
      | none => none

/-- the `match char` of `read_field_type` (identical in both branches up to the constructor) -/
def readBase : JStr → Option (Base × JStr)
  | [] => none
  | c :: rest =>
    match primOf c with
    | some p => some (.prim p, rest)
    | none =>
      if c = cL then
        match readName rest with
        | some (n, r) => if validObj n then some (.obj n, r) else none
        | none => none
      else none

def mkTy : Nat → Base → Ty
  | 0, .prim p => .prim p
  | 0, .obj n => .obj n
  | d + 1, b => .arr (d + 1) b

/-- `read_field_type`: the type and the unconsumed rest -/
def readFieldType (s : JStr) : Option (Ty × JStr) :=
  match readBrackets 0 s with
  | none => none
  | some (d, r) =>
    match readBase r with
    | none => none
    | some (b, r') => some (mkTy d b, r')

/-- `FieldDescriptorSlice::parse` -/
def parseField (s : JStr) : Option Ty :=
  match readFieldType s with
  | some (t, []) => some t
  | _ => none

/-- `is_valid_arr_class_name` (since b182f7d): starts with `[` and `FieldDescriptorSlice::parse` accepts it
(`<&FieldDescriptorSlice>::try_from` never fails, `validDescriptorNewtype`) -/
def validArr (s : JStr) : Bool := startsWithBracket s && (parseField s).isSome

/-- `is_valid_class_name`: the array check for `[`-prefixed strings, otherwise `/`-separated unqualified names -/
def validClass (s : JStr) : Bool :=
  if startsWithBracket s then validArr s else (splitOn SLASH s).all validUnqualified

/-- `read_field_type` or the `V` shortcut, shared by return and method descriptors -/
def readReturn (s : JStr) : Option (Option Ty × JStr) :=
  match s with
  | c :: rest =>
    if c = cV then some (none, rest)
    else match readFieldType s with
      | some (t, r) => some (some t, r)
      | none => none
  | [] => none

/-- `ReturnDescriptorSlice::parse` -/
def parseReturn (s : JStr) : Option (Option Ty) :=
  match readReturn s with
  | some (t, []) => some t
  | _ => none

/-- the parameter `loop` of `MethodDescriptorSlice::parse`.  Every iteration consumes at least one character, so
`fuel = s.length` suffices (`readParams_fuel` in `Lemmas/DescriptorParse.lean`). -/
def readParams : Nat → JStr → Option (List Ty × JStr)
  | _, [] => none       -- read_field_type fails at the end of input
  | fuel, c :: rest =>
    if c = RPAREN then some ([], rest)
    else match fuel with
      | 0 => none
      | fuel + 1 =>
        match readFieldType (c :: rest) with
        | none => none
        | some (t, r) =>
          match readParams fuel r with
          | none => none
          | some (ts, r') => some (t :: ts, r')

/-- `MethodDescriptorSlice::parse` -/
def parseMethod (s : JStr) : Option (List Ty × Option Ty) :=
  match s with
  | c :: rest =>
    if c = LPAREN then
      match readParams rest.length rest with
      | none => none
      | some (ps, r) =>
        match readReturn r with
        | some (rt, []) => some (ps, rt)
        | _ => none
    else none
  | [] => none

/-! ## writing -/

def printBase : Base → Option JStr
  | .prim p => some [p.char]
  | .obj n => if startsWithBracket n then none else some (cL :: n ++ [SEMI])

/-- `write_field_type`; `none` = the `assert!` fires -/
def printTy : Ty → Option JStr
  | .prim p => some [p.char]
  | .obj n => if startsWithBracket n then none else some (cL :: n ++ [SEMI])
  | .arr d b =>
    match printBase b with
    | some s => some (List.replicate d LBRACKET ++ s)
    | none => none

def printTys : List Ty → Option JStr
  | [] => some []
  | t :: ts =>
    match printTy t, printTys ts with
    | some a, some b => some (a ++ b)
    | _, _ => none

/-- `ParsedReturnDescriptor::write` -/
def printReturn : Option Ty → Option JStr
  | none => some [cV]
  | some t => printTy t

/-- `ParsedMethodDescriptor::write` -/
def printMethod (ps : List Ty) (rt : Option Ty) : Option JStr :=
  match printTys ps, printReturn rt with
  | some a, some b => some (LPAREN :: a ++ RPAREN :: b)
  | _, _ => none

/-- `FieldDescriptor::from_class` = `from_arr_class` / `from_obj_class` -/
def fromClass (n : JStr) : JStr :=
  if startsWithBracket n then n else cL :: n ++ [SEMI]

/-! ## `get_arguments_size` -/

inductive ArgRes where
  | ok (n : Nat)
  | err
  | overflow
  deriving DecidableEq, Repr, Inhabited

def skipBrackets : JStr → JStr
  | [] => []
  | c :: rest => if c = LBRACKET then skipBrackets rest else c :: rest

/-- the loop of `get_arguments_size`; `size` is a `u8`, additions are `checked_add` (cf30e8c): an error above 255 -/
def argsLoop : Nat → Nat → JStr → ArgRes
  | _, _, [] => .err
  | fuel, size, c :: rest =>
    if c = RPAREN then .ok size
    else match fuel with
      | 0 => .err
      | fuel + 1 =>
        if c = cD ∨ c = cJ then
          (if size + 2 > 255 then .err else argsLoop fuel (size + 2) rest)
        else
          match skipBrackets (c :: rest) with
          | [] => .err
          | x :: r =>
            if x = cL then
              match readName r with
              | none => .err
              | some (_, r') => if size + 1 > 255 then .err else argsLoop fuel (size + 1) r'
            else if size + 1 > 255 then .err else argsLoop fuel (size + 1) r

/-- `MethodDescriptorSlice::get_arguments_size` (counts the implicit `this`; ignores the return descriptor) -/
def argsSize (s : JStr) : ArgRes :=
  match s with
  | c :: rest => if c = LPAREN then argsLoop rest.length 1 rest else .err
  | [] => .err

/-- what the property says a parameter occupies -/
def Ty.slots : Ty → Nat
  | .prim .J => 2
  | .prim .D => 2
  | _ => 1

def slotsSum : List Ty → Nat
  | [] => 0
  | t :: ts => t.slots + slotsSum ts

/-! ## well-formed values (what safe Rust can construct and the parser can produce) -/

def Base.wf : Base → Bool
  | .prim _ => true
  | .obj n => validObj n

def Ty.wf : Ty → Bool
  | .prim _ => true
  | .obj n => validObj n
  | .arr d b => 1 ≤ d && d ≤ 255 && b.wf

end Descriptor
