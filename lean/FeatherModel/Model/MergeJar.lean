import FeatherModel.Base.Sexp

/-!
# Model of `dukebox/src/merge.rs` (client/server jar merge)

Mirrors the code as it is (after the commits "merge_preserve_order advances the server cursor and tests membership
in the client list" and "jar merge reports classes that cannot be merged as an error instead of panicking"):

* `mergePreserveOrder` — the three nested `while`s of `merge_preserve_order`, literally: an outer loop (fuel
  `|a|+|b|+1`, never exhausted: `Thm.C13.mpo_fuel`) whose body runs the three inner loops to completion one after the
  other, the `no_change` break and the stall tail `a_rest ++ b_rest.filter (∉ a)`;
* `mergeSlice` — keyed member merge (`IndexMap`s built by `collect`: duplicate keys, last one wins);
* `mergeClass` — `class_merger_merge` on the modelled part of a class (version, access, name, super, interfaces, fields,
  methods, deprecated/synthetic, InnerClasses, one client-side payload standing for "everything taken from the client",
  visible / invisible annotations). `merge_eq`, `merge_from_client` and the InnerClasses closure `bail!` (outcome `err`);
  the only panic site modelled is the `unreachable!()` arm of `merge_slice` (outcome `Outcome.panic`, never taken:
  `Thm.C13.merge_class_no_panic`, `Thm.C13.merge_jar_no_panic`); the four `unreachable!()` arms of the loop that builds
  `keys` in `merge` are excluded by the uniqueness of entry names (see `combine`);
* `mergeJar` — the entry table `Client | Server | Both` × manifest / signature files / bundled server libraries /
  class equal-bytes passthrough vs merged / other / dir / type mismatch, in `IndexMap` insertion order.

Not modelled: `permitted_subclasses`, `record_components` (dropped by the code), type annotations, module data, unknown
attributes (all taken from the client — represented by `payload`), zip I/O, file attributes beyond one number.
Equality of written class bytes is modelled as equality of the class descriptions (the class writer is assumed
deterministic and injective on the modelled part; exercised by the correspondence through the real writer).
-/

namespace MergeJar

/-! ## Outcome: ok / clean error / panic -/

inductive Outcome (α : Type) where
  | ok (a : α)
  | err
  | panic (site : String)
  deriving Repr

namespace Outcome
def bind {α β : Type} : Outcome α → (α → Outcome β) → Outcome β
  | ok a, f => f a
  | err, _ => err
  | panic s, _ => panic s

instance : Monad Outcome where
  pure := Outcome.ok
  bind := Outcome.bind

/-- `iter.map(f).collect::<Result<Vec<_>>>()`: left to right, stops at the first failure -/
def mapM' {α β : Type} (f : α → Outcome β) : List α → Outcome (List β)
  | [] => ok []
  | x :: xs =>
    match f x with
    | ok y =>
      match mapM' f xs with
      | ok ys => ok (y :: ys)
      | err => err
      | panic s => panic s
    | err => err
    | panic s => panic s
end Outcome

open Outcome

/-! ## merge_preserve_order -/

section MPO
variable {α : Type} [BEq α]

/-- first inner loop: while both cursors show equal elements take the client's and advance both.
Result: (pushed, rest of a, rest of b) -/
def loop1 : List α → List α → List α × List α × List α
  | x :: ra, y :: rb =>
    if y == x then
      let r := loop1 ra rb
      (x :: r.1, r.2.1, r.2.2)
    else ([], x :: ra, y :: rb)
  | ra, rb => ([], ra, rb)

/-- what is appended after the outer loop: `r.extend(ai); r.extend(bi.filter(|x| !a.contains(x)))` -/
def mpoTail (a ra rb : List α) : List α := ra ++ rb.filter (fun y => !a.contains y)

/-- outer `while`; `a b` are the complete slices (used by `contains`), `ra rb` the two cursors -/
def mpoLoop (a b : List α) : Nat → List α → List α → List α
  | 0, ra, rb => mpoTail a ra rb
  | fuel + 1, ra, rb =>
    if ra.isEmpty && rb.isEmpty then mpoTail a ra rb else
    let r1 := loop1 ra rb
    -- second inner loop: client elements the server does not have at all
    let p2 := r1.2.1.takeWhile (fun x => !b.contains x)
    let ra2 := r1.2.1.dropWhile (fun x => !b.contains x)
    -- third inner loop: server elements the client does not have at all
    let p3 := r1.2.2.takeWhile (fun y => !a.contains y)
    let rb3 := r1.2.2.dropWhile (fun y => !a.contains y)
    if r1.1.isEmpty && p2.isEmpty && p3.isEmpty then mpoTail a ra2 rb3   -- `no_change`: break
    else r1.1 ++ (p2 ++ (p3 ++ mpoLoop a b fuel ra2 rb3))

def mergePreserveOrder (a b : List α) : List α := mpoLoop a b (a.length + b.length + 1) a b

/-- the common elements appear in the same relative order in both lists -/
def compatibleB (a b : List α) : Bool := a.filter (fun x => b.contains x) == b.filter (fun y => a.contains y)

def nodupB : List α → Bool
  | [] => true
  | x :: xs => !xs.contains x && nodupB xs

end MPO

/-! ## class descriptions -/

inductive Side where
  | client | server
  deriving DecidableEq, Repr

inductive Ann where
  /-- `@Environment(EnvType.X)` exactly as `sided_annotation` builds it -/
  | env (s : Side)
  /-- `@EnvironmentInterfaces({@EnvironmentInterface(value = X, itf = I.class), …})` -/
  | envItfs (marks : List (Side × JStr))
  /-- any other annotation (identified by a number) -/
  | other (n : Nat)
  deriving DecidableEq, Repr

/-- a field or a method: key = (name, desc); `anns` = runtime invisible annotations; `payload` = everything else -/
structure Member where
  name : JStr
  desc : JStr
  access : Nat
  deprecated : Bool
  synthetic : Bool
  payload : Nat
  anns : List Ann
  deriving DecidableEq, Repr

structure Inner where
  name : JStr
  flags : Nat
  deriving DecidableEq, Repr

structure Class where
  version : Nat
  access : Nat
  name : JStr
  super : Option JStr
  interfaces : List JStr
  fields : List Member
  methods : List Member
  deprecated : Bool
  synthetic : Bool
  /-- `inner_classes`: `None` ≙ `[]` -/
  inners : List Inner
  /-- stands for all parts the merge copies from the client (source file, signature, …) -/
  payload : Nat
  visAnns : List Ann
  invisAnns : List Ann
  deriving DecidableEq, Repr

/-! ## merge_slice -/

section Slice
variable {T K : Type} [BEq K]

/-- `IndexMap::insert`: replace in place or append -/
def upsert (k : K) (v : T) : List (K × T) → List (K × T)
  | [] => [(k, v)]
  | (k', v') :: rest => if k' == k then (k', v) :: rest else (k', v') :: upsert k v rest

/-- `iter.map(|i| (key(i), i)).collect::<IndexMap<_,_>>()` -/
def collect (key : T → K) (xs : List T) : List (K × T) := xs.foldl (fun m x => upsert (key x) x m) []

def get (k : K) : List (K × T) → Option T
  | [] => none
  | (k', v) :: rest => if k' == k then some v else get k rest

def mergeSlice [BEq T] (key : T → K) (side : T → Side → Outcome T) (inner : T → T → Outcome T)
    (client server : List T) : Outcome (List T) :=
  let lc := client.map key
  let ls := server.map key
  let c := collect key client
  let s := collect key server
  Outcome.mapM' (fun i =>
    match get i c, get i s with
    | some ec, some es => if ec == es then ok ec else inner ec es
    | some ec, none => side ec Side.client
    | none, some es => side es Side.server
    | none, none => Outcome.panic "unreachable") (mergePreserveOrder lc ls)

end Slice

def mergeEq {α : Type} [BEq α] (c s : α) : Outcome α := if c != s then err else ok c
/-- since 9bfd462 the same as `merge_eq` (`bail!` instead of `assert_eq!`) -/
def mergeFromClient {α : Type} [BEq α] (c s : α) : Outcome α := if c != s then err else ok c

def memberKey (m : Member) : JStr × JStr := (m.name, m.desc)

def sideMember (m : Member) (s : Side) : Outcome Member := ok { m with anns := m.anns ++ [Ann.env s] }

/-- the `inner` closure for fields and methods: everything from the client; deprecated/synthetic must be equal (else `Err`) -/
def innerMember (c s : Member) : Outcome Member := do
  let name ← mergeEq c.name s.name
  let desc ← mergeEq c.desc s.desc
  let dep ← mergeFromClient c.deprecated s.deprecated
  let syn ← mergeFromClient c.synthetic s.synthetic
  pure { c with access := c.access, name := name, desc := desc, deprecated := dep, synthetic := syn }

def mergeMembers (c s : List Member) : Outcome (List Member) := mergeSlice memberKey sideMember innerMember c s

def mergeInners (c s : List Inner) : Outcome (List Inner) :=
  mergeSlice (fun i => i.name) (fun i _ => ok i) (fun _ _ => err) c s

/-- interfaces of the merged list that only the given side has -/
def onlyClient (c s : Class) (itfs : List JStr) : List JStr :=
  itfs.filter (fun i => c.interfaces.contains i && !s.interfaces.contains i)
def onlyServer (c s : Class) (itfs : List JStr) : List JStr :=
  itfs.filter (fun i => !c.interfaces.contains i && s.interfaces.contains i)

def itfMarks (c s : Class) (itfs : List JStr) : List (Side × JStr) :=
  (onlyClient c s itfs).map (fun i => (Side.client, i)) ++ (onlyServer c s itfs).map (fun i => (Side.server, i))

/-- `class_merger_merge`; field initialisers are evaluated in source order -/
def mergeClass (c s : Class) : Outcome Class := do
  let itfs := mergePreserveOrder c.interfaces s.interfaces
  let version ← mergeFromClient c.version s.version
  let access ← mergeFromClient c.access s.access
  let name ← mergeEq c.name s.name
  let super ← mergeEq c.super s.super
  let fields ← mergeMembers c.fields s.fields
  let methods ← mergeMembers c.methods s.methods
  let dep ← mergeFromClient c.deprecated s.deprecated
  let syn ← mergeFromClient c.synthetic s.synthetic
  let inners ← mergeInners c.inners s.inners
  let marks := itfMarks c s itfs
  pure {
    version := version, access := access, name := name, super := super, interfaces := itfs,
    fields := fields, methods := methods, deprecated := dep, synthetic := syn, inners := inners,
    payload := c.payload, visAnns := c.visAnns,
    invisAnns := if marks.isEmpty then c.invisAnns else c.invisAnns ++ [Ann.envItfs marks] }

/-- `visit_sided_annotation` -/
def sidedClass (c : Class) (s : Side) : Class := { c with visAnns := c.visAnns ++ [Ann.env s] }

/-! ## jars -/

inductive ClsRepr where
  | parsed | vec
  deriving DecidableEq, Repr

inductive Content where
  | dir
  | other (data : Bytes)
  | cls (repr : ClsRepr) (c : Class)
  deriving DecidableEq, Repr

structure Entry where
  attr : Nat
  content : Content
  deriving DecidableEq, Repr

/-- a jar: `IndexMap<String, ParsedJarEntry>`; names are duplicate-free (map invariant, enforced by `jarOfList`) -/
abbrev Jar := List (JStr × Entry)

def jarOfList (es : List (JStr × Entry)) : Jar := es.foldl (fun m e => upsert e.1 e.2 m) []

inductive Comb where
  | client (c : Entry)
  | server (s : Entry)
  | both (c s : Entry)
  deriving Repr

/-- the `keys` IndexMap: client names in order (Both when the server has the name too), then the server-only names.
(Closed form of the insertion loop; its `unreachable!()` arms are excluded by the uniqueness of names in a jar.) -/
def combine (client server : Jar) : List (JStr × Comb) :=
  client.map (fun e => (e.1, match get e.1 server with
    | some s => Comb.both e.2 s
    | none => Comb.client e.2))
  ++ (server.filter (fun e => (get e.1 client).isNone)).map (fun e => (e.1, Comb.server e.2))

def MANIFEST : JStr := jstr "META-INF/MANIFEST.MF"
def MANIFEST_BYTES : Bytes := jstr "Manifest-Version: 1.0\nMain-Class: net.minecraft.client.Main\n"
def SLASH : Nat := 47

/-- signature files, dropped from either side -/
def isSig (n : JStr) : Bool :=
  (jstr "META-INF/").isPrefixOf n &&
    ((jstr ".SF").isSuffixOf n || (jstr ".RSA").isSuffixOf n || (jstr ".DSA").isSuffixOf n || (jstr ".EC").isSuffixOf n)

/-- "the libraries the server bundles": decided on the entry name only -/
def isBundled (n : JStr) : Bool :=
  (jstr ".class").isSuffixOf n && !(jstr "net/minecraft/").isPrefixOf n && n.contains SLASH

def oneSided (e : Entry) (s : Side) : Entry :=
  { attr := e.attr,
    content := match e.content with
      | Content.dir => Content.dir
      | Content.cls _ c => Content.cls ClsRepr.parsed (sidedClass c s)
      | Content.other d => Content.other d }

/-- the `(Class(client), Class(server))` arm -/
def mergeClassEntry (rc : ClsRepr) (cc cs : Class) : Outcome Content :=
  if cc == cs then ok (Content.cls rc cc)
  else do
    let m ← mergeClass cc cs
    pure (Content.cls ClsRepr.parsed m)

/-- one iteration of the result loop; `none` = `continue` -/
def mergeEntry (n : JStr) (cmb : Comb) : Outcome (Option Entry) :=
  if n == MANIFEST then
    ok (some { attr := (match cmb with
                | Comb.client c => c.attr
                | Comb.server s => s.attr
                | Comb.both c _ => c.attr),
               content := Content.other MANIFEST_BYTES })
  else if isSig n then ok none
  else match cmb with
    | Comb.client c => ok (some (oneSided c Side.client))
    | Comb.server s => if isBundled n then ok none else ok (some (oneSided s Side.server))
    | Comb.both c s =>
      match c.content, s.content with
      | Content.dir, Content.dir => ok (some { attr := c.attr, content := Content.dir })
      | Content.cls rc cc, Content.cls _ cs => do
        let m ← mergeClassEntry rc cc cs
        pure (some { attr := c.attr, content := m })
      | Content.other dc, Content.other _ => ok (some { attr := c.attr, content := Content.other dc })
      | _, _ => err

def mergeEntries : List (JStr × Comb) → Outcome Jar
  | [] => ok []
  | (n, cmb) :: rest =>
    match mergeEntry n cmb with
    | ok none => mergeEntries rest
    | ok (some e) =>
      match mergeEntries rest with
      | ok r => ok ((n, e) :: r)
      | err => err
      | Outcome.panic s => Outcome.panic s
    | err => err
    | Outcome.panic s => Outcome.panic s

def mergeJar (client server : Jar) : Outcome Jar := mergeEntries (combine client server)

/-! ## decidable domains used by theorems and oracles -/

def keysNodup (ms : List Member) : Bool := nodupB (ms.map memberKey)

/-- no `@Environment` mark on any member yet -/
def noEnv (ms : List Member) : Bool := ms.all (fun m => m.anns.all (fun a => match a with | Ann.env _ => false | _ => true))

/-- shared members agree on the two asserted flags -/
def sharedFlagsOk (c s : List Member) : Bool :=
  c.all (fun mc => s.all (fun ms => memberKey mc != memberKey ms ||
    (mc.deprecated == ms.deprecated && mc.synthetic == ms.synthetic)))

def sharedInnersOk (c s : List Inner) : Bool :=
  c.all (fun ic => s.all (fun is' => ic.name != is'.name || ic == is'))

/-- the domain on which `class_merger_merge` returns `Ok` (`Thm.C13.merge_class_total`, `Thm.C13.merge_class_ok_iff`) -/
def mergeOk (c s : Class) : Bool :=
  c.version == s.version && c.access == s.access && c.name == s.name && c.super == s.super &&
  c.deprecated == s.deprecated && c.synthetic == s.synthetic &&
  keysNodup c.fields && keysNodup s.fields && keysNodup c.methods && keysNodup s.methods &&
  nodupB (c.inners.map (·.name)) && nodupB (s.inners.map (·.name)) &&
  sharedFlagsOk c.fields s.fields && sharedFlagsOk c.methods s.methods && sharedInnersOk c.inners s.inners

end MergeJar
