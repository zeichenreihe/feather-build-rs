import FeatherModel.Model.Remapper

/-!
# `JarSuperProv` and `JarSuperProv::remap` (C06) — `quill/src/remapper.rs`

```rust
pub struct JarSuperProv { pub super_classes: IndexMap<ObjClassName, IndexSet<ObjClassName>> }
pub fn remap(re: &impl ARemapper, prov: &Vec<JarSuperProv>) -> Result<Vec<JarSuperProv>> {
    let mut r = Vec::new();
    for i in prov {
        let mut super_classes = IndexMap::new();
        for (a, b) in &i.super_classes {
            let mut set = IndexSet::new();
            for j in b { set.insert(re.map_class(j)?); }
            super_classes.insert(re.map_class(a)?, set);
        }
        r.push(JarSuperProv { super_classes });
    }
    Ok(r)
}
```

* one provider = an association list in insertion order with unique keys (`IndexMap`), its values duplicate-free lists in
  insertion order (`IndexSet`); `provOf` builds one from rows the way a loop of `insert`s does;
* `remapSupers` = the body of the outer loop for one provider: every row `(a, b)` becomes `(map_class a, {map_class j | j ∈ b})`,
  rows inserted in order — two keys with one image collapse into one row at the position of the first, carrying the super
  types of the **last** (`IndexMap::insert` replaces the value); names the remapper does not know are kept (`map_class`);
* `remapProvs` = the whole function (`map_class` of the A/B remapper implementations never fails, so neither does `remap`);
* `flattenProvs` = `impl SuperClassProvider for Vec<S>`: the first provider that knows the class answers.
-/

namespace Remapper

/-- `IndexSet::insert` -/
def setInsert (acc : List JStr) (x : JStr) : List JStr := if acc.contains x then acc else acc ++ [x]

/-- an `IndexSet` filled by a loop of `insert`s: first occurrences, in order -/
def setOf (xs : List JStr) : List JStr := xs.foldl setInsert []

/-- one `JarSuperProv` from rows inserted in order (`IndexMap::insert`: a key met again keeps its position and takes the
later value) -/
def provOf (rows : List (JStr × List JStr)) : Supers := tableOf (rows.map fun e => (e.1, setOf e.2))

/-- the image of one row under `JarSuperProv::remap` -/
def remapRow (t : ATable) (e : JStr × List JStr) : JStr × List JStr := (mapClass t e.1, setOf (e.2.map (mapClass t)))

/-- `JarSuperProv::remap` on one provider -/
def remapSupers (t : ATable) (s : Supers) : Supers := tableOf (s.map (remapRow t))

/-- `JarSuperProv::remap(re, &Vec<JarSuperProv>)` with `t` the class table of `re` -/
def remapProvs (t : ATable) (ps : List Supers) : List Supers := ps.map (remapSupers t)

/-- `impl SuperClassProvider for Vec<S>`: one first-match table -/
def flattenProvs (ps : List Supers) : Supers := ps.flatten

/-! ## specification vocabulary (theorems and oracles) -/

/-- every class name occurring in the providers (keys and super types) -/
def nodesOf (ps : List Supers) : List JStr := ps.flatMap fun s => s.flatMap fun e => e.1 :: e.2

/-- `f` is injective on the list `N` -/
def injOnList (f : JStr → JStr) (N : List JStr) : Bool := N.all fun a => N.all fun b => !(f a == f b) || a == b

/-- the invariants of a `Vec<JarSuperProv>`: unique keys per provider (`IndexMap`), duplicate-free super types (`IndexSet`) -/
def wfProvs (ps : List Supers) : Bool :=
  ps.all fun s => decide (s.map Prod.fst).Nodup && s.all fun e => decide e.2.Nodup

/-- the key `c` is the last row of `s` among the keys with the same image (the row that survives `insert`) -/
def survives (t : ATable) (s : Supers) (c : JStr) : Bool :=
  match lastMatch (fun e => mapClass t e.1 == mapClass t c) s with
  | some e => e.1 == c
  | none => false

end Remapper
