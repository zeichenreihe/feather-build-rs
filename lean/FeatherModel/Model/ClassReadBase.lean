import FeatherModel.Base.Sexp

/-!
# C01 (reused by C16/C17) — base of the class-file reader model

Mirrors `duke/src/lib.rs` (`trait ClassRead` over `Read + Seek`).

* `Outcome`: `ok` / `err` (every `bail!`, `?` on an I/O error, `try_from` failure; the error text is not modelled) /
  `crash site` (an unchecked Rust operation reachable from input; overflow checks are on).
* The reader state is the *unread suffix* of the input (`Bytes`); `marker()`/`goto()` become "remember a suffix /
  continue from a remembered suffix".  `skip(n)` is `SeekFrom::Current(n)` on a `Cursor`: it may move past the end
  without an error, every later read of >= 1 byte then fails; `List.drop` has exactly this behaviour.
* Integers are `Nat`/`Int`; big endian; `i8/i16/i32/i64` are two's complement reinterpretations.
-/

namespace ClassRead

/-- Sites of unchecked operations of the reader (Rust built with overflow checks).  In the code before e3534dd, 4853513,
6b80d4b and cb2ce34 they were reachable from input; each is an `err` in the modelled reader, which produces no `crash`.
C16 refers to the type and its constructors. -/
inductive Site where
  /-- `labels.rs` `get_or_create_range`: `start_pc + length` in `u16` -/
  | labelsRangeAdd
  /-- `labels.rs` `get_or_add_unchecked`: `self.max_id += 1` in `u16` (the 65536th label) -/
  | labelsMaxId
  /-- `class_reader.rs` StackMapTable: `offset += offset_delta + (if i == 0 {0} else {1})` in `u16` -/
  | frameOffsetAdd
  /-- unbounded recursion (`Dynamic` constant reachable from its own bootstrap arguments): stack exhaustion -/
  | recursion
  deriving DecidableEq, Repr, Inhabited

/-- table "site -> what the harness reports for it" (file of the panic location; line numbers are not compared) -/
def Site.file : Site → String
  | .labelsRangeAdd => "labels"
  | .labelsMaxId => "labels"
  | .frameOffsetAdd => "class_reader"
  | .recursion => "stack"

inductive Outcome (α : Type) where
  | ok (a : α)
  | err
  | crash (s : Site)
  deriving Repr, Inhabited

namespace Outcome

@[inline] def bind {α β : Type} : Outcome α → (α → Outcome β) → Outcome β
  | ok a, f => f a
  | err, _ => err
  | crash s, _ => crash s

instance : Monad Outcome where
  pure := ok
  bind := bind

@[simp] theorem pure_eq {α : Type} (a : α) : (pure a : Outcome α) = ok a := rfl
@[simp] theorem ok_bind {α β : Type} (a : α) (f : α → Outcome β) : (ok a >>= f) = f a := rfl
@[simp] theorem err_bind {α β : Type} (f : α → Outcome β) : ((err : Outcome α) >>= f) = err := rfl
@[simp] theorem crash_bind {α β : Type} (s : Site) (f : α → Outcome β) : ((crash s : Outcome α) >>= f) = crash s := rfl
@[simp] theorem map_ok {α β : Type} (f : α → β) (a : α) : (f <$> (ok a : Outcome α)) = ok (f a) := rfl

/-- `Option` results of pure helper functions: `None`/`Err` becomes `err` -/
def ofOption {α : Type} : Option α → Outcome α
  | some a => ok a
  | none => err

@[simp] theorem ofOption_some {α : Type} (a : α) : ofOption (some a) = ok a := rfl
@[simp] theorem ofOption_none {α : Type} : ofOption (none : Option α) = err := rfl

def isOk {α : Type} : Outcome α → Bool
  | ok _ => true
  | _ => false

end Outcome

open Outcome

/-- a reader: consumes a prefix of the unread bytes -/
abbrev Rd (α : Type) := Bytes → Outcome (α × Bytes)

def u8 : Rd Nat
  | a :: r => ok (a, r)
  | _ => err

def u16 : Rd Nat
  | a :: b :: r => ok (a * 256 + b, r)
  | _ => err

def u32 : Rd Nat
  | a :: b :: c :: d :: r => ok (((a * 256 + b) * 256 + c) * 256 + d, r)
  | _ => err

def u64 : Rd Nat := fun s => do
  let (h, s) ← u32 s
  let (l, s) ← u32 s
  pure (h * 4294967296 + l, s)

def toI8 (n : Nat) : Int := if n < 128 then (n : Int) else (n : Int) - 256
def toI16 (n : Nat) : Int := if n < 32768 then (n : Int) else (n : Int) - 65536
def toI32 (n : Nat) : Int := if n < 2147483648 then (n : Int) else (n : Int) - 4294967296
def toI64 (n : Nat) : Int := if n < 9223372036854775808 then (n : Int) else (n : Int) - 18446744073709551616

def i8 : Rd Int := fun s => do let (n, s) ← u8 s; pure (toI8 n, s)
def i16 : Rd Int := fun s => do let (n, s) ← u16 s; pure (toI16 n, s)
def i32 : Rd Int := fun s => do let (n, s) ← u32 s; pure (toI32 n, s)
def i64 : Rd Int := fun s => do let (n, s) ← u64 s; pure (toI64 n, s)

/-- `n ≤ s.length` without walking further than `n` elements -/
def lengthGe : Bytes → Nat → Bool
  | _, 0 => true
  | [], _ + 1 => false
  | _ :: r, n + 1 => lengthGe r n

/-- `read_u8_vec(n)`: exactly `n` bytes or an error -/
def takeN (n : Nat) : Rd Bytes := fun s =>
  if lengthGe s n then ok (s.take n, s.drop n) else err

/-- `skip(n)`: seek forward, possibly past the end -/
def skipN (n : Nat) : Rd Unit := fun s => ok ((), s.drop n)

/-- `read_vec(size, elem)` once the size is known: `n` elements in order -/
def readVec {α : Type} (elem : Rd α) : Nat → Rd (List α)
  | 0, s => ok ([], s)
  | n + 1, s => do
    let (x, s) ← elem s
    let (xs, s) ← readVec elem n s
    pure (x :: xs, s)

/-- `read_vec(|r| r.read_u16_as_usize(), elem)` -/
def readVec16 {α : Type} (elem : Rd α) : Rd (List α) := fun s => do
  let (n, s) ← u16 s
  readVec elem n s

/-- `read_vec` whose element reader threads a state (the label table) -/
def readVecS {σ α : Type} (elem : σ → Bytes → Outcome (α × σ × Bytes)) : Nat → σ → Bytes → Outcome (List α × σ × Bytes)
  | 0, st, s => ok ([], st, s)
  | n + 1, st, s => do
    let (x, st, s) ← elem st s
    let (xs, st, s) ← readVecS elem n st s
    pure (x :: xs, st, s)

/-- `Option::insert_if_empty` -/
def insertIfEmpty {α : Type} : Option α → α → Outcome (Option α)
  | none, a => ok (some a)
  | some _, _ => err

/-! ## big-endian writers (used by the specification side and by examples) -/

def be8 (n : Nat) : Bytes := [n % 256]
def be16 (n : Nat) : Bytes := [n / 256 % 256, n % 256]
def be32 (n : Nat) : Bytes := [n / 16777216 % 256, n / 65536 % 256, n / 256 % 256, n % 256]
def be64 (n : Nat) : Bytes := be32 (n / 4294967296) ++ be32 (n % 4294967296)

def ofI8 (v : Int) : Nat := (v % 256).toNat
def ofI16 (v : Int) : Nat := (v % 65536).toNat
def ofI32 (v : Int) : Nat := (v % 4294967296).toNat
def ofI64 (v : Int) : Nat := (v % 18446744073709551616).toNat

end ClassRead
