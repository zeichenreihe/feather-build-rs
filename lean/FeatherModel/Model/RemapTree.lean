import FeatherModel.Base.Sexp
import FeatherModel.Base.AListOps
import FeatherModel.Model.Descriptor

/-!
# Model of `dukebox/src/remap.rs` (jar remapping) over the reference skeleton of duke's class tree

`ClassFile`, `Field`, `Method`, `Code`, … below are duke's tree structs reduced to their *reference skeleton*:
every position that carries a class name, a field / method name, a descriptor, a field / method reference, a handle,
a loadable constant, an annotation type or element value, a verification type, an inner-class / enclosing-method /
nest / permitted-subclass / record entry or a signature keeps its own field; everything else of the same struct
(flags, version, instruction operands and labels, constants, line numbers, type-annotation targets, …) is lumped into an
`Opaque` value (`shape`, `op`, …) which `remap` can only copy.

`remap` follows `remap.rs` impl by impl **as it is**, including what it leaves alone:

* `ClassSignature` / `FieldSignature` / `MethodSignature`: returned unchanged (`return Ok(self)` before the `todo!`);
* `InvokeDynamic` / `ConstantDynamic`: `name` copied (`// TODO: remap`); descriptor, handle and arguments remapped;
* `ElementValue::Enum`: the type descriptor is remapped; the constant is renamed through `map_field` on the class the
  descriptor names (`map_enum_const_name`; copied when the descriptor is not that of a class or the constant cannot be
  a field name);
* `ElementValuePair.name` copied (it names a method of the annotation interface);
* `InnerClass.inner_name`: when it is the simple name the class name spells out (`simple_name`: after the last `$` of
  the last `/`-separated part, leading digits skipped) it becomes the simple name the remapped class name spells out, if
  that has a `$`; copied otherwise;
* `Lv.name`, `MethodParameter` copied;
* `RecordComponent`: name and descriptor through `map_field` on the class being remapped (descriptor alone when the name
  cannot be a field name), annotations remapped, signature through the identity impl, attributes copied;
* `Module`: `uses`, `provides` (service and implementations) through `map_class_any`, everything else copied;
  `module_packages` copied, `module_main_class` through `map_class_any`;
* `attributes` (unknown attributes) copied on class, field, method, code and record component.

The remapper is abstract (`Remapper`): the four primitive answers every `BRemapper` gives — `map_class`,
`map_desc` (one function behind `map_field_desc`, `map_method_desc`, `map_return_desc` and array class names),
`map_field`, `map_method` — each possibly failing (`Result`). The derived operations `map_class_any`, `map_field_ref`,
`map_method_ref` are the provided trait methods of `quill::remapper::{ARemapper, BRemapper}` and are modelled here.
All errors are one class (`none`).
-/

namespace RemapTree

abbrev Opaque := Sexp

/-- `Result<Vec<_>>` collection: left to right, fails when one element fails -/
def omapM {α β : Type} (f : α → Option β) : List α → Option (List β)
  | [] => some []
  | x :: xs =>
    match f x with
    | none => none
    | some y =>
      match omapM f xs with
      | none => none
      | some ys => some (y :: ys)

/-- `Option<T>.remap`: `self.map(|x| x.remap(remapper)).transpose()` -/
def ooptM {α β : Type} (f : α → Option β) : Option α → Option (Option β)
  | none => some none
  | some x =>
    match f x with
    | none => none
    | some y => some (some y)

/-! ## The remapper -/

structure Remapper where
  /-- `ARemapper::map_class` on an object class name (falls back to the name itself when unmapped) -/
  mapClass : JStr → Option JStr
  /-- `map_desc` as used by `map_field_desc` / `map_method_desc` / `map_return_desc` / array class names -/
  mapDesc : JStr → Option JStr
  /-- `BRemapper::map_field owner name desc` -/
  mapField : JStr → JStr → JStr → Option (JStr × JStr)
  /-- `BRemapper::map_method owner name desc` -/
  mapMethod : JStr → JStr → JStr → Option (JStr × JStr)

def LBRACK : Nat := 91

/-- `ClassNameSlice::is_array` -/
def isArray (n : JStr) : Bool := n.head? == some LBRACK

/-- `ARemapper::map_class_any` -/
def mapClassAny (r : Remapper) (n : JStr) : Option JStr :=
  if isArray n then r.mapDesc n else r.mapClass n

structure MemberRef where
  cls : JStr
  name : JStr
  desc : JStr
  deriving DecidableEq, Repr

/-- `BRemapper::map_field_ref` (the owner is an object class name) -/
def mapFieldRef (r : Remapper) (f : MemberRef) : Option MemberRef :=
  match r.mapField f.cls f.name f.desc with
  | none => none
  | some (n, d) =>
    match r.mapClass f.cls with
    | none => none
    | some c => some ⟨c, n, d⟩

/-- `BRemapper::map_method_ref`: name and descriptor are left alone when the owner is an array class -/
def mapMethodRef (r : Remapper) (m : MemberRef) : Option MemberRef :=
  match (if isArray m.cls then some (m.name, m.desc) else r.mapMethod m.cls m.name m.desc) with
  | none => none
  | some (n, d) =>
    match mapClassAny r m.cls with
    | none => none
    | some c => some ⟨c, n, d⟩

/-- `FieldName::check_valid` = `is_valid_unqualified_name` (model: `Descriptor.validUnqualified`, C18) -/
def validFieldName (n : JStr) : Bool := Descriptor.validUnqualified n

/-- `let Ok(ParsedFieldDescriptor(Type::Object(enum_class))) = type_name.parse()`: the class a field descriptor names
(model of `FieldDescriptorSlice::parse`: `Descriptor.parseField`, C18) -/
def objectClassOf (t : JStr) : Option JStr :=
  match Descriptor.parseField t with
  | some (.obj k) => some k
  | _ => none

/-- `map_enum_const_name` (nested fn of `impl Mappable for ElementValue`) -/
def mapEnumConstName (r : Remapper) (t c : JStr) : Option JStr :=
  match objectClassOf t with
  | none => some c
  | some k =>
    if validFieldName c then
      match r.mapField k c t with
      | none => none
      | some (n, _) => some n
    else some c

/-! ## The class tree, reduced -/

mutual
  /-- `Annotation { annotation_type: FieldDescriptor, element_value_pairs }` -/
  inductive Annotation where
    | mk (type : JStr) (pairs : List Pair)
  /-- `ElementValuePair { name, value }` -/
  inductive Pair where
    | mk (name : JStr) (value : ElementValue)
  inductive ElementValue where
    | object (o : Opaque)
    | enum (typeName : JStr) (constName : JStr)
    | cls (retDesc : JStr)
    | ann (a : Annotation)
    | array (vs : List ElementValue)
end

/-- `TypeAnnotation<T> { type_reference, type_path, annotation }` -/
structure TypeAnnotation where
  target : Opaque
  annotation : Annotation

/-- `Handle`: the nine variants are four on a `FieldRef` and five on a `MethodRef` (two with an `is_interface` flag);
`kind` is the variant (and the flag) -/
inductive Handle where
  | field (kind : Opaque) (ref : MemberRef)
  | method (kind : Opaque) (ref : MemberRef)

mutual
  inductive Loadable where
    /-- `Integer | Float | Long | Double | String` -/
    | const (o : Opaque)
    | cls (name : JStr)
    | handle (h : Handle)
    | methodType (desc : JStr)
    | dynamic (c : ConstDyn)
  /-- `ConstantDynamic { name, descriptor, handle, arguments }` -/
  inductive ConstDyn where
    | mk (name : JStr) (desc : JStr) (handle : Handle) (args : List Loadable)
end

inductive VType where
  /-- `Top | Integer | Float | Long | Double | Null | UninitializedThis | Uninitialized(label)` -/
  | plain (o : Opaque)
  | object (name : JStr)

inductive Frame where
  /-- `Same | Chop { k }` -/
  | plain (o : Opaque)
  | same1 (stack : VType)
  | append (locals : List VType)
  | full (locals : List VType) (stack : List VType)

inductive Insn where
  /-- every instruction without a reference: opcode, operands, labels -/
  | plain (o : Opaque)
  | ldc (l : Loadable)
  /-- `GetStatic | PutStatic | GetField | PutField` -/
  | field (op : Opaque) (ref : MemberRef)
  /-- `InvokeVirtual | InvokeSpecial(_, itf) | InvokeStatic(_, itf) | InvokeInterface` -/
  | method (op : Opaque) (ref : MemberRef)
  /-- `InvokeDynamic { name, descriptor, handle, arguments }` -/
  | indy (name : JStr) (desc : JStr) (handle : Handle) (args : List Loadable)
  /-- `New | ANewArray | CheckCast | InstanceOf | MultiANewArray(_, dims)` -/
  | cls (op : Opaque) (name : JStr)

/-- `InstructionListEntry { label, frame, instruction }` -/
structure InsnEntry where
  label : Opaque
  frame : Option Frame
  insn : Insn

/-- `Exception { start, end, handler, catch }` -/
structure ExcEntry where
  shape : Opaque
  catchType : Option JStr

/-- `Lv { range, name, descriptor, signature, index }` -/
structure Lv where
  shape : Opaque
  name : JStr
  desc : Option JStr
  signature : Option JStr

structure Code where
  /-- `max_stack, max_locals, last_label, line_numbers` -/
  shape : Opaque
  insns : List InsnEntry
  exceptions : List ExcEntry
  lvs : Option (List Lv)
  rvta : List TypeAnnotation
  rita : List TypeAnnotation
  attributes : List Opaque

structure Field where
  /-- `access, has_deprecated_attribute, has_synthetic_attribute, constant_value` -/
  shape : Opaque
  name : JStr
  desc : JStr
  signature : Option JStr
  rva : List Annotation
  ria : List Annotation
  rvta : List TypeAnnotation
  rita : List TypeAnnotation
  attributes : List Opaque

structure Method where
  /-- `access, has_deprecated_attribute, has_synthetic_attribute` -/
  shape : Opaque
  name : JStr
  desc : JStr
  code : Option Code
  exceptions : Option (List JStr)
  signature : Option JStr
  rva : List Annotation
  ria : List Annotation
  rvta : List TypeAnnotation
  rita : List TypeAnnotation
  annotationDefault : Option ElementValue
  /-- `Option<Vec<MethodParameter>>`: copied as a whole -/
  parameters : Opaque
  attributes : List Opaque

structure InnerClass where
  inner : JStr
  outer : Option JStr
  innerName : Option JStr
  flags : Opaque

/-- `EnclosingMethod { class, method: Option<MethodNameAndDesc> }` -/
structure Enclosing where
  cls : JStr
  method : Option (JStr × JStr)

/-- `RecordComponent { name, descriptor, signature, annotations ×2, type annotations ×2, attributes }` -/
structure RecordComponent where
  name : JStr
  desc : JStr
  signature : Option JStr
  rva : List Annotation
  ria : List Annotation
  rvta : List TypeAnnotation
  rita : List TypeAnnotation
  attributes : List Opaque

/-- `ModuleProvides { name, provides_with }` -/
structure ModuleProvides where
  name : JStr
  providesWith : List JStr

/-- `Module { name, flags, version, requires, exports, opens, uses, provides }` -/
structure Module where
  /-- `name, flags, version, requires, exports, opens`: module and package names, flags, versions -/
  shape : Opaque
  uses : List JStr
  provides : List ModuleProvides

structure ClassFile where
  /-- `version, access, has_deprecated_attribute, has_synthetic_attribute, source_file, source_debug_extension` -/
  shape : Opaque
  name : JStr
  superClass : Option JStr
  interfaces : List JStr
  fields : List Field
  methods : List Method
  innerClasses : Option (List InnerClass)
  enclosingMethod : Option Enclosing
  signature : Option JStr
  rva : List Annotation
  ria : List Annotation
  rvta : List TypeAnnotation
  rita : List TypeAnnotation
  module : Option Module
  modulePackages : Option (List JStr)
  moduleMainClass : Option JStr
  nestHost : Option JStr
  nestMembers : Option (List JStr)
  permittedSubclasses : Option (List JStr)
  recordComponents : List RecordComponent
  attributes : List Opaque

/-! ## `remap`, impl by impl -/

mutual
  /-- `impl Mappable for Annotation` -/
  def remapAnnotation (r : Remapper) : Annotation → Option Annotation
    | .mk t ps =>
      match r.mapDesc t with
      | none => none
      | some t' =>
        match remapPairs r ps with
        | none => none
        | some ps' => some (.mk t' ps')
  def remapPairs (r : Remapper) : List Pair → Option (List Pair)
    | [] => some []
    | p :: ps =>
      match remapPair r p with
      | none => none
      | some p' =>
        match remapPairs r ps with
        | none => none
        | some ps' => some (p' :: ps')
  /-- `impl Mappable for ElementValuePair`: `name: self.name` -/
  def remapPair (r : Remapper) : Pair → Option Pair
    | .mk n v =>
      match remapElementValue r v with
      | none => none
      | some v' => some (.mk n v')
  /-- `impl Mappable for ElementValue` -/
  def remapElementValue (r : Remapper) : ElementValue → Option ElementValue
    | .object o => some (.object o)
    | .enum t c =>
      match mapEnumConstName r t c with
      | none => none
      | some c' =>
        match r.mapDesc t with
        | none => none
        | some t' => some (.enum t' c')
    | .cls d =>
      match r.mapDesc d with
      | none => none
      | some d' => some (.cls d')
    | .ann a =>
      match remapAnnotation r a with
      | none => none
      | some a' => some (.ann a')
    | .array vs =>
      match remapElementValues r vs with
      | none => none
      | some vs' => some (.array vs')
  def remapElementValues (r : Remapper) : List ElementValue → Option (List ElementValue)
    | [] => some []
    | v :: vs =>
      match remapElementValue r v with
      | none => none
      | some v' =>
        match remapElementValues r vs with
        | none => none
        | some vs' => some (v' :: vs')
end

/-- `impl<T> Mappable for TypeAnnotation<T>` -/
def remapTypeAnnotation (r : Remapper) (t : TypeAnnotation) : Option TypeAnnotation :=
  match remapAnnotation r t.annotation with
  | none => none
  | some a => some { t with annotation := a }

/-- `impl Mappable for Handle` -/
def remapHandle (r : Remapper) : Handle → Option Handle
  | .field k f => (mapFieldRef r f).map (.field k)
  | .method k m => (mapMethodRef r m).map (.method k)

mutual
  /-- `impl MappableWithClassName for Loadable` (the class name is passed along and never used) -/
  def remapLoadable (r : Remapper) : Loadable → Option Loadable
    | .const o => some (.const o)
    | .cls n => (mapClassAny r n).map .cls
    | .handle h => (remapHandle r h).map .handle
    | .methodType d => (r.mapDesc d).map .methodType
    | .dynamic c => (remapConstDyn r c).map .dynamic
  /-- `impl MappableWithClassName for ConstantDynamic`: `name` copied -/
  def remapConstDyn (r : Remapper) : ConstDyn → Option ConstDyn
    | .mk n d h args =>
      match r.mapDesc d with
      | none => none
      | some d' =>
        match remapHandle r h with
        | none => none
        | some h' =>
          match remapLoadables r args with
          | none => none
          | some args' => some (.mk n d' h' args')
  def remapLoadables (r : Remapper) : List Loadable → Option (List Loadable)
    | [] => some []
    | l :: ls =>
      match remapLoadable r l with
      | none => none
      | some l' =>
        match remapLoadables r ls with
        | none => none
        | some ls' => some (l' :: ls')
end

/-- `impl Mappable for VerificationTypeInfo` -/
def remapVType (r : Remapper) : VType → Option VType
  | .plain o => some (.plain o)
  | .object n => (mapClassAny r n).map .object

/-- `impl Mappable for StackMapData` -/
def remapFrame (r : Remapper) : Frame → Option Frame
  | .plain o => some (.plain o)
  | .same1 s => (remapVType r s).map .same1
  | .append ls => (omapM (remapVType r) ls).map .append
  | .full ls ss =>
    match omapM (remapVType r) ls with
    | none => none
    | some ls' =>
      match omapM (remapVType r) ss with
      | none => none
      | some ss' => some (.full ls' ss')

/-- `impl MappableWithClassName for Instruction` (with `InvokeDynamic` inlined: `name` copied) -/
def remapInsn (r : Remapper) : Insn → Option Insn
  | .plain o => some (.plain o)
  | .ldc l => (remapLoadable r l).map .ldc
  | .field op f => (mapFieldRef r f).map (.field op)
  | .method op m => (mapMethodRef r m).map (.method op)
  | .indy n d h args =>
    match r.mapDesc d with
    | none => none
    | some d' =>
      match remapHandle r h with
      | none => none
      | some h' =>
        match remapLoadables r args with
        | none => none
        | some args' => some (.indy n d' h' args')
  | .cls op n => (mapClassAny r n).map (.cls op)

/-- `impl MappableWithClassName for InstructionListEntry` -/
def remapInsnEntry (r : Remapper) (e : InsnEntry) : Option InsnEntry :=
  match ooptM (remapFrame r) e.frame with
  | none => none
  | some f =>
    match remapInsn r e.insn with
    | none => none
    | some i => some { e with frame := f, insn := i }

/-- `impl Mappable for Exception` -/
def remapExc (r : Remapper) (e : ExcEntry) : Option ExcEntry :=
  match ooptM (mapClassAny r) e.catchType with
  | none => none
  | some c => some { e with catchType := c }

/-- `impl Mappable for Lv`: `name` copied, the signature goes through the identity impl of `FieldSignature` -/
def remapLv (r : Remapper) (l : Lv) : Option Lv :=
  match ooptM r.mapDesc l.desc with
  | none => none
  | some d => some { l with desc := d }

/-- `impl MappableWithClassName for Code` -/
def remapCode (r : Remapper) (c : Code) : Option Code :=
  match omapM (remapInsnEntry r) c.insns with
  | none => none
  | some insns =>
    match omapM (remapExc r) c.exceptions with
    | none => none
    | some excs =>
      match ooptM (omapM (remapLv r)) c.lvs with
      | none => none
      | some lvs =>
        match omapM (remapTypeAnnotation r) c.rvta with
        | none => none
        | some rvta =>
          match omapM (remapTypeAnnotation r) c.rita with
          | none => none
          | some rita =>
            some { c with insns := insns, exceptions := excs, lvs := lvs, rvta := rvta, rita := rita }

/-- `impl MappableWithClassName for Field` -/
def remapField (r : Remapper) (thisClass : JStr) (f : Field) : Option Field :=
  match r.mapField thisClass f.name f.desc with
  | none => none
  | some (n, d) =>
    match omapM (remapAnnotation r) f.rva with
    | none => none
    | some rva =>
      match omapM (remapAnnotation r) f.ria with
      | none => none
      | some ria =>
        match omapM (remapTypeAnnotation r) f.rvta with
        | none => none
        | some rvta =>
          match omapM (remapTypeAnnotation r) f.rita with
          | none => none
          | some rita =>
            some { f with name := n, desc := d, rva := rva, ria := ria, rvta := rvta, rita := rita }

/-- `impl MappableWithClassName for Method` -/
def remapMethod (r : Remapper) (thisClass : JStr) (m : Method) : Option Method :=
  match r.mapMethod thisClass m.name m.desc with
  | none => none
  | some (n, d) =>
    match ooptM (remapCode r) m.code with
    | none => none
    | some code =>
      match ooptM (omapM (mapClassAny r)) m.exceptions with
      | none => none
      | some excs =>
        match omapM (remapAnnotation r) m.rva with
        | none => none
        | some rva =>
          match omapM (remapAnnotation r) m.ria with
          | none => none
          | some ria =>
            match omapM (remapTypeAnnotation r) m.rvta with
            | none => none
            | some rvta =>
              match omapM (remapTypeAnnotation r) m.rita with
              | none => none
              | some rita =>
                match ooptM (remapElementValue r) m.annotationDefault with
                | none => none
                | some ad =>
                  some { m with name := n, desc := d, code := code, exceptions := excs, rva := rva, ria := ria,
                                rvta := rvta, rita := rita, annotationDefault := ad }

/-- the `let (name, descriptor) = match FieldName::try_from(self.name.as_inner()) { … }` of the impl below -/
def mapRecordDecl (r : Remapper) (thisClass n d : JStr) : Option (JStr × JStr) :=
  if validFieldName n then r.mapField thisClass n d else (r.mapDesc d).map fun d' => (n, d')

/-- `impl MappableWithClassName for RecordComponent`: the component belongs to the field `this_class.name:descriptor`;
a name that cannot be a field name is kept and the descriptor alone is remapped (`RecordName::try_from` never fails:
`RecordName::check_valid` is `Ok(())`) -/
def remapRecordComponent (r : Remapper) (thisClass : JStr) (c : RecordComponent) : Option RecordComponent :=
  match mapRecordDecl r thisClass c.name c.desc with
  | none => none
  | some (n, d) =>
    match omapM (remapAnnotation r) c.rva with
    | none => none
    | some rva =>
      match omapM (remapAnnotation r) c.ria with
      | none => none
      | some ria =>
        match omapM (remapTypeAnnotation r) c.rvta with
        | none => none
        | some rvta =>
          match omapM (remapTypeAnnotation r) c.rita with
          | none => none
          | some rita =>
            some { c with name := n, desc := d, rva := rva, ria := ria, rvta := rvta, rita := rita }

/-- `impl Mappable for ModuleProvides` -/
def remapModuleProvides (r : Remapper) (p : ModuleProvides) : Option ModuleProvides :=
  match mapClassAny r p.name with
  | none => none
  | some n =>
    match omapM (mapClassAny r) p.providesWith with
    | none => none
    | some ws => some ⟨n, ws⟩

/-- `impl Mappable for Module`: only `uses` and `provides` name classes -/
def remapModule (r : Remapper) (m : Module) : Option Module :=
  match omapM (mapClassAny r) m.uses with
  | none => none
  | some uses =>
    match omapM (remapModuleProvides r) m.provides with
    | none => none
    | some provides => some { m with uses := uses, provides := provides }

def DOLLAR : Nat := 36
def SLASH : Nat := 47

/-- `JavaStr::rsplit_once(c)`, second component: what follows the last `c` -/
def afterLast (c : Nat) : JStr → Option JStr
  | [] => none
  | x :: xs =>
    match afterLast c xs with
    | some t => some t
    | none => if x = c then some xs else none

/-- `JavaCodePoint::is_ascii_digit` -/
def isAsciiDigit (c : Nat) : Bool := 48 ≤ c && c ≤ 57

/-- `simple_name` (nested fn of `impl Mappable for InnerClass`) -/
def simpleName (n : JStr) : Option JStr :=
  let lastPart := match afterLast SLASH n with | some p => p | none => n
  match afterLast DOLLAR lastPart with
  | none => none
  | some afterDollar => some (afterDollar.dropWhile isAsciiDigit)

/-- `map_inner_class_name` -/
def mapInnerClassName (name newName innerName : JStr) : JStr :=
  if simpleName name = some innerName then
    match simpleName newName with
    | some newInnerName => newInnerName
    | none => innerName
  else innerName

/-- `impl Mappable for InnerClass` -/
def remapInnerClass (r : Remapper) (i : InnerClass) : Option InnerClass :=
  match mapClassAny r i.inner with
  | none => none
  | some inner =>
    match ooptM (mapClassAny r) i.outer with
    | none => none
    | some outer =>
      some { i with inner := inner, outer := outer, innerName := i.innerName.map (mapInnerClassName i.inner inner) }

/-- `impl Mappable for EnclosingMethod` -/
def remapEnclosing (r : Remapper) (e : Enclosing) : Option Enclosing :=
  match e.method with
  | some (n, d) =>
    match mapMethodRef r ⟨e.cls, n, d⟩ with
    | none => none
    | some m => some ⟨m.cls, some (m.name, m.desc)⟩
  | none =>
    match mapClassAny r e.cls with
    | none => none
    | some c => some ⟨c, none⟩

/-- `impl Mappable for ClassFile` -/
def remapClass (r : Remapper) (c : ClassFile) : Option ClassFile :=
  match r.mapClass c.name with
  | none => none
  | some name =>
  match ooptM r.mapClass c.superClass with
  | none => none
  | some superClass =>
  match omapM r.mapClass c.interfaces with
  | none => none
  | some interfaces =>
  match omapM (remapField r c.name) c.fields with
  | none => none
  | some fields =>
  match omapM (remapMethod r c.name) c.methods with
  | none => none
  | some methods =>
  match ooptM (omapM (remapInnerClass r)) c.innerClasses with
  | none => none
  | some innerClasses =>
  match ooptM (remapEnclosing r) c.enclosingMethod with
  | none => none
  | some enclosingMethod =>
  match omapM (remapAnnotation r) c.rva with
  | none => none
  | some rva =>
  match omapM (remapAnnotation r) c.ria with
  | none => none
  | some ria =>
  match omapM (remapTypeAnnotation r) c.rvta with
  | none => none
  | some rvta =>
  match omapM (remapTypeAnnotation r) c.rita with
  | none => none
  | some rita =>
  match ooptM (remapModule r) c.module with
  | none => none
  | some module =>
  match ooptM (mapClassAny r) c.moduleMainClass with
  | none => none
  | some moduleMainClass =>
  match ooptM (mapClassAny r) c.nestHost with
  | none => none
  | some nestHost =>
  match ooptM (omapM (mapClassAny r)) c.nestMembers with
  | none => none
  | some nestMembers =>
  match ooptM (omapM (mapClassAny r)) c.permittedSubclasses with
  | none => none
  | some permittedSubclasses =>
  match omapM (remapRecordComponent r c.name) c.recordComponents with
  | none => none
  | some recordComponents =>
    some { c with
      name := name, superClass := superClass, interfaces := interfaces, fields := fields, methods := methods,
      innerClasses := innerClasses, enclosingMethod := enclosingMethod, rva := rva, ria := ria, rvta := rvta,
      rita := rita, module := module, moduleMainClass := moduleMainClass, nestHost := nestHost,
      nestMembers := nestMembers, permittedSubclasses := permittedSubclasses, recordComponents := recordComponents }

/-! ## Jar level: `remap`, `remap_jar_entry_name_java` -/

inductive Content where
  | dir
  | other (data : Opaque)
  | cls (c : ClassFile)

/-- `ParsedJarEntry { attr, content }` -/
structure Entry where
  attr : Opaque
  content : Content

abbrev Jar := AList JStr Entry

def dotClass : JStr := [46, 99, 108, 97, 115, 115]

/-- `JavaStr::strip_suffix(".class")` -/
def stripDotClass (name : JStr) : Option JStr :=
  if dotClass.isSuffixOf name then some (name.take (name.length - dotClass.length)) else none

/-- `remap_jar_entry_name_java`: decided by the entry *name* alone -/
def remapEntryName (r : Remapper) (name : JStr) : Option JStr :=
  match stripDotClass name with
  | some cn => (r.mapClass cn).map (· ++ dotClass)
  | none => some name

/-- `try_map_both(remap_class, remap_other)`: decided by the entry *content* alone -/
def remapContent (r : Remapper) : Content → Option Content
  | .dir => some .dir
  | .other d => some (.other d)
  | .cls c => (remapClass r c).map .cls

def remapEntry (r : Remapper) (ne : JStr × Entry) : Option (JStr × Entry) :=
  match remapEntryName r ne.1 with
  | none => none
  | some n =>
    match remapContent r ne.2.content with
    | none => none
    | some c => some (n, { ne.2 with content := c })

/-- the loop of `remap`: entries in order, `IndexMap::insert` into the result -/
def remapJarLoop (r : Remapper) : List (JStr × Entry) → Jar → Option Jar
  | [], acc => some acc
  | ne :: rest, acc =>
    match remapEntry r ne with
    | none => none
    | some (n, e) => remapJarLoop r rest (AList.insert n e acc)

def remapJar (r : Remapper) (j : Jar) : Option Jar := remapJarLoop r j []

end RemapTree
