import FeatherModel.Model.ClassReadResolve
import FeatherModel.Model.CodeWrite
import FeatherModel.Model.PoolWrite
import FeatherModel.Model.BootstrapWrite
import FeatherModel.Model.FrameWrite

/-!
# C02 — model of the whole class writer: `write`, `write_field`, `write_method`, `write_code`,
`write_record_component`, `write_module`, the annotation / type-annotation writers and `PoolWrite::write`
(`duke/src/simple_class_writer.rs`, `simple_class_writer/pool.rs`)

Input: the class description the reader delivers (`ClassRead.ClassFacts` — the model of duke's `ClassFile` tree that
`ClassRead.read` produces, labels as opaque ids).  Output: the bytes of the class file, or the explicit error.

Mirrors the Rust function by function, *in the Rust's order of constant-pool puts* (the order decides every index):

* `write_attribute(name, f)`: the body closure `f` runs **first** (its puts come first), then the name is put, then
  `attribute_length` through `write_usize_as_u32` (`attrBuf`);
  `write_attribute_fix_length(name, n)` puts the name **first** and states the constant `n`, the body is written
  afterwards (`attrFix`); unknown attributes and `SourceDebugExtension` put the name first and measure the bytes;
* every count goes through `write_usize_as_u8/u16/u32`: a count that does not fit is an error (`cnt8/16/32`), never a
  truncation;
* which attributes are written: `Deprecated` / `Synthetic` when the flag is set, `Option` fields when `Some` (an empty
  `Some(vec)` *is* written), annotation lists and record components when non-empty, `LocalVariableTable` /
  `LocalVariableTypeTable` when at least one entry has a descriptor / signature, `StackMapTable` when at least one
  instruction carries a frame, `BootstrapMethods` when a bootstrap method was put;
  the unknown attributes (`attributes`) come last at every level — class, field, method, record component and `Code`;
* attribute order: as in the Rust source (see `classAttrs`, `writeField`, `writeMethod`, `writeCode`,
  `writeRecordComponent`);
* the constant pool is completed last and written in front (`PoolWrite::write`: `constant_pool_count`, the entries in
  creation order; a `Utf8` entry longer than 65535 bytes is an error only now).

The code array with its retry loop is `CodeWrite.writeCode`, the `StackMapTable` is `FrameWrite.attr`, the pool is
`PoolWrite`, bootstrap methods are `BootstrapWrite`.  Those models name instructions by index (instruction `k` carries
label `k`, the last label is `n`); `relabel` translates the label ids of the tree: the id carried by instruction `k`
becomes `k`, `last_label` becomes `n`, an id no instruction carries becomes `n + 1` (a label without bytecode offset).
Domain restriction (stated, not hidden): a label id is carried by at most one instruction (and `last_label` differs
from all of them) — what the reader guarantees (`Thm.C01.labels_injective`); the `HashMap::insert` overwrite semantics
for a label attached to two instructions is not modelled.  `max_stack` / `max_locals` are always present in a tree
that was read (`None` is an error in the Rust code and not representable here).
-/

namespace ClassWriteFull

open ClassRead (be16 be32 be64 ofI32 ofI64 ElemVal Annotation Target TypeAnno Attr Loadable MemberRef ConstantValue
  FieldFacts MethodFacts RecordComponent Module ModuleRequires ModuleExports ModuleProvides InnerClass ClassFacts
  MethodParam Code InsnEntry ExceptionEntry Lv)

abbrev Pool := PoolWrite.Pool
abbrev Bsm := BootstrapWrite.Bsm
abbrev Fail := CodeWrite.Fail
/-- result of a writer step: the bytes appended to the current buffer and the pool afterwards -/
abbrev W := Except Fail (Bytes × Pool)

/-- a `None` of the pool model is "pool count overflowed": an error -/
def opt {α : Type} : Option α → Except Fail α
  | some a => .ok a
  | none => .error .err

/-! ## `write_usize_as_u8 / u16 / u32` -/

def cnt8 (n : Nat) : Except Fail Bytes := if n ≤ 255 then .ok [n] else .error .err
def cnt16 (n : Nat) : Except Fail Bytes := if n ≤ 65535 then .ok (be16 n) else .error .err
def cnt32 (n : Nat) : Except Fail Bytes := if n ≤ 4294967295 then .ok (be32 n) else .error .err

/-! ## pool puts (`PoolWrite::put_*`) -/

def putUtf8 (p : Pool) (s : JStr) : Except Fail (Nat × Pool) := opt (PoolWrite.putUtf8 p s)
def putClass (p : Pool) (c : JStr) : Except Fail (Nat × Pool) := opt (PoolWrite.putClass p c)
def putString (p : Pool) (s : JStr) : Except Fail (Nat × Pool) := opt (PoolWrite.putString p s)
def putNameAndType (p : Pool) (n d : JStr) : Except Fail (Nat × Pool) := opt (PoolWrite.putNameAndType p n d)
def put (p : Pool) (e : PoolWrite.Entry) : Except Fail (Nat × Pool) := opt (PoolWrite.put p e)

def putPackage (p : Pool) (s : JStr) : Except Fail (Nat × Pool) := do
  let (i, p) ← putUtf8 p s
  put p (.package i)

def putModule (p : Pool) (s : JStr) : Except Fail (Nat × Pool) := do
  let (i, p) ← putUtf8 p s
  put p (.module i)

def putMethodType (p : Pool) (d : JStr) : Except Fail (Nat × Pool) := do
  let (i, p) ← putUtf8 p d
  put p (.methodType i)

/-- `put_optional`: index 0 for `None` -/
def putOptional {α : Type} (f : Pool → α → Except Fail (Nat × Pool)) (p : Pool) : Option α → Except Fail (Nat × Pool)
  | none => .ok (0, p)
  | some a => f p a

/-- `put_field_ref` (9) / `put_method_ref` (10) / `put_interface_method_ref` (11) -/
def putRef (p : Pool) (kind : Nat) (r : MemberRef) : Except Fail (Nat × Pool) :=
  opt (PoolWrite.putRef p kind r.cls r.name r.desc)

/-- the `Handle` enum of the tree as the writer's bootstrap model sees it: reference kind and the kind of pool reference
it needs (`GetField`…`PutStatic`: Fieldref; `InvokeVirtual`, `NewInvokeSpecial`: Methodref; `InvokeStatic` /
`InvokeSpecial`: by their `bool`; `InvokeInterface`: InterfaceMethodref) -/
def handleOf (h : ClassRead.Handle) : BootstrapWrite.Handle :=
  ⟨h.kind,
   if h.kind ≤ 4 then 9 else if h.kind = 9 then 11 else if (h.kind = 6 ∨ h.kind = 7) ∧ h.itf = true then 11 else 10,
   h.ref.cls, h.ref.name, h.ref.desc⟩

def putHandle (p : Pool) (h : ClassRead.Handle) : Except Fail (Nat × Pool) := opt (BootstrapWrite.putHandle p (handleOf h))

/-- `put_constant_value` -/
def putConstantValue (p : Pool) : ConstantValue → Except Fail (Nat × Pool)
  | .int v => put p (.int v)
  | .float b => put p (.float b)
  | .long v => put p (.long v)
  | .double b => put p (.double b)
  | .str s => putString p s

mutual
/-- `put_loadable`; a `Dynamic` constant: name-and-type first, then the bootstrap arguments (recursively), then the
bootstrap method (`put_bootstrap_method`, de-duplicated on handle + argument indices; its handle is **not** put yet),
then the `Dynamic` entry -/
def putLoadable (p : Pool) (bs : List Bsm) : Loadable → Except Fail (Nat × Pool × List Bsm)
  | .int v => match put p (.int v) with | .ok (i, p) => .ok (i, p, bs) | .error e => .error e
  | .float b => match put p (.float b) with | .ok (i, p) => .ok (i, p, bs) | .error e => .error e
  | .long v => match put p (.long v) with | .ok (i, p) => .ok (i, p, bs) | .error e => .error e
  | .double b => match put p (.double b) with | .ok (i, p) => .ok (i, p, bs) | .error e => .error e
  | .cls c => match putClass p c with | .ok (i, p) => .ok (i, p, bs) | .error e => .error e
  | .str s => match putString p s with | .ok (i, p) => .ok (i, p, bs) | .error e => .error e
  | .handle h => match putHandle p h with | .ok (i, p) => .ok (i, p, bs) | .error e => .error e
  | .mtype d => match putMethodType p d with | .ok (i, p) => .ok (i, p, bs) | .error e => .error e
  | .dyn name desc h args =>
    match putNameAndType p name desc with
    | .error e => .error e
    | .ok (nt, p) =>
      match putLoadables p bs args with
      | .error e => .error e
      | .ok (as, p, bs) =>
        match BootstrapWrite.put bs ⟨handleOf h, as⟩ with
        | none => .error .err
        | some (b, bs) =>
          match put p (.dynamic b nt) with
          | .error e => .error e
          | .ok (i, p) => .ok (i, p, bs)
def putLoadables (p : Pool) (bs : List Bsm) : List Loadable → Except Fail (List Nat × Pool × List Bsm)
  | [] => .ok ([], p, bs)
  | a :: as =>
    match putLoadable p bs a with
    | .error e => .error e
    | .ok (i, p, bs) =>
      match putLoadables p bs as with
      | .error e => .error e
      | .ok (is, p, bs) => .ok (i :: is, p, bs)
end

/-- `put_invoke_dynamic` -/
def putInvokeDynamic (p : Pool) (bs : List Bsm) (d : ClassRead.InvokeDynamic) : Except Fail (Nat × Pool × List Bsm) := do
  let (nt, p) ← putNameAndType p d.name d.desc
  let (as, p, bs) ← putLoadables p bs d.args
  let (b, bs) ← opt (BootstrapWrite.put bs ⟨handleOf d.handle, as⟩)
  let (i, p) ← put p (.invokeDynamic b nt)
  pure (i, p, bs)

/-! ## `write_slice` and friends -/

/-- `for x in xs { f(x)? }` -/
def writeList {α : Type} (f : Pool → α → W) : Pool → List α → W
  | p, [] => .ok ([], p)
  | p, a :: as => do
    let (b, p) ← f p a
    let (bs, p) ← writeList f p as
    pure (b ++ bs, p)

/-- `write_slice(xs, write_usize_as_u16, f)` -/
def writeSlice16 {α : Type} (f : Pool → α → W) (p : Pool) (xs : List α) : W := do
  let c ← cnt16 xs.length
  let (b, p) ← writeList f p xs
  pure (c ++ b, p)

/-- a `u16` index obtained from a put -/
def idx16 (r : Except Fail (Nat × Pool)) : W := do
  let (i, p) ← r
  pure (be16 i, p)

/-! ## attributes -/

/-- `write_attribute(name, body)`: body first, then the name, then the measured length -/
def attrBuf (name : JStr) (body : Pool → W) (p : Pool) : W := do
  let (b, p) ← body p
  let (i, p) ← putUtf8 p name
  let l ← cnt32 b.length
  pure (be16 i ++ l ++ b, p)

/-- `write_attribute_fix_length(name, len)` followed by the writes of the body: name first, the stated length is the
constant `len` -/
def attrFix (name : JStr) (len : Nat) (body : Pool → W) (p : Pool) : W := do
  let (i, p) ← putUtf8 p name
  let (b, p) ← body p
  pure (be16 i ++ be32 len ++ b, p)

/-- the loop over `attributes` (unknown attributes): name, measured length, bytes -/
def unknownAttr (p : Pool) (a : Attr) : W := do
  let (i, p) ← putUtf8 p a.name
  let l ← cnt32 a.bytes.length
  pure (be16 i ++ l ++ a.bytes, p)

/-- one `if … { attribute_count += 1; … }` block: `none` when the attribute is not written -/
abbrev AttrW := Pool → Except Fail (Option Bytes × Pool)

def always (w : Pool → W) : AttrW := fun p => do
  let (b, p) ← w p
  pure (some b, p)

def onlyIf (c : Bool) (w : Pool → W) : AttrW := fun p => if c then always w p else .ok (none, p)

def ifSome {α : Type} (o : Option α) (w : α → Pool → W) : AttrW := fun p =>
  match o with
  | none => .ok (none, p)
  | some a => always (w a) p

/-- the blocks in source order; result: the attributes that were written, in order -/
def runAttrs : List AttrW → Pool → Except Fail (List Bytes × Pool)
  | [], p => .ok ([], p)
  | w :: ws, p => do
    let (o, p) ← w p
    let (bs, p) ← runAttrs ws p
    pure (o.toList ++ bs, p)

/-- `attributes_count` (through `write_usize_as_u16`) and the buffered attributes -/
def attrsBytes (as : List Bytes) : Except Fail Bytes := do
  let c ← cnt16 as.length
  pure (c ++ as.flatten)

def flagAttr (flag : Bool) (name : JStr) : AttrW := onlyIf flag (attrFix name 0 (fun p => .ok ([], p)))

def sigAttr (sig : Option JStr) : AttrW :=
  ifSome sig (fun s => attrFix ClassRead.sSignature 2 (fun p => idx16 (putUtf8 p s)))

def unknownAttrs (as : List Attr) : List AttrW := as.map (fun a => always (fun p => unknownAttr p a))

/-! ## annotations (`write_annotations_attribute`, `write_element_values_named`, `write_element_values_unnamed`,
`write_element_value_unnamed`) -/

/-- the pool entry of a constant element value: `B C I S Z` are stored as `Integer` (`value as i32`, `i32::from(bool)`),
`D` / `F` by their bit pattern, `J` as `Long`; any other tag is not an `Object` of the tree -/
def constEntry (tag : Nat) (v : Int) : Option PoolWrite.Entry :=
  if tag = 66 ∨ tag = 67 ∨ tag = 73 ∨ tag = 83 ∨ tag = 90 then some (.int v)
  else if tag = 68 then some (.double v.toNat)
  else if tag = 70 then some (.float v.toNat)
  else if tag = 74 then some (.long v)
  else none

mutual
def writeElemVal (p : Pool) : ElemVal → W
  | .const tag v =>
    match constEntry tag v with
    | none => .error .err
    | some e =>
      match put p e with
      | .error e => .error e
      | .ok (i, p) => .ok (tag :: be16 i, p)
  | .str s =>
    match putUtf8 p s with
    | .error e => .error e
    | .ok (i, p) => .ok (115 :: be16 i, p)
  | .enum ty name =>
    match putUtf8 p ty with
    | .error e => .error e
    | .ok (t, p) =>
      match putUtf8 p name with
      | .error e => .error e
      | .ok (n, p) => .ok (101 :: (be16 t ++ be16 n), p)
  | .cls d =>
    match putUtf8 p d with
    | .error e => .error e
    | .ok (i, p) => .ok (99 :: be16 i, p)
  | .anno a =>
    match writeAnnotation p a with
    | .error e => .error e
    | .ok (b, p) => .ok (64 :: b, p)
  | .arr vs =>
    match cnt16 vs.length with
    | .error e => .error e
    | .ok c =>
      match writeElemVals p vs with
      | .error e => .error e
      | .ok (b, p) => .ok (91 :: (c ++ b), p)
/-- `type_index` and `write_element_values_named` -/
def writeAnnotation (p : Pool) : Annotation → W
  | .mk ty pairs =>
    match putUtf8 p ty with
    | .error e => .error e
    | .ok (t, p) =>
      match cnt16 pairs.length with
      | .error e => .error e
      | .ok c =>
        match writePairs p pairs with
        | .error e => .error e
        | .ok (b, p) => .ok (be16 t ++ (c ++ b), p)
def writePairs (p : Pool) : List (JStr × ElemVal) → W
  | [] => .ok ([], p)
  | (name, v) :: rest =>
    match putUtf8 p name with
    | .error e => .error e
    | .ok (n, p) =>
      match writeElemVal p v with
      | .error e => .error e
      | .ok (b, p) =>
        match writePairs p rest with
        | .error e => .error e
        | .ok (bs, p) => .ok (be16 n ++ b ++ bs, p)
def writeElemVals (p : Pool) : List ElemVal → W
  | [] => .ok ([], p)
  | v :: rest =>
    match writeElemVal p v with
    | .error e => .error e
    | .ok (b, p) =>
      match writeElemVals p rest with
      | .error e => .error e
      | .ok (bs, p) => .ok (b ++ bs, p)
end

/-- `write_annotations_attribute` -/
def writeAnnotations (as : List Annotation) (p : Pool) : W := writeSlice16 writeAnnotation p as

def annosAttr (name : JStr) (as : List Annotation) : AttrW := onlyIf (!as.isEmpty) (attrBuf name (writeAnnotations as))

/-! ## type annotations -/

/-- `write_type_path` -/
def writeTypePath (path : List (Nat × Nat)) : Except Fail Bytes := do
  let c ← cnt8 path.length
  pure (c ++ path.flatMap (fun q => [q.1, q.2]))

/-- `TargetInfoClass::write_type_reference`; a target of another owner is not a value of the tree type -/
def writeTargetClass : Target → Except Fail Bytes
  | .typeParam tag i => if tag = 0x00 then .ok [0x00, i] else .error .err
  | .extends_ => .ok (0x10 :: be16 65535)
  | .implements i => .ok (0x10 :: be16 i)
  | .typeParamBound tag a b => if tag = 0x11 then .ok [0x11, a, b] else .error .err
  | _ => .error .err

/-- `TargetInfoField::write_type_reference` -/
def writeTargetField : Target → Except Fail Bytes
  | .field => .ok [0x13]
  | _ => .error .err

/-- `TargetInfoMethod::write_type_reference` -/
def writeTargetMethod : Target → Except Fail Bytes
  | .typeParam tag i => if tag = 0x01 then .ok [0x01, i] else .error .err
  | .typeParamBound tag a b => if tag = 0x12 then .ok [0x12, a, b] else .error .err
  | .ret => .ok [0x14]
  | .receiver => .ok [0x15]
  | .formalParam i => .ok [0x16, i]
  | .throws i => .ok (0x17 :: be16 i)
  | _ => .error .err

/-- `write_type_annotations_attribute` (`wt` = the owner's `write_type_reference`) -/
def writeTypeAnnos (wt : Target → Except Fail Bytes) (as : List TypeAnno) (p : Pool) : W :=
  writeSlice16 (fun p a => do
    let t ← wt a.target
    let tp ← writeTypePath a.path
    let (b, p) ← writeAnnotation p a.anno
    pure (t ++ tp ++ b, p)) p as

def typeAnnosAttr (wt : Target → Except Fail Bytes) (name : JStr) (as : List TypeAnno) : AttrW :=
  onlyIf (!as.isEmpty) (attrBuf name (writeTypeAnnos wt as))

/-- the four annotation blocks every owner has, in source order -/
def annoBlocks (wt : Target → Except Fail Bytes) (rva ria : List Annotation) (rvta rita : List TypeAnno) : List AttrW :=
  [annosAttr ClassRead.sRVA rva, annosAttr ClassRead.sRIA ria,
   typeAnnosAttr wt ClassRead.sRVTA rvta, typeAnnosAttr wt ClassRead.sRITA rita]

/-! ## `write_field` -/

def writeField (p : Pool) (f : FieldFacts) : W := do
  let (ni, p) ← putUtf8 p f.name
  let (di, p) ← putUtf8 p f.desc
  let (as, p) ← runAttrs
    ([flagAttr f.deprecated ClassRead.sDeprecated, flagAttr f.synthetic ClassRead.sSynthetic,
      ifSome f.constant (fun v => attrFix ClassRead.sConstantValue 2 (fun p => idx16 (putConstantValue p v))),
      sigAttr f.signature]
      ++ annoBlocks writeTargetField f.rva f.ria f.rvta f.rita ++ unknownAttrs f.attrs) p
  let ab ← attrsBytes as
  pure (be16 f.access ++ be16 ni ++ be16 di ++ ab, p)

/-! ## `write_code` -/

/-- the label ids of the tree as instruction indices: carried by instruction `k` ↦ `k`, `last_label` ↦ `n`, carried
by nothing ↦ `n + 1` -/
def labOf (m : List (Nat × Nat)) (n : Nat) (id : Nat) : Nat := (ClassRead.lookupLabel m id).getD (n + 1)

def condOfOp (op : Nat) : Option CodeWrite.Cond :=
  if op = 0x99 then some .eq else if op = 0x9a then some .ne else if op = 0x9b then some .lt
  else if op = 0x9c then some .ge else if op = 0x9d then some .gt else if op = 0x9e then some .le
  else if op = 0x9f then some .icmpeq else if op = 0xa0 then some .icmpne else if op = 0xa1 then some .icmplt
  else if op = 0xa2 then some .icmpge else if op = 0xa3 then some .icmpgt else if op = 0xa4 then some .icmple
  else if op = 0xa5 then some .acmpeq else if op = 0xa6 then some .acmpne else if op = 0xc6 then some .null
  else if op = 0xc7 then some .nonnull else none

/-- `is_long_or_double` of the `Ldc` arm -/
def isTwoSlot : Loadable → Bool
  | .long _ => true
  | .double _ => true
  | .dyn _ desc _ _ => match desc with | 68 :: _ => true | 74 :: _ => true | _ => false
  | _ => false

/-- the pool puts of one instruction (what an attempt of `write_code` does for it; later attempts repeat the same puts
and get the same indices) and the instruction as `CodeWrite` sees it: pool indices in place of constants, instruction
indices in place of labels -/
def putInsn (lab : Nat → Nat) (p : Pool) (bs : List Bsm) : ClassRead.Insn → Except Fail (CodeWrite.Insn × Pool × List Bsm)
  | .simple op => .ok (.simple op, p, bs)
  | .bipush v => .ok (.bipush v, p, bs)
  | .sipush v => .ok (.sipush v, p, bs)
  | .ldc c => do
    let (i, p, bs) ← putLoadable p bs c
    pure (.ldc i (isTwoSlot c), p, bs)
  | .load k i => .ok (.load k i, p, bs)
  | .store k i => .ok (.store k i, p, bs)
  | .iinc i v => .ok (.iinc i v, p, bs)
  | .branch op t =>
    match condOfOp op with
    | none => .error .err
    | some c => .ok (.ifc c (lab t), p, bs)
  | .goto t => .ok (.goto (lab t), p, bs)
  | .jsr t => .ok (.jsr (lab t), p, bs)
  | .ret i => .ok (.ret i, p, bs)
  | .tableswitch d lo hi tbl => .ok (.tableswitch (lab d) lo hi (tbl.map lab), p, bs)
  | .lookupswitch d pairs => .ok (.lookupswitch (lab d) (pairs.map fun kt => (kt.1, lab kt.2)), p, bs)
  | .field op r => do let (i, p) ← putRef p 9 r; pure (.cp op i, p, bs)
  | .invokevirtual m => do let (i, p) ← putRef p 10 m; pure (.cp 0xb6 i, p, bs)
  | .invokespecial m itf => do let (i, p) ← putRef p (if itf then 11 else 10) m; pure (.cp 0xb7 i, p, bs)
  | .invokestatic m itf => do let (i, p) ← putRef p (if itf then 11 else 10) m; pure (.cp 0xb8 i, p, bs)
  | .invokeinterface m => do let (i, p) ← putRef p 11 m; pure (.invokeinterface i m.desc, p, bs)
  | .invokedynamic d => do let (i, p, bs) ← putInvokeDynamic p bs d; pure (.invokedynamic i, p, bs)
  | .new c => do let (i, p) ← putClass p c; pure (.cp 0xbb i, p, bs)
  | .newarray a => .ok (.newarray a, p, bs)
  | .anewarray c => do let (i, p) ← putClass p c; pure (.cp 0xbd i, p, bs)
  | .checkcast c => do let (i, p) ← putClass p c; pure (.cp 0xc0 i, p, bs)
  | .instanceof c => do let (i, p) ← putClass p c; pure (.cp 0xc1 i, p, bs)
  | .multianewarray c d => do let (i, p) ← putClass p c; pure (.multianewarray i d, p, bs)

def putInsns (lab : Nat → Nat) : Pool → List Bsm → List InsnEntry → Except Fail (List CodeWrite.Insn × Pool × List Bsm)
  | p, bs, [] => .ok ([], p, bs)
  | p, bs, e :: es => do
    let (i, p, bs) ← putInsn lab p bs e.insn
    let (is, p, bs) ← putInsns lab p bs es
    pure (i :: is, p, bs)

def vtypeOf (lab : Nat → Nat) : ClassRead.VType → FrameWrite.VType
  | .top => .top | .int => .int | .float => .float | .double => .double | .long => .long | .null => .null
  | .uninitThis => .uninitThis
  | .object c => .object c
  | .uninit l => .uninit (lab l)

def frameOf (lab : Nat → Nat) : ClassRead.Frame → FrameWrite.Frame
  | .same => .same
  | .same1 v => .same1 (vtypeOf lab v)
  | .chop k => .chop k
  | .append vs => .append (vs.map (vtypeOf lab))
  | .full ls ss => .full (ls.map (vtypeOf lab)) (ss.map (vtypeOf lab))

/-- `labels.try_get(label)` -/
def tryGet (lp : Nat → Option Nat) (l : Nat) : Except Fail Nat := opt (lp l)

/-- one `exception_table` row: the three labels, then the catch type -/
def writeException (lp : Nat → Option Nat) (p : Pool) (e : ExceptionEntry) : W := do
  let a ← tryGet lp e.start
  let b ← tryGet lp e.end_
  let h ← tryGet lp e.handler
  let (c, p) ← putOptional putClass p e.catch_
  pure (be16 a ++ be16 b ++ be16 h ++ be16 c, p)

def writeLine (lp : Nat → Option Nat) (p : Pool) (e : Nat × Nat) : W := do
  let a ← tryGet lp e.1
  pure (be16 a ++ be16 e.2, p)

/-- one `LocalVariableTable` (`sig = false`) / `LocalVariableTypeTable` row; entries without the descriptor /
signature are skipped -/
def writeLv (lp : Nat → Option Nat) (sig : Bool) (p : Pool) (v : Lv) : W :=
  match (if sig then v.sig else v.desc) with
  | none => .ok ([], p)
  | some d => do
    let (s, l) ← CodeWrite.range lp v.start v.end_
    let (ni, p) ← putUtf8 p v.name
    let (di, p) ← putUtf8 p d
    pure (be16 s ++ be16 l ++ be16 ni ++ be16 di ++ be16 v.index, p)

def lvCount (sig : Bool) (vs : List Lv) : Nat := (vs.filter fun v => (if sig then v.sig else v.desc).isSome).length

/-- the table body: the counted number of rows (`write_usize_as_u16(desc)`), then the rows -/
def writeLvTable (lp : Nat → Option Nat) (sig : Bool) (vs : List Lv) (p : Pool) : W := do
  let c ← cnt16 (lvCount sig vs)
  let (b, p) ← writeList (writeLv lp sig) p vs
  pure (c ++ b, p)

def writeRange (lp : Nat → Option Nat) (e : Nat × Nat × Nat) : Except Fail Bytes := do
  let (s, l) ← CodeWrite.range lp e.1 e.2.1
  pure (be16 s ++ be16 l ++ be16 e.2.2)

/-- `for x in xs { f(x)? }` for writes that do not touch the pool -/
def concatE {α : Type} (f : α → Except Fail Bytes) : List α → Except Fail Bytes
  | [] => .ok []
  | a :: as => do
    let b ← f a
    let bs ← concatE f as
    pure (b ++ bs)

/-- `write_type_reference_code`; labels through `try_get` / `try_get_range` -/
def writeTargetCode (lp : Nat → Option Nat) : Target → Except Fail Bytes
  | .localVar tag tbl =>
    if tag = 0x40 ∨ tag = 0x41 then do
      let c ← cnt16 tbl.length
      let b ← concatE (writeRange lp) tbl
      pure (tag :: (c ++ b))
    else .error .err
  | .exceptionParam i => .ok (0x42 :: be16 i)
  | .offset tag l =>
    if 0x43 ≤ tag ∧ tag ≤ 0x46 then do let o ← tryGet lp l; pure (tag :: be16 o) else .error .err
  | .offsetArg tag l i =>
    if 0x47 ≤ tag ∧ tag ≤ 0x4b then do let o ← tryGet lp l; pure (tag :: (be16 o ++ [i])) else .error .err
  | _ => .error .err

/-- `if desc > 0 { write_attribute(LOCAL_VARIABLE_TABLE, …) }` inside `if let Some(local_variables)` -/
def lvAttr (lp : Nat → Option Nat) (sig : Bool) (name : JStr) (locals : Option (List Lv)) : AttrW :=
  match locals with
  | none => fun p => .ok (none, p)
  | some vs => onlyIf (decide (lvCount sig vs > 0)) (attrBuf name (writeLvTable lp sig vs))

/-- `write_code`: the body of the `Code` attribute -/
def writeCode (c : Code) (p : Pool) (bs : List Bsm) : Except Fail (Bytes × Pool × List Bsm) := do
  let n := c.insns.length
  let lab := labOf (ClassRead.labelIndex c.insns c.lastLabel) n
  -- the attempts: pool puts in instruction order, then the code array with the retry loop
  let (is, p, bs) ← putInsns lab p bs c.insns
  match CodeWrite.writeCode is with
  | .outOfFuel => .error .err   -- unreachable (`Thm.C02.write_terminates`)
  | .err => .error .err
  | .panic => .error .panic
  | .ok res =>
    -- `labels.get` on the ids of the tree
    let lp : Nat → Option Nat := fun id => res.label (lab id)
    let (eb, p) ← writeSlice16 (writeException lp) p c.exceptions
    -- attributes of `Code`: StackMapTable, LineNumberTable, LocalVariableTable, LocalVariableTypeTable, type annotations,
    -- then the loop over `code.attributes` (the unknown attributes)
    let frames := FrameWrite.framesOf res (c.insns.map fun e => e.frame.map (frameOf lab))
    let (smt, p) ← FrameWrite.attr res.label p frames
    let smtB : List Bytes := match smt with | none => [] | some (i, b) => [be16 i ++ be32 b.length ++ b]
    let (as, p) ← runAttrs
      ([ifSome c.lines (fun ls => attrBuf ClassRead.sLineNumberTable (fun p => writeSlice16 (writeLine lp) p ls)),
       lvAttr lp false ClassRead.sLocalVariableTable c.locals,
       lvAttr lp true ClassRead.sLocalVariableTypeTable c.locals,
       typeAnnosAttr (writeTargetCode lp) ClassRead.sRVTA c.rvta,
       typeAnnosAttr (writeTargetCode lp) ClassRead.sRITA c.ritva] ++ unknownAttrs c.attrs) p
    let ab ← attrsBytes (smtB ++ as)
    pure (be16 c.maxStack ++ be16 c.maxLocals ++ be32 res.code.length ++ res.code ++ eb ++ ab, p, bs)

/-! ## `write_method` -/

def writeMethodParam (p : Pool) (q : MethodParam) : W := do
  let (i, p) ← putOptional putUtf8 p q.name
  pure (be16 i ++ be16 q.flags, p)

/-- `if let Some(code) = &method.code { write_attribute(CODE, |w, pool| write_code(w, code, pool)) }` -/
def codeAttr (code : Option Code) (p : Pool) (bs : List Bsm) : Except Fail (List Bytes × Pool × List Bsm) :=
  match code with
  | none => .ok ([], p, bs)
  | some c => do
    let (b, p, bs) ← writeCode c p bs
    let (i, p) ← putUtf8 p ClassRead.sCode
    let l ← cnt32 b.length
    pure ([be16 i ++ l ++ b], p, bs)

def writeMethod (p : Pool) (bs : List Bsm) (m : MethodFacts) : Except Fail (Bytes × Pool × List Bsm) := do
  let (ni, p) ← putUtf8 p m.name
  let (di, p) ← putUtf8 p m.desc
  let (a1, p) ← runAttrs [flagAttr m.deprecated ClassRead.sDeprecated, flagAttr m.synthetic ClassRead.sSynthetic] p
  let (a2, p, bs) ← codeAttr m.code p bs
  let (a3, p) ← runAttrs
    ([ifSome m.exceptions (fun es => attrBuf ClassRead.sExceptions (fun p => writeSlice16 (fun p e => idx16 (putClass p e)) p es)),
      sigAttr m.signature]
      ++ annoBlocks writeTargetMethod m.rva m.ria m.rvta m.rita
      ++ [ifSome m.annotationDefault (fun v => attrBuf ClassRead.sAnnotationDefault (fun p => writeElemVal p v)),
          ifSome m.params (fun ps => attrBuf ClassRead.sMethodParameters (fun p => do
            let c ← cnt8 ps.length
            let (b, p) ← writeList writeMethodParam p ps
            pure (c ++ b, p)))]
      ++ unknownAttrs m.attrs) p
  let ab ← attrsBytes (a1 ++ a2 ++ a3)
  pure (be16 m.access ++ be16 ni ++ be16 di ++ ab, p, bs)

def writeMethods : Pool → List Bsm → List MethodFacts → Except Fail (Bytes × Pool × List Bsm)
  | p, bs, [] => .ok ([], p, bs)
  | p, bs, m :: ms => do
    let (b, p, bs) ← writeMethod p bs m
    let (rest, p, bs) ← writeMethods p bs ms
    pure (b ++ rest, p, bs)

/-! ## `write_record_component`, `write_module` -/

def writeRecordComponent (p : Pool) (r : RecordComponent) : W := do
  let (ni, p) ← putUtf8 p r.name
  let (di, p) ← putUtf8 p r.desc
  let (as, p) ← runAttrs
    ([sigAttr r.signature] ++ annoBlocks writeTargetField r.rva r.ria r.rvta r.rita ++ unknownAttrs r.attrs) p
  let ab ← attrsBytes as
  pure (be16 ni ++ be16 di ++ ab, p)

def writeRequires (p : Pool) (r : ModuleRequires) : W := do
  let (n, p) ← putModule p r.name
  let (v, p) ← putOptional putUtf8 p r.version
  pure (be16 n ++ be16 r.flags ++ be16 v, p)

/-- `exports` / `opens` -/
def writeExports (p : Pool) (e : ModuleExports) : W := do
  let (n, p) ← putPackage p e.name
  let (b, p) ← writeSlice16 (fun p m => idx16 (putModule p m)) p e.to
  pure (be16 n ++ be16 e.flags ++ b, p)

def writeProvides (p : Pool) (e : ModuleProvides) : W := do
  let (n, p) ← putClass p e.name
  let (b, p) ← writeSlice16 (fun p c => idx16 (putClass p c)) p e.with_
  pure (be16 n ++ b, p)

def writeModule (m : Module) (p : Pool) : W := do
  let (n, p) ← putModule p m.name
  let (v, p) ← putOptional putUtf8 p m.version
  let (rq, p) ← writeSlice16 writeRequires p m.requires
  let (ex, p) ← writeSlice16 writeExports p m.exports
  let (op, p) ← writeSlice16 writeExports p m.opens
  let (us, p) ← writeSlice16 (fun p c => idx16 (putClass p c)) p m.uses
  let (pr, p) ← writeSlice16 writeProvides p m.provides
  pure (be16 n ++ be16 m.flags ++ be16 v ++ rq ++ ex ++ op ++ us ++ pr, p)

/-! ## class attributes -/

def writeInnerClass (p : Pool) (e : InnerClass) : W := do
  let (i, p) ← putClass p e.inner
  let (o, p) ← putOptional putClass p e.outer
  let (n, p) ← putOptional putUtf8 p e.name
  pure (be16 i ++ be16 o ++ be16 n ++ be16 e.flags, p)

def writeClassList (cs : List JStr) (p : Pool) : W := writeSlice16 (fun p c => idx16 (putClass p c)) p cs

/-- one row of `BootstrapMethods`: the handle enters the pool now -/
def writeBsmRow (p : Pool) (b : Bsm) : W := do
  let (h, p) ← opt (BootstrapWrite.putHandle p b.handle)
  let c ← cnt16 b.args.length
  pure (be16 h ++ c ++ b.args.flatMap be16, p)

/-- the attribute blocks of `write` after the members, in source order; `bs` = the bootstrap methods collected while
the members were written -/
def classAttrs (t : ClassFacts) (bs : List Bsm) : List AttrW :=
  [flagAttr t.deprecated ClassRead.sDeprecated, flagAttr t.synthetic ClassRead.sSynthetic,
   ifSome t.innerClasses (fun es => attrBuf ClassRead.sInnerClasses (fun p => writeSlice16 writeInnerClass p es)),
   ifSome t.enclosingMethod (fun em => attrFix ClassRead.sEnclosingMethod 4 (fun p => do
     let (c, p) ← putClass p em.1
     let (m, p) ← putOptional (fun p (x : JStr × JStr) => putNameAndType p x.1 x.2) p em.2
     pure (be16 c ++ be16 m, p))),
   sigAttr t.signature,
   ifSome t.sourceFile (fun s => attrFix ClassRead.sSourceFile 2 (fun p => idx16 (putUtf8 p s))),
   ifSome t.sourceDebugExtension (fun s => fun p => do
     let (i, p) ← putUtf8 p ClassRead.sSourceDebugExtension
     let l ← cnt32 (Mutf8.encode s).length
     pure (be16 i ++ l ++ Mutf8.encode s, p))]
  ++ annoBlocks writeTargetClass t.rva t.ria t.rvta t.rita ++
  [ifSome t.module (fun m => attrBuf ClassRead.sModule (writeModule m)),
   ifSome t.modulePackages (fun ps => attrBuf ClassRead.sModulePackages (fun p => writeSlice16 (fun p x => idx16 (putPackage p x)) p ps)),
   ifSome t.moduleMainClass (fun c => attrFix ClassRead.sModuleMainClass 2 (fun p => idx16 (putClass p c))),
   ifSome t.nestHost (fun c => attrFix ClassRead.sNestHost 2 (fun p => idx16 (putClass p c))),
   ifSome t.nestMembers (fun cs => attrBuf ClassRead.sNestMembers (writeClassList cs)),
   ifSome t.permittedSubclasses (fun cs => attrBuf ClassRead.sPermittedSubclasses (writeClassList cs)),
   onlyIf (!t.recordComponents.isEmpty)
     (attrBuf ClassRead.sRecord (fun p => writeSlice16 writeRecordComponent p t.recordComponents)),
   onlyIf (!bs.isEmpty) (attrBuf ClassRead.sBootstrapMethods (fun p => writeSlice16 writeBsmRow p bs))]
  ++ unknownAttrs t.attrs

/-! ## `PoolWrite::write` -/

def entryBytes : PoolWrite.Entry → Except Fail Bytes
  | .utf8 s => do
    let c ← cnt16 (Mutf8.encode s).length
    pure (1 :: (c ++ Mutf8.encode s))
  | .int v => .ok (3 :: be32 (ofI32 v))
  | .float b => .ok (4 :: be32 b)
  | .long v => .ok (5 :: be64 (ofI64 v))
  | .double b => .ok (6 :: be64 b)
  | .cls n => .ok (7 :: be16 n)
  | .str s => .ok (8 :: be16 s)
  | .fieldRef c nt => .ok (9 :: (be16 c ++ be16 nt))
  | .methodRef c nt => .ok (10 :: (be16 c ++ be16 nt))
  | .ifaceMethodRef c nt => .ok (11 :: (be16 c ++ be16 nt))
  | .nameAndType n d => .ok (12 :: (be16 n ++ be16 d))
  | .methodHandle k i => .ok (15 :: k :: be16 i)
  | .methodType d => .ok (16 :: be16 d)
  | .dynamic b nt => .ok (17 :: (be16 b ++ be16 nt))
  | .invokeDynamic b nt => .ok (18 :: (be16 b ++ be16 nt))
  | .module n => .ok (19 :: be16 n)
  | .package n => .ok (20 :: be16 n)

def entriesBytes : List PoolWrite.Entry → Except Fail Bytes
  | [] => .ok []
  | e :: es => do
    let b ← entryBytes e
    let bs ← entriesBytes es
    pure (b ++ bs)

/-- `constant_pool_count`, then the entries in creation order -/
def poolBytes (p : Pool) : Except Fail Bytes := do
  let b ← entriesBytes (PoolWrite.inner p)
  pure (be16 p.count ++ b)

/-! ## `write` -/

/-- everything `write` buffers while the pool grows (from `access_flags` to the last class attribute), the final pool -/
def writeBody (t : ClassFacts) : W := do
  let p := PoolWrite.empty
  let (ti, p) ← putClass p t.name
  let (si, p) ← putOptional putClass p t.super
  let (ib, p) ← writeSlice16 (fun p i => idx16 (putClass p i)) p t.interfaces
  let fc ← cnt16 t.fields.length
  let (fb, p) ← writeList writeField p t.fields
  let mc ← cnt16 t.methods.length
  let (mb, p, bs) ← writeMethods p [] t.methods
  let (as, p) ← runAttrs (classAttrs t bs) p
  let ab ← attrsBytes as
  pure (be16 t.access ++ be16 ti ++ be16 si ++ ib ++ fc ++ fb ++ mc ++ mb ++ ab, p)

/-- `duke::write_class` -/
def writeClass (t : ClassFacts) : Except Fail Bytes := do
  let (body, p) ← writeBody t
  let pb ← poolBytes p
  pure (be32 0xCAFEBABE ++ be16 t.minor ++ be16 t.major ++ pb ++ body)

end ClassWriteFull
