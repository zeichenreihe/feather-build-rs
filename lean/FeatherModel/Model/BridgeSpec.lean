import FeatherModel.Model.Bridge

/-!
# Declarative vocabulary of C15

What `Thm/C15.lean` states the executable model of `get_specialized_methods` against (reachability in the class
hierarchy instead of the work-list walk, propositions instead of the short-circuiting loops), and, for the insertion
loop, `touches` / `lastTouch` / `methodAt`. The vocabulary about the jar (`directSupers`, `Invoked`, `Declared`) is in
`Lemmas/BridgeIndex.lean`.
-/

namespace Bridge

/-- `a` is reachable from `c` in one or more steps of the graph `g` (`class ↦ direct successors`);
with `g = idx.parents`: `a` is a proper ancestor of `c`, with `g = idx.children`: a proper descendant -/
inductive Reach (g : AList JStr (List JStr)) : JStr → JStr → Prop
  | step {c p : JStr} : p ∈ nexts g c → Reach g c p
  | trans {c p a : JStr} : p ∈ nexts g c → Reach g p a → Reach g c a

/-- "bridge-compatible" types, as the code defines it: equal, or both object types and the bridge's type is
`java/lang/Object`, or a class the jar does not contain, or the specialized type has an ancestor (through the
hierarchy recorded for the jar) that is the bridge's type or a class the jar does not contain -/
def Compat (idx : Index) (tb ts : Ty) : Prop :=
  tb = ts ∨ ∃ b s, tb = .obj b ∧ ts = .obj s ∧
    (b = JLO ∨ b ∉ idx.classes ∨ ∃ a, Reach idx.parents s a ∧ (a = b ∨ a ∉ idx.classes))

/-- return types: both `void`, or both values of compatible types -/
def RetCompat (idx : Index) : Option Ty → Option Ty → Prop
  | some b, some s => Compat idx b s
  | none, none => True
  | _, _ => False

/-- inheritable, same arity, position-wise compatible parameters, compatible return type -/
def Potential (idx : Index) (b : MRef) (acc : Access) (s : MRef) : Prop :=
  acc.priv = false ∧ acc.static = false ∧ acc.final = false ∧
  ∃ pb rb ps rs, parseMethodDesc b.desc = some (pb, rb) ∧ parseMethodDesc s.desc = some (ps, rs) ∧
    pb.length = ps.length ∧ (∀ p, p ∈ List.zip pb ps → Compat idx p.1 p.2) ∧ RetCompat idx rb rs

/-- the stated conditions: `b` is a synthetic method of the jar whose body invokes exactly one distinct method, `s`,
and it is flagged as a bridge or is a potential bridge of `s` -/
def IsBridgePair (idx : Index) (b s : MRef) : Prop :=
  ∃ acc, AList.lookup b idx.methods = some acc ∧ acc.synthetic = true ∧ AList.lookup b idx.refs = some [s] ∧
    (acc.bridge = true ∨ Potential idx b acc s)

/-- the tie-break of the loop, as a fold over the bridges found for one specialized method, in order:
the first one is recorded; a later one replaces the recorded one when `get_higher_method` picks it -/
def foldHigher (w : Walks) : Option MRef → List MRef → Option (Option MRef)
  | cur, [] => some cur
  | none, b :: bs => foldHigher w (some b) bs
  | some o, b :: bs =>
    match higher w b o with
    | none => none
    | some h => foldHigher w (some h) bs

/-! ## the mapping side -/

/-- the pair `(b, s)` writes the method entry `k` of class `c` -/
def touches (c : JStr) (k : MemberKey) (p : MRef × MRef) : Bool := p.1.cls == c && (p.2.name, p.2.desc) == k

/-- the last pair of the list writing `(c, k)` -/
def lastTouch (ps : List (MRef × MRef)) (c : JStr) (k : MemberKey) : Option (MRef × MRef) :=
  (ps.filter (touches c k)).getLast?

/-- the method entry `k` of class `c` -/
def methodAt (m : Mappings) (c : JStr) (k : MemberKey) : Option Method :=
  match AList.lookup c m.classes with
  | some cl => AList.lookup k cl.methods
  | none => none

end Bridge
