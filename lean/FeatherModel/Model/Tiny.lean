import FeatherModel.Model.Mappings

/-!
# Tiny v2 reader and writer (C03)
`quill/src/tiny_v2.rs` (`read`, `write`, `escape`, `unescape`, `add_comment`), `quill/src/lines.rs`
(`TinyLine`, `WithMoreIdentIter`), `quill/src/tree/mappings.rs` (`add_child`), name checks of
`duke/src/tree/mod.rs` (`mod names`).

Text is a list of code points. The model mirrors the code from a79b1fd, 4f3eba6 and the header section change on,
including:
* comments are escaped (`\\`, `\n`, `\r`, `\t`) and `unescape` keeps a backslash that starts no escape sequence;
* `write` refuses (clean `Err`, `write? = none`) a namespace, name or descriptor that contains TAB / LF / CR or is not
  valid UTF-8 (lone surrogate) - function `cell` of `tiny_v2.rs`;
* the comment of the mapping set itself is written as a property line of the header section (indentation 1, directly
  after the header line) and `read` consumes that section before the class loop: a `c` line there sets the comment (a
  second one is an error), other property lines are ignored, deeper indentation is an error (`headerSec`).
-/

namespace Tiny

/-! ## text primitives -/

/-- `escape`: `s.replace('\\', "\\\\").replace('\n', "\\n").replace('\r', "\\r").replace('\t', "\\t")`. The four replacements act
on different characters and none produces a character a later one looks for (the backslashes produced by the later ones
come after the backslash replacement), so the chain is this simultaneous substitution. -/
def escape (s : JStr) : JStr := s.flatMap fun c =>
  if c = 92 then [92, 92] else if c = 10 then [92, 110] else if c = 13 then [92, 114] else if c = 9 then [92, 116] else [c]

/-- `unescape`: left to right; backslash followed by `\`, `n`, `r`, `t` is one character, any other backslash stays -/
def unescape : JStr → JStr
  | [] => []
  | [c] => [c]
  | a :: b :: rest =>
    if a = 92 then
      if b = 92 then 92 :: unescape rest
      else if b = 110 then 10 :: unescape rest
      else if b = 114 then 13 :: unescape rest
      else if b = 116 then 9 :: unescape rest
      else 92 :: unescape (b :: rest)
    else a :: unescape (b :: rest)

/-- `str::split(sep)`: always at least one piece -/
def splitOn (sep : Nat) : List Nat → List (List Nat)
  | [] => [[]]
  | c :: rest =>
    if c = sep then [] :: splitOn sep rest
    else match splitOn sep rest with
      | [] => [[c]]
      | f :: fs => (c :: f) :: fs

/-- `BufRead::lines`: split on LF, a CR directly before the LF is dropped (one only, and only when the LF is there);
a final line without LF counts when it is non-empty -/
def lines : List Nat → List (List Nat)
  | [] => []
  | [c] => if c = 10 then [[]] else [[c]]
  | a :: b :: rest =>
    if a = 10 then [] :: lines (b :: rest)
    else if a = 13 ∧ b = 10 then [] :: lines rest
    else match lines (b :: rest) with
      | [] => [[a]]
      | l :: ls => (a :: l) :: ls

structure TLine where
  indent : Nat
  first : JStr
  fields : List JStr
  deriving Repr, DecidableEq

/-- `TinyLine::new` (never fails: `split` yields at least one piece) -/
def tinyLine (l : List Nat) : TLine :=
  let i := (l.takeWhile (· == 9)).length
  match splitOn 9 (l.drop i) with
  | [] => { indent := i, first := [], fields := [] }
  | f :: fs => { indent := i, first := f, fields := fs }

def textLines (text : List Nat) : List TLine := (lines text).map tinyLine

/-! ## name checks (`duke/src/tree/mod.rs`, `mod names`) and `usize` parsing -/

/-- `is_valid_unqualified_name`: non-empty, none of `.` `;` `[` `/` -/
def validUnq (s : JStr) : Bool := !s.isEmpty && s.all fun c => c != 46 && c != 59 && c != 91 && c != 47

/-- `is_valid_obj_class_name` -/
def validClass (s : JStr) : Bool := s.head? != some 91 && (splitOn 47 s).all validUnq

/-- `is_valid_method_name` -/
def validMethod (s : JStr) : Bool :=
  s == [60, 105, 110, 105, 116, 62] || s == [60, 99, 108, 105, 110, 105, 116, 62] ||
    (!s.isEmpty && s.all fun c => c != 46 && c != 59 && c != 91 && c != 47 && c != 60 && c != 62)

def USIZE_LIMIT : Nat := 18446744073709551616

def stripPlus : JStr → JStr
  | 43 :: r => r
  | s => s

/-- `str::parse::<usize>()`: optional `+`, then one or more ASCII digits, value below 2^64.
(Rust checks overflow step by step; prefixes of a digit string have smaller values, so checking the final value is the same function.) -/
def parseUsize (s : JStr) : Option Nat :=
  if (stripPlus s).isEmpty then none
  else if (stripPlus s).all (fun c => decide (48 ≤ c) && decide (c ≤ 57)) then
    if (stripPlus s).foldl (fun a c => a * 10 + (c - 48)) 0 < USIZE_LIMIT then
      some ((stripPlus s).foldl (fun a c => a * 10 + (c - 48)) 0)
    else none
  else none

def digitsAux : Nat → Nat → List Nat → List Nat
  | 0, _, acc => acc
  | fuel + 1, n, acc => if n < 10 then (48 + n) :: acc else digitsAux fuel (n / 10) ((48 + n % 10) :: acc)

/-- decimal digits of a number (`Display for usize`) -/
def natDigits (n : Nat) : List Nat := digitsAux (n + 1) n []

/-- `TinyLine::into_names::<N, T>` with `valid` the check of `T::try_from` -/
def intoNames (valid : JStr → Bool) (n : Nat) (fields : List JStr) : Option Names :=
  if fields.any (fun f => !f.isEmpty && !valid f) then none
  else if fields.length ≠ n then none
  else some (fields.map fun f => if f.isEmpty then none else some f)

/-- `Names::first_name` -/
def firstName (names : Names) : Option JStr :=
  match names with
  | some k :: _ => some k
  | _ => none

/-! ## sort keys: derived `Ord` of `ClassMapping`, `FieldMapping`, `MethodMapping`, `ParameterMapping` -/

def natLe (a b : Nat) : Bool := decide (a ≤ b)

/-- lexicographic order of slices / arrays -/
def lexLe {α : Type} (le : α → α → Bool) : List α → List α → Bool
  | [], _ => true
  | _ :: _, [] => false
  | a :: as, b :: bs => if le a b then (if le b a then lexLe le as bs else true) else false

/-- `None < Some` -/
def optLe {α : Type} (le : α → α → Bool) : Option α → Option α → Bool
  | none, _ => true
  | some _, none => false
  | some a, some b => le a b

/-- lexicographic order of two struct fields -/
def pairLe {α β : Type} (le1 : α → α → Bool) (le2 : β → β → Bool) (a b : α × β) : Bool :=
  if le1 a.1 b.1 then (if le1 b.1 a.1 then le2 a.2 b.2 else true) else false

/-- strings compare as UTF-8 bytes, which is code point order -/
def strLe : JStr → JStr → Bool := lexLe natLe
def namesLe : Names → Names → Bool := lexLe (optLe strLe)

def classLe (a b : Class) : Bool := namesLe a.names b.names
def fieldLe (a b : Field) : Bool := pairLe strLe namesLe (a.desc, a.names) (b.desc, b.names)
def methodLe (a b : Method) : Bool := pairLe strLe namesLe (a.desc, a.names) (b.desc, b.names)
def paramLe (a b : Param) : Bool := pairLe natLe namesLe (a.index, a.names) (b.index, b.names)

/-- stable insertion (an element goes before the first element that is not smaller) -/
def insertBy {α : Type} (le : α → α → Bool) (a : α) : List α → List α
  | [] => [a]
  | b :: l => if le a b then a :: b :: l else b :: insertBy le a l

/-- `sort_by_key` (stable): insertion sort -/
def sortBy {α : Type} (le : α → α → Bool) (l : List α) : List α := l.foldr (insertBy le) []

/-! ## `write` -/

def isSurrogate (c : Nat) : Bool := decide (55296 ≤ c) && decide (c ≤ 57343)

/-- `write_names`: a TAB before every cell, absent names are empty cells -/
def namesCells (names : Names) : List Nat := names.flatMap fun o => 9 :: o.getD []

def docLines (indent : Nat) : Option JStr → List (List Nat)
  | none => []
  | some d => [List.replicate indent 9 ++ [99, 9] ++ escape d]

def paramLines (p : Param) : List (List Nat) :=
  ([9, 9, 112, 9] ++ natDigits p.index ++ namesCells p.names) :: docLines 3 p.doc

def fieldLines (f : Field) : List (List Nat) :=
  ([9, 102, 9] ++ f.desc ++ namesCells f.names) :: docLines 2 f.doc

def methodLines (m : Method) : List (List Nat) :=
  ([9, 109, 9] ++ m.desc ++ namesCells m.names) :: (docLines 2 m.doc ++
    (sortBy paramLe m.params.values).flatMap paramLines)

def classLines (c : Class) : List (List Nat) :=
  ([99] ++ namesCells c.names) :: (docLines 1 c.doc ++
    ((sortBy fieldLe c.fields.values).flatMap fieldLines ++
     (sortBy methodLe c.methods.values).flatMap methodLines))

def headerLine (ns : List JStr) : List Nat := [116, 105, 110, 121, 9, 50, 9, 48] ++ ns.flatMap (9 :: ·)

def writeLines (m : Mappings) : List (List Nat) :=
  headerLine m.ns :: (docLines 1 m.doc ++ (sortBy classLe m.classes.values).flatMap classLines)

/-- the text `write` produces when it does not refuse a cell -/
def write (m : Mappings) : List Nat := (writeLines m).flatMap (· ++ [10])

/-- function `cell`: valid UTF-8 (no lone surrogate) and none of TAB, LF, CR -/
def cellOk (s : JStr) : Bool := s.all fun c => c != 9 && c != 10 && c != 13 && !isSurrogate c

def namesWritable (names : Names) : Bool :=
  names.all fun o => match o with
    | none => true
    | some s => cellOk s

/-- every namespace, present name and descriptor passes `cell` -/
def writeOk (m : Mappings) : Bool :=
  m.ns.all cellOk && m.classes.all fun (_, c) => namesWritable c.names &&
    c.fields.all (fun (_, f) => cellOk f.desc && namesWritable f.names) &&
    c.methods.all (fun (_, me) => cellOk me.desc && namesWritable me.names && me.params.all (fun (_, p) => namesWritable p.names))

/-- `write_vec`: `none` is the `Err` of the first refused cell (nothing else can fail: the sink is a `Vec`) -/
def write? (m : Mappings) : Option (List Nat) := if writeOk m then some (write m) else none

/-! ## `read`
The reader inserts every node into its parent's map when its line is met (`add_child`) and then keeps mutating that
*last* entry while the nested `WithMoreIdentIter` loops consume the deeper lines. The state is therefore the tree built
so far, the depth of the innermost active loop, and whether the open member (depth 2) is a field or a method. -/

inductive Kind where
  | field | method
  deriving Repr, DecidableEq

structure St where
  depth : Nat
  kind : Kind
  classes : AList JStr Class
  deriving Repr, DecidableEq

/-- mutate the last element (the `&mut` returned by `add_child`) -/
def modLast {α : Type} (f : α → Option α) : List α → Option (List α)
  | [] => none
  | [x] => (f x).map fun y => [y]
  | x :: y :: r => (modLast f (y :: r)).map fun l => x :: l

def modLastV {K V : Type} (f : V → Option V) (m : AList K V) : Option (AList K V) :=
  modLast (fun e => (f e.2).map fun v => (e.1, v)) m

/-- `TinyLine::end` then `unescape` -/
def commentOf (l : TLine) : Option JStr :=
  match l.fields with
  | [c] => some (unescape c)
  | _ => none

/-- `add_comment` -/
def setDoc (old : Option JStr) (l : TLine) : Option (Option JStr) :=
  match commentOf l with
  | none => none
  | some c => if old.isSome then none else some (some c)

def C_ : JStr := [99]
def F_ : JStr := [102]
def M_ : JStr := [109]
def P_ : JStr := [112]

def addClass (n : Nat) (l : TLine) (cs : AList JStr Class) : Option (AList JStr Class) :=
  match intoNames validClass n l.fields with
  | none => none
  | some names =>
    match firstName names with
    | none => none
    | some key => AList.insertNew key { names := names, doc := none, fields := [], methods := [] } cs

def addField (n : Nat) (l : TLine) (c : Class) : Option Class :=
  match l.fields with
  | [] => none
  | desc :: rest =>
    match intoNames validUnq n rest with
    | none => none
    | some names =>
      match firstName names with
      | none => none
      | some name =>
        match AList.insertNew (name, desc) { desc := desc, names := names, doc := none } c.fields with
        | none => none
        | some fs => some { c with fields := fs }

def addMethod (n : Nat) (l : TLine) (c : Class) : Option Class :=
  match l.fields with
  | [] => none
  | desc :: rest =>
    match intoNames validMethod n rest with
    | none => none
    | some names =>
      match firstName names with
      | none => none
      | some name =>
        match AList.insertNew (name, desc) { desc := desc, names := names, doc := none, params := [] } c.methods with
        | none => none
        | some ms => some { c with methods := ms }

def addParam (n : Nat) (l : TLine) (m : Method) : Option Method :=
  match l.fields with
  | [] => none
  | idx :: rest =>
    match parseUsize idx with
    | none => none
    | some index =>
      match intoNames validUnq n rest with
      | none => none
      | some names =>
        match AList.insertNew index { index := index, names := names, doc := none } m.params with
        | none => none
        | some ps => some { m with params := ps }

def classDoc (l : TLine) (c : Class) : Option Class := (setDoc c.doc l).map fun d => { c with doc := d }
def fieldDoc (l : TLine) (f : Field) : Option Field := (setDoc f.doc l).map fun d => { f with doc := d }
def methodDoc (l : TLine) (m : Method) : Option Method := (setDoc m.doc l).map fun d => { m with doc := d }
def paramDoc (l : TLine) (p : Param) : Option Param := (setDoc p.doc l).map fun d => { p with doc := d }

def inLastField (f : Field → Option Field) (c : Class) : Option Class :=
  (modLastV f c.fields).map fun fs => { c with fields := fs }
def inLastMethod (f : Method → Option Method) (c : Class) : Option Class :=
  (modLastV f c.methods).map fun ms => { c with methods := ms }
def inLastParam (f : Param → Option Param) (m : Method) : Option Method :=
  (modLastV f m.params).map fun ps => { m with params := ps }

/-- one line through the nested `on_every_line` loops: a line deeper than the innermost active loop is an error, a
shallower one ends the deeper loops, a line with an unknown first field is ignored (and opens no deeper loop) -/
def step (n : Nat) (s : St) (l : TLine) : Option St :=
  if s.depth < l.indent then none
  else match l.indent with
  | 0 =>
    if l.first = C_ then (addClass n l s.classes).map fun cs => { s with depth := 1, classes := cs }
    else some { s with depth := 0 }
  | 1 =>
    if l.first = F_ then (modLastV (addField n l) s.classes).map fun cs => { depth := 2, kind := .field, classes := cs }
    else if l.first = M_ then (modLastV (addMethod n l) s.classes).map fun cs => { depth := 2, kind := .method, classes := cs }
    else if l.first = C_ then (modLastV (classDoc l) s.classes).map fun cs => { s with depth := 1, classes := cs }
    else some { s with depth := 1 }
  | 2 =>
    match s.kind with
    | .field =>
      if l.first = C_ then (modLastV (inLastField (fieldDoc l)) s.classes).map fun cs => { s with depth := 2, classes := cs }
      else some { s with depth := 2 }
    | .method =>
      if l.first = P_ then (modLastV (inLastMethod (addParam n l)) s.classes).map fun cs => { s with depth := 3, classes := cs }
      else if l.first = C_ then (modLastV (inLastMethod (methodDoc l)) s.classes).map fun cs => { s with depth := 2, classes := cs }
      else some { s with depth := 2 }
  | 3 =>
    if l.first = C_ then
      (modLastV (inLastMethod (inLastParam (paramDoc l))) s.classes).map fun cs => { s with depth := 3, classes := cs }
    else some { s with depth := 3 }
  | _ => none

def run (n : Nat) : St → List TLine → Option St
  | s, [] => some s
  | s, l :: ls =>
    match step n s l with
    | none => none
    | some s' => run n s' ls

def TINY : JStr := [116, 105, 110, 121]

/-- the section of the header itself, `WithMoreIdentIter::new(&mut lines).next_level().on_every_line(..)`: the loop at
depth 1 directly after the header line. A line at indentation 0 (or the end of the input) ends it and is left for the
class loop; a deeper line is the iterator's error; a `c` line is `add_comment(&mut mappings.javadoc, line)`; every other
property line is ignored. Result: the comment and the lines that are left. -/
def headerSec : Option JStr → List TLine → Option (Option JStr × List TLine)
  | doc, [] => some (doc, [])
  | doc, l :: ls =>
    match l.indent with
    | 0 => some (doc, l :: ls)
    | 1 =>
      if l.first = C_ then
        match setDoc doc l with
        | none => none
        | some d => headerSec d ls
      else headerSec doc ls
    | _ => none

/-- `tiny_v2::read::<N>`. The final "expected end of input" check of the Rust code is unreachable: the depth-0 loop only
stops at the end of the input. The indentation of the header line is not looked at. -/
def read (n : Nat) (text : List Nat) : Option Mappings :=
  if n < 2 then none
  else match textLines text with
  | [] => none
  | h :: ls =>
    if h.first ≠ TINY then none
    else match h.fields with
    | two :: zero :: nss =>
      if two ≠ [50] then none
      else if zero ≠ [48] then none
      else if nss.length ≠ n then none
      else if nss.any (·.isEmpty) then none
      else match headerSec none ls with
        | none => none
        | some (doc, body) =>
          match run n { depth := 0, kind := .field, classes := [] } body with
          | none => none
          | some s => some { ns := nss, doc := doc, classes := s.classes }
    | _ => none

/-! ## canonical form, well-formedness and the proved domain (all decidable, shared with the driver) -/

def sortKV {K V : Type} (le : V → V → Bool) (m : AList K V) : AList K V := sortBy (fun a b => le a.2 b.2) m

def canonMethod (m : Method) : Method := { m with params := sortKV paramLe m.params }
def canonClass (c : Class) : Class :=
  { c with fields := sortKV fieldLe c.fields, methods := sortKV methodLe (AList.mapVals canonMethod c.methods) }
/-- every level in the order `write` emits it -/
def canon (m : Mappings) : Mappings := { m with classes := sortKV classLe (AList.mapVals canonClass m.classes) }

def keysNodup {K V : Type} [BEq K] : AList K V → Bool
  | [] => true
  | (k, _) :: rest => !(AList.contains k rest) && keysNodup rest

/-- map invariants of `quill`: keys are unique and equal to the key derived from the entry (`ToKey`) -/
def wfMethod (m : Method) : Bool := keysNodup m.params && m.params.all fun (k, p) => k == p.index
def wfClass (c : Class) : Bool :=
  keysNodup c.fields && (c.fields.all fun (k, f) => firstName f.names == some k.1 && k.2 == f.desc) &&
  keysNodup c.methods && (c.methods.all fun (k, m) => firstName m.names == some k.1 && k.2 == m.desc && wfMethod m)
def wf (m : Mappings) : Bool :=
  keysNodup m.classes && m.classes.all fun (k, c) => firstName c.names == some k && wfClass c

def namesOk (valid : JStr → Bool) (n : Nat) (names : Names) : Bool :=
  names.length == n && names.all fun o => match o with
    | none => true
    | some s => !s.isEmpty && cellOk s && valid s

def paramOk (n : Nat) (p : Param) : Bool := decide (p.index < USIZE_LIMIT) && namesOk validUnq n p.names
def fieldOk (n : Nat) (f : Field) : Bool := cellOk f.desc && namesOk validUnq n f.names
def methodOk (n : Nat) (m : Method) : Bool :=
  cellOk m.desc && namesOk validMethod n m.names && m.params.all fun (_, p) => paramOk n p
def classOk (n : Nat) (c : Class) : Bool :=
  namesOk validClass n c.names && (c.fields.all fun (_, f) => fieldOk n f) && c.methods.all fun (_, m) => methodOk n m

/-- the proved domain of the round trip and of the fixed point: what `write` accepts (`cellOk`), names valid for their
newtype and present in the first namespace where they are keys (`wf`). All comments - of the mapping set itself, of
classes, fields, methods and parameters - are arbitrary. -/
def writable (n : Nat) (m : Mappings) : Bool :=
  decide (2 ≤ n) && m.ns.length == n && (m.ns.all fun s => !s.isEmpty && cellOk s) &&
    wf m && m.classes.all fun (_, c) => classOk n c

/-! ### content equality: the same entries in any insertion order at every level (decided through key order) -/

def keyStrLe (a b : JStr × Class) : Bool := strLe a.1 b.1
def memberKeyLe (a b : MemberKey) : Bool := pairLe strLe strLe a b

def paramsEqB (a b : AList Nat Param) : Bool :=
  decide (sortBy (fun x y => natLe x.1 y.1) a = sortBy (fun x y => natLe x.1 y.1) b)

def all2B {α β : Type} (r : α → β → Bool) : List α → List β → Bool
  | [], [] => true
  | a :: as, b :: bs => r a b && all2B r as bs
  | _, _ => false

def methodEqB (a b : Method) : Bool :=
  a.desc == b.desc && a.names == b.names && a.doc == b.doc && paramsEqB a.params b.params

def classEqB (a b : Class) : Bool :=
  a.names == b.names && a.doc == b.doc &&
    decide (sortBy (fun x y => memberKeyLe x.1 y.1) a.fields = sortBy (fun x y => memberKeyLe x.1 y.1) b.fields) &&
    all2B (fun x y => x.1 == y.1 && methodEqB x.2 y.2)
      (sortBy (fun x y => memberKeyLe x.1 y.1) a.methods) (sortBy (fun x y => memberKeyLe x.1 y.1) b.methods)

def contentEqB (a b : Mappings) : Bool :=
  a.ns == b.ns && a.doc == b.doc &&
    all2B (fun x y => x.1 == y.1 && classEqB x.2 y.2)
      (sortBy (fun x y => strLe x.1 y.1) a.classes) (sortBy (fun x y => strLe x.1 y.1) b.classes)


/-! ### how the reader classifies lines; entry counts (used by the `read_counts` theorem and its oracle) -/

/-- the lines after the header line that belong to the header's own section: everything before the first line at
indentation 0 (a function of the text alone) -/
def headerPart (ls : List TLine) : List TLine := ls.takeWhile fun l => l.indent != 0

/-- the lines the class loop sees: from the first line at indentation 0 on -/
def bodyPart (ls : List TLine) : List TLine := ls.dropWhile fun l => l.indent != 0

/-- the comment lines of a header section -/
def headerDocLines (ls : List TLine) : List TLine := (headerPart ls).filter fun l => l.first == C_

/-- the comment a header section yields, from the text alone: the cell of its first comment line, unescaped -/
def headerDoc (ls : List TLine) : Option JStr := (headerDocLines ls).head?.bind commentOf

/-- decidable shape of a refused header section: a line deeper than a property line, or more than one comment -/
def headerBad (ls : List TLine) : Bool :=
  (headerPart ls).any (fun l => decide (2 ≤ l.indent)) || decide (2 ≤ (headerDocLines ls).length)

/-- `ls'` is `ls` without its line `k`, which stands in the header section and is a property line other than a comment -/
def ignoredAt (ls ls' : List TLine) (k : Nat) : Bool :=
  match ls[k]? with
  | some l => ((ls.take k).all fun x => x.indent != 0) && l.indent == 1 && l.first != C_ && ls' == ls.eraseIdx k
  | none => false

/-- line `k` stands at indentation 0 and is no class line, line `k + 1` is indented -/
def orphanAt (ls : List TLine) (k : Nat) : Bool :=
  match ls[k]?, ls[k + 1]? with
  | some l0, some l => l0.indent == 0 && l0.first != C_ && decide (1 ≤ l.indent)
  | _, _ => false

/-- how `step` treats a line, given the kind of the member that was opened last -/
inductive LineKind where
  | cls | fld | mth | par | doc | skip
  deriving Repr, DecidableEq

def lineKind (k : Kind) (l : TLine) : LineKind :=
  match l.indent with
  | 0 => if l.first = C_ then .cls else .skip
  | 1 => if l.first = F_ then .fld else if l.first = M_ then .mth else if l.first = C_ then .doc else .skip
  | 2 =>
    match k with
    | .field => if l.first = C_ then .doc else .skip
    | .method => if l.first = P_ then .par else if l.first = C_ then .doc else .skip
  | _ => if l.first = C_ then .doc else .skip

/-- the member kind after a line: only `f` and `m` lines at indentation 1 change it -/
def kindAfter (k : Kind) (l : TLine) : Kind :=
  if l.indent = 1 then (if l.first = F_ then .field else if l.first = M_ then .method else k) else k

/-- the classification of every line of a body, from the text alone -/
def lineKinds : Kind → List TLine → List LineKind
  | _, [] => []
  | k, l :: ls => lineKind k l :: lineKinds (kindAfter k l) ls

def docN (d : Option JStr) : Nat := if d.isSome then 1 else 0

/-- comments in a method entry -/
def methodDocs (m : Method) : Nat := docN m.doc + (m.params.map fun e => docN e.2.doc).sum
/-- comments in a class entry -/
def classDocs (c : Class) : Nat :=
  docN c.doc + (c.fields.map fun e => docN e.2.doc).sum + (c.methods.map fun e => methodDocs e.2).sum
def classParams (c : Class) : Nat := (c.methods.map fun e => e.2.params.length).sum

/-- number of entries of one kind in a class map (`.doc`: comments at all levels below the top) -/
def countOf : LineKind → AList JStr Class → Nat
  | .cls, cs => cs.length
  | .fld, cs => (cs.map fun e => e.2.fields.length).sum
  | .mth, cs => (cs.map fun e => e.2.methods.length).sum
  | .par, cs => (cs.map fun e => classParams e.2).sum
  | .doc, cs => (cs.map fun e => classDocs e.2).sum
  | .skip, _ => 0

/-- the class-map part of `wf` -/
def wfCs (cs : AList JStr Class) : Bool :=
  keysNodup cs && cs.all fun (k, c) => firstName c.names == some k && wfClass c


/-! ### decidable shapes of two sibling lines with the same key (domain of the `read_dup` theorems and their oracle) -/

def isLine (indent : Nat) (first : JStr) (l : TLine) : Bool := l.indent == indent && l.first == first

/-- the lines strictly between positions `i` and `j` -/
def between (ls : List TLine) (i j : Nat) : List TLine := (ls.drop (i + 1)).take (j - i - 1)

/-- lines `i < j` are class lines with the same first cell -/
def dupClassAt (ls : List TLine) (i j : Nat) : Bool :=
  match ls[i]?, ls[j]? with
  | some a, some b => decide (i < j) && isLine 0 C_ a && isLine 0 C_ b && a.fields.head? == b.fields.head?
  | _, _ => false

/-- lines `i < j` are field (method) lines of one class with the same descriptor and first name -/
def dupMemberAt (first : JStr) (ls : List TLine) (i j : Nat) : Bool :=
  match ls[i]?, ls[j]? with
  | some a, some b =>
    decide (i < j) && isLine 1 first a && isLine 1 first b && a.fields.take 2 == b.fields.take 2 &&
      (between ls i j).all fun l => decide (1 ≤ l.indent)
  | _, _ => false

/-- lines `i < j` are parameter lines with the same index under the method line `m` -/
def dupParamAt (ls : List TLine) (m i j : Nat) : Bool :=
  match ls[m]?, ls[i]?, ls[j]? with
  | some lm, some a, some b =>
    decide (m < i) && decide (i < j) && isLine 1 M_ lm && isLine 2 P_ a && isLine 2 P_ b &&
      (a.fields.head?.bind parseUsize == b.fields.head?.bind parseUsize) &&
      ((between ls m i).all fun l => decide (2 ≤ l.indent)) && ((between ls i j).all fun l => decide (2 ≤ l.indent))
  | _, _, _ => false

def dupAt (ls : List TLine) (m i j : Nat) : Bool :=
  dupClassAt ls i j || dupMemberAt F_ ls i j || dupMemberAt M_ ls i j || dupParamAt ls m i j


end Tiny
