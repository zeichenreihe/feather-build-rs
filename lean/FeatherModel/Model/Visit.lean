/-!
# C17 — the class reader at the granularity of its dispatch logic (`duke/src/class_reader.rs`)

A class file is described by its *framing*: header (magic .. interfaces), fields and methods with their attributes,
class attributes; every attribute = kind (its name), declared `attribute_length`, the number of bytes its parser consumes
when it is parsed (`used`) and an abstract payload (what the visitor is told). `Code` and `Record` carry their nested
structure. The frame describes the bytes the way the *declared lengths* lay them out (what `skip` sees).

`readWith cfg c avail` mirrors `class_reader::read` for a visitor described by `cfg` (interest masks at the class, field,
method, code and record-component level, and which classes / fields / methods / record components / `Code`s it declines):
which attributes are parsed, which are skipped by their declared length, in which order events are delivered (class
attributes first, members afterwards through `with_pos`), what `ControlFlow::Break` / `visit_code() -> None` do
(`skip_attributes` / `skip(length)`), and where the cursor ends. Positions are relative to the start of the class file;
`avail` = number of bytes available from there (reads beyond it fail, `skip` beyond it does not: `Cursor::seek`).

Quirks mirrored as they are in the code:
* `Deprecated` / `Synthetic` are neither parsed nor skipped (the reader relies on `attribute_length == 0`);
* `RuntimeVisible/InvisibleParameterAnnotations` are skipped whatever the interest flag says;
* `BootstrapMethods` is always parsed; a second one, a second parsed `Record`, a second parsed `StackMapTable`/`StackMap` fail;
* `ClassInterests.fields = false`: inside `with_pos` every field is skipped (6 bytes unchecked + `skip_attributes`, the
  same loop as the one before `visit_class`): its name / descriptor are not resolved, no attribute is parsed;
  `ClassInterests.methods = false`: the methods are not read at all (not even `methods_count`) — whatever is wrong inside
  them goes unnoticed; the cursor returns to the end of the class attributes either way (`with_pos`);
* unknown attributes are read by their declared length; names known at another level are unknown here
  (`Deprecated` in a record component, `Signature` inside `Code`, ...);
* inside `Code`, stack map frames, line numbers and local variables are delivered after all code attributes were read,
  line numbers / local variables merged over all parsed tables; type annotations and unknown attributes immediately.

Outcome `desync`: a parsed attribute consumed a number of bytes different from its declared length — everything after
it is read from the wrong offset and the framing says nothing about what happens (model gives up, never when `framesExact` holds).
-/

namespace Visit

/-- attribute names the reader knows at some level (`other` = any other name) -/
inductive K where
  | deprecated | synthetic | innerClasses | enclosingMethod | signature | sourceFile | sourceDebugExtension
  | rva | ria | rvta | rita | module | modulePackages | moduleMainClass | nestHost | nestMembers
  | permittedSubclasses | record | bootstrapMethods | constantValue | code | exceptions | rvpa | ripa
  | annotationDefault | methodParameters | stackMapTable | stackMap | lineNumberTable | lvt | lvtt | other
  deriving DecidableEq, Repr, Inhabited

abbrev Pay := List Nat

/-- interest mask of one visitor: `m k` = the `interests.<k>` flag (`m .other` = `unknown_attributes`) -/
abbrev Mask := K → Bool

/-- a leaf attribute -/
structure Attr where
  k : K
  /-- declared `attribute_length` -/
  len : Nat
  /-- bytes the parser of this kind consumes -/
  used : Nat
  pay : Pay
  deriving DecidableEq, Repr, Inhabited

/-- what a level of the reader does with an attribute name -/
inductive Act where
  | flagDep | flagSyn
  /-- `name == X && !interests.x => skip(length)`, otherwise parse and deliver -/
  | gated
  /-- parsed whatever the visitor says, nothing delivered (`BootstrapMethods`) -/
  | always
  /-- skipped in both arms (parameter annotations, `TODO` in the reader) -/
  | skipOnly
  /-- `_ if !interests.unknown_attributes => skip`, otherwise `read_u8_vec(length)` -/
  | unknown
  deriving DecidableEq, Repr

def classAct : K → Act
  | .deprecated => .flagDep | .synthetic => .flagSyn
  | .innerClasses | .enclosingMethod | .signature | .sourceFile | .sourceDebugExtension
  | .rva | .ria | .rvta | .rita | .module | .modulePackages | .moduleMainClass | .nestHost | .nestMembers
  | .permittedSubclasses => .gated
  | .bootstrapMethods => .always
  | _ => .unknown

def fieldAct : K → Act
  | .deprecated => .flagDep | .synthetic => .flagSyn
  | .constantValue | .signature | .rva | .ria | .rvta | .rita => .gated
  | _ => .unknown

def methodAct : K → Act
  | .deprecated => .flagDep | .synthetic => .flagSyn
  | .exceptions | .signature | .rva | .ria | .rvta | .rita | .annotationDefault | .methodParameters => .gated
  | .rvpa | .ripa => .skipOnly
  | _ => .unknown

def recAct : K → Act
  | .signature | .rva | .ria | .rvta | .rita => .gated
  | _ => .unknown

/-- the nested `Code` attribute of a method -/
structure Code where
  len : Nat
  /-- bytes of max_stack, max_locals, code_length, code, exception table -/
  hdr : Nat
  maxs : Nat
  insns : Nat
  exc : Nat
  attrs : List Attr
  deriving DecidableEq, Repr, Inhabited

inductive MAttr where
  | leaf (a : Attr)
  | code (c : Code)
  deriving DecidableEq, Repr, Inhabited

structure RecComp where
  h : Nat
  attrs : List Attr
  deriving DecidableEq, Repr, Inhabited

inductive CAttr where
  | leaf (a : Attr)
  | record (len : Nat) (comps : List RecComp)
  deriving DecidableEq, Repr, Inhabited

structure Field where
  h : Nat
  attrs : List Attr
  /-- `name_index` / `descriptor_index` resolve to a valid `FieldName` / `FieldDescriptor` (`read_field` fails before
  `visit_field` otherwise; the skipping loops never look at them) -/
  ok : Bool := true
  deriving DecidableEq, Repr, Inhabited

structure Method where
  h : Nat
  attrs : List MAttr
  /-- `name_index` / `descriptor_index` resolve to a valid `MethodName` / `MethodDescriptor` -/
  ok : Bool := true
  deriving DecidableEq, Repr, Inhabited

structure ClassFrame where
  /-- magic, version, constant pool, access, this, super, interfaces parse without error -/
  hdrOk : Bool
  /-- their length in bytes -/
  hdr : Nat
  h : Nat
  fields : List Field
  methods : List Method
  attrs : List CAttr
  deriving DecidableEq, Repr, Inhabited

/-! ## visitor configuration -/

structure MethodCfg where
  mask : Mask
  /-- `MethodInterests.code` -/
  code : Bool
  /-- `visit_code()`: `none` = declines, `some m` = a code visitor with interests `m` -/
  codeV : Option Mask

structure Cfg where
  /-- `visit_class`: `none` = `ControlFlow::Break` -/
  cls : Option Mask
  /-- `ClassInterests.fields` / `.methods`: honoured by the reader (52da0aa) and by `ClassFile::accept` -/
  fieldsI : Bool
  methodsI : Bool
  /-- `visit_field` for the i-th field: `none` = Break -/
  field : Nat → Option Mask
  method : Nat → Option MethodCfg
  /-- `visit_record_component` for the r-th component -/
  recc : Nat → Option Mask

def allMask : Mask := fun _ => true

/-- the full read: interested in everything, declines nothing -/
def full : Cfg where
  cls := some allMask
  fieldsI := true
  methodsI := true
  field := fun _ => some allMask
  method := fun _ => some { mask := allMask, code := true, codeV := some allMask }
  recc := fun _ => some allMask

/-! ## local variable entries -/

/-- which halves the entries of one part of a method's local variable vector carry: the `descriptor` (entries of a
`LocalVariableTable`), the `signature` (entries of a `LocalVariableTypeTable`) or both (the reader never produces such an
entry, a tree built or merged by hand can hold it) -/
inductive LvK where
  | d | s | both
  deriving DecidableEq, Repr, Inhabited

/-- a run of entries of one kind; the payload is the fingerprint of the entries (their number) -/
abbrev LvPart := LvK × Pay

/-- what is left of an entry for a code visitor with interests `cm`: the halves of the tables it asks for -/
def LvK.strip (cm : Mask) : LvK → Option LvK
  | .d => if cm .lvt then some .d else none
  | .s => if cm .lvtt then some .s else none
  | .both => if cm .lvt then (if cm .lvtt then some .both else some .d) else (if cm .lvtt then some .s else none)

/-- the entries (and halves of entries) of the tables a code visitor with interests `cm` asks for -/
def lvProj (cm : Mask) (parts : List LvPart) : List LvPart :=
  parts.filterMap (fun x => (x.1.strip cm).map (fun k => (k, x.2)))

/-- no entry at all (`Vec::is_empty`): every part counts zero entries -/
def lvNone (parts : List LvPart) : Bool := parts.all (fun x => x.2.sum == 0)

/-! ## events -/

inductive Ev where
  | classBegin (h : Nat)
  | cAttr (unk : Bool) (k : K) (pay : Pay)
  | recBegin (r h : Nat)
  | rAttr (r : Nat) (unk : Bool) (k : K) (pay : Pay)
  | recEnd (r : Nat)
  | classFlags (dep syn : Bool)
  | fieldBegin (i h : Nat)
  | fAttr (i : Nat) (unk : Bool) (k : K) (pay : Pay)
  | fieldFlags (i : Nat) (dep syn : Bool)
  | fieldEnd (i : Nat)
  | methodBegin (i h : Nat)
  | mAttr (i : Nat) (unk : Bool) (k : K) (pay : Pay)
  /-- `visit_code()` was called (also when it answers `None`) -/
  | codeBegin (i : Nat)
  | codeMaxs (i h : Nat)
  /-- type annotations / unknown attributes of `Code`, delivered while the attributes are read -/
  | kAttr (i : Nat) (unk : Bool) (k : K) (pay : Pay)
  /-- the `visit_instruction` sequence; `frames` = the parsed stack map table, if any -/
  | codeInsns (i : Nat) (frames : Option Pay) (h : Nat)
  | codeExc (i h : Nat)
  /-- `visit_line_numbers`: one part per parsed `LineNumberTable` -/
  | codeLines (i : Nat) (parts : List Pay)
  /-- `visit_local_variables`: one part per parsed `LocalVariableTable` (`.d`) / `LocalVariableTypeTable` (`.s`) -/
  | codeLocals (i : Nat) (parts : List LvPart)
  | codeEnd (i : Nat)
  | methodFlags (i : Nat) (dep syn : Bool)
  | methodEnd (i : Nat)
  | classEnd
  deriving DecidableEq, Repr, Inhabited

/-! ## the reader -/

inductive Fail where
  | err | desync
  deriving DecidableEq, Repr

abbrev R := Except Fail

instance {α : Type} [DecidableEq α] : DecidableEq (R α) := fun a b =>
  match a, b with
  | .ok x, .ok y => if h : x = y then isTrue (by rw [h]) else isFalse (by intro h'; cases h'; exact h rfl)
  | .error x, .error y => if h : x = y then isTrue (by rw [h]) else isFalse (by intro h'; cases h'; exact h rfl)
  | .ok _, .error _ => isFalse (by intro h; cases h)
  | .error _, .ok _ => isFalse (by intro h; cases h)

/-- a read of `n` bytes at `pos` -/
def need (avail pos n : Nat) : R Nat :=
  if pos + n ≤ avail then .ok (pos + n) else .error .err

/-- `desync` unless the parser consumed what the length field declares -/
def exactly (used len : Nat) : R Unit :=
  if used = len then .ok () else .error .desync

/-- `skip_attributes` after the count: per attribute name + length are read, the body is skipped -/
def skipAttrsGo (avail : Nat) : List Nat → Nat → R Nat
  | [], p => .ok p
  | l :: ls, p => do
    let p ← need avail p 6
    skipAttrsGo avail ls (p + l)

def skipAttrs (avail : Nat) (lens : List Nat) (pos : Nat) : R Nat := do
  let p ← need avail pos 2
  skipAttrsGo avail lens p

/-- result of one attribute: new position, events, Deprecated / Synthetic seen -/
structure Step where
  pos : Nat
  evs : List Ev
  dep : Bool := false
  syn : Bool := false

/-- one leaf attribute at a level with action table `act` (position is after name and length) -/
def leaf1 (avail : Nat) (act : K → Act) (m : Mask) (mk : Bool → K → Pay → Ev) (a : Attr) (pos : Nat) : R Step :=
  match act a.k with
  | .flagDep => do exactly 0 a.len; pure { pos := pos, evs := [], dep := true }
  | .flagSyn => do exactly 0 a.len; pure { pos := pos, evs := [], syn := true }
  | .gated =>
    if m a.k then do
      let p ← need avail pos a.used
      exactly a.used a.len
      pure { pos := p, evs := [mk false a.k a.pay] }
    else pure { pos := pos + a.len, evs := [] }
  | .always => do
    let p ← need avail pos a.used
    exactly a.used a.len
    pure { pos := p, evs := [] }
  | .skipOnly => pure { pos := pos + a.len, evs := [] }
  | .unknown =>
    if m .other then do
      let p ← need avail pos a.len
      pure { pos := p, evs := [mk true a.k a.pay] }
    else pure { pos := pos + a.len, evs := [] }

/-- attribute loop of a field / record component (leaf attributes only) -/
def readLeafs (avail : Nat) (act : K → Act) (m : Mask) (mk : Bool → K → Pay → Ev) :
    List Attr → Nat → R (Nat × List Ev × Bool × Bool)
  | [], p => .ok (p, [], false, false)
  | a :: as, p => do
    let p ← need avail p 6
    let s ← leaf1 avail act m mk a p
    let (p', evs, d, sy) ← readLeafs avail act m mk as s.pos
    pure (p', s.evs ++ evs, s.dep || d, s.syn || sy)

def attrLens (as : List Attr) : List Nat := as.map (·.len)

/-- `FieldName::try_from(pool.get_utf8(..)?)?` and its siblings: the member header names a valid name and descriptor -/
def named (ok : Bool) : R Unit := if ok then .ok () else .error .err

/-! ### record components -/

def readRecComp (avail : Nat) (cfg : Cfg) (r : Nat) (rc : RecComp) (pos : Nat) : R (Nat × List Ev) := do
  let p ← need avail pos 4
  match cfg.recc r with
  | none => do
    let p ← skipAttrs avail (attrLens rc.attrs) p
    pure (p, [Ev.recBegin r rc.h])
  | some m => do
    let p ← need avail p 2
    let (p, evs, _, _) ← readLeafs avail recAct m (Ev.rAttr r) rc.attrs p
    pure (p, Ev.recBegin r rc.h :: evs ++ [Ev.recEnd r])

def readRecComps (avail : Nat) (cfg : Cfg) : Nat → List RecComp → Nat → R (Nat × List Ev)
  | _, [], p => .ok (p, [])
  | r, rc :: rcs, p => do
    let (p, e1) ← readRecComp avail cfg r rc p
    let (p, e2) ← readRecComps avail cfg (r + 1) rcs p
    pure (p, e1 ++ e2)

/-! ### class attributes -/

/-- state of the class attribute loop that influences control flow -/
structure CSt where
  hadRecord : Bool := false
  hadBsm : Bool := false

def readClassAttrs (avail : Nat) (cfg : Cfg) (m : Mask) :
    CSt → List CAttr → Nat → R (Nat × List Ev × Bool × Bool)
  | _, [], p => .ok (p, [], false, false)
  | st, .leaf a :: as, p => do
    let p ← need avail p 6
    if classAct a.k = .always ∧ st.hadBsm then .error .err else do
      let s ← leaf1 avail classAct m Ev.cAttr a p
      let st' : CSt := if classAct a.k = .always then { st with hadBsm := true } else st
      let (p', evs, d, sy) ← readClassAttrs avail cfg m st' as s.pos
      pure (p', s.evs ++ evs, s.dep || d, s.syn || sy)
  | st, .record len comps :: as, p => do
    let p ← need avail p 6
    if m .record then
      if st.hadRecord then .error .err else do
        let q ← need avail p 2
        let (q, e1) ← readRecComps avail cfg 0 comps q
        exactly (q - p) len
        let (p', evs, d, sy) ← readClassAttrs avail cfg m { st with hadRecord := true } as q
        pure (p', e1 ++ evs, d, sy)
    else do
      let (p', evs, d, sy) ← readClassAttrs avail cfg m st as (p + len)
      pure (p', evs, d, sy)

/-! ### fields -/

def readField (avail : Nat) (cfg : Cfg) (i : Nat) (f : Field) (pos : Nat) : R (Nat × List Ev) := do
  let p ← need avail pos 6
  named f.ok
  match cfg.field i with
  | none => do
    let p ← skipAttrs avail (attrLens f.attrs) p
    pure (p, [Ev.fieldBegin i f.h])
  | some m => do
    let p ← need avail p 2
    let (p, evs, d, sy) ← readLeafs avail fieldAct m (Ev.fAttr i) f.attrs p
    pure (p, Ev.fieldBegin i f.h :: evs ++ [Ev.fieldFlags i d sy, Ev.fieldEnd i])

def readFields (avail : Nat) (cfg : Cfg) : Nat → List Field → Nat → R (Nat × List Ev)
  | _, [], p => .ok (p, [])
  | i, f :: fs, p => do
    let (p, e1) ← readField avail cfg i f p
    let (p, e2) ← readFields avail cfg (i + 1) fs p
    pure (p, e1 ++ e2)

/-! ### code -/

/-- what the attribute loop of `read_code` accumulates -/
structure KAcc where
  evs : List Ev := []
  frames : Option Pay := none
  /-- one part per parsed table; the `Option<Vec<_>>` of the reader is `Some` iff there is a part -/
  lines : List Pay := []
  locals : List LvPart := []

/-- the interest flag `read_code` consults for an attribute name (`other` = `unknown_attributes`; `StackMap` is
guarded by `stack_map_table` too) -/
def codeBit : K → K
  | .stackMapTable | .stackMap => .stackMapTable
  | .lineNumberTable => .lineNumberTable
  | .lvt => .lvt
  | .lvtt => .lvtt
  | .rvta => .rvta
  | .rita => .rita
  | _ => .other

/-- bytes consumed when the attribute is not skipped: unknown attributes are read by their declared length -/
def codeUsed (a : Attr) : Nat := if codeBit a.k = .other then a.len else a.used

/-- what a parsed code attribute does: stack map frames (`StackMapTable`, or the old `StackMap` format whose entries
the reader orders by bytecode offset — 69346bc), line numbers and local variables are kept for later (a second stack map
fails: `insert_if_empty`), type annotations and unknown attributes are delivered at once -/
def accAdd (i : Nat) (a : Attr) (acc : KAcc) : R KAcc :=
  match a.k with
  | .stackMapTable | .stackMap =>
    if acc.frames.isSome then .error .err else .ok { acc with frames := some a.pay }
  | .lineNumberTable => .ok { acc with lines := acc.lines ++ [a.pay] }
  | .lvt => .ok { acc with locals := acc.locals ++ [(.d, a.pay)] }
  | .lvtt => .ok { acc with locals := acc.locals ++ [(.s, a.pay)] }
  | .rvta | .rita => .ok { acc with evs := acc.evs ++ [Ev.kAttr i false a.k a.pay] }
  | _ => .ok { acc with evs := acc.evs ++ [Ev.kAttr i true a.k a.pay] }

def readCodeAttrs (avail : Nat) (i : Nat) (m : Mask) : KAcc → List Attr → Nat → R (Nat × KAcc)
  | acc, [], p => .ok (p, acc)
  | acc, a :: as, p => do
    let p ← need avail p 6
    if m (codeBit a.k) then do
      let q ← need avail p (codeUsed a)
      exactly (codeUsed a) a.len
      let acc' ← accAdd i a acc
      readCodeAttrs avail i m acc' as q
    else readCodeAttrs avail i m acc as (p + a.len)

/-- events `read_code` delivers once the attributes are read -/
def codeTail (i : Nat) (c : Code) (acc : KAcc) : List Ev :=
  acc.evs ++ [Ev.codeInsns i acc.frames c.insns, Ev.codeExc i c.exc]
    ++ (if acc.lines.isEmpty then [] else [Ev.codeLines i acc.lines])
    ++ (if acc.locals.isEmpty then [] else [Ev.codeLocals i acc.locals])

/-- the `Code` arm of `read_method` (position is after name and length) -/
def readCode (avail : Nat) (i : Nat) (mc : MethodCfg) (c : Code) (pos : Nat) : R (Nat × List Ev) :=
  if mc.code then
    match mc.codeV with
    | none => .ok (pos + c.len, [Ev.codeBegin i])
    | some cm => do
      let p ← need avail pos c.hdr
      let p ← need avail p 2
      let (q, acc) ← readCodeAttrs avail i cm {} c.attrs p
      exactly (q - pos) c.len
      pure (q, Ev.codeBegin i :: Ev.codeMaxs i c.maxs :: codeTail i c acc ++ [Ev.codeEnd i])
  else .ok (pos + c.len, [])

/-! ### methods -/

def readMethodAttrs (avail : Nat) (i : Nat) (mc : MethodCfg) :
    List MAttr → Nat → R (Nat × List Ev × Bool × Bool)
  | [], p => .ok (p, [], false, false)
  | .leaf a :: as, p => do
    let p ← need avail p 6
    let s ← leaf1 avail methodAct mc.mask (Ev.mAttr i) a p
    let (p', evs, d, sy) ← readMethodAttrs avail i mc as s.pos
    pure (p', s.evs ++ evs, s.dep || d, s.syn || sy)
  | .code c :: as, p => do
    let p ← need avail p 6
    let (q, e1) ← readCode avail i mc c p
    let (p', evs, d, sy) ← readMethodAttrs avail i mc as q
    pure (p', e1 ++ evs, d, sy)

def mattrLen : MAttr → Nat
  | .leaf a => a.len
  | .code c => c.len

def mattrLens (as : List MAttr) : List Nat := as.map mattrLen

def readMethod (avail : Nat) (cfg : Cfg) (i : Nat) (mt : Method) (pos : Nat) : R (Nat × List Ev) := do
  let p ← need avail pos 6
  named mt.ok
  match cfg.method i with
  | none => do
    let p ← skipAttrs avail (mattrLens mt.attrs) p
    pure (p, [Ev.methodBegin i mt.h])
  | some mc => do
    let p ← need avail p 2
    let (p, evs, d, sy) ← readMethodAttrs avail i mc mt.attrs p
    pure (p, Ev.methodBegin i mt.h :: evs ++ [Ev.methodFlags i d sy, Ev.methodEnd i])

def readMethods (avail : Nat) (cfg : Cfg) : Nat → List Method → Nat → R (Nat × List Ev)
  | _, [], p => .ok (p, [])
  | i, mt :: ms, p => do
    let (p, e1) ← readMethod avail cfg i mt p
    let (p, e2) ← readMethods avail cfg (i + 1) ms p
    pure (p, e1 ++ e2)

/-! ### the class -/

/-- the loop that skips the fields (methods) before `visit_class`: 6 bytes skipped unchecked, then `skip_attributes` -/
def skipMembers (avail : Nat) : List (List Nat) → Nat → R Nat
  | [], p => .ok p
  | lens :: rest, p => do
    let p ← skipAttrs avail lens (p + 6)
    skipMembers avail rest p

def cattrLen : CAttr → Nat
  | .leaf a => a.len
  | .record len _ => len

def cattrLens (as : List CAttr) : List Nat := as.map cattrLen

/-- the fields inside `with_pos` (position is after `fields_count`): visited when the class visitor reports
`interests.fields`, otherwise each one skipped — `skip(2 + 2 + 2)` unchecked, then `skip_attributes` -/
def readFieldsI (avail : Nat) (cfg : Cfg) (fs : List Field) (q : Nat) : R (Nat × List Ev) :=
  if cfg.fieldsI then readFields avail cfg 0 fs q
  else do
    let q ← skipMembers avail (fs.map (fun f => attrLens f.attrs)) q
    pure (q, [])

/-- the methods inside `with_pos` (position is the end of the fields): `methods_count` and the methods are read only when
the class visitor reports `interests.methods` -/
def readMethodsI (avail : Nat) (cfg : Cfg) (ms : List Method) (q : Nat) : R (List Ev) :=
  if cfg.methodsI then do
    let q ← need avail q 2
    let (_, mevs) ← readMethods avail cfg 0 ms q
    pure mevs
  else pure []

/-- `class_reader::read` for one class file starting at position 0 with `avail` bytes available;
answer: position of the cursor afterwards (= bytes consumed) and the events delivered -/
def readWith (cfg : Cfg) (c : ClassFrame) (avail : Nat) : R (Nat × List Ev) := do
  let fieldsStart ← need avail 0 c.hdr
  if !c.hdrOk then .error .err else do
  let p ← need avail fieldsStart 2
  let p ← skipMembers avail (c.fields.map (fun f => attrLens f.attrs)) p
  let p ← need avail p 2
  let p ← skipMembers avail (c.methods.map (fun m => mattrLens m.attrs)) p
  match cfg.cls with
  | none => do
    let p ← skipAttrs avail (cattrLens c.attrs) p
    pure (p, [Ev.classBegin c.h])
  | some m => do
    let p ← need avail p 2
    let (p, evs, d, sy) ← readClassAttrs avail cfg m {} c.attrs p
    -- `with_pos(fields_start, ..)`: members are read from the remembered position, the cursor returns to `p`
    let q ← need avail fieldsStart 2
    let (q, fevs) ← readFieldsI avail cfg c.fields q
    let mevs ← readMethodsI avail cfg c.methods q
    pure (p, Ev.classBegin c.h :: evs ++ [Ev.classFlags d sy] ++ fevs ++ mevs ++ [Ev.classEnd])

/-! ## sizes and exact framing -/

def attrsSize (lens : List Nat) : Nat := 2 + (lens.map (· + 6)).sum

def Code.size (c : Code) : Nat := c.hdr + attrsSize (attrLens c.attrs)

def RecComp.size (rc : RecComp) : Nat := 4 + attrsSize (attrLens rc.attrs)

def recSize (comps : List RecComp) : Nat := 2 + (comps.map RecComp.size).sum

def Field.size (f : Field) : Nat := 6 + attrsSize (attrLens f.attrs)

def Method.size (m : Method) : Nat := 6 + attrsSize (mattrLens m.attrs)

/-- the length of the class file in bytes as its declared lengths lay it out -/
def ClassFrame.size (c : ClassFrame) : Nat :=
  c.hdr + (2 + (c.fields.map Field.size).sum) + (2 + (c.methods.map Method.size).sum) + attrsSize (cattrLens c.attrs)

/-- a leaf attribute consumes exactly its declared length whenever the level's reader parses it -/
def leafExact (act : K → Act) (a : Attr) : Bool :=
  match act a.k with
  | .flagDep | .flagSyn => a.len == 0
  | .gated | .always => a.used == a.len
  | .skipOnly | .unknown => true

def codeAttrExact (a : Attr) : Bool := codeUsed a == a.len

def Code.exact (c : Code) : Bool := c.len == c.size && c.attrs.all codeAttrExact

def mattrExact : MAttr → Bool
  | .leaf a => leafExact methodAct a
  | .code c => c.exact

def cattrExact : CAttr → Bool
  | .leaf a => leafExact classAct a
  | .record len comps => len == recSize comps && comps.all (fun rc => rc.attrs.all (leafExact recAct))

/-- every attribute the reader may parse consumes exactly its declared length
(true of every well-formed class file) -/
def framesExact (c : ClassFrame) : Bool :=
  c.fields.all (fun f => f.attrs.all (leafExact fieldAct))
    && c.methods.all (fun m => m.attrs.all mattrExact)
    && c.attrs.all cattrExact

/-! ## projection of the events of a full read onto a configuration -/

/-- the interest bit that guards an attribute event -/
def evBit (unk : Bool) (k : K) : K := if unk then .other else k

def codeMaskOf (cfg : Cfg) (i : Nat) : Option Mask :=
  match cfg.cls, cfg.method i with
  | some _, some mc => if cfg.methodsI && mc.code then mc.codeV else none
  | _, _ => none

/-- is the record component `r` visited with a visitor, and with which mask -/
def recMaskOf (cfg : Cfg) (r : Nat) : Option Mask :=
  match cfg.cls with
  | some m => if m .record then cfg.recc r else none
  | none => none

def keepIf (b : Bool) (e : Ev) : Option Ev := if b then some e else none

/-- what a visitor configured by `cfg` receives of an event of the full read: nothing of the fields (methods, and their
`Code`s) unless the class visitor reports `interests.fields` (`interests.methods`) -/
def proj (cfg : Cfg) (e : Ev) : Option Ev :=
  match e with
  | .classBegin _ => some e
  | .cAttr unk k _ => match cfg.cls with | some m => keepIf (m (evBit unk k)) e | none => none
  | .recBegin _ _ => match cfg.cls with | some m => keepIf (m .record) e | none => none
  | .rAttr r unk k _ => match recMaskOf cfg r with | some rm => keepIf (rm (evBit unk k)) e | none => none
  | .recEnd r => keepIf (recMaskOf cfg r).isSome e
  | .classFlags _ _ => keepIf cfg.cls.isSome e
  | .fieldBegin _ _ => keepIf (cfg.cls.isSome && cfg.fieldsI) e
  | .fAttr i unk k _ =>
    match cfg.cls, cfg.field i with
    | some _, some fm => keepIf (cfg.fieldsI && fm (evBit unk k)) e | _, _ => none
  | .fieldFlags i _ _ | .fieldEnd i => keepIf (cfg.cls.isSome && cfg.fieldsI && (cfg.field i).isSome) e
  | .methodBegin _ _ => keepIf (cfg.cls.isSome && cfg.methodsI) e
  | .mAttr i unk k _ =>
    match cfg.cls, cfg.method i with
    | some _, some mc => keepIf (cfg.methodsI && mc.mask (evBit unk k)) e | _, _ => none
  | .methodFlags i _ _ | .methodEnd i => keepIf (cfg.cls.isSome && cfg.methodsI && (cfg.method i).isSome) e
  | .codeBegin i =>
    match cfg.cls, cfg.method i with
    | some _, some mc => keepIf (cfg.methodsI && mc.code) e | _, _ => none
  | .codeMaxs i _ | .codeExc i _ | .codeEnd i => keepIf (codeMaskOf cfg i).isSome e
  | .kAttr i unk k _ =>
    match codeMaskOf cfg i with | some cm => keepIf (cm (evBit unk k)) e | none => none
  | .codeInsns i fr h =>
    match codeMaskOf cfg i with
    | some cm => some (.codeInsns i (if cm .stackMapTable then fr else none) h)
    | none => none
  | .codeLines i _ =>
    match codeMaskOf cfg i with | some cm => keepIf (cm .lineNumberTable) e | none => none
  | .codeLocals i parts =>
    match codeMaskOf cfg i with
    | some cm =>
      let parts' := lvProj cm parts
      if parts'.isEmpty then none else some (.codeLocals i parts')
    | none => none
  | .classEnd => keepIf cfg.cls.isSome e

/-! ## streams of concatenated class files -/

/-- successive reads on one stream holding the class files `cs` back to back, `total` bytes in all; the k-th read
uses `cfgs[k]`. A read that does not end on the boundary of its file leaves the next read inside a file: `desync`. -/
def readStream : List Cfg → List ClassFrame → (base total : Nat) → List (R (Nat × List Ev))
  | cfg :: cfgs, c :: cs, base, total =>
    match readWith cfg c (total - base) with
    | .ok (n, evs) =>
      .ok (n, evs) :: (if n = c.size then readStream cfgs cs (base + n) total
                       else if cs.isEmpty then [] else [.error .desync])
    | .error e => [.error e]
  | _, _, _, _ => []

end Visit
