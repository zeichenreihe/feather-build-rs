import FeatherModel.Model.TotalAnno

/-!
# C16 — `read_code` (`duke/src/class_reader.rs`) and `Labels` (`class_reader/labels.rs`) with every unchecked
operation explicit

The model is *value free*: it computes whether `read_code` returns `Ok`, returns `Err` or panics (and where), plus the
allocation account.  It is complete for the harness' wrapper class (constant pool `Total.Wrap.pool`, one method whose
only attribute is the `Code` attribute given in the request).

* The bytecode is traversed twice, as in the Rust code, by two *independent* decoders: `pass1Step` (label creation;
  operands are `skip`ped, so the cursor can run past the end) and `pass2Step` (decoding; operands are read).
  A cursor is `(pos, rest, len)`: `pos` is `Cursor::position()`, `rest` the bytes from `pos` on (empty when
  `pos >= len`), `len` the length of the bytecode.
* `Labels` keeps the set of labelled offsets as a bit set (`Nat`) and the id counter `max_id`.
* Both loops consume at least the opcode byte per iteration: fuel `len` suffices (`Lemmas/TotalPasses.lean`,
  `pass1_fuel` / `pass2_fuel`: more fuel never changes the result).
-/

namespace Total.Code

open TM Wrap

/-! ## `Labels` -/

structure Labels where
  codeLength : Nat
  set : Nat
  count : Nat
  deriving Repr, Inhabited, DecidableEq

namespace Labels

/-- `Labels::new`: `HashMap::with_capacity(code_length / 3)` -/
def new (codeLength : Nat) : TM Labels := do
  request (codeLength / 3)
  pure ⟨codeLength, 0, 0⟩

def has (l : Labels) (pc : Nat) : Bool := l.set.testBit pc

/-- `get_or_add_unchecked`: a fresh label gets id `max_id as u16`, then `self.max_id += 1`; since 4853513 the counter
is a `u32` and there are at most 65536 offsets: no overflow (former site 2) -/
def addUnchecked (l : Labels) (pc : Nat) : TM Labels :=
  if l.has pc then pure l
  else pure { l with set := l.set ||| (1 <<< pc), count := l.count + 1 }

/-- `create` / `get_or_create`: `pc >= code_length` is an error -/
def getOrCreate (l : Labels) (pc : Nat) : TM Labels := do
  guard (pc < l.codeLength)
  addUnchecked l pc

/-- `get_or_create_check_exclusive`: `pc > code_length` is an error -/
def getOrCreateExcl (l : Labels) (pc : Nat) : TM Labels := do
  guard (pc ≤ l.codeLength)
  addUnchecked l pc

/-- `get_or_create_range`: `start`, then `start_pc.checked_add(length)` (e3534dd: an error, former site 1), then the
exclusive check -/
def getOrCreateRange (l : Labels) (start length : Nat) : TM Labels := do
  let l ← getOrCreate l start
  guard (start + length ≤ 65535)
  getOrCreateExcl l (start + length)

/-- `try_get` -/
def tryGet (l : Labels) (pc : Nat) : TM Unit := guard (l.has pc)

/-- labels at the offsets `0 … k-1`, one `get_or_add_unchecked` each (used by the witness of site 2) -/
def addRange (l : Labels) : Nat → TM Labels
  | 0 => pure l
  | k + 1 => do
    let l ← addRange l k
    l.addUnchecked k

end Labels

/-! ## cursor over the bytecode -/

structure Cur where
  pos : Nat
  rest : Bytes
  len : Nat
  deriving Repr, Inhabited

namespace Cur

def start (code : Bytes) : Cur := ⟨0, code, code.length⟩

/-- the first `k` bytes and the rest; `none` when fewer than `k` are left -/
def splitExact : Nat → Bytes → Option (Bytes × Bytes)
  | 0, s => some ([], s)
  | _ + 1, [] => none
  | k + 1, a :: s => (splitExact k s).map fun (x, r) => (a :: x, r)

/-- `read_exact` of `k` bytes -/
def take (k : Nat) (c : Cur) : TM (Bytes × Cur) :=
  match splitExact k c.rest with
  | some (x, r) => pure (x, { c with pos := c.pos + k, rest := r })
  | none => fail

def u8 (c : Cur) : TM (Nat × Cur) := do
  let (b, c) ← c.take 1
  match b with | [a] => pure (byte a, c) | _ => fail

def u16 (c : Cur) : TM (Nat × Cur) := do
  let (b, c) ← c.take 2
  match b with | [a, b] => pure (byte a * 256 + byte b, c) | _ => fail

def i16 (c : Cur) : TM (Int × Cur) := do
  let (n, c) ← c.u16
  pure (toI16 n, c)

def i32 (c : Cur) : TM (Int × Cur) := do
  let (b, c) ← c.take 4
  match b with | [a, b, x, d] => pure (toI32 (((byte a * 256 + byte b) * 256 + byte x) * 256 + byte d), c) | _ => fail

/-- `skip(n)` = `seek(SeekFrom::Current(n))`: no bounds check -/
def skip (k : Nat) (c : Cur) : Cur := { c with pos := c.pos + k, rest := c.rest.drop k }

/-- `align_to_4_byte_boundary`: `marker() & 0b11` selects how many padding bytes are *read* -/
def align (c : Cur) : TM Cur := do
  let m := c.pos % 4
  check Sites.alignUnreachable (m < 4)
  let (_, c) ← c.take (if m = 0 then 0 else 4 - m)
  pure c

/-- `read_i16_as_branch_target_label`: `opcode_pos.checked_add_signed(branch)` -/
def branch16 (opcodePos : Nat) (c : Cur) : TM (Nat × Cur) := do
  let (off, c) ← c.i16
  let t : Int := (opcodePos : Int) + off
  if 0 ≤ t ∧ t ≤ 65535 then pure (t.toNat, c) else fail

/-- `read_i32_as_branch_target_label`: `u32::checked_add_signed`, then `u16::try_from` -/
def branch32 (opcodePos : Nat) (c : Cur) : TM (Nat × Cur) := do
  let (off, c) ← c.i32
  let t : Int := (opcodePos : Int) + off
  if 0 ≤ t ∧ t ≤ 65535 then pure (t.toNat, c) else fail

end Cur

/-! ## shared arithmetic of both switch arms -/

/-- `high.checked_sub(low).and_then(|n| n.checked_add(1))` after `low <= high` (repaired by 52b8362) -/
def tableCount (low high : Int) : TM Nat :=
  if low > high then fail
  else if high - low > 2147483646 then fail
  else pure (high - low + 1).toNat

/-- `npairs` -/
def pairCount (n : Int) : TM Nat := if n < 0 then fail else pure n.toNat

/-! ## first pass: create the labels of all branch targets -/

/-- operand bytes skipped by the plain arms of the first pass; `none` = not a plain arm -/
def skipOf (op : Nat) : Option Nat :=
  if op ≤ 15 ∨ (26 ≤ op ∧ op ≤ 53) ∨ (59 ≤ op ∧ op ≤ 131) ∨ (133 ≤ op ∧ op ≤ 152) ∨ (172 ≤ op ∧ op ≤ 177)
      ∨ op = 190 ∨ op = 191 ∨ op = 194 ∨ op = 195 then some 0
  else if op = 16 ∨ op = 18 ∨ (21 ≤ op ∧ op ≤ 25) ∨ (54 ≤ op ∧ op ≤ 58) ∨ op = 169 ∨ op = 188 then some 1
  else if op = 17 ∨ op = 19 ∨ op = 20 ∨ op = 132 ∨ (178 ≤ op ∧ op ≤ 184) ∨ op = 187 ∨ op = 189 ∨ op = 192 ∨ op = 193 then some 2
  else if op = 197 then some 3
  else if op = 185 ∨ op = 186 then some 4
  else none

/-- operand bytes skipped after `wide <op>` -/
def wideSkipOf (op : Nat) : Option Nat :=
  if (21 ≤ op ∧ op ≤ 25) ∨ (54 ≤ op ∧ op ≤ 58) ∨ op = 169 then some 2
  else if op = 132 then some 4
  else none

def isBranch16 (op : Nat) : Bool := (153 ≤ op && op ≤ 168) || op == 198 || op == 199
def isBranch32 (op : Nat) : Bool := op == 200 || op == 201

def pass1Table (opcodePos : Nat) : Nat → Labels → Cur → TM (Labels × Cur)
  | 0, l, c => pure (l, c)
  | n + 1, l, c => do
    let (t, c) ← c.branch32 opcodePos
    let l ← l.getOrCreate t
    pass1Table opcodePos n l c

def pass1Pairs (opcodePos : Nat) : Nat → Labels → Cur → TM (Labels × Cur)
  | 0, l, c => pure (l, c)
  | n + 1, l, c => do
    let (_, c) ← c.i32
    let (t, c) ← c.branch32 opcodePos
    let l ← l.getOrCreate t
    pass1Pairs opcodePos n l c

/-- one iteration of the first `while`: the closure body -/
def pass1Step (l : Labels) (c : Cur) : TM (Labels × Cur) := do
  let opcodePos := c.pos
  let (op, c) ← c.u8
  match skipOf op with
  | some k => pure (l, c.skip k)
  | none =>
    if op = 196 then do
      let (w, c) ← c.u8
      match wideSkipOf w with
      | some k => pure (l, c.skip k)
      | none => fail
    else if isBranch16 op then do
      let (t, c) ← c.branch16 opcodePos
      let l ← l.getOrCreate t
      pure (l, c)
    else if isBranch32 op then do
      let (t, c) ← c.branch32 opcodePos
      let l ← l.getOrCreate t
      pure (l, c)
    else if op = 170 then do
      let c ← c.align
      let (t, c) ← c.branch32 opcodePos
      let l ← l.getOrCreate t
      let (low, c) ← c.i32
      let (high, c) ← c.i32
      let n ← tableCount low high
      pass1Table opcodePos n l c
    else if op = 171 then do
      let c ← c.align
      let (t, c) ← c.branch32 opcodePos
      let l ← l.getOrCreate t
      let (n, c) ← c.i32
      let n ← pairCount n
      pass1Pairs opcodePos n l c
    else fail

/-- `while position < len { … }`, then `position != len => bail!` (the repair of the truncated last instruction) -/
def pass1 : Nat → Labels → Cur → TM Labels
  | 0, l, c => if c.pos = c.len then pure l else fail
  | fuel + 1, l, c =>
    if c.pos < c.len then do
      let (l, c) ← pass1Step l c
      pass1 fuel l c
    else if c.pos = c.len then pure l else fail

/-! ## second pass: decode -/

/-- operand bytes *read* by the plain arms of the second pass, and the constant-pool test applied to them -/
inductive Operand where
  | none_ | imm (k : Nat) | ldc1 | ldc2 | field | method | anyMethod | iface | indy | cls | newarray | multi
  deriving DecidableEq, Repr

def operandOf (op : Nat) : Option Operand :=
  if op ≤ 15 then some .none_
  else if op = 16 then some (.imm 1)
  else if op = 17 then some (.imm 2)
  else if op = 18 then some .ldc1
  else if op = 19 ∨ op = 20 then some .ldc2
  else if 21 ≤ op ∧ op ≤ 25 then some (.imm 1)
  else if 46 ≤ op ∧ op ≤ 53 then some .none_
  else if 54 ≤ op ∧ op ≤ 58 then some (.imm 1)
  else if 79 ≤ op ∧ op ≤ 131 then some .none_
  else if op = 132 then some (.imm 2)
  else if 133 ≤ op ∧ op ≤ 152 then some .none_
  else if op = 169 then some (.imm 1)
  else if 172 ≤ op ∧ op ≤ 177 then some .none_
  else if 178 ≤ op ∧ op ≤ 181 then some .field
  else if op = 182 then some .method
  else if op = 183 ∨ op = 184 then some .anyMethod
  else if op = 185 then some .iface
  else if op = 186 then some .indy
  else if op = 187 ∨ op = 189 ∨ op = 192 ∨ op = 193 then some .cls
  else if op = 188 then some .newarray
  else if op = 190 ∨ op = 191 ∨ op = 194 ∨ op = 195 then some .none_
  else if op = 197 then some .multi
  else none

def Operand.size : Operand → Nat
  | .none_ => 0 | .imm k => k | .ldc1 => 1 | .ldc2 => 2 | .field => 2 | .method => 2 | .anyMethod => 2
  | .iface => 4 | .indy => 4 | .cls => 2 | .newarray => 1 | .multi => 3

def readOperand (o : Operand) (c : Cur) : TM Cur :=
  match o with
  | .none_ => pure c
  | .imm k => do let (_, c) ← c.take k; pure c
  | .ldc1 => do let (i, c) ← c.u8; guard (loadableOk i); pure c
  | .ldc2 => do let (i, c) ← c.u16; guard (loadableOk i); pure c
  | .field => do let (i, c) ← c.u16; guard (fieldRefOk i); pure c
  | .method => do let (i, c) ← c.u16; guard (methodRefOk i); pure c
  | .anyMethod => do let (i, c) ← c.u16; guard (anyMethodRefOk i); pure c
  | .iface => do let (i, c) ← c.u16; guard (ifaceMethodRefOk i); let (_, c) ← c.take 2; pure c
  | .indy => do let (_, _) ← c.u16; fail            -- the wrapper pool has no InvokeDynamic constant
  | .cls => do let (i, c) ← c.u16; guard (classOk i); pure c
  | .newarray => do let (t, c) ← c.u8; guard (4 ≤ t && t ≤ 11); pure c
  | .multi => do let (i, c) ← c.u16; guard (classOk i); let (_, c) ← c.take 1; pure c

/-- `opcode @ ILOAD_0..=ALOAD_3` / `ISTORE_0..=ASTORE_3`: `shifted = opcode - base0`, `opcode = base + (shifted >> 2)`,
then a `match` with `unreachable!()` -/
def loadStoreN (subSite addSite unreachableSite : Nat) (base0 base : Nat) (op : Nat) : TM Unit := do
  let shifted ← subU subSite op base0
  let o ← addU8 addSite base (shifted / 4)
  check unreachableSite (base ≤ o && o ≤ base + 4)

def pass2Table (l : Labels) (opcodePos : Nat) : Nat → Cur → TM Cur
  | 0, c => pure c
  | n + 1, c => do
    let (t, c) ← c.branch32 opcodePos
    l.tryGet t
    pass2Table l opcodePos n c

def pass2Pairs (l : Labels) (opcodePos : Nat) : Nat → Cur → TM Cur
  | 0, c => pure c
  | n + 1, c => do
    let (_, c) ← c.i32
    let (t, c) ← c.branch32 opcodePos
    l.tryGet t
    pass2Pairs l opcodePos n c

def pass2Step (l : Labels) (c : Cur) : TM Cur := do
  let opcodePos := c.pos
  let (op, c) ← c.u8
  match operandOf op with
  | some o => readOperand o c
  | none =>
    if 26 ≤ op ∧ op ≤ 45 then do
      loadStoreN Sites.iloadSub Sites.iloadAdd Sites.iloadUnreachable 26 21 op
      pure c
    else if 59 ≤ op ∧ op ≤ 78 then do
      loadStoreN Sites.istoreSub Sites.istoreAdd Sites.istoreUnreachable 59 54 op
      pure c
    else if isBranch16 op then do
      let (t, c) ← c.branch16 opcodePos
      l.tryGet t
      pure c
    else if isBranch32 op then do
      let (t, c) ← c.branch32 opcodePos
      l.tryGet t
      pure c
    else if op = 170 then do
      let c ← c.align
      let (t, c) ← c.branch32 opcodePos
      l.tryGet t
      let (low, c) ← c.i32
      let (high, c) ← c.i32
      let n ← tableCount low high
      request n                                    -- site 33: `Vec::with_capacity(n as usize)`
      pass2Table l opcodePos n c
    else if op = 171 then do
      let c ← c.align
      let (t, c) ← c.branch32 opcodePos
      l.tryGet t
      let (n, c) ← c.i32
      let n ← pairCount n
      request n                                    -- site 34
      pass2Pairs l opcodePos n c
    else if op = 196 then do
      let (w, c) ← c.u8
      if (21 ≤ w ∧ w ≤ 25) ∨ (54 ≤ w ∧ w ≤ 58) ∨ w = 169 then do let (_, c) ← c.take 2; pure c
      else if w = 132 then do let (_, c) ← c.take 4; pure c
      else fail
    else fail

/-- `while !r.get_ref()[(r.position() as usize)..].is_empty() { … }` -/
def pass2 (l : Labels) : Nat → Cur → TM Unit
  | 0, c => do
    check Sites.sliceCode (c.pos ≤ c.len)
    if c.pos < c.len then fail else pure ()       -- fuel exhausted: unreachable (`pass2_fuel`)
  | fuel + 1, c => do
    check Sites.sliceCode (c.pos ≤ c.len)
    if c.pos < c.len then do
      let c ← pass2Step l c
      pass2 l fuel c
    else pure ()

/-! ## exception table and attributes -/

def readException (l : Labels) (s : Bytes) : TM (Labels × Bytes) := do
  let (a, s) ← u16 s
  let l ← l.getOrCreate a
  let (b, s) ← u16 s
  let l ← l.getOrCreateExcl b
  let (h, s) ← u16 s
  let l ← l.getOrCreate h
  let (c, s) ← u16 s
  guard (c = 0 || classOk c)
  pure (l, s)

/-- a loop over `n` table entries threading the label table -/
def loopL (body : Labels → Bytes → TM (Labels × Bytes)) : Nat → Labels → Bytes → TM (Labels × Bytes)
  | 0, l, s => pure (l, s)
  | n + 1, l, s => do
    let (l, s) ← body l s
    loopL body n l s

/-- `read_vec(size, elem)`: `Vec::with_capacity(size)` first -/
def vecL (body : Labels → Bytes → TM (Labels × Bytes)) (n : Nat) (l : Labels) (s : Bytes) : TM (Labels × Bytes) := do
  request n
  loopL body n l s

def vec16L (body : Labels → Bytes → TM (Labels × Bytes)) (l : Labels) (s : Bytes) : TM (Labels × Bytes) := do
  let (n, s) ← u16 s
  vecL body n l s

/-- `read_verification_type_info` -/
def readVType (l : Labels) (s : Bytes) : TM (Labels × Bytes) := do
  let (tag, s) ← u8 s
  if tag ≤ 6 then pure (l, s)
  else if tag = 7 then do
    let (i, s) ← u16 s
    guard (classOk i)
    pure (l, s)
  else if tag = 8 then do
    let (pc, s) ← u16 s
    let l ← l.getOrCreate pc
    pure (l, s)
  else fail

/-- `read_stack_map_frame`: the offset delta -/
def readFrame (l : Labels) (s : Bytes) : TM (Nat × Labels × Bytes) := do
  let (t, s) ← u8 s
  if t ≤ 63 then pure (t, l, s)
  else if t ≤ 127 then do
    let d ← subU Sites.frameSub64 t 64
    let (l, s) ← readVType l s
    pure (d, l, s)
  else if t ≤ 246 then fail
  else if t = 247 then do
    let (d, s) ← u16 s
    let (l, s) ← readVType l s
    pure (d, l, s)
  else if t ≤ 250 then do
    let (d, s) ← u16 s
    let _ ← subU Sites.frameChop 251 t
    pure (d, l, s)
  else if t = 251 then do
    let (d, s) ← u16 s
    pure (d, l, s)
  else if t ≤ 254 then do
    let (d, s) ← u16 s
    let k ← subU Sites.frameAppend t 251
    let (l, s) ← vecL readVType k l s
    pure (d, l, s)
  else do
    let (d, s) ← u16 s
    let (l, s) ← vec16L readVType l s
    let (l, s) ← vec16L readVType l s
    pure (d, l, s)

/-- the `for i in 0..number_of_entries` loop of the StackMapTable arm; `first` is `i == 0` -/
def readFrames : Nat → Bool → Nat → Labels → Bytes → TM (Labels × Bytes)
  | 0, _, _, l, s => pure (l, s)
  | n + 1, first, offset, l, s => do
    let (delta, l, s) ← readFrame l s
    -- 6b80d4b: `offset.checked_add(offset_delta).and_then(|o| o.checked_add(if i == 0 { 0 } else { 1 }))` (former site 3)
    guard (offset + delta ≤ 65535)
    guard (offset + delta + (if first then 0 else 1) ≤ 65535)
    let offset := offset + delta + (if first then 0 else 1)
    let l ← l.getOrCreate offset
    readFrames n false offset l s

/-- one entry of the CLDC `StackMap` attribute: the offset is only collected (69346bc: the labels of the frames are
created after all entries have been read, in the order of the offsets) -/
def readCldcFrame (l : Labels) (s : Bytes) : TM (Nat × Labels × Bytes) := do
  let (offset, s) ← u16 s
  let (l, s) ← vec16L readVType l s
  let (l, s) ← vec16L readVType l s
  pure (offset, l, s)

def readCldcFrames : Nat → Labels → List Nat → Bytes → TM (Labels × List Nat × Bytes)
  | 0, l, acc, s => pure (l, acc, s)
  | n + 1, l, acc, s => do
    let (o, l, s) ← readCldcFrame l s
    readCldcFrames n l (o :: acc) s

/-- `labels.get_or_create(offset)?` for every frame, in this order -/
def createAll : List Nat → Labels → TM Labels
  | [], l => pure l
  | o :: os, l => do
    let l ← l.getOrCreate o
    createAll os l

def readLine (l : Labels) (s : Bytes) : TM (Labels × Bytes) := do
  let (pc, s) ← u16 s
  let l ← l.getOrCreate pc
  let (_, s) ← u16 s
  pure (l, s)

/-- LocalVariableTable / LocalVariableTypeTable entry: the name is a `LocalVariableName`, descriptor and signature are unchecked -/
def readLv (l : Labels) (s : Bytes) : TM (Labels × Bytes) := do
  let (start, s) ← u16 s
  let (len, s) ← u16 s
  let l ← l.getOrCreateRange start len
  let (n, s) ← u16 s
  guard (match getUtf8 n with | some x => validUnqualified x | none => false)
  let (d, s) ← u16 s
  guard (getUtf8 d).isSome
  let (_, s) ← u16 s
  pure (l, s)

def readLvTarget (l : Labels) (s : Bytes) : TM (Labels × Bytes) := do
  let (start, s) ← u16 s
  let (len, s) ← u16 s
  let l ← l.getOrCreateRange start len
  let (_, s) ← u16 s
  pure (l, s)

/-- `read_type_reference_code` -/
def readTargetCode (l : Labels) (s : Bytes) : TM (Labels × Bytes) := do
  let (t, s) ← u8 s
  if t = 64 ∨ t = 65 then do
    let (n, s) ← u16 s
    loopL readLvTarget n l s
  else if t = 66 then do
    let (_, s) ← u16 s
    pure (l, s)
  else if 67 ≤ t ∧ t ≤ 70 then do
    let (pc, s) ← u16 s
    let l ← l.getOrCreate pc
    pure (l, s)
  else if 71 ≤ t ∧ t ≤ 75 then do
    let (pc, s) ← u16 s
    let l ← l.getOrCreate pc
    let (_, s) ← u8 s
    pure (l, s)
  else fail

/-- one `type_path` entry: kinds 0..=2 need a zero argument index; the inner `match` ends in `unreachable!()` -/
def readTypePathEntry : Rd Unit := fun s => do
  let (kind, s) ← u8 s
  let (arg, s) ← u8 s
  if kind ≤ 2 then do
    check Sites.typePathUnreachable (kind = 0 || kind = 1 || kind = 2)
    guard (arg = 0)
    pure ((), s)
  else if kind = 3 then pure ((), s)
  else fail

def readTypePath : Rd Unit := fun s => do
  let (n, s) ← u8 s
  loopN readTypePathEntry n s

def readTypeAnno (l : Labels) (s : Bytes) : TM (Labels × Bytes) := do
  let (l, s) ← readTargetCode l s
  let (_, s) ← readTypePath s
  let (d, s) ← u16 s
  guard (getUtf8 d).isSome
  let (_, s) ← Anno.readPairs s
  pure (l, s)

structure AttrState where
  labels : Labels
  haveFrames : Bool
  deriving Repr, Inhabited

/-- one iteration of the attribute loop of `read_code` (all interests set) -/
def readCodeAttr (st : AttrState) (s : Bytes) : TM (AttrState × Bytes) := do
  let (ni, s) ← u16 s
  let name ← ofOption (getUtf8 ni)
  let (length, s) ← u32 s
  if name = jstr "StackMapTable" then do
    let (n, s) ← u16 s
    request n
    let (l, s) ← readFrames n true 0 st.labels s
    guard (!st.haveFrames)
    pure ({ labels := l, haveFrames := true }, s)
  else if name = jstr "StackMap" then do
    let (n, s) ← u16 s
    request n
    let (l, offsets, s) ← readCldcFrames n st.labels [] s
    let l ← createAll (offsets.mergeSort (fun a b => decide (a ≤ b))) l    -- `sort_by_key(offset)`, equal keys are equal
    guard (!st.haveFrames)
    pure ({ labels := l, haveFrames := true }, s)
  else if name = jstr "LineNumberTable" then do
    let (n, s) ← u16 s
    let (l, s) ← loopL readLine n st.labels s
    pure ({ st with labels := l }, s)
  else if name = jstr "LocalVariableTable" ∨ name = jstr "LocalVariableTypeTable" then do
    let (n, s) ← u16 s
    let (l, s) ← loopL readLv n st.labels s
    pure ({ st with labels := l }, s)
  else if name = jstr "RuntimeVisibleTypeAnnotations" ∨ name = jstr "RuntimeInvisibleTypeAnnotations" then do
    let (n, s) ← u16 s
    let (l, s) ← loopL readTypeAnno n st.labels s
    pure ({ st with labels := l }, s)
  else do
    let (_, s) ← takeVec length s                   -- former site 6: `read_u8_vec(length as usize)`, length is a u32
    pure (st, s)

def readCodeAttrs : Nat → AttrState → Bytes → TM (AttrState × Bytes)
  | 0, st, s => pure (st, s)
  | n + 1, st, s => do
    let (st, s) ← readCodeAttr st s
    readCodeAttrs n st s

/-- `read_code` -/
def readCode (s : Bytes) : TM Unit := do
  let (_, s) ← u16 s
  let (_, s) ← u16 s
  let (codeLength, s) ← u32 s
  guard (codeLength != 0 && codeLength ≤ 65535)
  let l ← Labels.new codeLength
  let (code, s) ← takeVec codeLength s
  let l ← pass1 code.length l (Cur.start code)
  let (l, s) ← vec16L readException l s
  let (n, s) ← u16 s
  let (st, _) ← readCodeAttrs n { labels := l, haveFrames := false } s
  pass2 st.labels code.length (Cur.start code)

/-- the `code` op: the Code attribute body is followed by the `attributes_count = 0` of the wrapper class -/
def codeOp (body : Bytes) : TM Unit := readCode (body ++ [0, 0])

end Total.Code
