import FeatherModel.Base.Sexp

/-!
# C20 — generic interpreter of the `notation!` layouts of `raw_class_file`

`raw_class_file/src/lib.rs` declares 23 structs/enums in a small declarative DSL; `raw_class_file/src/macros.rs`
expands each declaration into `_write`, `_read` and `_len`.  This file is the hand-written model of **macros.rs**:
an interpreter of layout *data*.  The data itself (`FeatherModel/Gen/RawLayouts.lean`) is regenerated from `lib.rs`
by `translate/notation_to_lean.py` on every check run.

What is mirrored (model = code, including quirks):
* `_write`: constants are written as `expr as ty` (truncating cast), evaluated on the value being written
  (`evalW`: fields by name, `.len()` of vec fields, `pool_slots(&field)`, `this._len()`); vectors with a `[count type]`
  write `len as ty` (truncating) followed by the elements, vectors with a `{len}` or `{len; slots}` write only the
  elements; `nowrite` fields write nothing; enum variants first write `tag_expr as tag_ty`.
* `_read`: constants are read and bound; they are *checked only when the source expression is a literal*; `{len}`
  and `nowrite = expr` are evaluated on the bindings read so far (`evalR`: tag variable, pattern binding, earlier
  constants and numeric fields); enum variants are tried in source order (pattern, then `pool_has_utf8` guard);
  after a field marked `; Some(&field)` the pool handed to everything read later is that field.  A vector
  `{len; slots}` is read item by item until the `.slots()` of the items read add up to `len`; an item that ends past
  `len` is an error (`readSlots`).
* slots (since the `fix:` commit for C20-long-double-pool): `CpInfo::slots` answers 2 for the variants listed in
  `Env.wide` (translated from the `match` of that function) and 1 for every other one; `pool_slots` is their sum;
  `pool_get(pool, index)` walks the entries, the first one at index 1, each one `.slots()` after the one before
  (`poolGet`): index 0, the second index of a two-slot entry and an index past the end name no entry.
* `_len`: widths only, no expression is evaluated; the result is a `u32` (`len32`).
* `readG false` (= `read`) is the Rust reader; `readG true` (= `readStrict`) is the same reader with the additional
  `ConstsAgree` check (see "strict mode"), used only to state the `write (read b) = b` theorem.
* Rust integer semantics with overflow checks on: `+ - *` are done in the operand type (`bits`), overflow and
  underflow panic (`none`); `as` truncates (`% 2^w`).
-/

namespace RawLayout

inductive Prim where
  | u8 | u16 | u32
  deriving DecidableEq, Repr, Inhabited

def Prim.bytes : Prim → Nat
  | .u8 => 1 | .u16 => 2 | .u32 => 4

def Prim.bound : Prim → Nat
  | .u8 => 256 | .u16 => 65536 | .u32 => 4294967296

def Prim.bits : Prim → Nat
  | .u8 => 8 | .u16 => 16 | .u32 => 32

/-- expressions of the DSL; `lenOf`/`thisLen` only make sense on the write side -/
inductive Expr where
  | lit (n : Nat)
  | var (x : Nat)
  | lenOf (x : Nat)
  /-- `pool_slots(&this.x)`: the sum of `.slots()` over the vec field `x`; `wide` = the variants answering 2 -/
  | slotsOf (x : Nat) (wide : List Nat)
  | thisLen
  | add (a b : Expr)
  | sub (a b : Expr)
  | mul (a b : Expr)
  deriving DecidableEq, Repr, Inhabited

/-- expression with the width of the Rust integer type its arithmetic is done in (8/16/32, 64 = usize) -/
structure TExpr where
  bits : Nat
  e : Expr
  deriving DecidableEq, Repr, Inhabited

inductive Ty where
  | prim (p : Prim)
  | vecCnt (cnt : Prim) (elem : Ty)
  | vecLen (len : TExpr) (elem : Ty)
  /-- `Vec<elem> {len; slots}`: items until their `.slots()` add up to `len`; `wide` = the variants answering 2 -/
  | vecSlots (len : TExpr) (wide : List Nat) (elem : Ty)
  | ref (id : Nat)
  deriving DecidableEq, Repr, Inhabited

/-- `const name: p = e` ; `lit = some n` iff the source expression is a literal token (then verified on read) -/
structure Const where
  name : Nat
  p : Prim
  e : TExpr
  lit : Option Nat
  deriving DecidableEq, Repr, Inhabited

inductive FieldKind where
  | field (ty : Ty) (setsPool : Bool)
  | nowrite (p : Prim) (e : TExpr)
  deriving DecidableEq, Repr, Inhabited

/-- `mut name: …` followed by the constants up to the next `mut` -/
structure Field where
  name : Nat
  kind : FieldKind
  post : List Const
  deriving DecidableEq, Repr, Inhabited

structure Body where
  pre : List Const
  fields : List Field
  deriving DecidableEq, Repr, Inhabited

inductive Pat where
  | lit (n : Nat)
  | range (lo hi : Nat)
  | any
  deriving DecidableEq, Repr, Inhabited

/-- `V { = tagWrite => [bind @] pat [if pool_has_utf8(pool, tag, guard)?], body }` -/
structure Variant where
  name : Nat
  tagWrite : TExpr
  pat : Pat
  bind : Option Nat
  guard : Option (List Nat)
  body : Body
  deriving DecidableEq, Repr, Inhabited

inductive Def where
  | struct (name : Nat) (body : Body)
  | enum (name : Nat) (tagName : Nat) (tagTy : Prim) (variants : List Variant) (fallback : Bool)
  deriving DecidableEq, Repr, Inhabited

/-- layout environment: the definitions, the index of the variant `Utf8` of the pool entry type and the indices of its
variants that take two constant-pool slots (`CpInfo::slots`) -/
structure Env where
  defs : List Def
  utf8 : Nat
  wide : List Nat
  deriving Repr, Inhabited

/-- generic values: numbers, vectors, struct (`k = 0`) / enum-variant (`k` = variant index) nodes with their `mut` fields -/
inductive Val where
  | num (n : Nat)
  | list (vs : List Val)
  | node (k : Nat) (fs : List Val)
  deriving Repr, Inhabited

mutual
def Val.beq : Val → Val → Bool
  | .num a, .num b => a == b
  | .list a, .list b => Val.beqList a b
  | .node k a, .node l b => k == l && Val.beqList a b
  | _, _ => false
def Val.beqList : List Val → List Val → Bool
  | [], [] => true
  | a :: as, b :: bs => Val.beq a b && Val.beqList as bs
  | _, _ => false
end

instance : BEq Val := ⟨Val.beq⟩

abbrev Pool := Option (List Val)
abbrev Binds := List (Nat × Nat)

def lookup {α : Type} (x : Nat) : List (Nat × α) → Option α
  | [] => none
  | (k, v) :: rest => if k = x then some v else lookup x rest

/-! ## slots -/

/-- `.slots()` answers 2 -/
def isWide (wide : List Nat) : Val → Bool
  | .node k _ => wide.contains k
  | _ => false

/-- `item.slots()` -/
def slotsV (wide : List Nat) (v : Val) : Nat := if isWide wide v then 2 else 1

/-- `pool_slots(items)` -/
def slotsAll (wide : List Nat) : List Val → Nat
  | [] => 0
  | v :: vs => slotsV wide v + slotsAll wide vs

/-! ## big-endian numbers -/

def be : Prim → Nat → Bytes
  | .u8, n => [n % 256]
  | .u16, n => [n / 256 % 256, n % 256]
  | .u32, n => [n / 16777216 % 256, n / 65536 % 256, n / 256 % 256, n % 256]

/-- `read_exact` of the width followed by `from_be_bytes`; `none` = unexpected end of input -/
def takeBE : Prim → Bytes → Option (Nat × Bytes)
  | .u8, a :: r => some (a, r)
  | .u16, a :: b :: r => some (a * 256 + b, r)
  | .u32, a :: b :: c :: d :: r => some (a * 16777216 + b * 65536 + c * 256 + d, r)
  | _, _ => none

/-! ## expressions -/

def checkedAdd (bits a b : Nat) : Option Nat := if a + b < 2 ^ bits then some (a + b) else none
def checkedSub (a b : Nat) : Option Nat := if b ≤ a then some (a - b) else none
def checkedMul (bits a b : Nat) : Option Nat := if a * b < 2 ^ bits then some (a * b) else none

/-- write side: evaluated on the value being written. `none` = the Rust expression panics (or is ill-typed). -/
def evalW (bits : Nat) (thisLen : Option Nat) (ctx : List (Nat × Val)) : Expr → Option Nat
  | .lit n => some n
  | .var x => match lookup x ctx with
    | some (.num n) => some n
    | _ => none
  | .lenOf x => match lookup x ctx with
    | some (.list vs) => some vs.length
    | _ => none
  | .slotsOf x wide => match lookup x ctx with
    | some (.list vs) => some (slotsAll wide vs)
    | _ => none
  | .thisLen => thisLen
  | .add a b => match evalW bits thisLen ctx a, evalW bits thisLen ctx b with
    | some x, some y => checkedAdd bits x y
    | _, _ => none
  | .sub a b => match evalW bits thisLen ctx a, evalW bits thisLen ctx b with
    | some x, some y => checkedSub x y
    | _, _ => none
  | .mul a b => match evalW bits thisLen ctx a, evalW bits thisLen ctx b with
    | some x, some y => checkedMul bits x y
    | _, _ => none

/-- read side: evaluated on the bindings read so far -/
def evalR (bits : Nat) (binds : Binds) : Expr → Option Nat
  | .lit n => some n
  | .var x => lookup x binds
  | .lenOf _ => none
  | .slotsOf _ _ => none
  | .thisLen => none
  | .add a b => match evalR bits binds a, evalR bits binds b with
    | some x, some y => checkedAdd bits x y
    | _, _ => none
  | .sub a b => match evalR bits binds a, evalR bits binds b with
    | some x, some y => checkedSub x y
    | _, _ => none
  | .mul a b => match evalR bits binds a, evalR bits binds b with
    | some x, some y => checkedMul bits x y
    | _, _ => none

/-! ## `_len` -/

def constsLen : List Const → Nat
  | [] => 0
  | c :: cs => c.p.bytes + constsLen cs

mutual
/-- the mathematical value of `_len()`; ill-shaped values have length 0 -/
def lenV (env : Env) : Ty → Val → Nat
  | .prim p, .num _ => p.bytes
  | .vecCnt c el, .list vs => c.bytes + lenAll env el vs
  | .vecLen _ el, .list vs => lenAll env el vs
  | .vecSlots _ _ el, .list vs => lenAll env el vs
  | .ref id, .node k fs =>
    match env.defs[id]? with
    | some (.struct _ body) => constsLen body.pre + lenFields env body.fields fs
    | some (.enum _ _ tagTy variants _) =>
      match variants[k]? with
      | some v => tagTy.bytes + (constsLen v.body.pre + lenFields env v.body.fields fs)
      | none => 0
    | none => 0
  | _, _ => 0
def lenAll (env : Env) (el : Ty) : List Val → Nat
  | [] => 0
  | v :: vs => lenV env el v + lenAll env el vs
def lenFields (env : Env) : List Field → List Val → Nat
  | f :: fds, v :: vs =>
    (match f.kind with
      | .field ty _ => lenV env ty v
      | .nowrite _ _ => 0) + (constsLen f.post + lenFields env fds vs)
  | _, _ => 0
end

/-- `_len()` returns `u32`; the additions are checked, so a total of 4 GiB or more panics -/
def len32 (n : Nat) : Option Nat := if n < 4294967296 then some n else none

/-! ## `_write` -/

def mkCtx : List Field → List Val → List (Nat × Val)
  | f :: fds, v :: vs => (f.name, v) :: mkCtx fds vs
  | _, _ => []

def writeConsts (thisLen : Option Nat) (ctx : List (Nat × Val)) : List Const → Option Bytes
  | [] => some []
  | c :: cs =>
    match evalW c.e.bits thisLen ctx c.e.e, writeConsts thisLen ctx cs with
    | some n, some r => some (be c.p (n % c.p.bound) ++ r)
    | _, _ => none

mutual
/-- `none` = the Rust code panics (arithmetic overflow in an expression) or the value is not of the type -/
def writeV (env : Env) : Ty → Val → Option Bytes
  | .prim p, .num n => if n < p.bound then some (be p n) else none
  | .vecCnt c el, .list vs =>
    match writeAll env el vs with
    | some b => some (be c (vs.length % c.bound) ++ b)
    | none => none
  | .vecLen _ el, .list vs => writeAll env el vs
  | .vecSlots _ _ el, .list vs => writeAll env el vs
  | .ref id, .node k fs =>
    match env.defs[id]? with
    | some (.struct _ body) =>
      if k = 0 then
        match writeConsts (len32 (lenV env (.ref id) (.node k fs))) (mkCtx body.fields fs) body.pre,
              writeFields env (len32 (lenV env (.ref id) (.node k fs))) (mkCtx body.fields fs) body.fields fs with
        | some a, some b => some (a ++ b)
        | _, _ => none
      else none
    | some (.enum _ _ tagTy variants _) =>
      match variants[k]? with
      | some v =>
        match evalW v.tagWrite.bits (len32 (lenV env (.ref id) (.node k fs))) (mkCtx v.body.fields fs) v.tagWrite.e,
              writeConsts (len32 (lenV env (.ref id) (.node k fs))) (mkCtx v.body.fields fs) v.body.pre,
              writeFields env (len32 (lenV env (.ref id) (.node k fs))) (mkCtx v.body.fields fs) v.body.fields fs with
        | some t, some a, some b => some (be tagTy (t % tagTy.bound) ++ (a ++ b))
        | _, _, _ => none
      | none => none
    | none => none
  | _, _ => none
def writeAll (env : Env) (el : Ty) : List Val → Option Bytes
  | [] => some []
  | v :: vs =>
    match writeV env el v, writeAll env el vs with
    | some a, some b => some (a ++ b)
    | _, _ => none
def writeFields (env : Env) (thisLen : Option Nat) (ctx : List (Nat × Val)) : List Field → List Val → Option Bytes
  | [], [] => some []
  | f :: fds, v :: vs =>
    match (match f.kind with
            | .field ty _ => writeV env ty v
            | .nowrite _ _ => (match v with | .num _ => some [] | _ => none)),
          writeConsts thisLen ctx f.post, writeFields env thisLen ctx fds vs with
    | some a, some c, some r => some (a ++ (c ++ r))
    | _, _, _ => none
  | _, _ => none
end

/-! ## `_read` -/

inductive Res (α : Type) where
  | ok (a : α)
  | err
  | panic
  | fuel
  deriving Repr, Inhabited, DecidableEq

def Res.bind {α β : Type} : Res α → (α → Res β) → Res β
  | .ok a, f => f a
  | .err, _ => .err
  | .panic, _ => .panic
  | .fuel, _ => .fuel

/-- reader of a referenced definition: id, pool, input -/
abbrev Rec := Nat → Pool → Bytes → Res (Val × Bytes)

def readN (rd : Bytes → Res (Val × Bytes)) : Nat → Bytes → Res (List Val × Bytes)
  | 0, bs => .ok ([], bs)
  | n + 1, bs =>
    (rd bs).bind fun (v, bs1) =>
    (readN rd n bs1).bind fun (vs, r) => .ok (v :: vs, r)

/-- the loop of the `{len; slots}` read rule: `n` = slots still to fill.  An item is read first; a two-slot item with only
one slot left ends past `len`: error. -/
def readSlots (wide : List Nat) (rd : Bytes → Res (Val × Bytes)) : Nat → Bytes → Res (List Val × Bytes)
  | 0, bs => .ok ([], bs)
  | n + 1, bs =>
    (rd bs).bind fun (v, bs1) =>
      if isWide wide v then
        (match n with
         | 0 => .err
         | m + 1 => (readSlots wide rd m bs1).bind fun (vs, r) => .ok (v :: vs, r))
      else (readSlots wide rd n bs1).bind fun (vs, r) => .ok (v :: vs, r)

def readTy (rc : Rec) (pool : Pool) (binds : Binds) : Ty → Bytes → Res (Val × Bytes)
  | .prim p, bs =>
    match takeBE p bs with
    | some (n, r) => .ok (.num n, r)
    | none => .err
  | .vecCnt c el, bs =>
    match takeBE c bs with
    | some (n, r) => (readN (readTy rc pool binds el) n r).bind fun (vs, r') => .ok (.list vs, r')
    | none => .err
  | .vecLen e el, bs =>
    match evalR e.bits binds e.e with
    | some n => (readN (readTy rc pool binds el) n bs).bind fun (vs, r') => .ok (.list vs, r')
    | none => .panic
  | .vecSlots e wide el, bs =>
    match evalR e.bits binds e.e with
    | some n => (readSlots wide (readTy rc pool binds el) n bs).bind fun (vs, r') => .ok (.list vs, r')
    | none => .panic
  | .ref id, bs => rc id pool bs

/-- a constant read as `n` passes `notation!(check, …)`: compared only when the source expression is a literal -/
def constOk (c : Const) (n : Nat) : Bool :=
  match c.lit with
  | some l => n == l
  | none => true

/-- reads the constants; besides the bindings it returns the values read, in order (a ghost output: the Rust code
drops them; the strict mode of `readBody` compares them with the recomputed ones) -/
def readConsts (binds : Binds) : List Const → Bytes → Res (Binds × List Nat × Bytes)
  | [], bs => .ok (binds, [], bs)
  | c :: cs, bs =>
    match takeBE c.p bs with
    | none => .err
    | some (n, r) =>
      if constOk c n then
        (readConsts ((c.name, n) :: binds) cs r).bind fun (b, ns, r') => .ok (b, n :: ns, r')
      else .err

def poolAfter (setsPool : Bool) (v : Val) (pool : Pool) : Pool :=
  if setsPool then (match v with | .list vs => some vs | _ => pool) else pool

def bindVal (name : Nat) (v : Val) (binds : Binds) : Binds :=
  match v with
  | .num n => (name, n) :: binds
  | _ => binds

/-- fields of a body and the constants after each; also returns the values of those constants (ghost, see `readConsts`) -/
def readFields (rc : Rec) (pool : Pool) (binds : Binds) : List Field → Bytes → Res (List Val × List Nat × Bytes)
  | [], bs => .ok ([], [], bs)
  | f :: fds, bs =>
    match f.kind with
    | .field ty sp =>
      (readTy rc pool binds ty bs).bind fun (v, bs1) =>
      (readConsts (bindVal f.name v binds) f.post bs1).bind fun (binds2, t1, bs2) =>
      (readFields rc (poolAfter sp v pool) binds2 fds bs2).bind fun (vs, t2, r) => .ok (v :: vs, t1 ++ t2, r)
    | .nowrite _ e =>
      match evalR e.bits binds e.e with
      | none => .panic
      | some n =>
        (readConsts ((f.name, n) :: binds) f.post bs).bind fun (binds2, t1, bs2) =>
        (readFields rc pool binds2 fds bs2).bind fun (vs, t2, r) => .ok (.num n :: vs, t1 ++ t2, r)

def patMatch : Pat → Nat → Bool
  | .lit n, t => t == n
  | .range lo hi, t => lo ≤ t && t ≤ hi
  | .any, _ => true

def natsOf : List Val → Option (List Nat)
  | [] => some []
  | .num n :: r => (natsOf r).map (n :: ·)
  | _ :: _ => none

/-- `pool_get(pool, index)`; `at` = `entry_index`, the constant-pool index of the first entry of the list -/
def poolGet (wide : List Nat) : List Val → Nat → Nat → Option Val
  | [], _, _ => none
  | e :: es, at_, index => if at_ = index then some e else poolGet wide es (at_ + slotsV wide e) index

/-- `pool_has_utf8(pool, index, value)?` -/
def poolHasUtf8 (utf8 : Nat) (wide : List Nat) (pool : Pool) (index : Nat) (value : List Nat) : Res Bool :=
  match pool with
  | none => .err
  | some entries =>
    match poolGet wide entries 1 index with
    | none => .err
    | some (.node k [.list bs]) =>
      if k = utf8 then (match natsOf bs with | some ns => .ok (ns == value) | none => .err) else .err
    | some _ => .err

/-- the `match tag { … }` of an enum's `_read`: first variant (index from `i`) whose pattern and guard accept -/
def selectVariant (utf8 : Nat) (wide : List Nat) (pool : Pool) (tag : Nat) : List Variant → Nat → Res (Nat × Variant)
  | [], _ => .err
  | v :: vs, i =>
    if patMatch v.pat tag then
      match v.guard with
      | none => .ok (i, v)
      | some name =>
        match poolHasUtf8 utf8 wide pool tag name with
        | .ok true => .ok (i, v)
        | .ok false => selectVariant utf8 wide pool tag vs (i + 1)
        | .err => .err
        | .panic => .panic
        | .fuel => .fuel
    else selectVariant utf8 wide pool tag vs (i + 1)

def headBinds (v : Variant) (tagName tag : Nat) : Binds :=
  match v.bind with
  | some b => [(b, tag), (tagName, tag)]
  | none => [(tagName, tag)]

/-! ### strict mode (`ConstsAgree`)

The Rust reader verifies literal constants only; computed constants (`attribute_length = this._len() - 6`,
`constant_pool_count`, …) and computed tags are read and dropped.  `strict = false` is the model of the Rust code.
`strict = true` additionally compares, at the end of every struct / variant, the constants and the tag that were read
with the ones `_write` would produce for the value just read, and fails (`err`) when they differ.  The predicate
"the strict reader does not fail where the plain reader succeeds" is the `ConstsAgree` hypothesis of the
`write (read b) = b` theorem. -/

/-- values `_write` puts into the constants (after the `as` cast) -/
def constVals (thisLen : Option Nat) (ctx : List (Nat × Val)) : List Const → Option (List Nat)
  | [] => some []
  | c :: cs =>
    match evalW c.e.bits thisLen ctx c.e.e, constVals thisLen ctx cs with
    | some n, some r => some (n % c.p.bound :: r)
    | _, _ => none

def allPost : List Field → List Const
  | [] => []
  | f :: fds => f.post ++ allPost fds

/-- the constants (`trace`, in order) and the tag read for a node are the ones `_write` recomputes from its fields -/
def nodeAgrees (env : Env) (id k : Nat) (body : Body) (tag : Option (TExpr × Prim × Nat)) (vs : List Val)
    (trace : List Nat) : Bool :=
  (constVals (len32 (lenV env (.ref id) (.node k vs))) (mkCtx body.fields vs) (body.pre ++ allPost body.fields) == some trace) &&
  (match tag with
   | none => true
   | some (e, p, t) =>
     (match evalW e.bits (len32 (lenV env (.ref id) (.node k vs))) (mkCtx body.fields vs) e.e with
      | some n => n % p.bound == t
      | none => false))

def readBody (strict : Bool) (env : Env) (id : Nat) (tag : Option (TExpr × Prim × Nat)) (rc : Rec) (pool : Pool)
    (binds : Binds) (k : Nat) (body : Body) (bs : Bytes) : Res (Val × Bytes) :=
  (readConsts binds body.pre bs).bind fun (binds1, t1, bs1) =>
  (readFields rc pool binds1 body.fields bs1).bind fun (vs, t2, r) =>
  if strict && !nodeAgrees env id k body tag vs (t1 ++ t2) then .err else .ok (.node k vs, r)

def readDef (strict : Bool) (rc : Rec) (env : Env) (id : Nat) (pool : Pool) (bs : Bytes) : Res (Val × Bytes) :=
  match env.defs[id]? with
  | none => .err
  | some (.struct _ body) => readBody strict env id none rc pool [] 0 body bs
  | some (.enum _ tagName tagTy variants _) =>
    match takeBE tagTy bs with
    | none => .err
    | some (tag, bs1) =>
      (selectVariant env.utf8 env.wide pool tag variants 0).bind fun (i, v) =>
      readBody strict env id (some (v.tagWrite, tagTy, tag)) rc pool (headBinds v tagName tag) i v.body bs1

/-- `T::_read(reader, pool)` with `fuel` levels of nested definitions; `strict = false` is the Rust code -/
def readG (strict : Bool) (env : Env) : Nat → Rec
  | 0 => fun _ _ _ => .fuel
  | f + 1 => readDef strict (readG strict env f) env

/-- the model of `_read` -/
abbrev read (env : Env) : Nat → Rec := readG false env

/-- the checking reader defining `ConstsAgree` -/
abbrev readStrict (env : Env) : Nat → Rec := readG true env

/-- `ConstsAgree`: the checking reader accepts the input, i.e. every computed constant and computed tag in it is the
one `_write` would produce for the value read (decidable) -/
def constsAgree (env : Env) (fuel id : Nat) (pool : Pool) (b : Bytes) : Bool :=
  match readStrict env fuel id pool b with
  | .ok _ => true
  | _ => false

/-! ## `Fits`: the values the format can express (decidable; domain of the round-trip theorems and oracles) -/

/-- bindings the reader will have after the constants (values as written, i.e. after the cast) -/
def constsBinds (thisLen : Option Nat) (ctx : List (Nat × Val)) (binds : Binds) : List Const → Option Binds
  | [] => some binds
  | c :: cs =>
    match evalW c.e.bits thisLen ctx c.e.e with
    | none => none
    | some n =>
      if constOk c (n % c.p.bound) then constsBinds thisLen ctx ((c.name, n % c.p.bound) :: binds) cs else none

def selectIdx (utf8 : Nat) (wide : List Nat) (pool : Pool) (tag : Nat) (vs : List Variant) : Option Nat :=
  match selectVariant utf8 wide pool tag vs 0 with
  | .ok (i, _) => some i
  | _ => none

mutual
def fitsV (env : Env) (pool : Pool) (binds : Binds) : Ty → Val → Bool
  | .prim p, .num n => n < p.bound
  | .vecCnt c el, .list vs => vs.length < c.bound && fitsAll env pool binds el vs
  | .vecLen e el, .list vs => evalR e.bits binds e.e == some vs.length && fitsAll env pool binds el vs
  | .vecSlots e wide el, .list vs => evalR e.bits binds e.e == some (slotsAll wide vs) && fitsAll env pool binds el vs
  | .ref id, .node k fs =>
    match env.defs[id]? with
    | some (.struct _ body) =>
      k == 0 &&
      (match constsBinds (len32 (lenV env (.ref id) (.node k fs))) (mkCtx body.fields fs) [] body.pre with
       | some b1 => fitsFields env (len32 (lenV env (.ref id) (.node k fs))) (mkCtx body.fields fs) pool b1 body.fields fs
       | none => false)
    | some (.enum _ tagName tagTy variants _) =>
      match variants[k]? with
      | some v =>
        (match evalW v.tagWrite.bits (len32 (lenV env (.ref id) (.node k fs))) (mkCtx v.body.fields fs) v.tagWrite.e with
         | some t =>
           selectIdx env.utf8 env.wide pool (t % tagTy.bound) variants == some k &&
           (match constsBinds (len32 (lenV env (.ref id) (.node k fs))) (mkCtx v.body.fields fs)
                    (headBinds v tagName (t % tagTy.bound)) v.body.pre with
            | some b1 => fitsFields env (len32 (lenV env (.ref id) (.node k fs))) (mkCtx v.body.fields fs) pool b1 v.body.fields fs
            | none => false)
         | none => false)
      | none => false
    | none => false
  | _, _ => false
def fitsAll (env : Env) (pool : Pool) (binds : Binds) (el : Ty) : List Val → Bool
  | [] => true
  | v :: vs => fitsV env pool binds el v && fitsAll env pool binds el vs
def fitsFields (env : Env) (thisLen : Option Nat) (ctx : List (Nat × Val)) (pool : Pool) (binds : Binds) :
    List Field → List Val → Bool
  | [], [] => true
  | f :: fds, v :: vs =>
    (match f.kind with
     | .field ty sp =>
       fitsV env pool binds ty v &&
       (match constsBinds thisLen ctx (bindVal f.name v binds) f.post with
        | some b2 => fitsFields env thisLen ctx (poolAfter sp v pool) b2 fds vs
        | none => false)
     | .nowrite _ e =>
       (match v, evalR e.bits binds e.e with
        | .num n, some m =>
          n == m &&
          (match constsBinds thisLen ctx ((f.name, n) :: binds) f.post with
           | some b2 => fitsFields env thisLen ctx pool b2 fds vs
           | none => false)
        | _, _ => false))
  | _, _ => false
end

/-! ## static well-formedness of a layout environment (decidable; checked on the translated layouts by `decide`)

What the macro and rustc guarantee for a `notation!` block that compiles, as far as the interpreter relies on it:
references resolve, element types of vectors are single tokens, read-side expressions (`{len}`, `nowrite = …`) only
mention names bound earlier (tag variable, pattern binding, earlier constants and numeric fields), write-side
expressions only mention fields of the value (`x` numeric, `x.len()` vector) or `this._len()`, the widths are Rust
integer widths, the `lit` flag of a constant is set iff its expression is a literal that fits, names are distinct
within a body, patterns fit the tag type, the pool is handed on only after a vector of pool entries whose variant
`utf8` is `{ bytes: Vec<u8> }`; `{len; slots}` and `pool_slots` are only used on vectors of pool entries, with the slot
table of the environment (`Env.wide`, which names variants of the pool entry type).  `WF` is meant to leave arithmetic
overflow as the only source of the outcomes `none` / `panic` of the interpreter (no unbound name); no theorem states this. -/

def Expr.okR (bound : List Nat) : Expr → Bool
  | .lit _ => true
  | .var x => bound.contains x
  | .lenOf _ => false
  | .slotsOf _ _ => false
  | .thisLen => false
  | .add a b => a.okR bound && b.okR bound
  | .sub a b => a.okR bound && b.okR bound
  | .mul a b => a.okR bound && b.okR bound

/-- `pools` = the vec fields of pool entries, with the slot table of the environment -/
def Expr.okW (wide : List Nat) (nums vecs pools : List Nat) : Expr → Bool
  | .lit _ => true
  | .var x => nums.contains x
  | .lenOf x => vecs.contains x
  | .slotsOf x w => pools.contains x && w == wide
  | .thisLen => true
  | .add a b => a.okW wide nums vecs pools && b.okW wide nums vecs pools
  | .sub a b => a.okW wide nums vecs pools && b.okW wide nums vecs pools
  | .mul a b => a.okW wide nums vecs pools && b.okW wide nums vecs pools

def bitsOk (b : Nat) : Bool := b == 8 || b == 16 || b == 32 || b == 64

def elemOk (ndefs : Nat) : Ty → Bool
  | .prim _ => true
  | .ref id => id < ndefs
  | _ => false

/-- the definition `id` is an enum whose variant `utf8` is `{ bytes: Vec<u8> }` (what `pool_has_utf8` destructures) and
which has the variants the slot table names (what `CpInfo::slots` matches on) -/
def poolEntryOk (env : Env) : Ty → Bool
  | .ref id =>
    (match env.defs[id]? with
     | some (.enum _ _ _ variants _) =>
       env.wide.all (· < variants.length) &&
       (match variants[env.utf8]? with
        | some v =>
          (match v.body.pre, v.body.fields with
           | [], [f] =>
             (match f.kind, f.post with
              | .field (.vecCnt _ (.prim .u8)) _, [] => true
              | _, _ => false)
           | _, _ => false)
        | none => false)
     | _ => false)
  | _ => false

def tyOk (env : Env) (bound : List Nat) : Ty → Bool
  | .prim _ => true
  | .vecCnt _ el => elemOk env.defs.length el
  | .vecLen e el => bitsOk e.bits && e.e.okR bound && elemOk env.defs.length el
  | .vecSlots e w el => bitsOk e.bits && e.e.okR bound && poolEntryOk env el && w == env.wide
  | .ref id => id < env.defs.length

def Const.wf (wide : List Nat) (nums vecs pools : List Nat) (c : Const) : Bool :=
  bitsOk c.e.bits && c.e.e.okW wide nums vecs pools &&
  (match c.lit, c.e.e with
   | some n, .lit m => n == m && n < c.p.bound
   | none, .lit _ => false
   | some _, _ => false
   | none, _ => true)

def Field.isNum (f : Field) : Bool :=
  match f.kind with
  | .field (.prim _) _ => true
  | .nowrite _ _ => true
  | _ => false

def Field.isVec (f : Field) : Bool :=
  match f.kind with
  | .field (.vecCnt _ _) _ => true
  | .field (.vecLen _ _) _ => true
  | .field (.vecSlots _ _ _) _ => true
  | _ => false

/-- a vector of pool entries -/
def Field.isPool (env : Env) (f : Field) : Bool :=
  match f.kind with
  | .field (.vecCnt _ el) _ => poolEntryOk env el
  | .field (.vecLen _ el) _ => poolEntryOk env el
  | .field (.vecSlots _ _ el) _ => poolEntryOk env el
  | _ => false

def fieldsWf (env : Env) (nums vecs pools : List Nat) : List Nat → List Field → Bool
  | _, [] => true
  | bound, f :: fds =>
    (match f.kind with
     | .field ty sp => tyOk env bound ty && (!sp || f.isPool env)
     | .nowrite _ e => bitsOk e.bits && e.e.okR bound) &&
    f.post.all (Const.wf env.wide nums vecs pools) &&
    fieldsWf env nums vecs pools (f.post.reverse.map (·.name) ++ ((if f.isNum then [f.name] else []) ++ bound)) fds

def allNames (b : Body) : List Nat :=
  b.pre.map (·.name) ++ b.fields.flatMap fun f => f.name :: f.post.map (·.name)

def distinct : List Nat → Bool
  | [] => true
  | x :: xs => !xs.contains x && distinct xs

def Body.wf (env : Env) (head : List Nat) (b : Body) : Bool :=
  let nums := (b.fields.filter Field.isNum).map (·.name)
  let vecs := (b.fields.filter Field.isVec).map (·.name)
  let pools := (b.fields.filter (Field.isPool env)).map (·.name)
  b.pre.all (Const.wf env.wide nums vecs pools) &&
  fieldsWf env nums vecs pools (b.pre.reverse.map (·.name) ++ head) b.fields &&
  distinct (allNames b)

def Pat.wf (tagTy : Prim) : Pat → Bool
  | .lit n => n < tagTy.bound
  | .range lo hi => lo ≤ hi && hi < tagTy.bound
  | .any => true

def Variant.wf (env : Env) (tagName : Nat) (tagTy : Prim) (v : Variant) : Bool :=
  let nums := (v.body.fields.filter Field.isNum).map (·.name)
  let vecs := (v.body.fields.filter Field.isVec).map (·.name)
  let pools := (v.body.fields.filter (Field.isPool env)).map (·.name)
  v.pat.wf tagTy && bitsOk v.tagWrite.bits && v.tagWrite.e.okW env.wide nums vecs pools &&
  -- a binding is only possible on a range or catch-all pattern; a guard needs a pool index, i.e. no literal pattern
  (match v.pat with
   | .lit _ => v.bind.isNone && v.guard.isNone
   | _ => true) &&
  v.body.wf env (match v.bind with | some b => [b, tagName] | none => [tagName])

def Def.wf (env : Env) : Def → Bool
  | .struct _ body =>
    body.wf env [] && body.fields.all fun f => match f.kind with | .nowrite _ _ => false | _ => true
  | .enum _ tagName tagTy variants _ =>
    variants.all (Variant.wf env tagName tagTy) &&
    variants.all fun v => v.body.fields.all fun f => match f.kind with | .field _ true => false | _ => true

/-- well-formed layout environment -/
def WF (env : Env) : Bool := env.defs.all (Def.wf env)

/-! nesting depth of definitions in a value = fuel needed to read it back -/
mutual
def depthV : Val → Nat
  | .num _ => 0
  | .list vs => depthAll vs
  | .node _ fs => depthAll fs + 1
def depthAll : List Val → Nat
  | [] => 0
  | v :: vs => max (depthV v) (depthAll vs)
end

/-! ## shape: what a value of the Rust type looks like (the request decoder of the driver rejects anything else) -/

mutual
def typedV (env : Env) : Ty → Val → Bool
  | .prim p, .num n => n < p.bound
  | .vecCnt _ el, .list vs => typedAll env el vs
  | .vecLen _ el, .list vs => typedAll env el vs
  | .vecSlots _ _ el, .list vs => typedAll env el vs
  | .ref id, .node k fs =>
    match env.defs[id]? with
    | some (.struct _ body) => k == 0 && typedFields env body.fields fs
    | some (.enum _ _ _ variants _) =>
      (match variants[k]? with
       | some v => typedFields env v.body.fields fs
       | none => false)
    | none => false
  | _, _ => false
def typedAll (env : Env) (el : Ty) : List Val → Bool
  | [] => true
  | v :: vs => typedV env el v && typedAll env el vs
def typedFields (env : Env) : List Field → List Val → Bool
  | [], [] => true
  | f :: fds, v :: vs =>
    (match f.kind with
     | .field ty _ => typedV env ty v
     | .nowrite p _ => (match v with | .num n => n < p.bound | _ => false)) && typedFields env fds vs
  | _, _ => false
end

end RawLayout
