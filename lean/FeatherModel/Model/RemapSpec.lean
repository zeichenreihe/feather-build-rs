import FeatherModel.Model.RemapTree

/-!
# Specification side of C07: the references of a class, what a remapper answers for each, and the shape

Nothing in this file looks at `RemapTree.remap*`.

* `Ref` — one reference position; `refsClass` — the *independent traversal*: all reference positions of a class in
  document order (declarations, code, annotations, inner-class / enclosing-method / nest / permitted-subclass entries,
  module services and main class, record components with their annotations).
* `applyRef r owner` — what the remapper answers for a reference (`owner` = the class declaring a member).
* `eraseClass` — the shape: the same tree with every reference position blanked. Signatures, annotation element names,
  local variable names and the names of `invokedynamic` / dynamic constants are *not* reference positions of this
  traversal (no remapper primitive answers for them); they are part of the shape, and all but the local variable names
  (which carry no reference) are listed as exceptions of `Thm.C07.field_coverage_partial`. Module names, package names and unknown attributes are not class,
  field or method references: shape.
* `expectedInnerName` — `InnerClass.inner_name` is not answered by the remapper either, but follows from the answer for
  the class name: the simple name that name spells out. It is blanked in the shape and specified on its own.
-/

namespace RemapTree

inductive Ref where
  /-- an object class name (this class, super class, interfaces): `map_class` -/
  | cls (n : JStr)
  /-- any class name, possibly an array: `map_class_any` -/
  | clsAny (n : JStr)
  /-- a field / method / return descriptor: `map_*_desc` -/
  | desc (d : JStr)
  /-- the descriptor of an `invokedynamic` or of a dynamic constant -/
  | dynDesc (d : JStr)
  /-- a field declared by the class being remapped -/
  | fieldDecl (name desc : JStr)
  /-- a method declared by the class being remapped -/
  | methodDecl (name desc : JStr)
  | fieldRef (f : MemberRef)
  | methodRef (m : MemberRef)
  /-- an enum constant in an annotation: descriptor of the enum type and name of the constant (a field of that class) -/
  | enumConst (type const : JStr)
  /-- a component of the record being remapped: the field of that class with this name and descriptor -/
  | recordDecl (name desc : JStr)
  deriving DecidableEq, Repr

def L_ : Nat := 76
def SEMI : Nat := 59

/-- the class named by the descriptor of a class type (JVMS 4.3.2, `L ClassName ;`): the text between the leading `L`
and the trailing `;`, when that is a class name in internal form (`Descriptor.validObj`, the documented predicate of
`ObjClassName`: not an array, every `/`-separated part non-empty and free of `.` `;` `[` `/`).
`classOfDesc_iff` (Lemmas/RemapTree.lean): exactly the JVMS grammar `L ClassName ;`; `classOfDesc_eq`: this is what
duke's descriptor parser answers (`objectClassOf`). -/
def classOfDesc (t : JStr) : Option JStr :=
  match t with
  | c :: rest =>
    if c == L_ && rest.getLast? == some SEMI && Descriptor.validObj rest.dropLast then some rest.dropLast else none
  | [] => none

/-- a string that can be the name of a field (JVMS 4.2.2 unqualified name: non-empty, no `.` `;` `[` `/`) -/
def fieldNameOk (n : JStr) : Bool := Descriptor.validUnqualified n

/-- what the remapper answers for a reference -/
def applyRef (r : Remapper) (owner : JStr) : Ref → Option Ref
  | .cls n => (r.mapClass n).map .cls
  | .clsAny n => (mapClassAny r n).map .clsAny
  | .desc d => (r.mapDesc d).map .desc
  | .dynDesc d => (r.mapDesc d).map .dynDesc
  | .fieldDecl n d => (r.mapField owner n d).map fun p => .fieldDecl p.1 p.2
  | .methodDecl n d => (r.mapMethod owner n d).map fun p => .methodDecl p.1 p.2
  | .fieldRef f => (mapFieldRef r f).map .fieldRef
  | .methodRef m => (mapMethodRef r m).map .methodRef
  | .enumConst t c =>
    match r.mapDesc t with
    | none => none
    | some t' =>
      match classOfDesc t with
      | none => some (.enumConst t' c)
      | some k =>
        -- the field `k.c` declared with type `t`; a string that cannot name a field names nothing to rename
        if fieldNameOk c then (r.mapField k c t).map fun p => .enumConst t' p.1 else some (.enumConst t' c)
  | .recordDecl n d =>
    -- the field `owner.n : d`; a string that cannot name a field names nothing to rename, the descriptor remains
    if fieldNameOk n then (r.mapField owner n d).map fun p => .recordDecl p.1 p.2
    else (r.mapDesc d).map fun d' => .recordDecl n d'

/-! ## The independent traversal -/

mutual
  def refsAnnotation : Annotation → List Ref
    | .mk t ps => .desc t :: refsPairs ps
  def refsPairs : List Pair → List Ref
    | [] => []
    | p :: ps => refsPair p ++ refsPairs ps
  def refsPair : Pair → List Ref
    | .mk _ v => refsElementValue v
  def refsElementValue : ElementValue → List Ref
    | .object _ => []
    | .enum t c => [.enumConst t c]
    | .cls d => [.desc d]
    | .ann a => refsAnnotation a
    | .array vs => refsElementValues vs
  def refsElementValues : List ElementValue → List Ref
    | [] => []
    | v :: vs => refsElementValue v ++ refsElementValues vs
end

def refsHandle : Handle → List Ref
  | .field _ f => [.fieldRef f]
  | .method _ m => [.methodRef m]

mutual
  def refsLoadable : Loadable → List Ref
    | .const _ => []
    | .cls n => [.clsAny n]
    | .handle h => refsHandle h
    | .methodType d => [.desc d]
    | .dynamic c => refsConstDyn c
  def refsConstDyn : ConstDyn → List Ref
    | .mk _ d h args => .dynDesc d :: (refsHandle h ++ refsLoadables args)
  def refsLoadables : List Loadable → List Ref
    | [] => []
    | l :: ls => refsLoadable l ++ refsLoadables ls
end

def refsVType : VType → List Ref
  | .plain _ => []
  | .object n => [.clsAny n]

def refsFrame : Frame → List Ref
  | .plain _ => []
  | .same1 s => refsVType s
  | .append ls => ls.flatMap refsVType
  | .full ls ss => ls.flatMap refsVType ++ ss.flatMap refsVType

def refsInsn : Insn → List Ref
  | .plain _ => []
  | .ldc l => refsLoadable l
  | .field _ f => [.fieldRef f]
  | .method _ m => [.methodRef m]
  | .indy _ d h args => .dynDesc d :: (refsHandle h ++ refsLoadables args)
  | .cls _ n => [.clsAny n]

def refsOpt {α : Type} (f : α → List Ref) : Option α → List Ref
  | none => []
  | some a => f a

def refsInsnEntry (e : InsnEntry) : List Ref := refsOpt refsFrame e.frame ++ refsInsn e.insn

def refsExc (e : ExcEntry) : List Ref := refsOpt (fun n => [.clsAny n]) e.catchType

def refsLv (l : Lv) : List Ref := refsOpt (fun d => [.desc d]) l.desc

def refsTypeAnnotation (t : TypeAnnotation) : List Ref := refsAnnotation t.annotation

def refsCode (c : Code) : List Ref :=
  c.insns.flatMap refsInsnEntry ++ c.exceptions.flatMap refsExc ++ refsOpt (·.flatMap refsLv) c.lvs ++
  c.rvta.flatMap refsTypeAnnotation ++ c.rita.flatMap refsTypeAnnotation

def refsField (f : Field) : List Ref :=
  .fieldDecl f.name f.desc :: (f.rva.flatMap refsAnnotation ++ f.ria.flatMap refsAnnotation ++
  f.rvta.flatMap refsTypeAnnotation ++ f.rita.flatMap refsTypeAnnotation)

def refsMethod (m : Method) : List Ref :=
  .methodDecl m.name m.desc :: (refsOpt refsCode m.code ++ refsOpt (·.map .clsAny) m.exceptions ++
  m.rva.flatMap refsAnnotation ++ m.ria.flatMap refsAnnotation ++
  m.rvta.flatMap refsTypeAnnotation ++ m.rita.flatMap refsTypeAnnotation ++ refsOpt refsElementValue m.annotationDefault)

def refsInnerClass (i : InnerClass) : List Ref := .clsAny i.inner :: refsOpt (fun n => [.clsAny n]) i.outer

def refsEnclosing (e : Enclosing) : List Ref :=
  match e.method with
  | some (n, d) => [.methodRef ⟨e.cls, n, d⟩]
  | none => [.clsAny e.cls]

/-- a record component names the field of the record class with the same name and descriptor, and is annotated like it -/
def refsRecordComponent (c : RecordComponent) : List Ref :=
  .recordDecl c.name c.desc :: (c.rva.flatMap refsAnnotation ++ c.ria.flatMap refsAnnotation ++
  c.rvta.flatMap refsTypeAnnotation ++ c.rita.flatMap refsTypeAnnotation)

def refsModuleProvides (p : ModuleProvides) : List Ref := .clsAny p.name :: p.providesWith.map .clsAny

/-- the classes a module descriptor names: the services it uses, the services it provides and their implementations -/
def refsModule (m : Module) : List Ref := m.uses.map .clsAny ++ m.provides.flatMap refsModuleProvides

def refsClass (c : ClassFile) : List Ref :=
  .cls c.name :: (refsOpt (fun n => [.cls n]) c.superClass ++ c.interfaces.map .cls ++
  c.fields.flatMap refsField ++ c.methods.flatMap refsMethod ++
  refsOpt (·.flatMap refsInnerClass) c.innerClasses ++ refsOpt refsEnclosing c.enclosingMethod ++
  c.rva.flatMap refsAnnotation ++ c.ria.flatMap refsAnnotation ++
  c.rvta.flatMap refsTypeAnnotation ++ c.rita.flatMap refsTypeAnnotation ++
  refsOpt refsModule c.module ++ refsOpt (fun n => [.clsAny n]) c.moduleMainClass ++
  refsOpt (fun n => [.clsAny n]) c.nestHost ++ refsOpt (·.map .clsAny) c.nestMembers ++
  refsOpt (·.map .clsAny) c.permittedSubclasses ++ c.recordComponents.flatMap refsRecordComponent)

/-! ## Shape: the tree with every reference position blanked -/

def noRef : MemberRef := ⟨[], [], []⟩

mutual
  def eraseAnnotation : Annotation → Annotation
    | .mk _ ps => .mk [] (erasePairs ps)
  def erasePairs : List Pair → List Pair
    | [] => []
    | p :: ps => erasePair p :: erasePairs ps
  def erasePair : Pair → Pair
    | .mk n v => .mk n (eraseElementValue v)
  def eraseElementValue : ElementValue → ElementValue
    | .object o => .object o
    | .enum _ _ => .enum [] []
    | .cls _ => .cls []
    | .ann a => .ann (eraseAnnotation a)
    | .array vs => .array (eraseElementValues vs)
  def eraseElementValues : List ElementValue → List ElementValue
    | [] => []
    | v :: vs => eraseElementValue v :: eraseElementValues vs
end

def eraseHandle : Handle → Handle
  | .field k _ => .field k noRef
  | .method k _ => .method k noRef

mutual
  def eraseLoadable : Loadable → Loadable
    | .const o => .const o
    | .cls _ => .cls []
    | .handle h => .handle (eraseHandle h)
    | .methodType _ => .methodType []
    | .dynamic c => .dynamic (eraseConstDyn c)
  def eraseConstDyn : ConstDyn → ConstDyn
    | .mk n _ h args => .mk n [] (eraseHandle h) (eraseLoadables args)
  def eraseLoadables : List Loadable → List Loadable
    | [] => []
    | l :: ls => eraseLoadable l :: eraseLoadables ls
end

def eraseVType : VType → VType
  | .plain o => .plain o
  | .object _ => .object []

def eraseFrame : Frame → Frame
  | .plain o => .plain o
  | .same1 s => .same1 (eraseVType s)
  | .append ls => .append (ls.map eraseVType)
  | .full ls ss => .full (ls.map eraseVType) (ss.map eraseVType)

def eraseInsn : Insn → Insn
  | .plain o => .plain o
  | .ldc l => .ldc (eraseLoadable l)
  | .field op _ => .field op noRef
  | .method op _ => .method op noRef
  | .indy n _ h args => .indy n [] (eraseHandle h) (eraseLoadables args)
  | .cls op _ => .cls op []

def eraseInsnEntry (e : InsnEntry) : InsnEntry :=
  { e with frame := e.frame.map eraseFrame, insn := eraseInsn e.insn }

def eraseExc (e : ExcEntry) : ExcEntry := { e with catchType := e.catchType.map fun _ => [] }

def eraseLv (l : Lv) : Lv := { l with desc := l.desc.map fun _ => [] }

def eraseTypeAnnotation (t : TypeAnnotation) : TypeAnnotation := { t with annotation := eraseAnnotation t.annotation }

def eraseCode (c : Code) : Code :=
  { c with insns := c.insns.map eraseInsnEntry, exceptions := c.exceptions.map eraseExc,
           lvs := c.lvs.map (·.map eraseLv), rvta := c.rvta.map eraseTypeAnnotation,
           rita := c.rita.map eraseTypeAnnotation }

def eraseField (f : Field) : Field :=
  { f with name := [], desc := [], rva := f.rva.map eraseAnnotation, ria := f.ria.map eraseAnnotation,
           rvta := f.rvta.map eraseTypeAnnotation, rita := f.rita.map eraseTypeAnnotation }

def eraseMethod (m : Method) : Method :=
  { m with name := [], desc := [], code := m.code.map eraseCode, exceptions := m.exceptions.map (·.map fun _ => []),
           rva := m.rva.map eraseAnnotation, ria := m.ria.map eraseAnnotation,
           rvta := m.rvta.map eraseTypeAnnotation, rita := m.rita.map eraseTypeAnnotation,
           annotationDefault := m.annotationDefault.map eraseElementValue }

def eraseInnerClass (i : InnerClass) : InnerClass :=
  { i with inner := [], outer := i.outer.map fun _ => [], innerName := i.innerName.map fun _ => [] }

/-! ## Inner names -/

/-- the text after the last occurrence of `c`, if there is one -/
def lastPiece (c : Nat) (s : JStr) : Option JStr :=
  if c ∈ s then some (s.reverse.takeWhile (· ≠ c)).reverse else none

/-- the simple name a binary class name spells out (JLS 13.1): in its last `/`-separated part, what follows the last
`$`, minus the digits in front of the name of a local class; `none` when that part has no `$` -/
def spelledSimpleName (n : JStr) : Option JStr :=
  let part := (lastPiece 47 n).getD n
  (lastPiece 36 part).map fun s => s.dropWhile fun c => decide (48 ≤ c ∧ c ≤ 57)

/-- what a consistent renaming makes of `inner_name` when the class `old` is renamed to `new`: an inner name that was
the simple name spelled out by `old` becomes the one spelled out by `new` (kept when `new` spells none); an inner name
that was something else has no relation to the class name and is kept -/
def expectedInnerName (old new : JStr) (innerName : Option JStr) : Option JStr :=
  innerName.map fun s => if spelledSimpleName old = some s then (spelledSimpleName new).getD s else s

def eraseEnclosing (e : Enclosing) : Enclosing := ⟨[], e.method.map fun _ => ([], [])⟩

def eraseRecordComponent (c : RecordComponent) : RecordComponent :=
  { c with name := [], desc := [], rva := c.rva.map eraseAnnotation, ria := c.ria.map eraseAnnotation,
           rvta := c.rvta.map eraseTypeAnnotation, rita := c.rita.map eraseTypeAnnotation }

def eraseModuleProvides (p : ModuleProvides) : ModuleProvides := ⟨[], p.providesWith.map fun _ => []⟩

def eraseModule (m : Module) : Module :=
  { m with uses := m.uses.map fun _ => [], provides := m.provides.map eraseModuleProvides }

def eraseClass (c : ClassFile) : ClassFile :=
  { c with name := [], superClass := c.superClass.map fun _ => [], interfaces := c.interfaces.map fun _ => [],
           fields := c.fields.map eraseField, methods := c.methods.map eraseMethod,
           innerClasses := c.innerClasses.map (·.map eraseInnerClass),
           enclosingMethod := c.enclosingMethod.map eraseEnclosing,
           rva := c.rva.map eraseAnnotation, ria := c.ria.map eraseAnnotation,
           rvta := c.rvta.map eraseTypeAnnotation, rita := c.rita.map eraseTypeAnnotation,
           module := c.module.map eraseModule, moduleMainClass := c.moduleMainClass.map fun _ => [],
           nestHost := c.nestHost.map fun _ => [], nestMembers := c.nestMembers.map (·.map fun _ => []),
           permittedSubclasses := c.permittedSubclasses.map (·.map fun _ => []),
           recordComponents := c.recordComponents.map eraseRecordComponent }

/-! ## Jar level -/

/-- the entry is named after the class it contains -/
def wellNamed (ne : JStr × Entry) : Bool :=
  match ne.2.content with
  | .cls c => ne.1 == c.name ++ dotClass
  | _ => stripDotClass ne.1 == none

end RemapTree
