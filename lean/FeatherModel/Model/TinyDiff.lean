import FeatherModel.Model.Diff

/-!
# `.tinydiff` reader (C04) and specification writer
`quill/src/tiny_v2_diff.rs` (`read`), `quill/src/lines.rs` (`TinyLine::new/next/action/action_string`,
`WithMoreIdentIter`), `quill/src/tiny_v2.rs` (`unescape`; `escape` for the specification writer), `duke/src/tree/mod.rs` (name predicates used by the
`TryFrom<JavaString>` conversions of keys and names).

The nested `on_every_line` loops of the reader are modelled as ONE structural pass over the lines with a zipper of the
currently open nodes (class ▸ field | method ▸ parameter). The number of open nodes is the depth of the innermost running
loop: a line indented deeper than that is the `expected an indentation of …` error, a line indented less closes
(`cancel an inner loop`) the nodes below its depth. `add_class/add_field/…` insert the node when its line is read and
fill the javadoc in place later; the zipper appends the node when it is closed, which gives the same map and order
because siblings are closed before the next one opens (the duplicate-key test is made when the line is read).

Text is a list of code points (the harness writes it as UTF-8 to a file for `tiny_v2_diff::read_file`).
The repo has no `.tinydiff` writer: `writeSpec` is specification text, mirrored verbatim by `harness/src/diffcodec.rs`.
-/

namespace TinyDiff
open DiffModel

def TAB : Nat := 9
def LF : Nat := 10
def CR : Nat := 13

/-- `str::split(sep)`: always at least one piece -/
def splitOn (sep : Nat) : List Nat → List (List Nat)
  | [] => [[]]
  | c :: rest =>
    if c = sep then [] :: splitOn sep rest
    else
      match splitOn sep rest with
      | [] => [[c]]
      | p :: ps => (c :: p) :: ps

def stripCR (l : List Nat) : List Nat :=
  if l.getLast? = some CR then l.dropLast else l

/-- `BufRead::lines`: LF-terminated lines lose one trailing CR; a non-empty unterminated last line is kept as it is -/
def textLines (text : List Nat) : List (List Nat) :=
  let ps := splitOn LF text
  ps.dropLast.map stripCR ++ (match ps.getLast? with
    | some [] => []
    | some l => [l]
    | none => [])

/-- `TinyLine` -/
structure Line where
  idents : Nat
  first : JStr
  fields : List JStr
  deriving Repr, DecidableEq

/-- `TinyLine::new` -/
def mkLine (l : List Nat) : Line :=
  let idents := (l.takeWhile (· = TAB)).length
  match splitOn TAB (l.drop idents) with
  | [] => { idents := idents, first := [], fields := [] }
  | f :: fs => { idents := idents, first := f, fields := fs }

/-! ### name predicates (`duke::tree::names`) -/

def DOT : Nat := 46
def SEMI : Nat := 59
def LBRACK : Nat := 91
def SLASH : Nat := 47
def LT : Nat := 60
def GT : Nat := 62

/-- `is_valid_unqualified_name` (field names, parameter names) -/
def validUnqualified (x : JStr) : Bool :=
  x != [] && x.all fun c => !(c == DOT || c == SEMI || c == LBRACK || c == SLASH)

/-- `is_valid_method_name` -/
def validMethodName (x : JStr) : Bool :=
  x == [60, 105, 110, 105, 116, 62] || x == [60, 99, 108, 105, 110, 105, 116, 62] ||
    (x != [] && x.all fun c => !(c == DOT || c == SEMI || c == LBRACK || c == SLASH || c == LT || c == GT))

/-- `is_valid_obj_class_name` -/
def validObjClass (x : JStr) : Bool :=
  x.head? != some LBRACK && (splitOn SLASH x).all validUnqualified

/-! ### cells -/

/-- one action cell: `fields.next().filter(|x| !x.is_empty()).map(T::try_from).transpose()?`; outer `none` = invalid name -/
def cell (valid : JStr → Bool) : Option JStr → Option (Option JStr)
  | none => some none
  | some s => if s = [] then some none else if valid s then some (some s) else none

/-- `TinyLine::action` / `action_string` on the remaining fields -/
def parseAction (valid : JStr → Bool) (fields : List JStr) : Option (Action JStr) :=
  if fields.length > 2 then none
  else
    match cell valid fields[0]?, cell valid fields[1]? with
    | some a, some b =>
      some (match a, b with
        | none, none => .none
        | none, some b => .add b
        | some a, none => .remove a
        | some a, some b => if a = b then .none else .edit a b)
    | _, _ => none

/-- `unescape` (quill/src/tiny_v2.rs, shared with the tiny v2 reader): scanning left to right, the two-character
sequences backslash-backslash, backslash-`n`, backslash-`r`, backslash-`t` are decoded; a backslash that starts none of
them is kept -/
def unescape : List Nat → List Nat
  | 92 :: 92 :: rest => 92 :: unescape rest
  | 92 :: 110 :: rest => 10 :: unescape rest
  | 92 :: 114 :: rest => 13 :: unescape rest
  | 92 :: 116 :: rest => 9 :: unescape rest
  | c :: rest => c :: unescape rest
  | [] => []

/-- `escape`: backslash, LF, CR and TAB become backslash-backslash, backslash-`n`, backslash-`r`, backslash-`t`
(four `str::replace`s, the backslash first, so it is a character-by-character map) -/
def escape : List Nat → List Nat
  | [] => []
  | c :: rest =>
    if c = 92 then 92 :: 92 :: escape rest
    else if c = 10 then 92 :: 110 :: escape rest
    else if c = 13 then 92 :: 114 :: escape rest
    else if c = 9 then 92 :: 116 :: escape rest
    else c :: escape rest

def Action.mapA {α β : Type} (f : α → β) : Action α → Action β
  | .none => .none
  | .add b => .add (f b)
  | .remove a => .remove (f a)
  | .edit a b => .edit (f a) (f b)

/-- `add_comment`: the raw cells are compared before unescaping; a second comment line is an error even when the first
one carried no action. Returns the action; the caller sets the `had_comment` flag. -/
def addComment (had : Bool) (fields : List JStr) : Option (Action JStr) :=
  match parseAction (fun _ => true) fields with
  | none => none
  | some a => if had then none else some (Action.mapA unescape a)

def isDigit (c : Nat) : Bool := 48 ≤ c && c ≤ 57

/-- `str::parse::<usize>` (64 bit): optional `+`, at least one ASCII digit, no overflow -/
def parseUsize (s : JStr) : Option Nat :=
  let ds := match s with
    | 43 :: rest => rest
    | _ => s
  if ds = [] then none
  else if ds.all isDigit then
    let v := ds.foldl (fun acc c => acc * 10 + (c - 48)) 0
    if v < 18446744073709551616 then some v else none
  else none

/-! ### the zipper of open nodes -/

structure OpenParam where
  key : Nat
  d : PDiff
  had : Bool

inductive OpenMem where
  | field (key : MemberKey) (d : FDiff) (had : Bool)
  | method (key : MemberKey) (d : MDiff) (had : Bool) (par : Option OpenParam)

structure OpenClass where
  key : JStr
  d : CDiff
  had : Bool
  mem : Option OpenMem

structure St where
  done : AList JStr CDiff
  cls : Option OpenClass

def closeParam (d : MDiff) : Option OpenParam → MDiff
  | none => d
  | some p => { d with params := d.params ++ [(p.key, p.d)] }

def closeMem (d : CDiff) : Option OpenMem → CDiff
  | none => d
  | some (.field k f _) => { d with fields := d.fields ++ [(k, f)] }
  | some (.method k m _ par) => { d with methods := d.methods ++ [(k, closeParam m par)] }

def closeClass (done : AList JStr CDiff) : Option OpenClass → AList JStr CDiff
  | none => done
  | some c => done ++ [(c.key, closeMem c.d c.mem)]

def C_ : JStr := [99]
def F_ : JStr := [102]
def M_ : JStr := [109]
def P_ : JStr := [112]

/-- a line of the top-level loop -/
def step0 (st : St) (l : Line) : Option St :=
  let done := closeClass st.done st.cls
  if l.first = C_ then
    match l.fields with
    | [] => none
    | key :: rest =>
      if !validObjClass key then none else
      match parseAction validObjClass rest with
      | none => none
      | some a =>
        if AList.contains key done then none
        else some { done := done, cls := some { key := key, d := { info := a, doc := .none, fields := [], methods := [] }, had := false, mem := none } }
  else some { done := done, cls := none }

/-- a line of a class sub-section loop -/
def step1 (c : OpenClass) (l : Line) : Option OpenClass :=
  let d := closeMem c.d c.mem
  if l.first = F_ then
    match l.fields with
    | desc :: name :: rest =>
      if !validUnqualified name then none else
      match parseAction validUnqualified rest with
      | none => none
      | some a =>
        if AList.contains (name, desc) d.fields then none
        else some { c with d := d, mem := some (.field (name, desc) { info := a, doc := .none } false) }
    | _ => none
  else if l.first = M_ then
    match l.fields with
    | desc :: name :: rest =>
      if !validMethodName name then none else
      match parseAction validMethodName rest with
      | none => none
      | some a =>
        if AList.contains (name, desc) d.methods then none
        else some { c with d := d, mem := some (.method (name, desc) { info := a, doc := .none, params := [] } false none) }
    | _ => none
  else if l.first = C_ then
    match addComment c.had l.fields with
    | none => none
    | some a => some { c with d := { d with doc := a }, had := true, mem := none }
  else some { c with d := d, mem := none }

/-- a line of a field / method sub-section loop -/
def step2 (m : OpenMem) (l : Line) : Option OpenMem :=
  match m with
  | .field k f had =>
    if l.first = C_ then
      match addComment had l.fields with
      | none => none
      | some a => some (.field k { f with doc := a } true)
    else some m
  | .method k md had par =>
    let md := closeParam md par
    if l.first = P_ then
      match l.fields with
      | idx :: src :: rest =>
        match parseUsize idx with
        | none => none
        | some index =>
          if src ≠ [] then none else
          match parseAction validUnqualified rest with
          | none => none
          | some a =>
            if AList.contains index md.params then none
            else some (.method k md had (some { key := index, d := { info := a, doc := .none }, had := false }))
      | _ => none
    else if l.first = C_ then
      match addComment had l.fields with
      | none => none
      | some a => some (.method k { md with doc := a } true none)
    else some (.method k md had none)

/-- a line of a parameter sub-section loop -/
def step3 (p : OpenParam) (l : Line) : Option OpenParam :=
  if l.first = C_ then
    match addComment p.had l.fields with
    | none => none
    | some a => some { p with d := { p.d with doc := a }, had := true }
  else some p

/-- one line; `none` = any of the reader's errors (including `expected an indentation of …`) -/
def step (st : St) (l : Line) : Option St :=
  match l.idents with
  | 0 => step0 st l
  | 1 =>
    match st.cls with
    | none => none
    | some c => (step1 c l).map fun c' => { st with cls := some c' }
  | 2 =>
    match st.cls with
    | some c =>
      match c.mem with
      | some m => (step2 m l).map fun m' => { st with cls := some { c with mem := some m' } }
      | none => none
    | none => none
  | 3 =>
    match st.cls with
    | some c =>
      match c.mem with
      | some (.method k md had (some p)) =>
        (step3 p l).map fun p' => { st with cls := some { c with mem := some (.method k md had (some p')) } }
      | _ => none
    | none => none
  | _ => none

def steps : St → List Line → Option St
  | st, [] => some st
  | st, l :: rest =>
    match step st l with
    | none => none
    | some st' => steps st' rest

def TINY : JStr := [116, 105, 110, 121]

/-- the header test: first field `tiny`, then exactly `2` and `0` (the indentation of the header line is not looked at) -/
def headerOk (l : Line) : Bool :=
  l.first = TINY && l.fields = [[50], [48]]

/-- `tiny_v2_diff::read` -/
def read (text : List Nat) : Option Diff :=
  match (textLines text).map mkLine with
  | [] => none
  | h :: body =>
    if !headerOk h then none
    else
      match steps { done := [], cls := none } body with
      | none => none
      | some st => some { info := .none, doc := .none, classes := closeClass st.done st.cls }

/-! ### specification writer -/

def cellOf : Option JStr → JStr
  | none => []
  | some s => s

def actionCells (a : Action JStr) : List JStr := [cellOf a.toTuple.1, cellOf a.toTuple.2]

def joinTab : List JStr → List Nat
  | [] => []
  | [c] => c
  | c :: rest => c ++ TAB :: joinTab rest

def row (idents : Nat) (cells : List JStr) : List Nat :=
  List.replicate idents TAB ++ joinTab cells ++ [LF]

/-- a comment line, only when there is an action -/
def docRow (idents : Nat) : Action JStr → List Nat
  | .none => []
  | a => row idents (C_ :: (actionCells a).map escape)

def decimal (n : Nat) : JStr := (Nat.toDigits 10 n).map Char.toNat

def writeParam (e : Nat × PDiff) : List Nat :=
  row 2 (P_ :: decimal e.1 :: [] :: actionCells e.2.info) ++ docRow 3 e.2.doc

def writeField (e : MemberKey × FDiff) : List Nat :=
  row 1 (F_ :: e.1.2 :: e.1.1 :: actionCells e.2.info) ++ docRow 2 e.2.doc

def writeMethod (e : MemberKey × MDiff) : List Nat :=
  row 1 (M_ :: e.1.2 :: e.1.1 :: actionCells e.2.info) ++ docRow 2 e.2.doc ++ (e.2.params.map writeParam).flatten

def writeClass (e : JStr × CDiff) : List Nat :=
  row 0 (C_ :: e.1 :: actionCells e.2.info) ++ docRow 1 e.2.doc ++
    (e.2.fields.map writeField).flatten ++ (e.2.methods.map writeMethod).flatten

/-- specification text of a diff (its `info` and top-level `doc` have no textual form) -/
def writeSpec (d : Diff) : List Nat :=
  row 0 [TINY, [50], [48]] ++ (d.classes.map writeClass).flatten

end TinyDiff
