import FeatherModel.Base.AListOps
import FeatherModel.Model.Mappings
import FeatherModel.Model.MapDesc

/-!
# dukenest (C14): nests tables, nesting a jar, nesting / un-nesting mappings, translating a nests table
Mirrors `dukenest/src/{io,nest,nester_jar,nester_run,nests_mapper_run}.rs` *as written*, including:
* `nest_jar`: the filter closure has side effects (a missing enclosing class is synthesised and counted as present
  before the per-kind rule is evaluated; the outcome depends on table order);
* `undo_nests_to_mappings`: the second-namespace name is looked up in the *first*-namespace table and `$` is replaced
  by `__` (the helper is called `replace_double_underscore_with_dollar` but does the opposite);
* `map_nests` (of `nests_mapper_run.rs`; `dukenest::remap_nests` only calls it): the kind used for the inner name is recomputed from the text of the inner name (`NestTypeA`), the stored
  `nest_type` is copied.
The recursions `remap` / `build_translation` carry a depth counter and `bail!` when it exceeds the number of nests (a cyclic
table); the model counts the remaining depth down (`fuel = number of nests + 1 - depth`) and answers `none` for that error
(`Thm.C14.build_fuel_enough`: never on an acyclic table; `Thm.C14.cyclic_err`: always on a cyclic one with unique keys).
The rewriting of references inside class bodies is `dukebox::remap` (C07); only name, super class, interfaces, method
descriptors, InnerClasses and EnclosingMethod are modelled here.
-/

namespace Nest

def DOLLAR : Nat := 36
def SLASH : Nat := 47
def USCORE : Nat := 95
def TAB : Nat := 9
def LF : Nat := 10
def CR : Nat := 13
def LBRACK : Nat := 91

inductive Kind where
  | anonymous | inner | local
  deriving Repr, DecidableEq, BEq

structure Nest where
  kind : Kind
  className : JStr
  enclClass : JStr
  enclMethod : Option (JStr × JStr)
  innerName : JStr
  access : Nat
  deriving Repr, DecidableEq, BEq

/-- `Nests.all : IndexMap<ObjClassName, Nest>`, keyed by `className` (the only constructor is `add`) -/
abbrev Nests := List Nest

def get (ns : Nests) (c : JStr) : Option Nest := ns.find? (fun n => n.className == c)

def containsKey (ns : Nests) (c : JStr) : Bool := (get ns c).isSome

/-- `Nests::add` = `IndexMap::insert`: replace in place or append -/
def add : Nests → Nest → Nests
  | [], n => [n]
  | m :: rest, n => if m.className == n.className then n :: rest else m :: add rest n

/-! ## small string helpers (`str` methods on code points) -/

def isDigit (c : Nat) : Bool := 48 ≤ c && c ≤ 57

/-- `str::split(sep)` -/
def splitOn (sep : Nat) : List Nat → List (List Nat)
  | [] => [[]]
  | c :: rest =>
    if c = sep then [] :: splitOn sep rest
    else
      match splitOn sep rest with
      | [] => [[c]]
      | seg :: segs => (c :: seg) :: segs

def stripCR (l : List Nat) : List Nat :=
  if l.getLast? = some CR then l.dropLast else l

/-- `BufRead::lines`: segments ended by LF lose the LF and then one CR; a final unterminated non-empty segment is kept
verbatim -/
def linesGo : List (List Nat) → List (List Nat)
  | [] => []
  | [last] => if last.isEmpty then [] else [last]
  | seg :: rest => stripCR seg :: linesGo rest

def lines (s : List Nat) : List (List Nat) := linesGo (splitOn LF s)

def digitVal (radix c : Nat) : Option Nat :=
  let v : Option Nat :=
    if 48 ≤ c ∧ c ≤ 57 then some (c - 48)
    else if 97 ≤ c ∧ c ≤ 122 then some (c - 87)
    else if 65 ≤ c ∧ c ≤ 90 then some (c - 55)
    else none
  match v with
  | some d => if d < radix then some d else none
  | none => none

def parseDigits (radix : Nat) : List Nat → Nat → Option Nat
  | [], acc => some acc
  | c :: rest, acc =>
    match digitVal radix c with
    | some d => parseDigits radix rest (acc * radix + d)
    | none => none

/-- `u16::from_str_radix`: optional `+`, at least one digit, no overflow -/
def parseU16 (radix : Nat) (s : List Nat) : Option Nat :=
  let digits : Option (List Nat) :=
    match s with
    | [] => none
    | [43] => none
    | [45] => none
    | 43 :: rest => some rest
    | _ => some s
  match digits with
  | none => none
  | some ds =>
    match parseDigits radix ds 0 with
    | some v => if v ≤ 65535 then some v else none
    | none => none

/-- `str::parse::<i32>` -/
def parseI32 (s : List Nat) : Option Int :=
  match s with
  | [] => none
  | [43] => none
  | [45] => none
  | 43 :: rest =>
    (match parseDigits 10 rest 0 with
     | some v => if v ≤ 2147483647 then some (Int.ofNat v) else none
     | none => none)
  | 45 :: rest =>
    (match parseDigits 10 rest 0 with
     | some v => if v ≤ 2147483648 then some (- Int.ofNat v) else none
     | none => none)
  | _ =>
    (match parseDigits 10 s 0 with
     | some v => if v ≤ 2147483647 then some (Int.ofNat v) else none
     | none => none)

/-- the bits duke knows; `maskAccess` is `InnerClassFlags::from(u16)` followed by `u16::from` -/
def ACCESS_MASK : Nat := 0x761F
def maskAccess (v : Nat) : Nat := Nat.land v ACCESS_MASK

/-- `Nests::parse_u16_hex_binary_and_decimal` -/
def parseAccess (s : List Nat) : Option Nat :=
  match s with
  | 48 :: 120 :: hex => parseU16 16 hex
  | 48 :: 98 :: bin => parseU16 2 bin
  | _ => parseU16 10 s

/-- JVMS 4.2.2 unqualified name as checked by duke -/
def validUnqualified (x : List Nat) : Bool :=
  !x.isEmpty && x.all (fun c => c != 46 && c != 59 && c != 91 && c != 47)

def validObjClassName (x : List Nat) : Bool :=
  x.head? != some LBRACK && (splitOn SLASH x).all validUnqualified

def validMethodName (x : List Nat) : Bool :=
  x == [60, 105, 110, 105, 116, 62] || x == [60, 99, 108, 105, 110, 105, 116, 62] ||
    (!x.isEmpty && x.all (fun c => c != 46 && c != 59 && c != 91 && c != 47 && c != 60 && c != 62))

/-- kind of a nest as decided by `read_line` from the text of the inner name -/
def kindOfInnerName (inner : List Nat) : Kind :=
  if inner.all isDigit then .anonymous
  else if (match inner.head? with | some c => isDigit c | none => false) then .local
  else .inner

/-- `Nests::read_line` -/
def readLine (line : List Nat) : Option Nest :=
  match splitOn TAB line with
  | [cn, en, mn, md, inn, acc] =>
    if cn.isEmpty || en.isEmpty || inn.isEmpty then none
    else if !validObjClassName cn then none
    else if !validObjClassName en then none
    else
      let m : Option (Option (JStr × JStr)) :=
        if mn.isEmpty || md.isEmpty then some none
        else if validMethodName mn then some (some (mn, md)) else none
      match m with
      | none => none
      | some m =>
        if !validObjClassName inn then none
        else
          match parseAccess acc with
          | none => none
          | some a =>
            some { kind := kindOfInnerName inn, className := cn, enclClass := en, enclMethod := m,
                   innerName := inn, access := maskAccess a }
  | _ => none

def readLines : List (List Nat) → Nests → Option Nests
  | [], acc => some acc
  | l :: rest, acc =>
    match readLine l with
    | none => none
    | some n => readLines rest (add acc n)

/-- `Nests::read` (on the code points of valid UTF-8 text) -/
def read (text : List Nat) : Option Nests := readLines (lines text) []

/-! ## class names through a nests table -/

def join (p i : JStr) : JStr := p ++ DOLLAR :: i

/-- `build_translation` of `nester_run.rs`: the nested name of `c` (`remap` of `nester_jar.rs` is `jarRemap` below; that the
two agree is `Thm.C14.recursions_agree`). `none` = the depth bound was exceeded (`bail!("cyclic nests…")`); the check comes first, as in the Rust. -/
def build (ns : Nests) : Nat → JStr → Option JStr
  | 0, _ => none
  | fuel + 1, c =>
    match get ns c with
    | none => some c
    | some n =>
      match build ns fuel n.enclClass with
      | none => none
      | some a => some (join a n.innerName)

/-- `remap(this_nests, nest)` of `nester_jar.rs`: recursion on the nest, not on the name -/
def jarRemap (ns : Nests) : Nat → Nest → Option JStr
  | 0, _ => none
  | fuel + 1, n =>
    let r : Option JStr :=
      match get ns n.enclClass with
      | some e => jarRemap ns fuel e
      | none => some n.enclClass
    match r with
    | none => none
    | some a => some (join a n.innerName)

/-- the depth bound of the code: calls at depth `0 ..= number of nests` pass the check (`Thm.C14.build_fuel_enough`: enough for
every acyclic table) -/
def fuelFor (ns : Nests) : Nat := ns.length + 1

/-- `iter().map(f).collect::<Option<Vec<_>>>()` -/
def mapOpt {α β : Type} (f : α → Option β) : List α → Option (List β)
  | [] => some []
  | a :: rest =>
    match f a with
    | none => none
    | some b =>
      match mapOpt f rest with
      | none => none
      | some bs => some (b :: bs)

/-- the map `old ↦ new` built by `nest_jar` (entries with `old = new` are dropped, which `map_class` cannot see) -/
def jarTable (ns : Nests) : Option (AList JStr JStr) :=
  mapOpt (fun n => (jarRemap ns (fuelFor ns) n).map (fun r => (n.className, r))) ns

/-- the map built by `MyRemapper::new(nests, true)` -/
def mapTable (ns : Nests) : Option (AList JStr JStr) :=
  mapOpt (fun n => (build ns (fuelFor ns) n.enclClass).map (fun a => (n.className, join a n.innerName))) ns

/-- `ARemapper::map_class` over such a table -/
def tableMap (t : AList JStr JStr) (c : JStr) : JStr :=
  match AList.lookup c t with
  | some r => r
  | none => c

/-- `IndexMap::from_iter` then `get`: the LAST pair with the key wins -/
def lookupLast (c : JStr) : AList JStr JStr → Option JStr
  | [] => none
  | (k, v) :: rest =>
    match lookupLast c rest with
    | some r => some r
    | none => if k == c then some v else none

/-- `map_class` of `MyRemapper::new(nests, false)`: the inverted table -/
def tableUnmap (t : AList JStr JStr) (c : JStr) : JStr :=
  match lookupLast c (t.map (fun (k, v) => (v, k))) with
  | some r => r
  | none => c

/-! ## class files (the observed part) and jars -/

structure InnerClass where
  inner : JStr
  outer : Option JStr
  name : Option JStr
  flags : Nat
  deriving Repr, DecidableEq, BEq

structure EnclMethod where
  cls : JStr
  method : Option (JStr × JStr)
  deriving Repr, DecidableEq, BEq

structure JClass where
  name : JStr
  version : Nat
  pub : Bool
  super : Option JStr
  interfaces : List JStr
  methods : List (JStr × JStr)
  innerClasses : Option (List InnerClass)
  enclosingMethod : Option EnclMethod
  deriving Repr, DecidableEq, BEq

inductive Entry where
  | dir
  | other
  | cls (c : JClass)
  deriving Repr, DecidableEq, BEq

abbrev Jar := AList JStr Entry

def JAVA_LANG_OBJECT : JStr := jstr "java/lang/Object"
def DOT_CLASS : JStr := jstr ".class"

def classesOf (jar : Jar) : List JClass :=
  jar.filterMap (fun e => match e.2 with | .cls c => some c | _ => none)

/-- minimum class version, `none` on a jar without classes -/
def minVersion : List JClass → Option Nat
  | [] => none
  | c :: rest =>
    match minVersion rest with
    | none => some c.version
    | some v => some (if c.version < v then c.version else v)

/-- `methods_map`: last class with a name wins -/
def methodsMap (cs : List JClass) : AList JStr (List (JStr × JStr)) :=
  cs.foldl (fun acc c => AList.insert c.name c.methods acc) []

/-- `nest.inner_name.parse::<i32>().map_or(false, |x| x >= 1)` -/
def anonOk (inner : JStr) : Bool :=
  match parseI32 inner with
  | some x => decide (x ≥ 1)
  | none => false

def hasEnclMethod (mm : AList JStr (List (JStr × JStr))) (n : Nest) : Bool :=
  match n.enclMethod with
  | none => false
  | some m =>
    match AList.lookup n.enclClass mm with
    | none => false
    | some ms => ms.contains m

/-- the per-kind rule -/
def kindRule (mm : AList JStr (List (JStr × JStr))) (n : Nest) : Bool :=
  match n.kind with
  | .anonymous => anonOk n.innerName
  | .inner => !hasEnclMethod mm n
  | .local => hasEnclMethod mm n

/-- state threaded through the `filter` closure -/
structure FState where
  inJar : List JStr
  created : List JStr
  kept : Nests
  deriving Repr, DecidableEq

/-- side effect of the closure: a missing enclosing class is synthesised and from then on counted as present -/
def synthEncl (st : FState) (n : Nest) : FState :=
  if st.inJar.contains n.enclClass then st
  else
    { st with inJar := st.inJar ++ [n.enclClass],
              created := if st.created.contains n.enclClass then st.created else st.created ++ [n.enclClass] }

/-- one evaluation of the filter closure, side effects first -/
def filterStep (mm : AList JStr (List (JStr × JStr))) (st : FState) (n : Nest) : FState :=
  if st.inJar.contains n.className then
    let st1 := synthEncl st n
    if kindRule mm n then { st1 with kept := st1.kept ++ [n] } else st1
  else st

def filterRun (jar : Jar) (ns : Nests) : FState :=
  let cs := classesOf jar
  ns.foldl (filterStep (methodsMap cs)) { inJar := (cs.map (·.name)).eraseDups, created := [], kept := [] }

/-- `strip_local_class_prefix` -/
def stripLocalPrefix (inner : JStr) : JStr :=
  let stripped := inner.dropWhile isDigit
  if stripped.isEmpty then inner else stripped

/-- the `InnerClasses` entry synthesised for a nest -/
def innerClassOf (n : Nest) : InnerClass :=
  { inner := n.className,
    outer := if n.kind = .inner then some n.enclClass else none,
    name := if n.kind = .inner ∨ n.kind = .local then some (stripLocalPrefix n.innerName) else none,
    flags := n.access }

/-- `do_nested_class_attribute_class_visitor` -/
def addAttrs (this : Nests) (c : JClass) : JClass :=
  match get this c.name with
  | none => c
  | some n =>
    let c1 : JClass :=
      if n.kind = .anonymous ∨ n.kind = .local then
        { c with enclosingMethod := some { cls := n.enclClass, method := n.enclMethod } }
      else c
    { c1 with innerClasses := some ((c1.innerClasses.getD []) ++ [innerClassOf n]) }

/-- `ARemapper::map_class_any` -/
def mapClassAny (f : JStr → JStr) (c : JStr) : Option JStr :=
  if c.head? = some LBRACK then MapDesc.mapDesc f c else some (f c)

def remapInner (f : JStr → JStr) (ic : InnerClass) : Option InnerClass :=
  match mapClassAny f ic.inner with
  | none => none
  | some i =>
    match ic.outer with
    | none => some { ic with inner := i }
    | some o =>
      match mapClassAny f o with
      | none => none
      | some o' => some { ic with inner := i, outer := some o' }

def remapEncl (f : JStr → JStr) (em : EnclMethod) : Option EnclMethod :=
  match em.method with
  | none => (mapClassAny f em.cls).map (fun c => { cls := c, method := none })
  | some (mn, md) =>
    if em.cls.head? = some LBRACK then
      (MapDesc.mapDesc f em.cls).map (fun c => { cls := c, method := some (mn, md) })
    else
      (MapDesc.mapDesc f md).map (fun d => { cls := f em.cls, method := some (mn, d) })

def mapMOpt {α β : Type} (f : α → Option β) : Option α → Option (Option β)
  | none => some none
  | some a => (f a).map some

/-- the modelled part of `dukebox::remap::remap_class` with an `ARemapperAsBRemapper` -/
def remapClass (f : JStr → JStr) (c : JClass) : Option JClass :=
  match mapOpt (fun (m : JStr × JStr) => (MapDesc.mapDesc f m.2).map (fun d => (m.1, d))) c.methods with
  | none => none
  | some ms =>
    match mapMOpt (fun ics => mapOpt (remapInner f) ics) c.innerClasses with
    | none => none
    | some ics =>
      match mapMOpt (remapEncl f) c.enclosingMethod with
      | none => none
      | some em =>
        some { c with name := f c.name, super := c.super.map f, interfaces := c.interfaces.map f, methods := ms,
                      innerClasses := ics, enclosingMethod := em }

def stripSuffix (suf s : List Nat) : Option (List Nat) :=
  if suf.isSuffixOf s then some (s.take (s.length - suf.length)) else none

/-- `remap_jar_entry_name_java` -/
def remapEntryName (f : JStr → JStr) (name : JStr) : JStr :=
  match stripSuffix DOT_CLASS name with
  | some c => f c ++ DOT_CLASS
  | none => name

def newClass (version : Nat) (name : JStr) : JClass :=
  { name := name, version := version, pub := true, super := some JAVA_LANG_OBJECT, interfaces := [], methods := [],
    innerClasses := none, enclosingMethod := none }

/-- second and third loop of `nest_jar`: emit one class -/
def emitClass (remap : Bool) (this : Nests) (f : JStr → JStr) (c : JClass) : Option JClass :=
  let c1 := addAttrs this c
  if remap then remapClass f c1 else some c1

def emitCreated (remap : Bool) (this : Nests) (f : JStr → JStr) (version : Nat) :
    List JStr → Jar → Option Jar
  | [], out => some out
  | name :: rest, out =>
    let ename := if remap then remapEntryName f (name ++ DOT_CLASS) else name ++ DOT_CLASS
    match emitClass remap this f (newClass version name) with
    | none => none
    | some c => emitCreated remap this f version rest (AList.insert ename (.cls c) out)

def emitSource (remap : Bool) (this : Nests) (f : JStr → JStr) : Jar → Jar → Option Jar
  | [], out => some out
  | (name, .dir) :: rest, out => emitSource remap this f rest (AList.insert name .dir out)
  | (name, .other) :: rest, out => emitSource remap this f rest (AList.insert name .other out)
  | (name, .cls c) :: rest, out =>
    match emitClass remap this f c with
    | none => none
    | some c' =>
      let ename := if remap then remapEntryName f name else name
      emitSource remap this f rest (AList.insert ename (.cls c') out)

/-- `dukenest::nest_jar`. Errors: `"e"` (an `Err`; a cyclic table of applied nests is one of them). -/
def nestJar (remap : Bool) (jar : Jar) (ns : Nests) : Except String Jar :=
  match minVersion (classesOf jar) with
  | none => .error "e"
  | some version =>
    let st := filterRun jar ns
    match jarTable st.kept with
    | none => .error "e"
    | some table =>
      let f := tableMap table
      match emitCreated remap st.kept f version st.created [] with
      | none => .error "e"
      | some out1 =>
        match emitSource remap st.kept f jar out1 with
        | none => .error "e"
        | some out => .ok out

/-- jar-side name of a class: `remapper.map_class` inside `nest_jar` -/
def jarName (jar : Jar) (ns : Nests) (c : JStr) : Option JStr :=
  (jarTable (filterRun jar ns).kept).map (fun t => tableMap t c)

/-- mappings-side name of a class: `MyRemapper::new(nests, true).map_class` -/
def mapName (ns : Nests) (c : JStr) : Option JStr :=
  (mapTable ns).map (fun t => tableMap t c)

/-! ## `map_nests`: a nests table through mappings -/

structure RemClass where
  to : JStr
  methods : AList (JStr × JStr) (JStr × JStr)

/-- `Mappings::remapper_b_first_to_second(NoSuperClassProvider)`: classes and methods (fields only for their errors) -/
abbrev RemB := AList JStr RemClass

def name0 (names : Names) : Option JStr := match names[0]? with | some (some n) => some n | _ => none
def name1 (names : Names) : Option JStr := match names[1]? with | some (some n) => some n | _ => none

/-- `remapper_a(0, 1)` -/
def remA (m : Mappings) : AList JStr JStr :=
  m.classes.foldl (fun acc e =>
    match name0 e.2.names, name1 e.2.names with
    | some a, some b => AList.insert a b acc
    | _, _ => acc) []

def remBClass (aTo : JStr → JStr) (c : Class) : Option (AList (JStr × JStr) (JStr × JStr)) :=
  let fieldsOk := c.fields.all (fun e =>
    match name0 e.2.names, name1 e.2.names with
    | some _, some _ => (MapDesc.mapDesc id e.2.desc).isSome && (MapDesc.mapDesc aTo e.2.desc).isSome
    | _, _ => true)
  if !fieldsOk then none
  else
    c.methods.foldl (fun acc e =>
      match acc with
      | none => none
      | some ms =>
        match name0 e.2.names, name1 e.2.names with
        | some a, some b =>
          (match MapDesc.mapDesc id e.2.desc, MapDesc.mapDesc aTo e.2.desc with
           | some df, some dt => some (AList.insert (a, df) (b, dt) ms)
           | _, _ => none)
        | _, _ => some ms) (some [])

def remB (m : Mappings) : Option RemB :=
  let aTo := tableMap (remA m)
  m.classes.foldl (fun acc e =>
    match acc with
    | none => none
    | some cs =>
      match name0 e.2.names, name1 e.2.names with
      | some a, some b =>
        (match remBClass aTo e.2 with
         | none => none
         | some ms => some (AList.insert a { to := b, methods := ms } cs))
      | _, _ => some cs) (some [])

def remBMapClass (r : RemB) (c : JStr) : JStr :=
  match AList.lookup c r with
  | some rc => rc.to
  | none => c

/-- `BRemapper::map_method_name_and_desc` without super classes -/
def remBMapMethod (r : RemB) (cls : JStr) (m : JStr × JStr) : Option (JStr × JStr) :=
  let found : Option (JStr × JStr) :=
    match AList.lookup cls r with
    | some rc => AList.lookup m rc.methods
    | none => none
  match found with
  | some x => some x
  | none => (MapDesc.mapDesc (remBMapClass r) m.2).map (fun d => (m.1, d))

/-- `str::rsplit_once("__")` -/
def rsplitUU : List Nat → Option (List Nat × List Nat)
  | [] => none
  | x :: xs =>
    match rsplitUU xs with
    | some (p, i) => some (x :: p, i)
    | none =>
      match xs with
      | y :: ys => if x = USCORE ∧ y = USCORE then some ([], ys) else none
      | [] => none

/-- `rsplit_underscore`: `none` = `bail!`, `some none` = no `__` -/
def rsplitUnderscore (name : JStr) : Option (Option (JStr × JStr)) :=
  match rsplitUU name with
  | none => some none
  | some (e, i) =>
    if e.getLast? = some SLASH then none
    else if i.head? = some SLASH then none
    else some (some (e, i))

/-- `str::rsplit_once('/')`'s second half or everything: `get_simple_name` -/
def simpleName (s : JStr) : JStr :=
  let rec go : List Nat → List Nat → List Nat
    | [], acc => acc
    | c :: rest, acc => if c = SLASH then go rest rest else go rest acc
  go s s

inductive NestTypeA where
  | anonymous
  | inner
  | local (prefix_ simple : JStr)

/-- `NestTypeA::new` -/
def nestTypeA (inner : JStr) : NestTypeA :=
  let pre := inner.takeWhile isDigit
  let rest := inner.dropWhile isDigit
  if rest.isEmpty then .anonymous
  else if pre.isEmpty then .inner
  else .local pre rest

def C_ : JStr := [67, 95]

def stripPrefix (pre s : List Nat) : Option (List Nat) :=
  if pre.isPrefixOf s then some (s.drop pre.length) else none

/-- `inner_name` of `nests_mapper_run.rs` -/
def innerNameOf (nestClass nestInner mapped : JStr) : Option JStr :=
  match nestTypeA nestInner with
  | .anonymous =>
    (match stripPrefix C_ (simpleName mapped) with
     | some number => if number.all isDigit then some number else none
     | none => some nestInner)
  | .inner =>
    if nestInner.isSuffixOf nestClass then some (simpleName mapped) else some nestInner
  | .local pre simple =>
    if simple.isSuffixOf nestClass then some (pre ++ simpleName mapped) else some nestInner

def mapNest (r : RemB) (n : Nest) : Option Nest :=
  let mapped := remBMapClass r n.className
  match rsplitUnderscore mapped with
  | none => none
  | some sp =>
    let ei : Option (JStr × JStr) :=
      match sp with
      | some (e, i) => some (e, i)
      | none =>
        (match innerNameOf n.className n.innerName mapped with
         | some i => some (remBMapClass r n.enclClass, i)
         | none => none)
    match ei with
    | none => none
    | some (e, i) =>
      match mapMOpt (remBMapMethod r n.enclClass) n.enclMethod with
      | none => none
      | some em =>
        some { kind := n.kind, className := mapped, enclClass := e, enclMethod := em, innerName := i,
               access := n.access }

def mapNestsGo (r : RemB) : Nests → Nests → Option Nests
  | [], acc => some acc
  | n :: rest, acc =>
    match mapNest r n with
    | none => none
    | some n' => mapNestsGo r rest (add acc n')

/-- `dukenest::remap_nests` -/
def mapNests (ns : Nests) (m : Mappings) : Option Nests :=
  match remB m with
  | none => none
  | some r => mapNestsGo r ns []

/-! ## nesting and un-nesting mappings -/

/-- `[src, dst].into()`: empty strings become `None` -/
def nameOpt (s : JStr) : Option JStr := if s.isEmpty then none else some s

/-- `map_with_key_from_result_iter`: the items are produced one by one (`step`) and added with `add_child`
(a key that is already there is an error) -/
def foldAddE {A K V : Type} [BEq K] (step : A → Except String (K × V)) :
    List A → AList K V → Except String (AList K V)
  | [], acc => .ok acc
  | a :: rest, acc =>
    match step a with
    | .error e => .error e
    | .ok (k, v) =>
      match AList.insertNew k v acc with
      | none => .error "e"
      | some acc' => foldAddE step rest acc'

/-- one field: descriptor rewritten, key recomputed from the first name and the new descriptor -/
def stepField (tr : JStr → JStr) (e : MemberKey × Field) : Except String (MemberKey × Field) :=
  match MapDesc.mapDesc tr e.2.desc with
  | none => .error "e"
  | some d =>
    match name0 e.2.names with
    | none => .error "e"
    | some n => .ok ((n, d), { e.2 with desc := d })

def stepMethod (tr : JStr → JStr) (e : MemberKey × Method) : Except String (MemberKey × Method) :=
  match MapDesc.mapDesc tr e.2.desc with
  | none => .error "e"
  | some d =>
    match name0 e.2.names with
    | none => .error "e"
    | some n => .ok ((n, d), { e.2 with desc := d })

def applyFields (tr : JStr → JStr) (fs : AList MemberKey Field) : Except String (AList MemberKey Field) :=
  foldAddE (stepField tr) fs []

def applyMethods (tr : JStr → JStr) (ms : AList MemberKey Method) : Except String (AList MemberKey Method) :=
  foldAddE (stepMethod tr) ms []

/-- one class of the loop shared by `apply_nests_to_mappings` and `undo_nests_to_mappings`; `"panic"` = `dst.unwrap()` -/
def rewriteClass (tr : JStr → JStr) (dstf : JStr → JStr) (e : JStr × Class) : Except String (JStr × Class) :=
  match name1 e.2.names with
  | none => .error "panic"
  | some dst =>
    match applyFields tr e.2.fields with
    | .error _ => .error "e"
    | .ok fs =>
      match applyMethods tr e.2.methods with
      | .error _ => .error "e"
      | .ok ms =>
        match nameOpt (tr e.1) with
        | none => .error "e"
        | some k' => .ok (k', { e.2 with names := [some k', nameOpt (dstf dst)], fields := fs, methods := ms })

def rewriteClasses (tr : JStr → JStr) (dstf : JStr → JStr) (cs : AList JStr Class) : Except String (AList JStr Class) :=
  foldAddE (rewriteClass tr dstf) cs []

/-- `dukenest::apply_nests_to_mappings` -/
def applyNests (m : Mappings) (ns : Nests) : Except String Mappings :=
  match mapNests ns m with
  | none => .error "e"
  | some mapped =>
    match mapTable ns, mapTable mapped with
    | some t, some mt =>
      (match rewriteClasses (tableMap t) (tableMap mt) m.classes with
       | .ok cs => .ok { m with classes := cs }
       | .error e => .error e)
    | _, _ => .error "e"

/-- `replace_double_underscore_with_dollar` (which replaces `$` by `__`) -/
def dollarToUU (s : JStr) : JStr :=
  s.flatMap (fun c => if c = DOLLAR then [USCORE, USCORE] else [c])

/-- `dukenest::undo_nests_to_mappings` -/
def undoNests (m : Mappings) (ns : Nests) : Except String Mappings :=
  match mapTable ns with
  | none => .error "e"
  | some t =>
    match rewriteClasses (tableUnmap t) (fun d => if containsKey ns d then dollarToUU d else d) m.classes with
    | .ok cs => .ok { m with classes := cs }
    | .error e => .error e

end Nest
