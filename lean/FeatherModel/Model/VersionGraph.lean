import FeatherModel.Base.Sexp
import FeatherModel.Base.AList

/-!
# Version graph (C05) — `src/version_graph.rs`
The graph logic is modelled generically over the *content pipeline* (`Content`): reading the root `.tiny`
(followed by `contract_inner_class_names("named")`), reading a `.tinydiff`, applying a diff in namespace `named`,
and the final `extend_inner_class_names("named")`. The driver instantiates it with the Tiny / TinyDiff / Diff /
InnerNames models; the theorems hold for every instance.

Nodes are identified by their name: a node is created exactly when the first key of its version string is new, and is
named after that version string, so two nodes never share a name (a split name contains `~`, a plain one does not).
-/

namespace VG

def TILDE : Nat := 126
def HASH : Nat := 35

structure Content (M D : Type) where
  readRoot : Bytes → Option M
  readDiff : Bytes → Option D
  apply : D → M → Option M
  extend : M → Option M

inductive Split where
  | none | first | second
  deriving Repr, DecidableEq, BEq

/-- `str::split_once(c)`: split at the first occurrence -/
def splitOnce (c : Nat) : List Nat → Option (List Nat × List Nat)
  | [] => none
  | x :: xs =>
    if x = c then some ([], xs)
    else match splitOnce c xs with
      | some (a, b) => some (x :: a, b)
      | none => none

/-- `str::strip_suffix` -/
def stripSuffix (suffix s : List Nat) : Option (List Nat) :=
  if suffix.length ≤ s.length ∧ s.drop (s.length - suffix.length) = suffix
  then some (s.take (s.length - suffix.length)) else none

structure Edge where
  parent : JStr      -- node name
  child : JStr       -- node name
  content : Bytes    -- the `.tinydiff` file behind `EdgeData.path`
  deriving Repr, DecidableEq, BEq

structure Graph where
  /-- `versions: IndexMap<String, (Split, NodeIndex)>` with the node given by its name -/
  versions : AList JStr (Split × JStr)
  /-- node names in creation order -/
  nodes : List JStr
  /-- edges in `add_edge` order -/
  edges : List Edge
  root : Option (JStr × Bytes)
  deriving Repr, DecidableEq, BEq

def Graph.empty : Graph := { versions := [], nodes := [], edges := [], root := none }

/-- the local fn `add_node` without its ambiguity check: the node (name) the version string resolves to. A version string
`a~b` registers the keys `a` (first) and `b` (second) for ONE node named `a~b`, a plain string `v` registers the key `v` for
its own node; each with `entry(..).or_insert(..)`: a key that is registered already keeps its meaning -/
def addNodeRaw (g : Graph) (vs : JStr) : Graph × JStr :=
  match splitOnce TILDE vs with
  | some (client, server) =>
    let (g1, node) :=
      match AList.lookup client g.versions with
      | some (_, n) => (g, n)
      | none => ({ g with versions := g.versions ++ [(client, (Split.first, vs))], nodes := g.nodes ++ [vs] }, vs)
    let g2 :=
      match AList.lookup server g1.versions with
      | some _ => g1
      | none => { g1 with versions := g1.versions ++ [(server, (Split.second, node))] }
    (g2, node)
  | none =>
    match AList.lookup vs g.versions with
    | some (_, n) => (g, n)
    | none => ({ g with versions := g.versions ++ [(vs, (Split.none, vs))], nodes := g.nodes ++ [vs] }, vs)

/-- the node a key stands for -/
def keyNode (g : Graph) (k : JStr) : Option JStr := (AList.lookup k g.versions).map (·.2)

/-- the local fn `add_node`: for `client~server` both halves must (now) stand for the node of this very version string,
otherwise `bail!("ambiguous version …")` = `none` -/
def addNode (g : Graph) (vs : JStr) : Option (Graph × JStr) :=
  let r := addNodeRaw g vs
  match splitOnce TILDE vs with
  | some (_, server) => if r.2 = vs ∧ keyNode r.1 server = some vs then some r else none
  | none => some r

def EXT_TINY : JStr := jstr ".tiny"
def EXT_DIFF : JStr := jstr ".tinydiff"

/-- what a file name says: the version it is for and, for a diff, the parent version (`entries` of `resolve`) -/
structure Entry where
  parent : Option JStr
  version : JStr
  content : Bytes
  deriving Repr, DecidableEq, BEq

/-- `none` = `bail!` (a `.tinydiff` stem without `#`), `some none` = the file is ignored -/
def parseFile (file : JStr × Bytes) : Option (Option Entry) :=
  match stripSuffix EXT_TINY file.1 with
  | some vs => some (some { parent := none, version := vs, content := file.2 })
  | none =>
    match stripSuffix EXT_DIFF file.1 with
    | some raw =>
      match splitOnce HASH raw with
      | none => none
      | some (parent, version) => some (some { parent := some parent, version := version, content := file.2 })
    | none => some none

def parseFiles : List (JStr × Bytes) → Option (List Entry)
  | [] => some []
  | f :: fs =>
    match parseFile f with
    | none => none
    | some oe =>
      match parseFiles fs with
      | none => none
      | some es => some (oe.toList ++ es)

/-- the version strings of an entry in the order `resolve` hands them to `add_node` -/
def Entry.versions (e : Entry) : List JStr := e.version :: e.parent.toList

def isSplit (vs : JStr) : Bool := vs.contains TILDE

/-- the first pass: every `client~server` version string of every file name -/
def addNodes : Graph → List JStr → Option Graph
  | g, [] => some g
  | g, vs :: rest =>
    match addNode g vs with
    | none => none
    | some (g', _) => addNodes g' rest

/-- one iteration of the second pass; `none` = `bail!` (ambiguous version, second diff for an edge, second root) -/
def addEntry (g : Graph) (e : Entry) : Option Graph :=
  match addNode g e.version with
  | none => none
  | some (g1, v) =>
    match e.parent with
    | some parent =>
      match addNode g1 parent with
      | none => none
      | some (g2, p) =>
        if g2.edges.any (fun x => x.parent == p && x.child == v) then none
        else some { g2 with edges := g2.edges ++ [{ parent := p, child := v, content := e.content }] }
    | none =>
      match g1.root with
      | some _ => none
      | none => some { g1 with root := some (v, e.content) }

def addEntries : Graph → List Entry → Option Graph
  | g, [] => some g
  | g, e :: es =>
    match addEntry g e with
    | none => none
    | some g' => addEntries g' es

/-- the scan of `resolve` on the files in processing order -/
def scanListed (files : List (JStr × Bytes)) : Option Graph :=
  match parseFiles files with
  | none => none
  | some es =>
    match addNodes Graph.empty ((es.flatMap Entry.versions).filter isSplit) with
    | none => none
    | some g => addEntries g es

/-- insertion into a list sorted by file name, before the first entry that is not smaller -/
def insertFile (x : JStr × Bytes) : List (JStr × Bytes) → List (JStr × Bytes)
  | [] => [x]
  | y :: ys => if x.1 ≤ y.1 then x :: y :: ys else y :: insertFile x ys

/-- `files.sort_by(|a, b| a.0.cmp(&b.0))`: `String` order = order of the UTF-8 bytes = order of the code points (the
lexicographic order of `List Nat`); a stable sort, here written as an insertion sort -/
def sortFiles (dir : List (JStr × Bytes)) : List (JStr × Bytes) := dir.foldr insertFile []

/-- the directory scan of `resolve`: `dir` = the files in `read_dir` order -/
def scan (dir : List (JStr × Bytes)) : Option Graph := scanListed (sortFiles dir)

def children (g : Graph) (n : JStr) : List JStr :=
  (g.edges.filter (fun e => e.parent == n)).map (·.child)

/-- the walker loop of `resolve`, depth first instead of breadth first (the set of explored paths is the same):
`false` = "found a loop". `path` = the nodes after the root on the current path (the root itself is NOT on it, exactly as
in the Rust code, so a cycle through the root is noticed one step later). Fuel bounds the path length; `edges.length + 1`
always suffices (`Thm.C05.acyclic_resolves`, by `VG.walk_false_cycle`): the nodes on `path` are pairwise different children
of edges. -/
def walkOk (g : Graph) : Nat → List JStr → JStr → Bool
  | 0, _, _ => false
  | fuel + 1, path, head =>
    (children g head).all fun v => !path.contains v && walkOk g fuel (path ++ [v]) v

structure Resolved (M : Type) where
  graph : Graph
  rootName : JStr
  rootMapping : M

def resolve {M D : Type} (c : Content M D) (dir : List (JStr × Bytes)) : Option (Resolved M) :=
  match scan dir with
  | none => none
  | some g =>
    match g.root with
    | none => none
    | some (rootName, rootBytes) =>
      match c.readRoot rootBytes with
      | none => none
      | some m =>
        if walkOk g (g.edges.length + 1) [] rootName then some { graph := g, rootName := rootName, rootMapping := m }
        else none

/-- `VersionGraph::get` -/
def get {M : Type} (r : Resolved M) (name : JStr) : Option (Split × JStr) :=
  AList.lookup name r.graph.versions

/-- `Graph::find_edge(a, b)`: petgraph walks the outgoing edges of `a` newest first, so among parallel edges the one
added last would be found (`resolve` refuses a second diff for an edge, so a resolved graph has none:
`Thm.C05.resolved_noParallel`) -/
def findEdge (g : Graph) (a b : JStr) : Option Edge :=
  (g.edges.filter (fun e => e.parent == a && e.child == b)).getLast?

/-- the edges `apply_diffs` can use: `astar` yields a node path, each step is then looked up with `find_edge` -/
def liveEdges (g : Graph) : List Edge :=
  g.edges.filter (fun e => decide (findEdge g e.parent e.child = some e))

/-- all paths (as lists of live edges) from `src` to `dst` with exactly `len` edges -/
def pathsOfLen (g : Graph) : Nat → JStr → JStr → List (List Edge)
  | 0, src, dst => if src == dst then [[]] else []
  | len + 1, src, dst =>
    ((liveEdges g).filter (fun e => e.parent == src)).flatMap fun e =>
      (pathsOfLen g len e.child dst).map (e :: ·)

/-- the shortest paths root → target (`astar` with unit weights returns one of them) -/
def shortestPaths (g : Graph) (src dst : JStr) : List (List Edge) :=
  let rec go (fuel len : Nat) : List (List Edge) :=
    match fuel with
    | 0 => []
    | fuel + 1 =>
      match pathsOfLen g len src dst with
      | [] => go fuel (len + 1)
      | ps => ps
  go (g.edges.length + 1) 0

/-- the `try_fold` of `apply_diffs` along one path -/
def foldPath {M D : Type} (c : Content M D) : M → List Edge → Option M
  | m, [] => some m
  | m, e :: es =>
    match c.readDiff e.content with
    | none => none
    | some d =>
      match c.apply d m with
      | none => none
      | some m' => foldPath c m' es

/-- `apply_diffs` along a given path -/
def applyAlong {M D : Type} (c : Content M D) (r : Resolved M) (path : List Edge) : Option M :=
  match foldPath c r.rootMapping path with
  | none => none
  | some m => c.extend m

/-- the admissible answers of `apply_diffs`: one per shortest path; `[]` = "there is no path" -/
def applyDiffs {M D : Type} (c : Content M D) (r : Resolved M) (target : JStr) : List (Option M) :=
  (shortestPaths r.graph r.rootName target).map (applyAlong c r)

/-- `NodeData.depth`: 0 for the root and unreachable nodes, else the length of a shortest path from the root -/
def depth {M : Type} (r : Resolved M) (n : JStr) : Nat :=
  if n == r.rootName then 0 else
  match shortestPaths r.graph r.rootName n with
  | p :: _ => p.length
  | [] => 0

/-! ## Specification side: what a directory *says* (a function of the set of files, not of the listing order)
Used by the theorems (`Thm/C05.lean`) and, as decidable domain predicates, by the driver's oracles. -/

/-- the keys a version string registers: both halves of `a~b`, or the plain name -/
def keysOf (vs : JStr) : List JStr :=
  match splitOnce TILDE vs with
  | some (c, s) => [c, s]
  | none => [vs]

/-- how key `k` refers to version string `vs` -/
def keyKind (k vs : JStr) : Option Split :=
  match splitOnce TILDE vs with
  | some (c, s) => if k = c then some Split.first else if k = s then some Split.second else none
  | none => if k = vs then some Split.none else none

/-- no two different version strings share a key -/
def KeysDisjoint (vss : List JStr) : Prop :=
  ∀ v1, v1 ∈ vss → ∀ v2, v2 ∈ vss → v1 ≠ v2 → ∀ k, k ∈ keysOf v1 → k ∉ keysOf v2

/-- the `client~server` ones among the version strings -/
def splitsOf (vss : List JStr) : List JStr := vss.filter isSplit

/-- **ambiguous directory**: two different `client~server` version strings share a half (`a~b` with `c~b`, `a~c`, `b~c`,
`b~a`, …) — a key would have to name two nodes -/
def Ambiguous (vss : List JStr) : Prop := ¬ KeysDisjoint (splitsOf vss)

/-- the `client~server` version string that has `k` as a half, and which half `k` is -/
def ownerOf (vss : List JStr) (k : JStr) : Option (Split × JStr) :=
  (splitsOf vss).findSome? fun n => (keyKind k n).map fun sp => (sp, n)

/-- the node a version string in a file name stands for: `client~server` is its own node, a plain string is the
`client~server` node it is a half of if there is one, else its own node -/
def nodeOf (vss : List JStr) (vs : JStr) : JStr :=
  if isSplit vs then vs else
  match ownerOf vss vs with
  | some (_, n) => n
  | none => vs

/-- the version strings that are the name of a node -/
def nodeStrings (vss : List JStr) : List JStr := vss.filter fun v => isSplit v || (ownerOf vss v).isNone

/-- the version strings a directory entry registers, in processing order -/
def fileVersions (f : JStr × Bytes) : List JStr :=
  match stripSuffix EXT_TINY f.1 with
  | some vs => [vs]
  | none =>
    match stripSuffix EXT_DIFF f.1 with
    | some raw =>
      match splitOnce HASH raw with
      | some (parent, version) => [version, parent]
      | none => []
    | none => []

def dirVersions (dir : List (JStr × Bytes)) : List JStr := dir.flatMap fileVersions

/-- the edge a directory entry stands for -/
def fileEdge (f : JStr × Bytes) : Option Edge :=
  match stripSuffix EXT_TINY f.1 with
  | some _ => none
  | none =>
    match stripSuffix EXT_DIFF f.1 with
    | some raw =>
      match splitOnce HASH raw with
      | some (parent, version) => some { parent := parent, child := version, content := f.2 }
      | none => none
    | none => none

def dirEdges (dir : List (JStr × Bytes)) : List Edge := dir.filterMap fileEdge

/-- the edges between nodes that the diff files of a directory stand for -/
def nodeEdges (dir : List (JStr × Bytes)) : List Edge :=
  (dirEdges dir).map fun e =>
    { e with parent := nodeOf (dirVersions dir) e.parent, child := nodeOf (dirVersions dir) e.child }

/-- **two diffs for one edge**: two diff files join the same ordered pair of nodes -/
def DupEdges (dir : List (JStr × Bytes)) : Prop := ¬ ((nodeEdges dir).map fun e => (e.parent, e.child)).Nodup

/-- the root a directory entry stands for -/
def fileRoot (f : JStr × Bytes) : Option (JStr × Bytes) :=
  match stripSuffix EXT_TINY f.1 with
  | some vs => some (vs, f.2)
  | none => none

def dirRoots (dir : List (JStr × Bytes)) : List (JStr × Bytes) := dir.filterMap fileRoot

/-- `p` is a chain of edges of `g` from `src` to `dst` -/
inductive IsPath (g : Graph) : JStr → JStr → List Edge → Prop where
  | nil (n : JStr) : IsPath g n n []
  | cons {e : Edge} {dst : JStr} {p : List Edge} :
      e ∈ g.edges → IsPath g e.child dst p → IsPath g e.parent dst (e :: p)

/-- the graph `apply_diffs` sees through `find_edge`: one edge per ordered node pair -/
def live (g : Graph) : Graph := { g with edges := liveEdges g }

/-- a cycle that can be reached from `root` -/
def ReachableCycle (g : Graph) (root : JStr) : Prop :=
  ∃ v p q, IsPath g root v p ∧ IsPath g v v q ∧ q ≠ []

/-- no two different edges join the same ordered pair of nodes -/
def NoParallel (g : Graph) : Prop :=
  ∀ e1, e1 ∈ g.edges → ∀ e2, e2 ∈ g.edges → e1.parent = e2.parent → e1.child = e2.child → e1 = e2

/-- `KeysDisjoint`, decidable -/
def keysDisjointB (vss : List JStr) : Bool :=
  vss.all fun v1 => vss.all fun v2 => v1 == v2 || (keysOf v1).all fun k => !(keysOf v2).contains k

def ambiguousB (vss : List JStr) : Bool := !keysDisjointB (splitsOf vss)

def distinctB {α : Type} [BEq α] : List α → Bool
  | [] => true
  | x :: rest => !rest.contains x && distinctB rest

def dupEdgesB (dir : List (JStr × Bytes)) : Bool := !distinctB ((nodeEdges dir).map fun e => (e.parent, e.child))

/-- a `.tinydiff` whose stem has no `#` (`resolve` bails on it) -/
def badDiffName (f : JStr × Bytes) : Bool :=
  match stripSuffix EXT_TINY f.1 with
  | some _ => false
  | none =>
    match stripSuffix EXT_DIFF f.1 with
    | some raw => (splitOnce HASH raw).isNone
    | none => false

end VG
