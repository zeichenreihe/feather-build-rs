import FeatherModel.Model.Nest
import FeatherModel.Model.Reorder

/-!
# C14: decidable domains of the theorems and the views compared by the oracles
The domains and views the oracles need (`keysUnique`, `wfMappings`, `undoApplyDomain`, `srcView`, `nameView`,
`renamedView`, `createdView`) are computed by the driver (`Driver/C14.lean`) and, independently, by the harness
(`harness/src/bin/c14.rs`) on the implementation, and the two verdicts are compared on every oracle request; `allApply`
and `noSynthListed` are hypotheses of theorems only.
-/

namespace Nest

/-- the table is keyed by class name without repetition (what `IndexMap` guarantees for a table built with `add`) -/
def keysUnique (ns : Nests) : Bool := decide (ns.map (·.className)).Nodup

/-- jar-side: every nest of the table passes the filter (the hypothesis of `names_agree`) -/
def allApply (jar : Jar) (ns : Nests) : Bool := decide ((filterRun jar ns).kept = ns)

/-- class names of a jar -/
def jarNames (jar : Jar) : List JStr := ((classesOf jar).map (·.name)).eraseDups

/-! ## the filter of `nest_jar`, stated without the threaded state -/

/-- is class `c` counted as present when the closure has run over the nests `older` (most recent first)? It is in the
jar, or it is the enclosing class of an earlier nest whose own class was counted as present (then it was synthesised,
whether or not that nest was kept) -/
def presentRev (names : List JStr) : List Nest → JStr → Bool
  | [], c => names.contains c
  | m :: older, c => presentRev names older c || (c == m.enclClass && presentRev names older m.className)

/-- the nests that are applied, in table order -/
def keptSpecGo (names : List JStr) (mm : AList JStr (List (JStr × JStr))) : List Nest → Nests → Nests
  | _, [] => []
  | older, n :: rest =>
    (if presentRev names older n.className && kindRule mm n then [n] else []) ++ keptSpecGo names mm (n :: older) rest

def keptSpec (jar : Jar) (ns : Nests) : Nests :=
  keptSpecGo (jarNames jar) (methodsMap (classesOf jar)) [] ns

/-- the enclosing classes that are synthesised, in order of creation -/
def createdSpecGo (names : List JStr) : List Nest → Nests → List JStr
  | _, [] => []
  | older, n :: rest =>
    (if presentRev names older n.className && !presentRev names older n.enclClass then [n.enclClass] else []) ++
      createdSpecGo names (n :: older) rest

def createdSpec (jar : Jar) (ns : Nests) : List JStr := createdSpecGo (jarNames jar) [] ns

/-- no listed class is missing from the jar while being the enclosing class of a listed class: then "present" means
"in the jar" and the filter does not depend on the order of the table -/
def noSynthListed (jar : Jar) (ns : Nests) : Bool :=
  ns.all (fun n => (jarNames jar).contains n.className || ns.all (fun m => m.enclClass != n.className))

/-- what becomes of a source entry when nesting without renaming -/
def emitEntry (this : Nests) : Entry → Entry
  | .cls c => .cls (addAttrs this c)
  | e => e

/-- entry name and, for a class entry, the name of the class in it -/
def nameView (e : JStr × Entry) : JStr × Option JStr :=
  (e.1, match e.2 with | .cls c => some c.name | _ => none)

/-- what the property asks of a source entry when renaming with the class map `f`: a class entry is renamed, its class
carries the new name; directories and resources keep their names -/
def renamedView (f : JStr → JStr) (e : JStr × Entry) : JStr × Option JStr :=
  match e.2 with
  | .cls c => (remapEntryName f e.1, some (f c.name))
  | _ => (e.1, none)

/-- what the property asks of a synthesised class when renaming: entry `<new name>.class` holding the class of that name -/
def createdView (f : JStr → JStr) (name : JStr) : JStr × Option JStr := (f name ++ DOT_CLASS, some (f name))

/-- the `InnerClasses` entry a nested class must carry after renaming with the class map `f`: the new name of the class,
the new name of its enclosing class (inner classes only), simple name and flags as without renaming -/
def renamedInnerClass (f : JStr → JStr) (n : Nest) : InnerClass :=
  { inner := f n.className, outer := if n.kind = .inner then some (f n.enclClass) else none,
    name := (innerClassOf n).name, flags := n.access }

/-- the `EnclosingMethod` attribute an anonymous or local nested class must carry after renaming: the new name of the
enclosing class, the method with its descriptor rewritten (`none` when the descriptor is malformed) -/
def renamedEnclMethod (f : JStr → JStr) (n : Nest) : Option EnclMethod :=
  match n.enclMethod with
  | none => some { cls := f n.enclClass, method := none }
  | some (mn, md) => (MapDesc.mapDesc f md).map (fun d => { cls := f n.enclClass, method := some (mn, d) })

/-- no `;` and non-empty: what `map_desc` needs of a replacement name -/
def cleanName (s : JStr) : Bool := !s.isEmpty && !s.contains MapDesc.SEMI

/-- every class name a mapping set mentions in its first namespace: class keys and the classes inside descriptors -/
def usedNames (m : Mappings) : List JStr :=
  m.classes.flatMap (fun e =>
    e.1 :: (e.2.fields.flatMap (fun f => Reorder.classesOf f.2.desc) ++
            e.2.methods.flatMap (fun f => Reorder.classesOf f.2.desc)))

/-- the translation of `c` collides with the translation of no other table entry -/
def noCollision (t : AList JStr JStr) (c : JStr) : Bool :=
  t.all (fun kv => tableMap t c != kv.2 || c == kv.1)

/-- decidable domain of `Thm.C14.undo_apply_partial`: the remapper of the table is built without error (under unique keys:
the table is acyclic, `Thm.C14.acyclic_iff_mapTable`), the nested names it
produces can be written into a descriptor, and on the names the mapping set uses the translation is injective against
the table -/
def undoApplyDomain (m : Mappings) (ns : Nests) : Bool :=
  match mapTable ns with
  | none => false
  | some t =>
    t.all (fun kv => cleanName kv.2) && (usedNames m).all (fun c => cleanName c && noCollision t c)

/-- entries are stored under the key derived from their info (`ToKey`), keys are unique, second names non-empty -/
def wfClass (k : JStr) (c : Class) : Bool :=
  name0 c.names == some k &&
  (match name1 c.names with | some d => !d.isEmpty | none => true) &&
  c.fields.all (fun e => name0 e.2.names == some e.1.1 && e.1.2 == e.2.desc) &&
  decide (c.fields.map (·.1)).Nodup &&
  c.methods.all (fun e => name0 e.2.names == some e.1.1 && e.1.2 == e.2.desc) &&
  decide (c.methods.map (·.1)).Nodup

def wfMappings (m : Mappings) : Bool :=
  m.classes.all (fun e => wfClass e.1 e.2) && decide (m.classes.map (·.1)).Nodup

/-- a class entry without its second-namespace name -/
structure ClassView where
  key : JStr
  first : Option JStr
  doc : Option JStr
  fields : AList MemberKey Field
  methods : AList MemberKey Method
  deriving DecidableEq, Repr

def classView (e : JStr × Class) : ClassView :=
  { key := e.1, first := name0 e.2.names, doc := e.2.doc, fields := e.2.fields, methods := e.2.methods }

/-- everything but the second-namespace class names (which un-nesting does not restore, by design) -/
def srcView (m : Mappings) : List ClassView := m.classes.map classView

end Nest
