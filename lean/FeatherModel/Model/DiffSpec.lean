import FeatherModel.Model.TinyDiff

/-!
# Specification side of C04: the action × target-state table, well-formedness, content equality, proved domains
Everything here is decidable and is evaluated by the driver (`Driver/C04.lean`) on the very inputs the harness sends, so
the domain predicates of the theorems are correspondence-checked against their Rust twins in `harness/src/bin/c04.rs`.
-/

namespace DiffModel

/-! ## the table of `apply_exact` -/

section spec
variable {K D T : Type}

/-- **The 4 × 3 table.** What applying the diff entry `d?` (absent = key not in the diff) does to the target entry `t?`
(absent = key not in the target) under key `k`, in namespace `ns` of `N`:
outer `none` = the whole application is refused, `some none` = no entry afterwards, `some (some t)` = entry `t`.
`child` is the application of the entry's children/javadoc diff; it runs for None/Add/Edit only. -/
def applySpec (ops : Ops K D T) (ns N : Nat) (child : D → T → Option T) (k : K) :
    Option D → Option T → Option (Option T)
  | .none, t => some t
  | some d, .none =>
    match ops.action d with
    | .add b =>
      let t := ops.fromKey N k
      if ns ≠ 0 ∧ (ops.names t)[ns]? = some .none
      then (child d (ops.setNames t ((ops.names t).set ns (some b)))).map some else .none
    | _ => .none
  | some d, some t =>
    match ops.action d with
    | .none => (child d t).map some
    | .add b =>
      if ns ≠ 0 ∧ (ops.names t)[ns]? = some .none
      then (child d (ops.setNames t ((ops.names t).set ns (some b)))).map some else .none
    | .remove a =>
      if ns ≠ 0 ∧ (ops.names t)[ns]? = some (some a) then some .none else .none
    | .edit a b =>
      if ns ≠ 0 ∧ (ops.names t)[ns]? = some (some a)
      then (child d (ops.setNames t ((ops.names t).set ns (some b)))).map some else .none

/-- the table evaluated at every key of diff, target and result (used by `oracle-apply-exact`) -/
def exactAt [BEq K] [BEq T] (ops : Ops K D T) (ns N : Nat) (child : D → T → Option T)
    (diffs : AList K D) (targets results : AList K T) : Bool :=
  (diffs.keys ++ targets.keys ++ results.keys).all fun k =>
    applySpec ops ns N child k (AList.lookup k diffs) (AList.lookup k targets) == some (AList.lookup k results)

/-- some key of the table refuses -/
def refusedAt [BEq K] (ops : Ops K D T) (ns N : Nat) (child : D → T → Option T)
    (diffs : AList K D) (targets : AList K T) : Bool :=
  (diffs.keys ++ targets.keys).any fun k =>
    (applySpec ops ns N child k (AList.lookup k diffs) (AList.lookup k targets)).isNone

end spec

/-! ## well-formedness (what `IndexMap` and `ToKey` guarantee for trees built through the public API) -/

def NoDup {K V : Type} (m : AList K V) : Prop := m.keys.Nodup

instance {K V : Type} [DecidableEq K] (m : AList K V) : Decidable (NoDup m) := by unfold NoDup; infer_instance

def Param.WF (N : Nat) (k : Nat) (p : Param) : Prop := p.index = k ∧ p.names.length = N

def Field.WF (N : Nat) (k : MemberKey) (f : Field) : Prop :=
  f.desc = k.2 ∧ f.names.length = N ∧ f.names[0]? = some (some k.1)

def Method.WF (N : Nat) (k : MemberKey) (m : Method) : Prop :=
  m.desc = k.2 ∧ m.names.length = N ∧ m.names[0]? = some (some k.1) ∧
    NoDup m.params ∧ ∀ e ∈ m.params, Param.WF N e.1 e.2

def Class.WF (N : Nat) (k : JStr) (c : Class) : Prop :=
  c.names.length = N ∧ c.names[0]? = some (some k) ∧
    NoDup c.fields ∧ (∀ e ∈ c.fields, Field.WF N e.1 e.2) ∧
    NoDup c.methods ∧ (∀ e ∈ c.methods, Method.WF N e.1 e.2)

/-- keys unique at every level, every entry stored under the key its first-namespace name (+ descriptor / index) gives,
every name row as long as the namespace list -/
def WF (m : Mappings) : Prop :=
  NoDup m.classes ∧ ∀ e ∈ m.classes, Class.WF m.ns.length e.1 e.2

instance (N k p) : Decidable (Param.WF N k p) := by unfold Param.WF; infer_instance
instance (N k f) : Decidable (Field.WF N k f) := by unfold Field.WF; infer_instance
instance (N k m) : Decidable (Method.WF N k m) := by unfold Method.WF; infer_instance
instance (N k c) : Decidable (Class.WF N k c) := by unfold Class.WF; infer_instance
instance (m) : Decidable (WF m) := by unfold WF; infer_instance

/-- key uniqueness of a diff tree at every level (`IndexMap`) -/
def Diff.WF (d : Diff) : Prop :=
  NoDup d.classes ∧ ∀ c ∈ d.classes, NoDup c.2.fields ∧ NoDup c.2.methods ∧ ∀ m ∈ c.2.methods, NoDup m.2.params

instance (d) : Decidable (Diff.WF d) := by unfold Diff.WF; infer_instance

/-- key uniqueness of a mapping tree at every level (`IndexMap`); implied by `WF` -/
def KeysUnique (m : Mappings) : Prop :=
  NoDup m.classes ∧ ∀ c ∈ m.classes, NoDup c.2.fields ∧ NoDup c.2.methods ∧ ∀ me ∈ c.2.methods, NoDup me.2.params

instance (m) : Decidable (KeysUnique m) := by unfold KeysUnique; infer_instance

/-! ## the domain of `diff`: every entry has a name in the second namespace -/

def named (names : Names) : Bool := (nameAt names 1).isSome
def namedParam (p : Param) : Bool := named p.names
def namedField (f : Field) : Bool := named f.names
def namedMethod (m : Method) : Bool := named m.names && m.params.all fun e => namedParam e.2
def namedClass (c : Class) : Bool :=
  named c.names && (c.fields.all fun e => namedField e.2) && c.methods.all fun e => namedMethod e.2
/-- every class, field, method and parameter has a name in namespace 1 -/
def allNamed (m : Mappings) : Bool := m.classes.all fun e => namedClass e.2

/-! ## the proved domain of `diff_apply_partial` -/

def methodParams (m : Mappings) (c : JStr) (k : MemberKey) : AList Nat Param :=
  match AList.lookup c m.classes with
  | none => []
  | some cl =>
    match AList.lookup k cl.methods with
    | none => []
    | some me => me.params

/-- **ParamSrcless**: a parameter of `b` has the first-namespace name of the parameter of `a` under the same key, and none
at all when `a` has no such parameter (the diff carries only the target column, `from_key` creates parameters with all
names absent) -/
def ParamSrcless (a b : Mappings) : Prop :=
  ∀ c ∈ b.classes, ∀ m ∈ c.2.methods, ∀ p ∈ m.2.params,
    p.2.names[0]? = some (match AList.lookup p.1 (methodParams a c.1 m.1) with
      | some pa => nameAt pa.names 0
      | none => none)

instance (a b) : Decidable (ParamSrcless a b) := by unfold ParamSrcless; infer_instance

/-! ## content equality (same entry under every key, recursively; order of entries ignored) -/

def eqvMap {K V : Type} [BEq K] (r : V → V → Bool) (a b : AList K V) : Bool :=
  (a.keys ++ b.keys).all fun k =>
    match AList.lookup k a, AList.lookup k b with
    | some x, some y => r x y
    | none, none => true
    | _, _ => false

def eqvParam (a b : Param) : Bool := a == b
def eqvField (a b : Field) : Bool := a == b
def eqvMethod (a b : Method) : Bool :=
  a.desc == b.desc && a.names == b.names && a.doc == b.doc && eqvMap eqvParam a.params b.params
def eqvClass (a b : Class) : Bool :=
  a.names == b.names && a.doc == b.doc && eqvMap eqvField a.fields b.fields && eqvMap eqvMethod a.methods b.methods
def eqvMappings (a b : Mappings) : Bool :=
  a.ns == b.ns && a.doc == b.doc && eqvMap eqvClass a.classes b.classes

/-! ## the textual domain -/

/-- `Edit(a, a)` has no textual form: the reader turns two equal cells into `None` -/
def normAction : Action JStr → Action JStr
  | .edit a b => if a = b then .none else .edit a b
  | a => a

def normParam (p : PDiff) : PDiff := { info := normAction p.info, doc := normAction p.doc }
def normField (f : FDiff) : FDiff := { info := normAction f.info, doc := normAction f.doc }
def normMethod (m : MDiff) : MDiff :=
  { info := normAction m.info, doc := normAction m.doc, params := m.params.map fun e => (e.1, normParam e.2) }
def normClass (c : CDiff) : CDiff :=
  { info := normAction c.info, doc := normAction c.doc,
    fields := c.fields.map fun e => (e.1, normField e.2), methods := c.methods.map fun e => (e.1, normMethod e.2) }
/-- what `read (writeSpec d)` gives back -/
def normDiff (d : Diff) : Diff :=
  { info := .none, doc := .none, classes := d.classes.map fun e => (e.1, normClass e.2) }

def actionAll (p : JStr → Bool) : Action JStr → Bool
  | .none => true
  | .add b => p b
  | .remove a => p a
  | .edit a b => p a && p b

/-- a Unicode scalar value (the text travels as UTF-8 through a file; `BufRead::lines` rejects anything else) -/
def scalar (c : Nat) : Bool := c < 55296 || (57343 < c && c < 1114112)

/-- a cell that survives a line of text: no TAB, LF, CR; scalar values only -/
def plainCell (s : JStr) : Bool := s.all fun c => !(c == 9 || c == 10 || c == 13) && scalar c

/-- a comment that survives: not empty (an empty cell means "absent"); scalar values only. TAB, LF, CR and backslash are
escaped by the writer and decoded by the reader -/
def plainDoc (s : JStr) : Bool := s != [] && s.all scalar

def nameCell (valid : JStr → Bool) (s : JStr) : Bool := valid s && plainCell s

def writableParam (e : Nat × PDiff) : Bool :=
  e.1 < 18446744073709551616 && actionAll (nameCell TinyDiff.validUnqualified) e.2.info && actionAll plainDoc e.2.doc
def writableField (e : MemberKey × FDiff) : Bool :=
  nameCell TinyDiff.validUnqualified e.1.1 && plainCell e.1.2 &&
    actionAll (nameCell TinyDiff.validUnqualified) e.2.info && actionAll plainDoc e.2.doc
def writableMethod (e : MemberKey × MDiff) : Bool :=
  nameCell TinyDiff.validMethodName e.1.1 && plainCell e.1.2 &&
    actionAll (nameCell TinyDiff.validMethodName) e.2.info && actionAll plainDoc e.2.doc && e.2.params.all writableParam
def writableClass (e : JStr × CDiff) : Bool :=
  nameCell TinyDiff.validObjClass e.1 && actionAll (nameCell TinyDiff.validObjClass) e.2.info &&
    actionAll plainDoc e.2.doc && e.2.fields.all writableField && e.2.methods.all writableMethod

/-- **Writable**: the diffs whose specification text the reader reads back (as `normDiff d`): unique keys, valid names
without TAB/LF/CR, non-empty comments, no surrogate code points
(the text is UTF-8), parameter indices below 2^64, no action on the namespace name, no change of the top-level comment (`None` or `Edit(a, a)`): the
format has no syntax for either (`TinyDiff.read` always returns `info = doc = None`) -/
def Writable (d : Diff) : Prop :=
  d.info = .none ∧ normAction d.doc = .none ∧ Diff.WF d ∧ d.classes.all writableClass = true

instance (d) : Decidable (Writable d) := by unfold Writable; infer_instance

end DiffModel
