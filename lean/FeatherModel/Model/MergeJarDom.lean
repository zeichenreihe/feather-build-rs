import FeatherModel.Model.MergeJar

/-!
# C13: decidable domains and observation functions shared by theorems (`Thm/C13.lean`) and the driver's oracles

Nothing here is part of the model of `dukebox/src/merge.rs`; these are the predicates the theorems are stated with.
-/

namespace MergeJar

/-- entry names of a jar, in `IndexMap` order -/
def names (j : Jar) : List JStr := j.map (·.1)

/-- an entry name survives the merge: it is not a signature file (`META-INF/…` ending in `.SF`, `.RSA`, `.DSA` or `.EC`)
and it is not a "bundled server library" (a name ending in `.class`, containing a `/`, not below
`net/minecraft/`) that only the server has -/
def kept (client : Jar) (n : JStr) : Bool := !isSig n && !(isBundled n && !(names client).contains n)

/-- the `@Environment` marks a member carries -/
def envMarks (m : Member) : List Side :=
  m.anns.filterMap (fun a => match a with | Ann.env s => some s | _ => none)

/-- the `@Environment` marks among the visible annotations of a class -/
def classEnvMarks (c : Class) : List Side :=
  c.visAnns.filterMap (fun a => match a with | Ann.env s => some s | _ => none)

/-- the key lists of both sides are duplicate-free (true of every class file a JVM accepts) -/
def keysOk (c s : Class) : Bool :=
  keysNodup c.fields && keysNodup s.fields && keysNodup c.methods && keysNodup s.methods &&
  nodupB (c.inners.map (·.name)) && nodupB (s.inners.map (·.name))

/-- domain of the class-level oracles: a pair that really goes through `class_merger_merge` and is merged -/
def marksDomain (c s : Class) : Bool :=
  mergeOk c s && c != s && noEnv c.fields && noEnv s.fields && noEnv c.methods && noEnv s.methods &&
  nodupB c.interfaces && nodupB s.interfaces

/-- domain of the union/order oracle: a merged pair with duplicate-free interface lists -/
def unionDomain (c s : Class) : Bool :=
  mergeOk c s && c != s && nodupB c.interfaces && nodupB s.interfaces

/-- the jar-level domain on which `merge` returns `Ok`: for every name both jars have (other than the manifest and
signature files) the entry kinds agree and two differing classes are mergeable -/
def jarDomain (client server : Jar) : Bool :=
  client.all fun e =>
    e.1 == MANIFEST || isSig e.1 ||
    match get e.1 server with
    | none => true
    | some s =>
      match e.2.content, s.content with
      | Content.dir, Content.dir => true
      | Content.other _, Content.other _ => true
      | Content.cls _ cc, Content.cls _ cs => cc == cs || mergeOk cc cs
      | _, _ => false

end MergeJar
