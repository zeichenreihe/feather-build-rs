import FeatherModel.Lemmas.ClassReadFinal
import FeatherModel.Lemmas.ArmsConstants
import FeatherModel.Lemmas.ArmsReader
import FeatherModel.Lemmas.ArmsReaderJvms
import FeatherModel.Lemmas.ArmsTags
import FeatherModel.Lemmas.ArmsHarness

/-!
# C01 — the class reader delivers every fact of a valid class file accurately

Model: `FeatherModel/Model/ClassRead*.lean`, `Mutf8.lean` (hand-written mirror of `duke/src/class_reader.rs`,
`class_reader/pool.rs`, `class_reader/labels.rs`, `jstring.rs` + `java_string::from_modified_utf8`, tied to the Rust
code by the correspondence run of `harness/src/bin/c01.rs`).
Specification: `FeatherModel/Spec/ClassEncode.lean` — the JVMS encoding as a function of the facts **and** of the free
encoding choices (instruction forms, pool indices, switch padding, attribute order and splitting).

The fidelity theorems hold for every layout that satisfies the explicit legality predicates of the specification (no size
bound other than the field widths of the format; `CodeLayout.Legal.refs` also bounds the number of label references, a
hypothesis the proofs do not use: `ClassRead.readCode_encode`); the `_partial` ones cover the attribute fragment their comment lists, the
`_witness` ones exhibit a limit of the reader.  Besides the theorems the file defines the layouts its non-vacuity examples
and witnesses use (`exampleCode`, `examplePool`, `deepElem`, `chainPool`, `chainBsms`, `exampleClass`, `isErr`).  The last
section restates, under the property's name, the table comparisons of `Lemmas/Arms*.lean`.
What the statements mention beyond model and specification is defined in `Lemmas/`: `Labels.WF`, `Labels.Le`
(`ClassReadCursor`), `labOf` (`ClassReadLayout`), `createAll`, `TargetsLabelled` (`ClassReadPasses`), `CodeLayout.raw`,
`CodeLayout.refOffsets` (`ClassReadCodeAttrs`), `flagSpecs` (`ArmsConstants`).
-/

namespace Thm.C01

open ClassRead ClassRead.Spec ClassRead.Outcome

/-- Handing out a label never disturbs the table: the table stays well-formed (one slot per offset, ids below the
counter, **no id shared by two offsets**), every label handed out earlier keeps its id, the requested offset is
labelled afterwards, and at most one new id is consumed.  `hcnt` asks for more room than is used: the new id is
`l.count` whenever `l.count < 65536`, and on a table whose counter counts its filled slots (`Labels.Tight`: every table the
reader builds) well-formedness is kept without any bound (`Labels.wf_addAll`). -/
theorem labels_sound (l : Labels) (hwf : l.WF) (pc : Nat) (hpc : pc ≤ l.codeLength) (hcnt : l.count < 65535) :
    ∃ id l', l.addUnchecked pc = ok (id, l') ∧ l'.WF ∧ Labels.Le l l' ∧ l'.get pc = some id ∧ l'.count ≤ l.count + 1 := by
  obtain ⟨id, h, hg⟩ := Labels.addUnchecked_eq hwf.sz hpc
  exact ⟨id, _, h, Labels.wf_add hwf hpc fun _ => by omega, Labels.le_add l pc, hg,
    Labels.count_add_le l pc⟩

/-- two offsets get the same label iff they are equal -/
theorem labels_injective (l : Labels) (hwf : l.WF) (p q id : Nat) (hp : l.get p = some id) (hq : l.get q = some id) : p = q :=
  hwf.inj p q id hp hq

/-- the bounds checks of `labels.rs`: an ordinary label must lie inside the code, an exclusive end may equal
`code_length` (an exception or local-variable range may end at the end of the code) -/
theorem labels_bounds (l : Labels) (pc : Nat) :
    (pc ≥ l.codeLength → l.getOrCreate pc = err) ∧ (pc > l.codeLength → l.getOrCreateExcl pc = err) := by
  constructor
  · intro h; simp [Labels.getOrCreate, h]
  · intro h; simp [Labels.getOrCreateExcl, h]

/-- `insn_decode_encode`: for every instruction, every admissible form (`xload_n`/`xload`/`wide xload`, `ldc`/`ldc_w`/
`ldc2_w`, `goto`/`goto_w`, `jsr`/`jsr_w`, `iinc`/`wide iinc`, `ret`/`wide ret`), every pool index resolving to its
operand and every offset `a` (hence all four switch paddings, whatever the value `pad` of the padding bytes): the second pass of the
reader decodes the encoding to the instruction — branch targets become the labels of the target offsets — and
consumes exactly its bytes. -/
theorem insn_decode_encode (p : Pool) (bsms : Option (List Bsm)) (l : Labels) (n : Nat) (pos : Nat → Nat) (a : Nat)
    (si : SInsn) (hleg : si.Legal p bsms n pos a) (ha : a ≤ 65535) (hpos : ∀ t, t < n → pos t ≤ 65535)
    (hl : TargetsLabelled l pos si.insn) (r : Bytes) :
    decodeInsn p bsms l (a, si.encode pos a ++ r) = ok (mapT (labOf l pos) si.insn, (a + si.size a, r)) :=
  decodeInsn_encode p bsms l n pos a si hleg ha hpos hl r

/-- the first pass creates exactly the labels of the branch / switch targets of an instruction, in order, and skips
exactly its bytes (so both passes tile the code array identically) -/
theorem insn_first_pass (p : Pool) (bsms : Option (List Bsm)) (l : Labels) (n : Nat) (pos : Nat → Nat) (a : Nat)
    (si : SInsn) (hleg : si.Legal p bsms n pos a) (ha : a ≤ 65535) (hpos : ∀ t, t < n → pos t ≤ 65535) (r : Bytes) :
    pass1Step l (a, si.encode pos a ++ r)
      = (do let l' ← createAll l ((targetsOf si.insn).map pos); pure (l', (a + si.size a, r))) :=
  pass1Step_encode p bsms l n pos a si hleg ha hpos r

/-- the encoded size used for the layout is the length of the encoding -/
theorem insn_size_exact (pos : Nat → Nat) (a : Nat) (si : SInsn) : (si.encode pos a).length = si.size a :=
  SInsn.encode_length pos a si

/-- `code_read_encode_partial`: reading any legal encoding of a method body (`Spec.CodeLayout.encode`: any instruction
forms, any pool indices, switches at any alignment, exception table incl. `end_pc = code_length`, any number and order
of `LineNumberTable` / `LocalVariableTable` / `LocalVariableTypeTable` / `RuntimeVisibleTypeAnnotations` /
`RuntimeInvisibleTypeAnnotations` / unknown attributes, a `StackMapTable` with every frame kind in compact or extended
form) succeeds, consumes exactly the attribute body, and — once the opaque
label ids are read back as the positions of the instructions that carry them (`Code.resolve`) — delivers **exactly**
the facts of the layout: same instructions, every branch target, switch target, exception range and handler, line
entry, local-variable range, `Uninitialized` verification type and type-annotation target (`localvar_target` ranges,
`offset_target`, `type_argument_target`) pointing at the instruction it was encoded for;
every stack-map frame attached to the instruction its accumulated `offset_delta` designates; line and local tables
merged in file order, type annotations concatenated per visibility in file order; unknown attributes byte for byte;
nothing else.

Partial: the attribute `StackMap` (CLDC) of `Code` is outside the proved fragment (it is modelled and covered by the
correspondence run only).
`hleg.refs` (fewer than 65535 label references) is the domain in which the reader's `u16` label counter cannot
overflow. -/
theorem code_read_encode_partial (p : Pool) (bsms : Option (List Bsm)) (c : CodeLayout) (hleg : c.Legal p bsms) (r : Bytes) :
    ∃ raw, readCode p bsms (c.encode ++ r) = ok (raw, r) ∧ raw.resolve = some c.facts :=
  readCode_resolve p bsms c hleg r

/-- the reader's own (label-id) output is determined by the layout and a well-formed final label table in which
every referenced offset is labelled -/
theorem code_read_raw (p : Pool) (bsms : Option (List Bsm)) (c : CodeLayout) (hleg : c.Legal p bsms) (r : Bytes) :
    ∃ lf, lf.WF ∧ lf.codeLength = c.pos c.insns.length ∧ (∀ pc ∈ c.refOffsets, (lf.get pc).isSome = true) ∧
      readCode p bsms (c.encode ++ r) = ok (c.raw lf, r) :=
  let ⟨lf, _, h⟩ := readCode_encode p bsms c hleg r
  ⟨lf, h⟩

/-- non-vacuity of `code_read_encode_partial`: `goto L1; L1: return` with a handler range reaching the end of the code
(`end_pc = code_length`), an unknown attribute, a `StackMapTable` whose frame mentions an uninitialized object and a
`RuntimeVisibleTypeAnnotations` with a local-variable range and an offset target is a legal layout -/
def exampleCode : CodeLayout :=
  { maxStack := 1, maxLocals := 0,
    insns := [⟨.goto 1, .plain, 0, 0⟩, ⟨.simple 0xb1, .plain, 0, 0⟩],
    exceptions := [⟨0, 2, 1, 0, none⟩],
    attrs := [.unknown 1 [70, 111, 111] [1, 2], .frames 2 [⟨1, false, .same1 (.uninit 0)⟩],
      .typeAnnos 3 true [⟨.localVar 0x40 [(0, 2, 0)], [], .mk 4 [76, 65, 59] []⟩, ⟨.offset 0x44 1, [(3, 1)], .mk 4 [76, 65, 59] []⟩]] }

def examplePool : Pool := poolTable [.utf8 [70, 111, 111], .utf8 sStackMapTable, .utf8 sRVTA, .utf8 [76, 65, 59]]

example : exampleCode.Legal examplePool none := by
  refine ⟨⟨by decide, by decide, ?_⟩, by decide, by decide, by decide, ?_, by decide, ?_, by decide, by decide⟩
  · intro i hi
    match i, hi with
    | 0, _ => exact ⟨by decide, by unfold inI16 relOff; decide⟩
    | 1, _ => exact (by decide : isSimpleOp 0xb1 = true)
  · intro e he
    simp only [exampleCode, List.mem_singleton] at he
    subst he
    exact ⟨by decide, by decide, by decide, by decide, rfl⟩
  · intro a ha
    simp only [exampleCode, List.mem_cons, List.not_mem_nil, or_false] at ha
    rcases ha with rfl | rfl | rfl
    · exact ⟨by decide, rfl, by decide, by decide⟩
    · exact ⟨by decide, rfl, by decide, ⟨by decide, trivial, (by decide : (0 : Nat) < 2), fun _ => by decide, trivial⟩, by decide⟩
    · refine ⟨by decide, rfl, by decide, ?_, by decide⟩
      intro a ha
      simp only [List.mem_cons, List.not_mem_nil, or_false] at ha
      rcases ha with rfl | rfl
      · exact ⟨⟨Or.inl rfl, by decide, by simp [exampleCode]⟩, ⟨by decide, by simp⟩, ⟨by decide, rfl, by decide, trivial⟩, by decide⟩
      · exact ⟨⟨by decide, by decide, by decide⟩, ⟨by decide, by simp⟩, ⟨by decide, rfl, by decide, trivial⟩, by decide⟩

/-- `mutf8_decode_encode`: `from_modified_utf8` reads the JVMS §4.4.7 encoding of every string of Unicode code
points / unpaired surrogates back (a high surrogate directly followed by a low surrogate is excluded: that *is* the
encoding of a supplementary code point) -/
theorem mutf8_decode_encode (s : JStr) (hs : Mutf8.Encodable s = true) : Mutf8.decode (Mutf8.encode s) = some s :=
  Mutf8.decode_encode s hs

example : Mutf8.Encodable [0, 0x41, 0x7ff, 0xd800, 0x41, 0xdc00, 0x10ffff] = true := by decide

/-- the decoder is more lenient than JVMS §4.4.7 (it first tries plain UTF-8): a raw NUL byte and a four-byte form are
accepted.  Such strings re-encode differently, so byte-exactness is not claimed for duke (only facts). -/
theorem mutf8_lenient_witness :
    Mutf8.decode [0] = some [0] ∧ Mutf8.decode [0xf0, 0x90, 0x80, 0x80] = some [0x10000] ∧
      Mutf8.decode (Mutf8.encode [0]) = some [0] ∧ Mutf8.encode [0] ≠ [0] := by decide

/-- a high surrogate followed by a low surrogate cannot be read back as two code points -/
theorem mutf8_split_pair_witness : Mutf8.decode (Mutf8.encode [0xd800, 0xdc00]) = some [0x10000] := by decide

/-- `annotation_read_encode`: an annotation with element values of every kind (`B C D F I J S Z s e c @ [`), nested up
to the reader's limit of 255 levels (`a.Ok p` = `a.Legal p ∧ a.nest ≤ 255`, a decidable bound), any pool indices
resolving to its constants, is read back as exactly its description; the recursion fuel the model needs
(`2 * bytes + 2`) always suffices -/
theorem annotation_read_encode (p : Pool) (a : SAnno) (ha : a.Ok p) (r : Bytes) :
    readAnnotation p (a.encode ++ r) = ok (a.fact, r) :=
  readAnnotation_enc p a ha r

example : (SAnno.mk 1 [76, 65, 59] [.mk 2 [118] (.arr [.str 2 [118], .anno (.mk 1 [76, 65, 59] [])])]).Ok
    (poolTable [.utf8 [76, 65, 59], .utf8 [118]]) := by
  refine ⟨?_, by decide⟩
  simp [SAnno.Legal, pairsLegal, SPair.Legal, SElem.Legal, elemsLegal]
  exact ⟨rfl, rfl, rfl⟩

/-- `k` nested arrays around a string -/
def deepElem : Nat → SElem
  | 0 => .str 2 [118]
  | k + 1 => .arr [deepElem k]

theorem deepElem_nest (k : Nat) : (deepElem k).nest = k := by
  induction k with
  | zero => rfl
  | succ k ih => simp [deepElem, SElem.nest, elemsNest, ih]

theorem deepElem_legal (k : Nat) : (deepElem k).Legal (poolTable [.utf8 [76, 65, 59], .utf8 [118]]) := by
  induction k with
  | zero => exact ⟨by decide, rfl⟩
  | succ k ih => exact ⟨by simp, ih, trivial⟩

/-- `annotation_depth_limit_witness` (deliberate limit of the reader, `MAX_ELEMENT_VALUE_DEPTH = 255`; the code before 835fdd2 recursed without bound): every
JVMS-legal annotation whose element values nest deeper than 255 levels is **rejected** (`err`), so the bound in
`annotation_read_encode` is exact; e.g. `@A(v = [[…["v"]…]])` with 256 brackets is legal, nests 256 levels and is not
read, with 255 brackets it is -/
theorem annotation_depth_limit_witness :
    (∀ (p : Pool) (a : SAnno), a.Legal p → 255 < a.nest → ∀ r, readAnnotation p (a.encode ++ r) = err) ∧
    (SAnno.mk 1 [76, 65, 59] [.mk 2 [118] (deepElem 256)]).Legal (poolTable [.utf8 [76, 65, 59], .utf8 [118]]) ∧
    (SAnno.mk 1 [76, 65, 59] [.mk 2 [118] (deepElem 256)]).nest = 256 ∧
    (SAnno.mk 1 [76, 65, 59] [.mk 2 [118] (deepElem 255)]).Ok (poolTable [.utf8 [76, 65, 59], .utf8 [118]]) := by
  refine ⟨fun p a ha hn r => readAnnotation_deep p a ha hn r, ?_, ?_, ?_, ?_⟩
  · exact ⟨by decide, rfl, by decide, ⟨by decide, rfl, deepElem_legal 256⟩, trivial⟩
  · simp [SAnno.nest, pairsNest, SPair.nest, deepElem_nest]
  · exact ⟨by decide, rfl, by decide, ⟨by decide, rfl, deepElem_legal 255⟩, trivial⟩
  · simp [SAnno.nest, pairsNest, SPair.nest, deepElem_nest]

/-- `pool_read`: for every list of constant-pool entries — any order, duplicates, unused entries, `Long`/`Double` at
any position — the reader builds exactly the table these entries denote (slot 0 and the slot after a two-slot entry
unusable) and consumes exactly the pool.  Everything the reader later says about a class goes through the lazy
resolvers `Pool.get*` applied to this table at the indices the class file uses, so facts depend on the pool only
through what those indices resolve to. -/
theorem pool_read (es : List PoolEntry) (hes : ∀ e ∈ es, PoolEntryOk e) (hcount : poolCount es < 65536) (r : Bytes) :
    readPool (encPool es ++ r) = ok (poolTable es, r) :=
  readPool_enc es hes hcount r

/-- a pool with `k` `Dynamic` constants (indices 4 .. 3+k), the `j`-th taking the next one as its only bootstrap
argument -/
def chainPool (k : Nat) : Pool :=
  poolTable ([.utf8 [120], .utf8 [73], .nameAndType 1 2] ++ (List.range k).map (fun j => PoolEntry.dynamic j 3))

def chainBsms (k : Nat) : List Bsm := (List.range k).map (fun j => ⟨default, if j + 1 < k then [5 + j] else []⟩)

def isErr {α : Type} : Outcome α → Bool
  | .err => true
  | _ => false

/-- `dynamic_depth_limit_witness` (deliberate limit of the reader, `MAX_BOOTSTRAP_ARGUMENT_DEPTH = 16`): a
`Dynamic` constant whose bootstrap arguments nest 16 further `Dynamic` constants is resolved, one that nests 17 is an
error although the class file is valid — and so is, in particular, every constant reachable from its own arguments
(the code before cb2ce34 exhausted the stack on such a constant) -/
theorem dynamic_depth_limit_witness :
    Outcome.isOk (Pool.getLoadable (chainPool 17) (some (chainBsms 17)) 4) = true ∧
    isErr (Pool.getLoadable (chainPool 18) (some (chainBsms 18)) 4) = true ∧
    isErr (Pool.getLoadable (poolTable [.utf8 [120], .utf8 [73], .nameAndType 1 2, .dynamic 0 3]) (some [⟨default, [4]⟩]) 4) = true := by
  decide +kernel

/-- `class_read_encode_partial`: for **every** class layout of the fragment — any pool, any pool indices that resolve
to the intended constants, any interleaving order of the attributes of every owner, fields and methods with any of
their attributes, every method body as in `code_read_encode_partial` — reading the JVMS serialisation succeeds, stops
exactly at the end of the class file (so concatenated class files can be read one after the other), and after label
resolution yields exactly the facts the layout denotes: header, super types, every field and method with its own
flags, name, descriptor and attributes (nothing attached to another member), `BootstrapMethods` made available to
the methods whatever its position, unknown attributes byte for byte.

Fragment (attributes covered by the theorem): class — `Deprecated Synthetic SourceFile SourceDebugExtension Signature
InnerClasses EnclosingMethod NestHost NestMembers PermittedSubclasses BootstrapMethods RuntimeVisibleAnnotations
RuntimeInvisibleAnnotations RuntimeVisibleTypeAnnotations RuntimeInvisibleTypeAnnotations Record` (components with
`Signature`, annotations, type annotations, unknown attributes) `Module ModulePackages ModuleMainClass` + unknown;
field — `Deprecated Synthetic ConstantValue Signature Runtime(In)VisibleAnnotations Runtime(In)VisibleTypeAnnotations`
+ unknown; method — `Deprecated Synthetic Code Exceptions Signature
Runtime(In)VisibleAnnotations Runtime(In)VisibleTypeAnnotations AnnotationDefault MethodParameters` + unknown; `Code` —
`StackMapTable LineNumberTable LocalVariableTable LocalVariableTypeTable Runtime(In)VisibleTypeAnnotations` + unknown,
exception table.
Annotation attributes may occur several times (their annotations are concatenated in file order).
Outside the fragment (modelled, tied by the correspondence run and the oracles only): `StackMap` (CLDC) inside `Code`,
`Runtime(In)VisibleParameterAnnotations` (dropped by the reader, see the witness). -/
theorem class_read_encode_partial (c : ClassLayout) (hleg : c.Legal) (facts : ClassFacts) (hfacts : c.facts = some facts)
    (r : Bytes) : ∃ raw, ClassRead.read (c.encode ++ r) = ok (raw, r) ∧ raw.resolve = some facts :=
  read_encode c hleg facts hfacts r

/-- non-vacuity: the smallest class file `class A` (version 52.0, pool `[Utf8 "A", Class #1]`) -/
def exampleClass : ClassLayout :=
  { minor := 0, major := 52, pool := [.utf8 [65], .cls 1], access := 0x21, thisCp := 2, name := [65], superCp := 0, super := none,
    interfaces := [], fields := [], methods := [], attrs := [] }

example : exampleClass.Legal := by
  refine ⟨by decide, ?_, by decide, by decide, ⟨by decide, rfl⟩, ⟨by decide, rfl⟩, by decide, by simp [exampleClass],
    by decide, by simp [exampleClass], by decide, by simp [exampleClass], by decide, by simp [exampleClass], rfl⟩
  intro e he
  simp only [exampleClass, List.mem_cons, List.not_mem_nil, or_false] at he
  rcases he with rfl | rfl
  · exact ⟨by decide, by decide⟩
  · exact (by decide : (1 : Nat) < 65536)

/-- `Runtime(In)VisibleParameterAnnotations` are consumed but **not delivered** (the tree has no place for them,
`// TODO` in `read_method`): whatever the attribute says, the method description is unchanged.  This is why the
fidelity theorem is `_partial`; the gap is a known finding. -/
theorem parameter_annotations_dropped_witness (p : Pool) (bsms : Option (List Bsm)) (m : MethodFacts) (nc : Nat) (visible : Bool)
    (body r : Bytes) (hnc : nc < 65536) (hname : p.getUtf8 nc = ok (if visible then sRVPA else sRIPA))
    (hlen : body.length < 4294967296) :
    readMethodAttr p bsms m (attrFrame nc body ++ r) = ok (m, r) := by
  have hskip : skipN body.length (body ++ r) = ok ((), r) := by rw [skipN, List.drop_left' rfl]
  cases visible <;> exact attrHeader_bind hnc hname hlen (bind_ok hskip rfl)

/-! ## Generated tables: the translator tie (independent of any test generator)

Everything above is about the hand-written model, which is tied to the Rust code by differential testing. This section
ties it a second way. `translate/constants_to_lean.py` and `translate/insn_arms_to_lean.py` read `duke/src/class_constants.rs`,
`class_reader.rs` (both loops of `read_code`, `read_stack_map_frame`, `read_verification_type_info`, the `element_value`
readers), `class_reader/pool.rs`, `tree/**` (flag structs) and `tree/method/code.rs` (`enum Instruction`) before every build
and write what they find as data into `Gen/Constants.lean` and `Gen/ReaderArms.lean`; `Spec/Opcodes.lean` is a transcription
of the JVMS tables. The theorems compare the three — generated tables, hand-written model, JVMS — over the WHOLE tables
(all 256 opcode bytes, all tags), by kernel evaluation. Vocabulary: `Lemmas/ArmsDefs.lean`. -/

section GeneratedTables

open Arms JvmsTables

/-- the transcribed JVMS tables have the shape the lookups assume: `opcodes` lists 0..201 in order (so position = opcode);
reserved opcodes lie above; `forms`, `wideForms`, `negations` name real opcodes, `negations` is an involution on the
16-bit conditional branches -/
theorem jvms_tables_consistent :
    opcodes.map (·.1) = List.range 202 ∧
    (reserved.all fun r => decide (202 ≤ r.1 ∧ r.1 < 256)) = true ∧
    (forms.all fun f => (mnemonic? f.1).isSome && (mnemonic? f.2.1).isSome && !(forms.lookup f.2.1).isSome) = true ∧
    (wideForms.all fun f => (mnemonic? f.1).isSome) = true ∧
    (negations.all fun f => negations.lookup f.2 == some f.1 && operands? f.1 == some .branch16) = true :=
  Arms.jvms_tables_consistent

/-- **Every constant of `class_constants.rs` is the JVMS value under the JVMS name.** (1) the modules of the file are exactly
the seven tables below, no constant outside them, every value fits its Rust type; (2) `opcode`: the 205 constants are the
202 opcodes of JVMS §6.5 plus the 3 reserved ones, in opcode order, each named by the upper-cased mnemonic — with the one
exception that 0xbe `arraylength` is spelt `ARRAYLENGHT`; (3) `pool` = Table 4.4-A, `pool::method_handle_reference` =
Table 5.4.3.5-A (names up to case / underscores); (4) `type_annotation` = Tables 4.7.20-A/B, `atype` = Table 6.5.newarray-A,
`MAGIC`; (5) `attribute`: every constant is named like its text, and the texts are exactly the 30 predefined attributes of
Table 4.7-A plus the CLDC `StackMap`. -/
theorem constants_are_jvms :
    ((Gen.Constants.numeric.map fun m => (m.1, m.2.map fun e => (e.1, e.2.1))) =
      [([], Gen.Constants.rootConsts), (jstr "pool", Gen.Constants.poolConsts),
       (jstr "pool::method_handle_reference", Gen.Constants.poolMethodHandleReferenceConsts),
       (jstr "type_annotation", Gen.Constants.typeAnnotationConsts), (jstr "opcode", Gen.Constants.opcodeConsts),
       (jstr "atype", Gen.Constants.atypeConsts)] ∧
     Gen.Constants.strings = [(jstr "attribute", Gen.Constants.attributeConsts)] ∧
     Gen.Constants.modules = [[], jstr "pool", jstr "pool::method_handle_reference", jstr "attribute", jstr "type_annotation",
       jstr "opcode", jstr "atype"] ∧
     (Gen.Constants.numeric.all fun m => m.2.all fun e => decide (e.2.1 < 2 ^ e.2.2)) = true) ∧
    Gen.Constants.opcodeConsts.map (fun e => (e.2, lower e.1)) =
      (opcodes.map (fun r => (r.1, r.2.1)) ++ reserved).map
        (fun r => (r.1, if r.1 = 0xbe then jstr "arraylenght" else r.2)) ∧
    (Gen.Constants.poolConsts.map (fun e => (e.2, squash e.1)) = poolTags.map (fun r => (r.1, squash r.2.1)) ∧
     Gen.Constants.poolMethodHandleReferenceConsts.map (fun e => (e.2, squash e.1)) =
       methodHandleKinds.map (fun r => (r.1, squash r.2))) ∧
    (Gen.Constants.typeAnnotationConsts.map (fun e => (e.2, squash e.1)) = targetTypes.map (fun r => (r.1, squash r.2.1)) ∧
     Gen.Constants.atypeConsts.map (fun e => (e.2, e.1)) = arrayTypes ∧
     Gen.Constants.rootConsts = [(jstr "MAGIC", JvmsTables.magic)]) ∧
    ((Gen.Constants.attributeConsts.all fun e => squash e.1 == squash e.2) = true ∧
     (Gen.Constants.attributeConsts.all fun e => (attributeNames ++ cldcAttributeNames).contains e.2) = true ∧
     ((attributeNames ++ cldcAttributeNames).all fun n => (Gen.Constants.attributeConsts.map (·.2)).contains n) = true ∧
     Gen.Constants.attributeConsts.length = (attributeNames ++ cldcAttributeNames).length) := by
  simp -index only [opcodes, reserved, poolTags, methodHandleKinds, targetTypes, arrayTypes, attributeNames,
    cldcAttributeNames, jstr_ofList]
  decide +kernel

/-- the access-flag structs of `duke/src/tree` (`impl From<u16> for X` and `impl From<X> for u16`): both directions use the
same masks, the structs are the nine of the specification, and **all of them** carry exactly the flags and masks of the JVMS
tables (4.1-B, 4.7.6-A, 4.5-A, 4.6-A, §4.7.24, §4.7.25 module / requires / exports / opens).  The code before
ccf470b had `ModuleFlags::is_open` at `0x0010`; the differential run cannot see such a difference, because model and harness
mirror the code. -/
theorem access_flags_are_jvms :
    Gen.Constants.flagsRead = Gen.Constants.flagsWrite ∧ Gen.Constants.flagsRead = flagSpecs := by
  simp -index only [flagSpecs, classFlags, innerClassFlags, fieldFlags, methodFlags, parameterFlags, moduleFlags,
    requiresFlags, exportsFlags, opensFlags, jstr_ofList]
  decide +kernel

/-- `ModuleFlags` reads and writes `is_open` with `ACC_OPEN = 0x0020` of JVMS §4.7.25 (the code before ccf470b used `0x0010`:
an `open module` was read as not open, a tree with `is_open` was written with an undefined bit) -/
theorem module_open_flag_is_jvms :
    Gen.Constants.flagsRead.lookup (jstr "ModuleFlags") =
      some [(jstr "open", 0x0020), (jstr "synthetic", 0x1000), (jstr "mandated", 0x8000)] ∧
    moduleFlags = [(jstr "open", 0x0020), (jstr "synthetic", 0x1000), (jstr "mandated", 0x8000)] := by
  simp -index only [moduleFlags, jstr_ofList]
  decide +kernel

/-- the constants the hand-written model hard-codes are the ones of the Rust source: each of its 31 attribute names is the
text of the `class_constants::attribute` constant it mirrors (and there is no 32nd), each of its flag masks is the `|` of the
masks of the flag struct it mirrors -/
theorem model_constants_match :
    (modelAttributeNames.all fun e => Gen.Constants.attributeConsts.lookup e.1 == some e.2) = true ∧
    modelAttributeNames.length = Gen.Constants.attributeConsts.length ∧
    (modelMasks.all fun e => maskOf Gen.Constants.flagsRead e.1 == e.2) = true ∧
    modelMasks.map (·.1) = Gen.Constants.flagsRead.map (·.1) := by
  simp -index only [modelAttributeNames, modelMasks, jstr_ofList]
  decide +kernel

/-- **For every opcode byte, the hand-written model takes the arm the Rust code takes, in both loops of `read_code`.**
Pass 1: same class (skip `n` bytes / 16-bit branch / 32-bit branch / tableswitch / lookupswitch / `wide` / error).
Pass 2: the model rejects the byte iff the Rust `match` has no arm for it or a `bail!` arm; `wide` is the same byte; the
model's operand-less arm `simple` covers exactly the arms `opcode::X => Instruction::Y` for a unit variant `Y`; and
whenever the model decodes an instruction `i` at that byte — whatever the pool, the labels, the operand bytes — the Rust
arm builds the constructor named like `i` (`insnMnemonic`, compared up to case and underscores), reads exactly as many
operand bytes as the model consumed (where the arm fixes them: everything except the switches), and for `*load_<n>` /
`*store_<n>` the index the Rust arithmetic (`(opcode - base) & mask`) gives is the model's. `i` is in `RdDomain`. -/
theorem reader_arms_match_model (p : Pool) (bsms : Option (List Bsm)) (l : Labels) (pc op : Nat) (rest : Bytes) (hop : op < 256) :
    p1Code (p1Kind op) = p1Class op ∧
    (rArm op = .bail ↔ opKind op = .invalid) ∧
    (rArm op = .wide ↔ opKind op = .wide) ∧
    ((rArm op).isUnit = true ↔ opKind op = .simple) ∧
    (rArm op = .bail → decodeInsn p bsms l (pc, op :: rest) = err) ∧
    (∀ i c', rArm op ≠ .wide → decodeInsn p bsms l (pc, op :: rest) = ok (i, c') →
      ∃ ctor, (rArm op).ctor? = some ctor ∧ squash (ctorName ctor) = squash (insnMnemonic i) ∧
        (∀ n, (rArm op).operandBytes? = some n → c'.1 = pc + 1 + n) ∧
        (∀ j, (rArm op).implicitIndex? = some j → insnLocal? i = some j) ∧ RdDomain i) :=
  Arms.reader_arms_match_model p bsms l pc op rest hop

/-- the same for the two `wide` sub-matches: pass 1 skips what the Rust sub-match skips (or fails where it bails), pass 2
fails where it bails and otherwise builds the constructor the Rust sub-arm names, consuming the bytes its primitives read -/
theorem reader_wide_arms_match_model (l : Labels) (pc w : Nat) (rest : Bytes) (hw : w < 256) :
    pass1Step l (pc, Gen.ReaderArms.wideOpcode :: w :: rest) =
      (match p1WideSkip? w with
        | some n => (do let c ← cSkip n (pc + 2, rest); pure (l, c))
        | none => err) ∧
    ((rWideArm w).ctor? = none → decodeWide (pc, w :: rest) = err) ∧
    (∀ i c', decodeWide (pc, w :: rest) = ok (i, c') →
      ∃ ctor n, (rWideArm w).ctor? = some ctor ∧ squash (ctorName ctor) = squash (insnMnemonic i) ∧
        (rWideArm w).operandBytes? = some n ∧ c'.1 = pc + 1 + n ∧ RdDomain i) :=
  Arms.reader_wide_arms_match_model l pc w rest hw

/-- **The Rust reader's dispatch is the JVMS instruction set** (no model involved). For every opcode byte: there is an
instruction-building arm exactly for the opcodes 0..201 of §6.5 — every one handled, everything from 202 up an error —;
plain operands / branches / switches / `wide` are told apart as in the JVMS; the constructor is named like the mnemonic
of the instruction's general form (`iload_2` ↦ `ILoad`, `ldc2_w` ↦ `Ldc`, `goto_w` ↦ `Goto`); the arm reads as many operand
bytes as the JVMS says; `<t>load_<n>` / `<t>store_<n>` get the index `<n>`; the first loop classifies the opcode as the
operand layout demands; both `wide` sub-matches accept exactly the opcodes of JVMS *wide* with its two formats. -/
theorem arms_are_jvms (op : Nat) (hop : op < 256) :
    (rArm op = .bail ↔ mnemonic? op = none) ∧
    (rArm op).operandClass = jvmsOperandClass (operands? op) ∧
    (rArm op ≠ .wide → ((rArm op).ctor?.map fun c => squash (ctorName c)) = (mnemonic? (baseOf op)).map squash) ∧
    (∀ c, (rArm op).ctor? = some c → (rArm op).operandBytes? = jvmsOperandBytes (operands? op)) ∧
    (rArm op).implicitIndex? = implicitIndex? op ∧
    p1Class op = jvmsP1Class (operands? op) ∧
    p1WideSkip? op = wideForms.lookup op ∧
    ((rWideArm op).ctor?.map fun c => (squash (ctorName c), (rWideArm op).operandBytes?)) =
      (wideForms.lookup op).map fun n => (((mnemonic? op).map squash).getD [], some n) :=
  Arms.arms_are_jvms op hop

/-- the small tag dispatches of the Rust reader are the JVMS tables: `PoolRead::read` (tag, entry kind, payload bytes,
`bytes[length]` or not, 1 or 2 slots) = Table 4.4-A / §4.4.1–11; `read_verification_type_info` = the `ITEM_*` table;
`read_stack_map_frame` = the `frame_type` ranges with the reserved range bailing, implicit / explicit `offset_delta`, `chop`
and `append` counting from 251; both `element_value` readers = Table 4.7.16.1-A with the right pool entry kind (the arm
for tag `I` builds the variant `Integer`, which the table calls `int`) -/
theorem tag_arms_are_jvms :
    (Gen.ReaderArms.poolArms.map fun a => (a.1, squash a.2.1, a.2.2.1.sum, a.2.2.2.1, a.2.2.2.2)) =
      (poolTags.map fun r => (r.1, squash r.2.1, r.2.2.1.sum, (if r.2.2.2.1 then 1 else 0), r.2.2.2.2)) ∧
    Gen.ReaderArms.vtypeArms = verificationTypes ∧
    (((Gen.ReaderArms.frameArms.filter fun a => a.2.2.1 != jstr "bail").map
        fun a => (a.1, a.2.1, squash a.2.2.1, if a.2.2.2.1 = 0 then some a.2.2.2.2 else none)) =
      (frameTypes.map fun r => (r.1, r.2.1, squash r.2.2.2.1, r.2.2.2.2)) ∧
     ((Gen.ReaderArms.frameArms.filter fun a => a.2.2.1 == jstr "bail").map fun a => (a.1, a.2.1)) = [frameReserved] ∧
     Gen.ReaderArms.chopFrom = JvmsTables.chopFrom ∧ Gen.ReaderArms.appendFrom = JvmsTables.appendFrom) ∧
    (Gen.ReaderArms.elementArmsNamed = Gen.ReaderArms.elementArmsUnnamed ∧
     (Gen.ReaderArms.elementArmsNamed.map fun a =>
        (a.1, squash (if a.2.1 = jstr "Integer" then jstr "int" else a.2.1), getterKind a.2.2)) =
      (elementValueTags.map fun r => (r.1, squash r.2.1, squash r.2.2))) := by
  simp -index only [poolTags, verificationTypes, frameTypes, elementValueTags, jstr_ofList]
  exact ⟨by decide +kernel, by decide +kernel, by decide +kernel, by decide +kernel⟩

/-- the model's constant-pool entry reader, evaluated on every tag byte (followed by zeros): it accepts exactly the tags
the Rust `match` has an arm for, with the same entry kind, the same number of payload bytes and the same number of slots -/
theorem pool_arms_match_model (tag : Nat) (h : tag < 256) :
    poolProbe tag = (Gen.ReaderArms.poolArms.lookup tag).map fun a => (a.1, a.2.1.sum, a.2.2.2) :=
  Arms.pool_arms_match_model tag h

/-- the model's `readVType` / `readFrame`, all inputs: a verification type / frame the model reads at tag `t` is the variant
the Rust arm for `t` builds; where the Rust computes `offset_delta` from the tag so does the model, `chop` counts from the
same constant; tags the Rust bails on are errors of the model -/
theorem vtype_frame_arms_match_model (p : Pool) (l l' : Labels) (t : Nat) (s s' : Bytes) (ht : t < 256) :
    (∀ v, readVType p l (t :: s) = ok (v, l', s') → ∃ extra, Gen.ReaderArms.vtypeArms.lookup t = some (vtypeName v, extra)) ∧
    (Gen.ReaderArms.vtypeArms.lookup t = none → readVType p l (t :: s) = err) ∧
    (∀ d f, readFrame p l (t :: s) = ok ((d, f), l', s') →
      ∃ b, frameArm? t = some (frameName f, b) ∧ (∀ k, b = some k → d = t - k) ∧ (∀ k, f = .chop k → k = Gen.ReaderArms.chopFrom - t)) ∧
    (frameArm? t = none → readFrame p l (t :: s) = err) :=
  Arms.vtype_frame_arms_match_model p l l' t s s' ht

/-- the hand-written printing glue of the harness (`harness/src/c01facts.rs`, extracted by
`translate/harness_glue_to_lean.py`), which the correspondence run trusts: it prints every constructor of `enum Instruction`;
the opcode it prints for an operand-less instruction, a conditional branch or a field access is an opcode whose arm in
`read_code` builds exactly that constructor; the kind it prints for `ILoad`.. / `IStore`.. is the offset from `iload` /
`istore`; everything else is printed under the constructor's own name. So "the model answers `(simple 96)`" and "duke
delivers `IAdd`" mean the same instruction by the Rust source itself, not only by the harness author's reading. -/
theorem harness_glue_matches_reader :
    ((Gen.HarnessGlue.simple ++ Gen.HarnessGlue.branch ++ Gen.HarnessGlue.field ++ Gen.HarnessGlue.load ++
        Gen.HarnessGlue.store).map (·.1) ++ Gen.HarnessGlue.other.map (·.1)).length = Gen.ReaderArms.ctorNames.length ∧
    (Gen.ReaderArms.ctorNames.all fun n =>
      ((Gen.HarnessGlue.simple ++ Gen.HarnessGlue.branch ++ Gen.HarnessGlue.field ++ Gen.HarnessGlue.load ++
        Gen.HarnessGlue.store).map (·.1) ++ Gen.HarnessGlue.other.map (·.1)).contains n) = true ∧
    ((Gen.HarnessGlue.simple ++ Gen.HarnessGlue.branch ++ Gen.HarnessGlue.field).all
      fun e => (rArm e.2).ctor?.map ctorName == some e.1) = true ∧
    (Gen.HarnessGlue.simple.all fun e => (rArm e.2).isUnit) = true ∧
    (Gen.HarnessGlue.load.all fun e => (rArm (0x15 + e.2)).ctor?.map ctorName == some e.1) = true ∧
    (Gen.HarnessGlue.store.all fun e => (rArm (0x36 + e.2)).ctor?.map ctorName == some e.1) = true ∧
    (Gen.HarnessGlue.other.all fun e => squash e.1 == squash e.2) = true :=
  Arms.harness_glue_matches_reader

/-- non-vacuity: `0x60` is read as `IAdd`, `0x2c` as `ALoad` with index 2, `0xc4 0x84` as `IInc` with four operand bytes,
`0xca` (breakpoint) is an error -/
example : (rArm 0x60).ctor?.map ctorName = some (jstr "IAdd") ∧
    ((rArm 0x2c).ctor?.map ctorName, (rArm 0x2c).implicitIndex?) = (some (jstr "ALoad"), some 2) ∧
    ((rWideArm 0x84).ctor?.map ctorName, (rWideArm 0x84).operandBytes?) = (some (jstr "IInc"), some 4) ∧
    rArm 0xca = .bail := by decide

end GeneratedTables

end Thm.C01
