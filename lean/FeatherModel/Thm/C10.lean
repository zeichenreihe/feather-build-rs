import FeatherModel.Lemmas.Dummy
import FeatherModel.Lemmas.InnerNames
import FeatherModel.Lemmas.Mappings
import FeatherModel.Lemmas.JStrLit

/-!
# C10 — dummy-mapping filters remove exactly the placeholder entries
The documented rules as propositions (`PrefixedAt` … `ClassSurvives`), the property theorems, example sets. Models: `FeatherModel/Model/Dummy.lean` (`removeDummy` mirrors the nested `retain` closures of
`quill/src/action/remove_dummy.rs`, `insertDummy` those of `insert_dummy.rs`); the top-down executable specification the
models are proved equal to is `FeatherModel/Model/DummySpec.lean`. All statements hold for every mapping set / diff.
-/

namespace Thm.C10
open Dummy DummySpec DummyDiff DummyList

/-- the name in namespace `ns` is present and starts with `pfx` -/
def PrefixedAt (names : Names) (ns : Nat) (pfx : JStr) : Prop := ∃ n, names[ns]? = some (some n) ∧ pfx <+: n
/-- the name in namespace `ns` is present and equal to `s` -/
def NamedAt (names : Names) (ns : Nat) (s : JStr) : Prop := names[ns]? = some (some s)

def ParamSurvives (ns : Nat) (p : Param) : Prop :=
  p.doc ≠ none ∨ ¬ PrefixedAt p.names ns (jstr "p_")

def FieldSurvives (ns : Nat) (f : Field) : Prop :=
  f.doc ≠ none ∨ ¬ PrefixedAt f.names ns (jstr "f_")

def MethodSurvives (ns : Nat) (m : Method) : Prop :=
  m.doc ≠ none ∨ (∃ e ∈ m.params, ParamSurvives ns e.2) ∨
    ¬ (PrefixedAt m.names ns (jstr "m_") ∨ NamedAt m.names ns (jstr "<init>") ∨ NamedAt m.names ns (jstr "<clinit>"))

def ClassSurvives (ns : Nat) (c : Class) : Prop :=
  c.doc ≠ none ∨ (∃ e ∈ c.fields, FieldSurvives ns e.2) ∨ (∃ e ∈ c.methods, MethodSurvives ns e.2) ∨
    ¬ (PrefixedAt c.names ns (jstr "C_") ∨ PrefixedAt c.names ns (jstr "net/minecraft/unmapped/C_"))

private theorem prefixed_iff {names : Names} {ns : Nat} {pfx : JStr} :
    nameIs names ns (startsWith pfx) = true ↔ PrefixedAt names ns pfx := by
  rw [DummyRemove.nameIs_iff]
  unfold PrefixedAt
  simp only [DummyRemove.startsWith_iff]

/-- the executable rule of the specification is the documented parameter rule -/
theorem survivesParam_iff (ns : Nat) (p : Param) : survivesParam ns p = true ↔ ParamSurvives ns p := by
  unfold survivesParam ParamSurvives dummyParamName
  rw [← DummyRemove.pfxP_eq, ← prefixed_iff]
  simp only [Bool.or_eq_true, Bool.not_eq_true', Option.isSome_iff_ne_none, Bool.not_eq_true]

theorem survivesField_iff (ns : Nat) (f : Field) : survivesField ns f = true ↔ FieldSurvives ns f := by
  unfold survivesField FieldSurvives dummyFieldName
  rw [← DummyRemove.pfxF_eq, ← prefixed_iff]
  simp only [Bool.or_eq_true, Bool.not_eq_true', Option.isSome_iff_ne_none, Bool.not_eq_true]

private theorem named_iff {names : Names} {ns : Nat} {s : JStr} :
    nameIs names ns (· == s) = true ↔ NamedAt names ns s := by
  rw [DummyRemove.nameIs_iff]
  exact ⟨fun ⟨n, hn, h⟩ => eq_of_beq h ▸ hn, fun h => ⟨s, h, beq_self_eq_true s⟩⟩

private theorem dummyMethod_iff {names : Names} {ns : Nat} :
    nameIs names ns dummyMethodName = true ↔
      (PrefixedAt names ns (jstr "m_") ∨ NamedAt names ns (jstr "<init>") ∨ NamedAt names ns (jstr "<clinit>")) := by
  rw [← DummyRemove.pfxM_eq, ← DummyRemove.nameInit_eq, ← DummyRemove.nameClinit_eq, ← prefixed_iff, ← named_iff,
    ← named_iff, ← or_assoc, ← Bool.or_eq_true, ← Bool.or_eq_true, ← DummyRemove.nameIs_or, ← DummyRemove.nameIs_or]
  rfl

private theorem dummyClass_iff {names : Names} {ns : Nat} :
    nameIs names ns dummyClassName = true ↔
      (PrefixedAt names ns (jstr "C_") ∨ PrefixedAt names ns (jstr "net/minecraft/unmapped/C_")) := by
  rw [← DummyRemove.pfxC_eq, ← DummyRemove.pfxNMU_eq, ← prefixed_iff, ← prefixed_iff, ← Bool.or_eq_true,
    ← DummyRemove.nameIs_or]
  rfl

theorem survivesMethod_iff (ns : Nat) (m : Method) : survivesMethod ns m = true ↔ MethodSurvives ns m := by
  unfold survivesMethod MethodSurvives
  rw [← dummyMethod_iff]
  simp only [Bool.or_eq_true, Bool.not_eq_true', Option.isSome_iff_ne_none, Bool.not_eq_true, List.any_eq_true,
    survivesParam_iff, or_assoc]

theorem survivesClass_iff (ns : Nat) (c : Class) : survivesClass ns c = true ↔ ClassSurvives ns c := by
  unfold survivesClass ClassSurvives
  rw [← dummyClass_iff]
  simp only [Bool.or_eq_true, Bool.not_eq_true', Option.isSome_iff_ne_none, Bool.not_eq_true, List.any_eq_true,
    survivesField_iff, survivesMethod_iff, or_assoc]

/-- **Functional specification.** The children-first code computes: keep exactly the classes whose rule (evaluated on the
input entry) holds, in their original order; every survivor is returned with the same key, names and comment, its
fields filtered by the field rule (surviving fields are returned as they are), its methods filtered by the method rule,
every surviving method with the same key, descriptor, names and comment and exactly its surviving parameters.
Namespaces and the top-level comment are untouched; the call fails exactly when the namespace name is unknown. -/
theorem removeDummy_spec (m : Mappings) (nsName : JStr) :
    removeDummy m nsName = (m.getNamespace nsName).map (fun ns =>
      { ns := m.ns, doc := m.doc,
        classes := (m.classes.filter (fun e => survivesClass ns e.2)).map (fun e => (e.1,
          { names := e.2.names, doc := e.2.doc,
            fields := e.2.fields.filter (fun f => survivesField ns f.2),
            methods := (e.2.methods.filter (fun me => survivesMethod ns me.2)).map (fun me => (me.1,
              { desc := me.2.desc, names := me.2.names, doc := me.2.doc,
                params := me.2.params.filter (fun p => survivesParam ns p.2) })) })) }) :=
  DummyRemove.removeDummy_eq m nsName

/-- the chosen namespace is found by name: the first column with that name is inspected; unknown name = failure -/
theorem removeDummy_namespace (m : Mappings) (nsName : JStr) :
    (removeDummy m nsName = none ↔ nsName ∉ m.ns) ∧
    (∀ m', removeDummy m nsName = some m' → ∃ ns, m.getNamespace nsName = some ns ∧ m.ns[ns]? = some nsName) := by
  refine ⟨?_, fun m' h => ?_⟩
  · rw [removeDummy_spec, Option.map_eq_none_iff, Mappings.getNamespace_eq_none_iff]
  · obtain ⟨ns, hns, -⟩ := DummyRemove.removeDummy_some h
    exact ⟨ns, hns, Mappings.getNamespace_some hns⟩

/-- membership form of the specification, with the documented rule: an entry is in the result iff the rule holds for the
input entry under the same key, and it is that entry pruned -/
theorem removeDummy_class_mem_iff {m m' : Mappings} {nsName : JStr} {ns : Nat}
    (hns : m.getNamespace nsName = some ns) (h : removeDummy m nsName = some m') (k : JStr) (c' : Class) :
    (k, c') ∈ m'.classes ↔ ∃ c, (k, c) ∈ m.classes ∧ ClassSurvives ns c ∧ c' = pruneClass ns c := by
  obtain ⟨ns', hns', rfl⟩ := DummyRemove.removeDummy_some h
  cases hns.symm.trans hns'
  simp only [DummyRemove.removeSpecAt_def, mem_pruneBy, survivesClass_iff]

/-- inside a surviving class: fields are kept iff their rule holds and are returned unchanged; methods are kept iff their
rule holds and are returned pruned; inside a surviving method parameters are kept iff their rule holds, unchanged -/
theorem removeDummy_member_mem_iff (ns : Nat) (c : Class) :
    (pruneClass ns c).names = c.names ∧ (pruneClass ns c).doc = c.doc ∧
    (∀ k f, (k, f) ∈ (pruneClass ns c).fields ↔ (k, f) ∈ c.fields ∧ FieldSurvives ns f) ∧
    (∀ k me', (k, me') ∈ (pruneClass ns c).methods ↔
      ∃ me, (k, me) ∈ c.methods ∧ MethodSurvives ns me ∧ me' = pruneMethod ns me) ∧
    (∀ me : Method, (pruneMethod ns me).desc = me.desc ∧ (pruneMethod ns me).names = me.names ∧
      (pruneMethod ns me).doc = me.doc ∧
      ∀ k p, (k, p) ∈ (pruneMethod ns me).params ↔ (k, p) ∈ me.params ∧ ParamSurvives ns p) := by
  refine ⟨rfl, rfl, ?_, ?_, ?_⟩
  · intro k f
    simp only [pruneClass, List.mem_filter, survivesField_iff]
  · intro k me'
    rw [DummyRemove.pruneClass_def]
    simp only [mem_pruneBy, survivesMethod_iff]
  · intro me
    refine ⟨rfl, rfl, rfl, ?_⟩
    intro k p
    simp only [pruneMethod, List.mem_filter, survivesParam_iff]

/-- survivors keep their relative order at every level (`IndexMap::retain`) -/
theorem removeDummy_order {m m' : Mappings} {nsName : JStr} (h : removeDummy m nsName = some m') :
    (m'.classes.map Prod.fst).Sublist (m.classes.map Prod.fst) ∧
    ∀ ns c, ((pruneClass ns c).fields).Sublist c.fields ∧
      (((pruneClass ns c).methods).map Prod.fst).Sublist (c.methods.map Prod.fst) ∧
      ∀ me : Method, ((pruneMethod ns me).params).Sublist me.params := by
  obtain ⟨ns, -, rfl⟩ := DummyRemove.removeDummy_some h
  refine ⟨pruneBy_keys_sublist _ _ _, fun ns c => ⟨List.filter_sublist, ?_, fun me => List.filter_sublist⟩⟩
  rw [DummyRemove.pruneClass_def]
  exact pruneBy_keys_sublist _ _ _

/-- applying the filter twice is the same as applying it once -/
theorem removeDummy_idem {m m' : Mappings} {nsName : JStr} (h : removeDummy m nsName = some m') :
    removeDummy m' nsName = some m' := by
  obtain ⟨ns, hns, rfl⟩ := DummyRemove.removeDummy_some h
  have hns' : (removeSpecAt m ns).getNamespace nsName = some ns := hns
  rw [DummyRemove.removeDummy_eq, removeSpec, hns', Option.map_some, DummyRemove.removeSpecAt_idem]

/-- a retained child keeps all its ancestors: a surviving field / method / parameter of an input class is found in the
output below its (surviving) class and method -/
theorem child_kept_parent_kept {m m' : Mappings} {nsName : JStr} {ns : Nat}
    (hns : m.getNamespace nsName = some ns) (h : removeDummy m nsName = some m')
    {k : JStr} {c : Class} (hc : (k, c) ∈ m.classes) :
    (∀ fk f, (fk, f) ∈ c.fields → FieldSurvives ns f →
      ∃ c', (k, c') ∈ m'.classes ∧ (fk, f) ∈ c'.fields) ∧
    (∀ mk me, (mk, me) ∈ c.methods → MethodSurvives ns me →
      ∃ c', (k, c') ∈ m'.classes ∧ (mk, pruneMethod ns me) ∈ c'.methods) ∧
    (∀ mk me pk p, (mk, me) ∈ c.methods → (pk, p) ∈ me.params → ParamSurvives ns p →
      ∃ c' me', (k, c') ∈ m'.classes ∧ (mk, me') ∈ c'.methods ∧ (pk, p) ∈ me'.params) := by
  have hmem := removeDummy_class_mem_iff hns h k (pruneClass ns c)
  have hM := removeDummy_member_mem_iff ns c
  refine ⟨?_, ?_, ?_⟩
  · intro fk f hf hs
    have hcs : ClassSurvives ns c := Or.inr (Or.inl ⟨(fk, f), hf, hs⟩)
    exact ⟨pruneClass ns c, hmem.mpr ⟨c, hc, hcs, rfl⟩, (hM.2.2.1 fk f).mpr ⟨hf, hs⟩⟩
  · intro mk me hme hs
    have hcs : ClassSurvives ns c := Or.inr (Or.inr (Or.inl ⟨(mk, me), hme, hs⟩))
    exact ⟨pruneClass ns c, hmem.mpr ⟨c, hc, hcs, rfl⟩, (hM.2.2.2.1 mk _).mpr ⟨me, hme, hs, rfl⟩⟩
  · intro mk me pk p hme hp hs
    have hms : MethodSurvives ns me := Or.inr (Or.inl ⟨(pk, p), hp, hs⟩)
    have hcs : ClassSurvives ns c := Or.inr (Or.inr (Or.inl ⟨(mk, me), hme, hms⟩))
    exact ⟨pruneClass ns c, pruneMethod ns me, hmem.mpr ⟨c, hc, hcs, rfl⟩, (hM.2.2.2.1 mk _).mpr ⟨me, hme, hms, rfl⟩,
      ((hM.2.2.2.2 me).2.2.2 pk p).mpr ⟨hp, hs⟩⟩

private theorem not_prefixedAt {names : Names} {ns : Nat} {pfx : JStr} {o : Option JStr} (h : names[ns]? = some o)
    (ho : ∀ n, o = some n → ¬ pfx <+: n) : ¬ PrefixedAt names ns pfx := by
  rintro ⟨n, hn, hp⟩
  rw [h] at hn
  exact ho n (Option.some.inj hn) hp

private theorem not_namedAt {names : Names} {ns : Nat} {s : JStr} {o : Option JStr} (h : names[ns]? = some o)
    (ho : o ≠ some s) : ¬ NamedAt names ns s := by
  intro hn
  unfold NamedAt at hn
  rw [h] at hn
  exact ho (Option.some.inj hn)

/-- an entry whose name is absent in the chosen namespace is never a placeholder -/
theorem absent_survives (ns : Nat) :
    (∀ p : Param, p.names[ns]? = some none → ParamSurvives ns p) ∧
    (∀ f : Field, f.names[ns]? = some none → FieldSurvives ns f) ∧
    (∀ me : Method, me.names[ns]? = some none → MethodSurvives ns me) ∧
    (∀ c : Class, c.names[ns]? = some none → ClassSurvives ns c) :=
  ⟨fun _ h => .inr (not_prefixedAt h nofun), fun _ h => .inr (not_prefixedAt h nofun),
   fun _ h => .inr (.inr (not_or.mpr ⟨not_prefixedAt h nofun, not_or.mpr ⟨not_namedAt h nofun, not_namedAt h nofun⟩⟩)),
   fun _ h => .inr (.inr (.inr (not_or.mpr ⟨not_prefixedAt h nofun, not_prefixedAt h nofun⟩)))⟩

/-- prefix means prefix: a name that does not *start* with a placeholder prefix survives, wherever else the prefix text
occurs in it (e.g. `aC_1`, `xf_`, `<init>x`) -/
theorem prefix_means_prefix (ns : Nat) (n : JStr) :
    (∀ p : Param, p.names[ns]? = some (some n) → ¬ jstr "p_" <+: n → ParamSurvives ns p) ∧
    (∀ f : Field, f.names[ns]? = some (some n) → ¬ jstr "f_" <+: n → FieldSurvives ns f) ∧
    (∀ me : Method, me.names[ns]? = some (some n) → ¬ jstr "m_" <+: n → n ≠ jstr "<init>" → n ≠ jstr "<clinit>" →
      MethodSurvives ns me) ∧
    (∀ c : Class, c.names[ns]? = some (some n) → ¬ jstr "C_" <+: n → ¬ jstr "net/minecraft/unmapped/C_" <+: n →
      ClassSurvives ns c) := by
  have pre : ∀ {pfx : JStr}, ¬ pfx <+: n → ∀ n', some n = some n' → ¬ pfx <+: n' := fun hp _ e => Option.some.inj e ▸ hp
  have ne : ∀ {s : JStr}, n ≠ s → some n ≠ some s := fun hs e => hs (Option.some.inj e)
  exact ⟨fun _ h hp => .inr (not_prefixedAt h (pre hp)), fun _ h hp => .inr (not_prefixedAt h (pre hp)),
    fun _ h hp hi hc => .inr (.inr (not_or.mpr ⟨not_prefixedAt h (pre hp),
      not_or.mpr ⟨not_namedAt h (ne hi), not_namedAt h (ne hc)⟩⟩)),
    fun _ h h1 h2 => .inr (.inr (.inr (not_or.mpr ⟨not_prefixedAt h (pre h1), not_prefixedAt h (pre h2)⟩)))⟩

/-- one class with one field and one method with one parameter, named as given in namespace `named`.
`exNear` (names `aC_1`, `xf_`, `<init>x`, `ap_1`): nothing is removed; `exDummy` (real placeholder names): emptied. -/
def exSet (cls fld mth prm : String) : Mappings :=
  { ns := [jstr "official", jstr "named"]
    doc := none
    classes := [(jstr "a", {
      names := [some (jstr "a"), some (jstr cls)]
      doc := none
      fields := [((jstr "f", jstr "I"), { desc := jstr "I", names := [some (jstr "f"), some (jstr fld)], doc := none })]
      methods := [((jstr "m", jstr "(I)V"), {
        desc := jstr "(I)V"
        names := [some (jstr "m"), some (jstr mth)]
        doc := none
        params := [(0, { index := 0, names := [none, some (jstr prm)], doc := none })] })] })] }
def exNear : Mappings := exSet "aC_1" "xf_" "<init>x" "ap_1"
def exDummy : Mappings := exSet "net/minecraft/unmapped/C_1" "f_1" "<init>" "p_0"

example : removeDummy exNear (jstr "named") = some exNear := by
  simp -index only [exNear, exSet, jstr_ofList]
  open Mappings in decide +kernel
example : removeDummy exDummy (jstr "named") = some { exDummy with classes := [] } := by
  simp -index only [exDummy, exSet, jstr_ofList]
  open Mappings in decide +kernel
/-- only the chosen namespace is inspected: the placeholder names live in `named`, nothing happens for `official` -/
example : removeDummy exDummy (jstr "official") = some exDummy := by
  simp -index only [exDummy, exSet, jstr_ofList]
  open Mappings in decide +kernel
example : removeDummy exDummy (jstr "nope") = none := by decide +kernel
/-- the hypotheses of `removeDummy_class_mem_iff` / `child_kept_parent_kept` / `removeDummy_idem` are satisfiable -/
example : exNear.getNamespace (jstr "named") = some 1 ∧ removeDummy exNear (jstr "named") = some exNear ∧
    exNear.classes.map Prod.fst = [jstr "a"] := by
  simp -index only [exNear, exSet, jstr_ofList]
  open Mappings in decide +kernel

/-- **Functional specification** of the diff-side filter: the code computes the truth tables `leafRule` / `parentRule`
of `Model/DummySpec.lean` node by node, children first; top-level `info` and `javadoc` are untouched. -/
theorem insertDummy_spec (d : Diff) :
    insertDummy d = { info := d.info, doc := d.doc, classes := retainK specClass d.classes } :=
  DummyInsert.insertDummy_eq d

/-- membership form: the output node under key `k` is the rule applied to the input node under `k`; order is kept -/
theorem insertDummy_mem_iff (d : Diff) :
    (∀ k c', (k, c') ∈ (insertDummy d).classes ↔ ∃ c, (k, c) ∈ d.classes ∧ specClass k c = some c') ∧
    ((insertDummy d).classes.map Prod.fst).Sublist (d.classes.map Prod.fst) ∧
    (∀ k c c', specClass k c = some c' →
      (∀ fk f', (fk, f') ∈ c'.fields ↔ ∃ f, (fk, f) ∈ c.fields ∧ specField fk f = some f') ∧
      (∀ mk me', (mk, me') ∈ c'.methods ↔ ∃ me, (mk, me) ∈ c.methods ∧ specMethod mk me = some me') ∧
      (c'.fields.map Prod.fst).Sublist (c.fields.map Prod.fst) ∧
      (c'.methods.map Prod.fst).Sublist (c.methods.map Prod.fst)) ∧
    (∀ k me me', specMethod k me = some me' →
      (∀ pk p', (pk, p') ∈ me'.params ↔ ∃ p, (pk, p) ∈ me.params ∧ specParam pk p = some p') ∧
      (me'.params.map Prod.fst).Sublist (me.params.map Prod.fst)) := by
  rw [insertDummy_spec]
  refine ⟨fun k c' => mem_retainK, retainK_keys_sublist _ _, ?_, ?_⟩
  · intro k c c' h
    obtain ⟨i, _, rfl⟩ := Option.map_eq_some_iff.mp h
    exact ⟨fun _ _ => mem_retainK, fun _ _ => mem_retainK, retainK_keys_sublist _ _, retainK_keys_sublist _ _⟩
  · intro k me me' h
    obtain ⟨i, _, rfl⟩ := Option.map_eq_some_iff.mp h
    exact ⟨fun _ _ => mem_retainK, retainK_keys_sublist _ _⟩

/-- the rules, read off the truth tables. `ph` is the placeholder of the node, `ch` = "a child remains".
1. a removal becomes an edit back to the placeholder (if the node is kept at all);
2. an addition of a field / parameter is always dropped;
3. an addition of a method / class is kept (as an addition) iff children remain;
4. `None` and `Edit` are never rewritten;
5. a leaf is dropped iff it is an addition or (after the rewrite) changes neither name nor comment;
6. a method / class is dropped iff no child remains and it is an addition or changes neither name nor comment;
7. the comment action of a field is never touched (the other levels copy `doc` the same way, by definition of `spec…`). -/
theorem insertDummy_rules (ph : JStr) (doc : Action JStr) (ch : Bool) :
    (∀ a i, (leafRule ph (.remove a) doc = some i ∨ parentRule ph (.remove a) doc ch = some i) → i = .edit a ph) ∧
    (∀ b, leafRule ph (.add b) doc = none) ∧
    (∀ b, parentRule ph (.add b) doc ch = if ch then some (.add b) else none) ∧
    (∀ info i, (∀ a, info ≠ .remove a) → (leafRule ph info doc = some i ∨ parentRule ph info doc ch = some i) → i = info) ∧
    (∀ info, leafRule ph info doc = none ↔
      ((∃ b, info = .add b) ∨ ((validate ph info).2.isDiff = false ∧ doc.isDiff = false))) ∧
    (∀ info, parentRule ph info doc ch = none ↔
      (ch = false ∧ ((∃ b, info = .add b) ∨ ((validate ph info).2.isDiff = false ∧ doc.isDiff = false)))) ∧
    (∀ (k : MKey) (f f' : FDiff), specField k f = some f' → f'.doc = f.doc) := by
  refine ⟨?_, fun _ => rfl, fun _ => rfl, ?_, fun _ => DummyInsert.leafRule_eq_none,
    fun _ => DummyInsert.parentRule_eq_none, ?_⟩
  · rintro a i (h | h)
    · exact DummyInsert.leafRule_eq_some h
    · exact DummyInsert.parentRule_eq_some h
  · rintro info i hne (h | h)
    · exact (DummyInsert.leafRule_eq_some h).trans (DummyInsert.validate_snd hne)
    · exact (DummyInsert.parentRule_eq_some h).trans (DummyInsert.validate_snd hne)
  · intro k f f' h
    obtain ⟨i, _, rfl⟩ := Option.map_eq_some_iff.mp h
    rfl

/-- the placeholders of parameters and classes: parameter = `p_<index>`, which `remove_dummy` recognises as a placeholder;
class = the simple inner name of the key, the key itself when it is not an inner-class name. (Fields and methods use the
key's name, by definition of `specField` / `specMethod`.) -/
theorem placeholders :
    (∀ k : Nat, paramPlaceholder k = jstr "p_" ++ decimal k ∧ dummyParamName (paramPlaceholder k) = true) ∧
    (∀ key p i, InnerNames.split key = some (p, i) → classPlaceholder key = i ∧ key = p ++ InnerNames.DOLLAR :: i) ∧
    (∀ key, InnerNames.split key = none → classPlaceholder key = key) := by
  refine ⟨?_, ?_, ?_⟩
  · intro k
    refine ⟨by rw [← DummyRemove.pfxP_eq]; rfl, ?_⟩
    unfold dummyParamName paramPlaceholder
    rw [DummyRemove.startsWith_iff]
    exact List.prefix_append _ _
  · intro key p i h
    exact ⟨by simp [classPlaceholder, h], (InnerNames.split_some h).1⟩
  · intro key h
    simp [classPlaceholder, h]

example : paramPlaceholder 12 = jstr "p_12" := by decide +kernel
example : classPlaceholder (jstr "a/Outer$Inner") = jstr "Inner" := by decide +kernel
example : classPlaceholder (jstr "a/Outer") = jstr "a/Outer" := by decide +kernel

/-- applying the diff-side filter twice is the same as applying it once -/
theorem insertDummy_idem (d : Diff) : insertDummy (insertDummy d) = insertDummy d := by
  rw [DummyInsert.insertDummy_eq, DummyInsert.insertDummy_eq, DummyInsert.insertSpec_idem]

/-- a removal of `a` under key `f_7` whose old name *is* the placeholder becomes the no-op `Edit(f_7, f_7)` and is
dropped; a removal of a real name becomes an edit back to `f_7`; an added field is dropped; an added method with a
surviving parameter stays an addition -/
def exDiff : Diff :=
  { info := .none
    doc := .none
    classes := [(jstr "p/K$In", {
      info := .remove (jstr "p/Named")
      doc := .none
      fields := [((jstr "f_7", jstr "I"), { info := .remove (jstr "f_7"), doc := .none }),
                 ((jstr "f_8", jstr "I"), { info := .remove (jstr "count"), doc := .none }),
                 ((jstr "f_9", jstr "I"), { info := .add (jstr "x"), doc := .add (jstr "d") })]
      methods := [((jstr "m_1", jstr "(I)V"), {
        info := .add (jstr "run")
        doc := .none
        params := [(3, { info := .remove (jstr "size"), doc := .none })] })] })] }

def exDiffOut : Diff :=
  { info := .none
    doc := .none
    classes := [(jstr "p/K$In", {
      info := .edit (jstr "p/Named") (jstr "In")
      doc := .none
      fields := [((jstr "f_8", jstr "I"), { info := .edit (jstr "count") (jstr "f_8"), doc := .none })]
      methods := [((jstr "m_1", jstr "(I)V"), {
        info := .add (jstr "run")
        doc := .none
        params := [(3, { info := .edit (jstr "size") (jstr "p_3"), doc := .none })] })] })] }

example : insertDummy exDiff = exDiffOut := by
  simp -index only [exDiff, exDiffOut, jstr_ofList]
  decide +kernel

end Thm.C10
