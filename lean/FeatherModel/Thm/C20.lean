import FeatherModel.Lemmas.RawWriteRead
import FeatherModel.Lemmas.RawFuel
import FeatherModel.Lemmas.RawAttrLen
import FeatherModel.Lemmas.RawPoolCount
import FeatherModel.Lemmas.RawLayoutsJvms
import FeatherModel.Gen.RawLayouts

/-!
# C20 — raw_class_file reads and writes class files byte-exactly

Model: `FeatherModel/Model/RawLayout.lean` interprets a *layout environment* (a list of struct / enum layouts) the way
`raw_class_file/src/macros.rs` expands a `notation!` block into `_write`, `_read`, `_len`.  The environment of the real
crate, `Gen.RawLayouts.env`, is regenerated from `raw_class_file/src/lib.rs` by `translate/notation_to_lean.py` before
this file is checked, so the instantiated theorems below are statements about the tables the code contains *now*.

Part 1 (generic) holds for **every** layout environment, in particular for every well-formed one (`WF`, decidable);
no hypothesis on the environment is needed; it covers the three vector forms of the DSL (`[count type]`, `{len}`,
`{len; slots}`).  Part 2 instantiates: the translated environment is well-formed and conforms to the JVMS tables of
`FeatherModel/Spec/JvmsRaw.lean`, including the two-slot rule for long and double constant-pool entries (§4.4.5).
The `_regression` theorems evaluate, over the regenerated tables, the inputs on which the code went wrong before /repo
commits 5d79841 (NestMembers `attribute_length`), 94d3d58 (MethodParameters `parameters_count`) and the `fix:` commit for
C20-long-double-pool (constant-pool accounting of long/double entries).

Besides the theorems the file holds the names of the instantiation (`genv`, `classFileTy`, `attrTy`; the variant lists
`attrVariants`, `cpVariants` are in `Lemmas/RawLayoutsJvms.lean`) and the example class values the regression theorems and
the closing `example` are about.
-/

namespace Thm.C20
open RawLayout JvmsRaw

/-! ## Part 1 — every layout environment -/

/-- `_len()` announces the number of bytes `_write` produces: whenever writing succeeds (no arithmetic panic), the
mathematical length is the output length, and `_len()` (a `u32`) returns it if it fits. -/
theorem len_eq_write_length (env : Env) (ty : Ty) (v : Val) (b : Bytes) (h : writeV env ty v = some b) :
    lenV env ty v = b.length ∧ (b.length < 4294967296 → len32 (lenV env ty v) = some b.length) := by
  have := RawLayout.len_eq_write_length env ty v b h
  exact ⟨this.symm, fun hl => by simp [len32, ← this, hl]⟩

/-- **read ∘ write.** A value in the domain `fitsV` (counts fit their count type, every variant's written tag
dispatches back to that variant — for attributes: the name index points to the Utf8 entry with the attribute's name and
to no earlier variant's —, `{len}` and `nowrite` expressions re-evaluate to what the value holds, literal constants have
their literal value) that `_write` serialises to `b` is read back from `b ++ r` by the Rust reader as exactly that value
with `r` left untouched, for every fuel above the nesting depth of the value. -/
theorem read_write (env : Env) (id : Nat) (pool : Pool) (v : Val) (b r : Bytes) (fuel : Nat)
    (hd : depthV v ≤ fuel) (hf : fitsV env pool [] (.ref id) v = true) (hw : writeV env (.ref id) v = some b) :
    read env fuel id pool (b ++ r) = .ok (v, r) :=
  RawLayout.read_write false env id pool v b r fuel hd hf hw

/-- what `_write` produces for a value of the domain satisfies `ConstsAgree` (the hypothesis of `write_read` is
satisfiable by every canonical encoding) -/
theorem consts_agree_of_write (env : Env) (id : Nat) (pool : Pool) (v : Val) (b r : Bytes) (fuel : Nat)
    (hd : depthV v ≤ fuel) (hf : fitsV env pool [] (.ref id) v = true) (hw : writeV env (.ref id) v = some b) :
    constsAgree env fuel id pool (b ++ r) = true :=
  constsAgree_iff.mpr ⟨_, RawLayout.read_write true env id pool v b r fuel hd hf hw⟩

/-- **write ∘ read.** If the Rust reader returns `(v, r)` on the bytes `b` and `b` satisfies `ConstsAgree` (every
constant the reader does not verify — the computed `attribute_length`s, `constant_pool_count` — and every computed tag
in `b` is the one `_write` recomputes), then writing `v` succeeds and reproduces exactly the consumed prefix of `b`. -/
theorem write_read (env : Env) (id : Nat) (pool : Pool) (v : Val) (b r : Bytes) (fuel : Nat) (hb : IsBytes b)
    (hr : read env fuel id pool b = .ok (v, r)) (hc : constsAgree env fuel id pool b = true) :
    ∃ b', writeV env (.ref id) v = some b' ∧ b' ++ r = b := by
  obtain ⟨x, hx⟩ := constsAgree_iff.mp hc
  cases (readStrict_le_read env fuel id pool b x hx).symm.trans hr
  exact readStrict_wr env fuel id pool b v r hb hx

/-- the checking reader only ever rejects more: whatever it returns, the Rust reader returns too -/
theorem strict_refines_read (env : Env) (fuel id : Nat) (pool : Pool) (b : Bytes) (x : Val × Bytes)
    (h : readStrict env fuel id pool b = .ok x) : read env fuel id pool b = .ok x :=
  readStrict_le_read env fuel id pool b x h

/-- **fuel independence**: fuel only bounds the nesting of definitions; any answer of the reader other than "out of
fuel" (a value, an error, a panic) is its answer for every larger fuel (`read_write` gives a sufficient fuel for every
written value: its nesting depth) -/
theorem read_fuel_independent (env : Env) (f g : Nat) (h : f ≤ g) (id : Nat) (pool : Pool) (b : Bytes)
    (hne : read env f id pool b ≠ .fuel) : read env g id pool b = read env f id pool b :=
  readG_fuel_independent false env f g h id pool b hne

/-! ## Part 2 — the layouts of `raw_class_file/src/lib.rs` -/

abbrev genv : Env := Gen.RawLayouts.env
abbrev classFileTy : Ty := .ref Gen.RawLayouts.classFileId
abbrev attrTy : Ty := .ref Gen.RawLayouts.attributeInfoId

/-- every translated layout is well-formed: `WF` records what the macro and rustc guarantee of a `notation!` block that
compiles; no theorem of Part 1 has it as a hypothesis -/
theorem layouts_wf : WF genv = true := by decide +kernel

/-- `WF` is not vacuous: a dangling reference, a read-side expression over an unbound name, a mislabelled literal
constant and a slot-counted vector of something that is not a pool entry are rejected -/
theorem wf_rejects_ill_formed :
    WF ⟨[.struct 0 ⟨[], [⟨1, .field (.ref 7) false, []⟩]⟩], 0, []⟩ = false ∧
    WF ⟨[.struct 0 ⟨[], [⟨1, .field (.vecLen ⟨16, .var 9⟩ (.prim .u8)) false, []⟩]⟩], 0, []⟩ = false ∧
    WF ⟨[.struct 0 ⟨[⟨1, .u8, ⟨8, .lit 3⟩, none⟩], []⟩], 0, []⟩ = false ∧
    WF ⟨[.struct 0 ⟨[⟨1, .u8, ⟨8, .lit 3⟩, some 3⟩], [⟨2, .field (.vecSlots ⟨8, .var 1⟩ [] (.prim .u8)) false, []⟩]⟩], 0, []⟩
      = false := by decide

/-- `AttributeInfo` is translated as an enum with a `u2` tag, whose variants are `attrVariants` -/
theorem attr_def_check :
    (match genv.defs[Gen.RawLayouts.attributeInfoId]? with
     | some (.enum _ _ .u16 vs _) => vs == attrVariants
     | _ => false) = true := by decide +kernel

/-- every variant of `AttributeInfo` has one of the shapes for which `attrFramed_of_shape` shows the written
`attribute_length` right -/
theorem attr_shapes_check : attrVariants.all attrLenShape = true := by decide +kernel

/-- **attribute_length (full strength: every attribute kind).**  For every value of every variant of `AttributeInfo`
that `_write` serialises (total `_len()` below 4 GiB), the u4 written after `attribute_name_index` is exactly the
number of bytes that follow it in the attribute — the JVMS meaning of `attribute_length`. -/
theorem attribute_length (k : Nat) (v : Variant) (fs : List Val) (b : Bytes)
    (hv : attrVariants[k]? = some v)
    (hw : writeV genv attrTy (.node k fs) = some b) (hl : lenV genv attrTy (.node k fs) < 4294967296) :
    attrFramed b = true := by
  have hshape : attrLenShape v = true := List.all_eq_true.mp attr_shapes_check v (List.mem_of_getElem? hv)
  have hdef := attr_def_check
  split at hdef
  · rename_i nm tn vs fb hd
    simp only [beq_iff_eq] at hdef
    subst hdef
    exact attrFramed_of_shape hd hv hshape hw hl
  · cases hdef

/-- regression for /repo 5d79841: NestMembers with one class is written with `attribute_length` 4 = 2 + 2·1 in front of
its 4-byte body (the code before that commit wrote 2) -/
theorem attribute_length_nestmembers_regression :
    (attrVariants[25]?).map (·.guard) = some (some (jstr "NestMembers")) ∧
    writeV genv attrTy (.node 25 [.num 1, .list [.num 7]]) = some [0, 1, 0, 0, 0, 4, 0, 1, 0, 7] ∧
    attrFramed [0, 1, 0, 0, 0, 4, 0, 1, 0, 7] = true ∧ attrFramed [0, 1, 0, 0, 0, 2, 0, 1, 0, 7] = false := by
  decide +kernel

/-- **layouts = JVMS tables (full strength).**  Every translated struct and every variant of every translated enum puts
on the wire exactly the items the JVMS lists — same names, same order, same widths, every table with the JVMS width of
its count item, the constant pool as a table counted in slots; attribute variants are guarded by the attribute name
they are called after; `AttributeInfo` has a u2 tag; and the slot table of the implementation (`CpInfo::slots`) gives
two slots to exactly the variants written with the tags of CONSTANT_Long and CONSTANT_Double (§4.4.5). -/
theorem layouts_jvms :
    Gen.RawLayouts.defs.all (defConforms Gen.RawLayouts.nameCodes) = true ∧ slotsConform cpVariants genv.wide = true :=
  layouts_checked.1

/-- every predefined attribute of the JVMS table has a variant -/
theorem attributes_covered : attrsCovered attrVariants = true := layouts_checked.2

/-- regression for /repo 94d3d58: `parameters_count` of MethodParameters (variant 20 of `AttributeInfo`) is a u1, as in JVMS
§4.7.24 -/
theorem method_parameters_count_regression :
    ∃ v ∈ attrVariants, v.guard = some (jstr "MethodParameters") ∧
      attrItems Gen.RawLayouts.nameCodes v = [.tbl (jstr "parameters") .u8 (.s (jstr "MethodParametersEntry"))] ∧
      assoc (jstr "MethodParameters") attrs = some (attrItems Gen.RawLayouts.nameCodes v) := by
  refine ⟨attrVariants[20]!, ?_⟩
  delta attrItems
  simp -index only [attrs, u2, tab, tabS, jstr_ofList]
  decide +kernel

/-- `ClassFile` is translated as a struct with the header shape `poolCountShape`: `constant_pool_count` is written as the
slots of the pool plus one -/
theorem class_def_check :
    (match genv.defs[Gen.RawLayouts.classFileId]? with
     | some (.struct _ body) => poolCountShape genv.wide body
     | _ => false) = true := by decide +kernel

/-- bytes 8–9 of every class file `_write` produces are `(pool_slots(constant_pool) + 1) as u16` -/
theorem pool_count_written (fs : List Val) (b : Bytes) (hw : writeV genv classFileTy (.node 0 fs) = some b) :
    ∃ es, fs[2]? = some (.list es) ∧ (b.drop 8).take 2 = be .u16 ((slotsAll genv.wide es + 1) % 65536) := by
  have hdef := class_def_check
  split at hdef
  · rename_i nm body hd
    exact pool_count_bytes genv genv.wide _ nm body fs b hd hdef hw
  · cases hdef

/-- **constant_pool_count (full strength: every pool, long/double entries included).**  The count written is the JVMS
count `1 + Σ slots` (as u16), where an entry written with tag 5 or 6 takes two slots (§4.1, §4.4.5). -/
theorem pool_count (fs : List Val) (b : Bytes) (hw : writeV genv classFileTy (.node 0 fs) = some b) :
    ∃ es, fs[2]? = some (.list es) ∧ (b.drop 8).take 2 = be .u16 (jvmsPoolCount cpVariants es % 65536) := by
  obtain ⟨es, h1, h2⟩ := pool_count_written fs b hw
  exact ⟨es, h1, by rw [← slotsAll_eq_jvms cpVariants genv.wide layouts_jvms.2 es]; exact h2⟩

/-- **constant-pool indices (full strength).**  `pool_get(pool, i)` (what `pool_has_utf8` looks an attribute name up
with) returns an entry iff `i` is that entry's JVMS constant-pool index: one more than the slots the entries in front
of it take up.  In particular index 0, the second index of a long/double entry and any index past the end name no entry
(`pool_index_regression`). -/
theorem pool_index (es : List Val) (i : Nat) (e : Val) :
    poolGet genv.wide es 1 i = some e ↔
      ∃ pre post, es = pre ++ e :: post ∧ i = jvmsPoolCount cpVariants pre := by
  simp only [poolGet_eq_some, ← slotsAll_eq_jvms cpVariants genv.wide layouts_jvms.2, Nat.add_comm]

/-- a class file of version 52.0 with access flags 0x21, no interfaces and no fields, and the given pool, methods and
attributes -/
def classOf (pool : List Val) (methods attrs : List Val) : Val :=
  .node 0 [.num 0, .num 52, .list pool, .num 33, .num 0, .num 0, .list [], .list [], .list methods, .list attrs]

/-- `p` holds of the bytes `_write` produces for the class value `c` (false if writing panics) -/
def writes (c : Val) (p : Bytes → Bool) : Bool :=
  match writeV genv classFileTy c with
  | some b => p b
  | none => false

def utf8Entry (s : String) : Val := .node Gen.RawLayouts.utf8Variant [.list ((jstr s).map Val.num)]

/-- regression for the `fix:` commit for C20-long-double-pool-write: a pool holding one `Long` (variant 7 of `CpInfo`; high
and low word) is in the round-trip domain and is written with the JVMS count 3 (the code before that commit wrote 2); the
output is a well-framed class file -/
theorem pool_count_regression :
    fitsV genv none [] classFileTy (classOf [.node 7 [.num 0, .num 1]] [] []) = true ∧
    jvmsPoolCount cpVariants [.node 7 [.num 0, .num 1]] = 3 ∧
    writes (classOf [.node 7 [.num 0, .num 1]] [] [])
      (fun b => (b.drop 8).take 2 == [0, 3] && Walk.classFile b) = true := by
  decide +kernel

/-- regression for the `fix:` commit for C20-long-double-pool-read: the JVMS-correct encoding of that class (count 3) is
well framed and the Rust reader returns the class with its one `Long` entry, consuming all input (the code before that
commit failed, taking the byte after the `Long` for the tag of a second entry); the encoding with
count 2, which ends in the middle of the `Long`, is rejected by the frame walker and by the reader -/
theorem pool_read_regression :
    Walk.classFile [202, 254, 186, 190, 0, 0, 0, 52, 0, 3, 5, 0, 0, 0, 0, 0, 0, 0, 1, 0, 33, 0, 0, 0, 0,
      0, 0, 0, 0, 0, 0, 0, 0] = true ∧
    read genv 8 Gen.RawLayouts.classFileId none [202, 254, 186, 190, 0, 0, 0, 52, 0, 3, 5, 0, 0, 0, 0, 0, 0, 0, 1, 0,
      33, 0, 0, 0, 0, 0, 0, 0, 0, 0, 0, 0, 0] = .ok (classOf [.node 7 [.num 0, .num 1]] [] [], []) ∧
    Walk.classFile [202, 254, 186, 190, 0, 0, 0, 52, 0, 2, 5, 0, 0, 0, 0, 0, 0, 0, 1, 0, 33, 0, 0, 0, 0,
      0, 0, 0, 0, 0, 0, 0, 0] = false ∧
    read genv 8 Gen.RawLayouts.classFileId none [202, 254, 186, 190, 0, 0, 0, 52, 0, 2, 5, 0, 0, 0, 0, 0, 0, 0, 1, 0,
      33, 0, 0, 0, 0, 0, 0, 0, 0, 0, 0, 0, 0] = .err := by
  decide +kernel

/-- a class whose pool holds long/double entries (variants 7 and 8 of `CpInfo`) first, last, adjacent and in front of the
Utf8 entries naming its attributes: `Deprecated` (variant 13 of `AttributeInfo`) at JVMS index 3, `Synthetic` (variant 6) at
index 8 -/
def wideClass : Val :=
  classOf [.node 7 [.num 0, .num 1], utf8Entry "Deprecated", .node 8 [.num 2, .num 3], .node 8 [.num 4, .num 5],
    utf8Entry "Synthetic", .node 7 [.num 6, .num 7]] [] [.node 13 [.num 3], .node 6 [.num 8]]

/-- regression for attribute names behind long/double entries: `wideClass` is in the round-trip domain, is written with
count 11 = 1 + 2 + 1 + 2 + 2 + 1 + 2, its output is well framed, is read back to the same value and satisfies
`ConstsAgree`; the indices 0, 2, 5, 7, 10 (second slots of the long/double entries) and 11 name no entry, index 3 names
the entry after the `Long` -/
theorem pool_index_regression :
    fitsV genv none [] classFileTy wideClass = true ∧
    writes wideClass (fun b => (b.drop 8).take 2 == [0, 11] && Walk.classFile b &&
      decide (read genv 5 Gen.RawLayouts.classFileId none b = .ok (wideClass, [])) &&
      constsAgree genv 5 Gen.RawLayouts.classFileId none b) = true ∧
    (match wideClass with
     | .node _ (_ :: _ :: .list es :: _) =>
       [0, 2, 5, 7, 10, 11].all (fun i => (poolGet genv.wide es 1 i).isNone) &&
       decide (poolGet genv.wide es 1 3 = some (utf8Entry "Deprecated"))
     | _ => false) = true := by
  decide +kernel

/-- the classes on which the NestMembers and MethodParameters defects showed (a NestMembers attribute, variant 25 of
`AttributeInfo`, with one class; a method with an empty MethodParameters attribute, variant 20) are in the round-trip domain
and their output is a well-framed class file -/
theorem jvms_frame_regression :
    fitsV genv none [] classFileTy (classOf [utf8Entry "NestMembers"] [] [.node 25 [.num 1, .list [.num 1]]]) = true ∧
    writes (classOf [utf8Entry "NestMembers"] [] [.node 25 [.num 1, .list [.num 1]]])
      (fun b => Walk.classFile b) = true ∧
    fitsV genv none [] classFileTy (classOf [utf8Entry "MethodParameters"]
      [.node 0 [.num 0, .num 0, .num 0, .list [.node 20 [.num 1, .list []]]]] []) = true ∧
    writes (classOf [utf8Entry "MethodParameters"]
      [.node 0 [.num 0, .num 0, .num 0, .list [.node 20 [.num 1, .list []]]]] [])
      (fun b => Walk.classFile b) = true := by
  decide +kernel

/-- a class with a method carrying `Exceptions` (variant 3 of `AttributeInfo`) and `Code` (variant 1) with a nested
`LineNumberTable` (variant 10); its pool ends in a `Class` entry (variant 0 of `CpInfo`): used by the examples -/
def sampleClass : Val :=
  classOf [utf8Entry "Exceptions", utf8Entry "Code", utf8Entry "LineNumberTable", .node 0 [.num 1]]
    [.node 0 [.num 1, .num 0, .num 0, .list [
      .node 3 [.num 1, .list [.num 5, .num 6]],
      .node 1 [.num 2, .num 1, .num 1, .list [.num 177], .list [], .list [.node 10 [.num 3, .list [.node 0 [.num 0, .num 7]]]]]]]]
    []

/-- the hypotheses of the round-trip theorems are satisfiable by a non-trivial value, whose output is well framed; its
announced length is its size; it is read back and satisfies `ConstsAgree` -/
example : fitsV genv none [] classFileTy sampleClass = true ∧ depthV sampleClass ≤ 5 ∧
    len32 (lenV genv classFileTy sampleClass) = some 116 ∧
    writes sampleClass (fun b => b.length == 116 && Walk.classFile b &&
      decide (read genv 5 Gen.RawLayouts.classFileId none b = .ok (sampleClass, [])) &&
      constsAgree genv 5 Gen.RawLayouts.classFileId none b) = true := by
  decide +kernel

/-- **`ConstsAgree` is needed**: changing the (unverified) `attribute_length` of the `Exceptions` attribute of the sample
class from 6 to 7 (byte 76 of the output is the last byte of that length) gives bytes the Rust reader still accepts,
returning the same value, so writing cannot give them back; they do not satisfy `ConstsAgree`. -/
theorem write_read_needs_consts_agree_witness :
    writes sampleClass (fun b' =>
      let b := b'.set 76 7
      b != b' && b.all (· < 256) &&
      decide (read genv 5 Gen.RawLayouts.classFileId none b = .ok (sampleClass, [])) &&
      !constsAgree genv 5 Gen.RawLayouts.classFileId none b) = true := by
  simp -index only [sampleClass, utf8Entry, jstr_ofList]
  decide +kernel

end Thm.C20
