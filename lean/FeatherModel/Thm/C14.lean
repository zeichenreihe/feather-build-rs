import FeatherModel.Lemmas.NestJar
import FeatherModel.Lemmas.NestMappings
import FeatherModel.Lemmas.JStrLit

/-!
# C14 — nesting renames classes identically in jars and in mappings
The theorems of the property, the definitions their statements use (`KeysUnique`, `Acyclic`, the example tables, jars and
mapping sets) and examples. Model: `FeatherModel/Model/Nest.lean` (mirror of `dukenest/src/*.rs`), decidable domains and
the state-free filter specification: `FeatherModel/Model/NestDomain.lean`.

A nests table is a list of nests in `IndexMap` order; `get` is the lookup by class name. The general theorems hold for
every table (any length, any chain depth), every jar and every mapping set, several under a hypothesis their statement
names (`KeysUnique`, `Acyclic`, `allApply`, `noSynthListed`, pairwise different entry names, `wfMappings` with
`undoApplyDomain`); the theorems called `_witness` or `_regression` and the examples speak of one fixed input each.
-/

namespace Thm.C14
open Nest

/-- the table has one entry per class name (what `IndexMap` gives for a table built by `Nests::add`); `Nest.keysUnique`,
which driver and harness compute, is `decide` of this -/
def KeysUnique (ns : Nests) : Prop := (ns.map (·.className)).Nodup

/-- no chain of enclosing classes returns to where it started: some rank decreases from every listed class to its
enclosing class -/
def Acyclic (ns : Nests) : Prop := ∃ rank : JStr → Nat, ∀ n ∈ ns, rank n.enclClass < rank n.className

/-! The Rust recursions count their depth and fail beyond `number of nests`; `build ns fuel` is that recursion with
`fuel = number of nests + 1 - depth`, `none` is the error. -/

/-- a larger bound never changes a name that was already computed -/
theorem build_fuel_mono (ns : Nests) {f f' : Nat} {c r : JStr} (h : build ns f c = some r) (hle : f ≤ f') :
    build ns f' c = some r :=
  build_mono_le ns h hle

/-- on an acyclic table the depth bound of the code is never hit: from every class the recursion ends within
`number of nests + 1` calls, no error is reported -/
theorem build_fuel_enough (ns : Nests) (h : Acyclic ns) (c : JStr) : (build ns (fuelFor ns) c).isSome = true := by
  obtain ⟨rank, hr⟩ := h
  exact build_isSome_of_rank ns rank hr _ c (Nat.lt_succ_of_le List.countP_le_length)

/-- the remapper is built without error exactly for the acyclic tables: the bound rejects every cyclic table and nothing else -/
theorem acyclic_iff_mapTable (ns : Nests) (hu : KeysUnique ns) : Acyclic ns ↔ (mapTable ns).isSome = true :=
  ⟨fun ⟨rank, hr⟩ => mapTable_isSome_of_rank ns rank hr, rank_of_mapTable ns hu⟩

/-- the cyclic table `A in B, B in A` -/
def cyclicTable : Nests :=
  [{ kind := .inner, className := jstr "A", enclClass := jstr "B", enclMethod := none, innerName := jstr "X", access := 0 },
   { kind := .inner, className := jstr "B", enclClass := jstr "A", enclMethod := none, innerName := jstr "Y", access := 0 }]

/-- a cyclic table is an error for every operation that builds the name table: nesting and un-nesting mappings (whatever
the mapping set) and nesting a jar in which the applied nests form the cycle -/
theorem cyclic_err (ns : Nests) (hu : KeysUnique ns) (hc : ¬ Acyclic ns) :
    mapTable ns = none ∧ (∀ m, applyNests m ns = .error "e") ∧ (∀ m, undoNests m ns = .error "e") ∧
    (∀ r jar, allApply jar ns = true → nestJar r jar ns = .error "e") := by
  have ht : mapTable ns = none :=
    Option.not_isSome_iff_eq_none.mp fun h => hc ((acyclic_iff_mapTable ns hu).mpr h)
  refine ⟨ht, fun m => applyNests_table_err m ns ht, fun m => undoNests_table_err m ns ht, fun r jar ha => ?_⟩
  apply nestJar_table_err
  rw [of_decide_eq_true ha, jarTable_eq_mapTable, ht]

/-- no bound is large enough on the table `A in B, B in A` (it is really cyclic) -/
theorem build_cyclic_none : ∀ fuel : Nat,
    build cyclicTable fuel (jstr "A") = none ∧ build cyclicTable fuel (jstr "B") = none := by
  intro fuel
  have h := build_none_of_closed cyclicTable (fun c => c = jstr "A" ∨ c = jstr "B") (by
    rintro c (rfl | rfl)
    · exact ⟨⟨.inner, jstr "A", jstr "B", none, jstr "X", 0⟩, by decide +kernel, Or.inr rfl⟩
    · exact ⟨⟨.inner, jstr "B", jstr "A", none, jstr "Y", 0⟩, by decide +kernel, Or.inl rfl⟩) fuel
  exact ⟨h _ (Or.inl rfl), h _ (Or.inr rfl)⟩

theorem cyclicTable_not_acyclic : ¬ Acyclic cyclicTable := by
  intro h
  have := build_fuel_enough cyclicTable h (jstr "A")
  rw [(build_cyclic_none (fuelFor cyclicTable)).1] at this
  exact Bool.noConfusion this

/-- REGRESSION (the code before 0532d54 overflowed the stack on these calls): the cyclic table `A in B, B in A` is
answered with an error by every entry point -/
theorem build_cyclic_regression :
    mapTable cyclicTable = none ∧ jarTable cyclicTable = none ∧
    (∀ m, applyNests m cyclicTable = .error "e") ∧ (∀ m, undoNests m cyclicTable = .error "e") ∧
    (∀ r jar, allApply jar cyclicTable = true → nestJar r jar cyclicTable = .error "e") := by
  obtain ⟨h1, h2, h3, h4⟩ := cyclic_err cyclicTable (by unfold KeysUnique; decide +kernel) cyclicTable_not_acyclic
  exact ⟨h1, by rw [jarTable_eq_mapTable, h1], h2, h3, h4⟩

/-- `Enclosing$Inner`, transitively: on a table whose remapper is built without error (under unique keys: an acyclic
one, `acyclic_iff_mapTable`) the mappings-side name of a listed class is the name of its
enclosing class, `$`, its inner name; every other class keeps its name -/
theorem mapName_spec (ns : Nests) (h : (mapTable ns).isSome = true) (c : JStr) :
    mapName ns c = match get ns c with
      | none => some c
      | some n => (mapName ns n.enclClass).map (fun a => join a n.innerName) := by
  rw [mapName_eq_build h c, build_succ]
  cases hg : get ns c with
  | none => rfl
  | some n =>
    obtain ⟨a, ha⟩ := Option.isSome_iff_exists.mp ((mapTable_isSome_iff ns).mp h n (get_some hg).1)
    simp only [mapName_eq_build h n.enclClass, ha, build_mono_le ns ha (Nat.le_succ _)]

/-- a chain of depth 3 -/
def chain3 : Nests :=
  [{ kind := .inner, className := jstr "c3", enclClass := jstr "c2", enclMethod := none, innerName := jstr "Z", access := 0 },
   { kind := .anonymous, className := jstr "c2", enclClass := jstr "c1", enclMethod := none, innerName := jstr "1", access := 0 },
   { kind := .inner, className := jstr "c1", enclClass := jstr "p/Top", enclMethod := none, innerName := jstr "In", access := 0 }]

example : mapName chain3 (jstr "c3") = some (jstr "p/Top$In$1$Z") := by
  simp -index only [chain3, jstr_ofList]
  decide +kernel
example : mapName chain3 (jstr "p/Top") = some (jstr "p/Top") := by decide +kernel
private theorem chain3_mapTable : (mapTable chain3).isSome = true := by decide +kernel
example : (mapTable chain3).isSome = true := chain3_mapTable
example : Acyclic chain3 := (acyclic_iff_mapTable chain3 (by unfold KeysUnique; decide +kernel)).mpr chain3_mapTable

/-- `remap` of `nester_jar.rs` and `build_translation` of `nester_run.rs` compute the same name, step by step, on every
table (cyclic ones included) -/
theorem recursions_agree (ns : Nests) (fuel : Nat) (n : Nest) :
    jarRemap ns fuel n = (build ns fuel n.enclClass).map (fun a => join a n.innerName) :=
  jarRemap_eq_build ns fuel n

/-- the jar-side name of every class is its mappings-side name under the table of the nests that were applied -/
theorem names_agree_kept (jar : Jar) (ns : Nests) (c : JStr) :
    jarName jar ns c = mapName (filterRun jar ns).kept c := by
  unfold jarName mapName
  rw [jarTable_eq_mapTable]

/-- HEADLINE: if every nest of the table applies to the jar, jar and mappings agree on every class name -/
theorem names_agree (jar : Jar) (ns : Nests) (h : allApply jar ns = true) (c : JStr) :
    jarName jar ns c = mapName ns c := by
  rw [names_agree_kept, of_decide_eq_true h]

def exJar : Jar :=
  [(jstr "p/Top.class", .cls (newClass 8 (jstr "p/Top"))), (jstr "c1.class", .cls (newClass 8 (jstr "c1"))),
   (jstr "c2.class", .cls (newClass 8 (jstr "c2"))), (jstr "c3.class", .cls (newClass 8 (jstr "c3")))]

example : allApply exJar chain3 = true := by decide +kernel
example : jarName exJar chain3 (jstr "c3") = some (jstr "p/Top$In$1$Z") := by
  simp -index only [exJar, chain3, jstr_ofList]
  decide +kernel

/-- the hypothesis is needed: a nest that does not apply (its class is not in the jar) is renamed in the mappings only -/
theorem names_agree_witness :
    let ns : Nests := [{ kind := .inner, className := jstr "X", enclClass := jstr "A", enclMethod := none, innerName := jstr "In", access := 0 }]
    let jar : Jar := [(jstr "A.class", .cls (newClass 8 (jstr "A")))]
    allApply jar ns = false ∧ jarName jar ns (jstr "X") = some (jstr "X") ∧ mapName ns (jstr "X") = some (jstr "A$In") := by
  decide +kernel

/-- the closure with its side effects computes exactly the state-free specification: a nest is applied iff its class is
present (in the jar, or synthesised as the enclosing class of an EARLIER listed nest whose class was present) and the
rule of its kind holds; an enclosing class is synthesised for every listed nest whose class is present and whose
enclosing class is not — before the rule of the kind is looked at -/
theorem filter_spec (jar : Jar) (ns : Nests) :
    (filterRun jar ns).kept = keptSpec jar ns ∧ (filterRun jar ns).created = createdSpec jar ns :=
  ⟨(filterRun_spec jar ns).1, (filterRun_spec jar ns).2.1⟩

/-- the rule of the property text, exact and order independent, when no listed class has to be synthesised: a listed
class is nested iff it is in the jar and satisfies the rule of its kind.
PARTIAL: outside `noSynthListed` "present" also covers classes synthesised for earlier nests and the result depends on the
order of the table (`filter_order_witness`); `filter_spec` is the exact statement on the whole domain. -/
theorem filter_exact_partial (jar : Jar) (ns : Nests) (h : noSynthListed jar ns = true) :
    (filterRun jar ns).kept =
      ns.filter (fun n => (jarNames jar).contains n.className && kindRule (methodsMap (classesOf jar)) n) := by
  rw [(filter_spec jar ns).1, keptSpec]
  apply keptSpecGo_eq_filter (jarNames jar) _ ns []
  intro n hn
  simpa only [Bool.or_eq_true, List.all_eq_true, bne_iff_ne, ne_eq, List.nil_append] using List.all_eq_true.mp h n hn

/-- `filter_exact_partial` as a statement about membership -/
theorem mem_kept_iff (jar : Jar) (ns : Nests) (h : noSynthListed jar ns = true) (n : Nest) :
    n ∈ (filterRun jar ns).kept ↔
      n ∈ ns ∧ n.className ∈ jarNames jar ∧ kindRule (methodsMap (classesOf jar)) n = true := by
  rw [filter_exact_partial jar ns h]
  simp only [List.mem_filter, Bool.and_eq_true, List.contains_iff_mem]

/-- anonymous ⇒ the inner name is a positive number (as `i32`) -/
theorem kindRule_anonymous (mm : AList JStr (List (JStr × JStr))) (n : Nest) (h : n.kind = .anonymous) :
    kindRule mm n = true ↔ ∃ x : Int, parseI32 n.innerName = some x ∧ x ≥ 1 := by
  rw [kindRule, h, anonOk]
  cases parseI32 n.innerName <;> simp

/-- inner ⇒ the enclosing method is absent from the enclosing class -/
theorem kindRule_inner (mm : AList JStr (List (JStr × JStr))) (n : Nest) (h : n.kind = .inner) :
    kindRule mm n = true ↔ hasEnclMethod mm n = false := by
  unfold kindRule
  rw [h]
  simp

/-- local ⇒ the enclosing method is present in the enclosing class -/
theorem kindRule_local (mm : AList JStr (List (JStr × JStr))) (n : Nest) (h : n.kind = .local) :
    kindRule mm n = true ↔ hasEnclMethod mm n = true := by
  unfold kindRule
  rw [h]

/-- "the enclosing method is present": the nest names a method and the enclosing class, as found in the jar, declares it -/
theorem hasEnclMethod_iff (mm : AList JStr (List (JStr × JStr))) (n : Nest) :
    hasEnclMethod mm n = true ↔
      ∃ m ms, n.enclMethod = some m ∧ AList.lookup n.enclClass mm = some ms ∧ m ∈ ms := by
  unfold hasEnclMethod
  cases n.enclMethod <;> cases AList.lookup n.enclClass mm <;> simp

/-- every applied nest was listed and satisfies its rule; at the end its class and its enclosing class exist: in the jar
or synthesised -/
theorem kept_sound (jar : Jar) (ns : Nests) (n : Nest) (h : n ∈ (filterRun jar ns).kept) :
    n ∈ ns ∧ kindRule (methodsMap (classesOf jar)) n = true ∧
    (n.className ∈ jarNames jar ∨ n.className ∈ (filterRun jar ns).created) ∧
    (n.enclClass ∈ jarNames jar ∨ n.enclClass ∈ (filterRun jar ns).created) := by
  rw [(filter_spec jar ns).1] at h
  rw [(filter_spec jar ns).2]
  obtain ⟨h1, h2, h3, h4⟩ := keptSpecGo_mem _ _ ns [] n h
  simp only [List.append_nil] at h3 h4
  exact ⟨h1, h2, (present_final jar ns _).mp h3, (present_final jar ns _).mp h4⟩

/-- only enclosing classes of listed nests that are missing from the jar are synthesised -/
theorem created_sound (jar : Jar) (ns : Nests) (c : JStr) (h : c ∈ (filterRun jar ns).created) :
    c ∉ jarNames jar ∧ ∃ n ∈ ns, n.enclClass = c := by
  rw [(filter_spec jar ns).2] at h
  obtain ⟨h1, h2⟩ := createdSpecGo_mem (jarNames jar) ns [] c h
  refine ⟨?_, h2⟩
  intro hc
  simp only [presentRev, List.contains_eq_mem, hc, decide_true] at h1
  exact Bool.noConfusion h1

/-- the filter depends on the order of the table: `Y` (not in the jar) is nested when the nest that makes it an enclosing
class comes first, and not when it comes second -/
theorem filter_order_witness :
    let nX : Nest := { kind := .inner, className := jstr "X", enclClass := jstr "Y", enclMethod := none, innerName := jstr "In", access := 0 }
    let nY : Nest := { kind := .inner, className := jstr "Y", enclClass := jstr "Z", enclMethod := none, innerName := jstr "Mid", access := 0 }
    let jar : Jar := [(jstr "X.class", .cls (newClass 8 (jstr "X")))]
    (filterRun jar [nX, nY]).kept = [nX, nY] ∧ (filterRun jar [nY, nX]).kept = [nX] ∧
    noSynthListed jar [nX, nY] = false := by
  decide +kernel

/-- FINDING witness: a rejected nest still has its enclosing class synthesised. A local class whose enclosing class is
missing can never be applied (the synthesised class has no methods), yet the empty class `Out` is emitted -/
theorem created_for_rejected_witness :
    let ns : Nests := [{ kind := .local, className := jstr "X", enclClass := jstr "Out",
                         enclMethod := some (jstr "m", jstr "()V"), innerName := jstr "1Foo", access := 0 }]
    let jar : Jar := [(jstr "X.class", .cls (newClass 8 (jstr "X")))]
    (filterRun jar ns).kept = [] ∧ (filterRun jar ns).created = [jstr "Out"] ∧
    (match nestJar false jar ns with
     | .ok out => AList.lookup (jstr "Out.class") out == some (.cls (newClass 8 (jstr "Out")))
     | .error _ => false) = true := by
  decide +kernel

example : noSynthListed exJar chain3 = true := by decide +kernel

/-- nesting without renaming succeeds on every jar that has a class, for every acyclic table (applied nests whose name table
cannot be built are an error, `Nest.nestJar_table_err`; a jar without classes too) -/
theorem nestJar_false_total (jar : Jar) (ns : Nests) (hv : (minVersion (classesOf jar)).isSome = true)
    (ha : Acyclic ns) : ∃ out, nestJar false jar ns = .ok out := by
  obtain ⟨rank, hr⟩ := ha
  -- the applied nests are listed nests, so the rank of the table serves them
  have ht : (jarTable (filterRun jar ns).kept).isSome = true := by
    rw [jarTable_eq_mapTable]
    exact mapTable_isSome_of_rank _ rank fun n hn => hr n (kept_sound jar ns n hn).1
  obtain ⟨v, hv⟩ := Option.isSome_iff_exists.mp hv
  obtain ⟨table, ht⟩ := Option.isSome_iff_exists.mp ht
  exact ⟨_, nestJar_eq_ok.mpr ⟨v, table, _, _, hv, ht, List.mapM_of_forall fun _ _ => createdEntry_false _ _ v _,
    List.mapM_of_forall fun _ _ => sourceEntry_false _ _ _, rfl⟩⟩

/-- when the entry names of the jar are pairwise different, every source entry is still there under its name; a class entry carries the attributes of `addAttrs`, directories and
resources are untouched -/
theorem attrs_spec (jar : Jar) (ns : Nests) (out : Jar) (hnd : (jar.map Prod.fst).Nodup)
    (h : nestJar false jar ns = .ok out) (e : JStr × Entry) (he : e ∈ jar) :
    AList.lookup e.1 out = some (emitEntry (filterRun jar ns).kept e.2) := by
  obtain ⟨v, _, rfl⟩ := nestJar_false_eq h
  refine lookup_insertAll _ _ (List.forall_mem_map.mpr fun y hy ex => ?_) (Or.inl ⟨_, List.mem_map_of_mem he, rfl⟩)
  rw [AList.eq_of_key_eq hnd hy he ex]

/-- a class without an applied nest is emitted unchanged -/
theorem attrs_untouched (this : Nests) (c : JClass) (h : get this c.name = none) : addAttrs this c = c :=
  addAttrs_none this c h

/-- a class with an applied nest gets one more `InnerClasses` entry (appended to what it had) and, when anonymous or
local, an `EnclosingMethod` attribute naming the enclosing class and the method of the nest; nothing else changes -/
theorem attrs_nested (this : Nests) (c : JClass) (n : Nest) (h : get this c.name = some n) :
    addAttrs this c =
      { c with
        innerClasses := some (c.innerClasses.getD [] ++ [innerClassOf n]),
        enclosingMethod :=
          if n.kind = .anonymous ∨ n.kind = .local then some { cls := n.enclClass, method := n.enclMethod }
          else c.enclosingMethod } :=
  addAttrs_some this c n h

/-- the `InnerClasses` entry of an inner class: outer class and name -/
theorem innerClass_inner (n : Nest) (h : n.kind = .inner) :
    innerClassOf n = { inner := n.className, outer := some n.enclClass, name := some (stripLocalPrefix n.innerName), flags := n.access } := by
  simp [innerClassOf, h]

/-- local: no outer class, the name without its leading digits -/
theorem innerClass_local (n : Nest) (h : n.kind = .local) :
    innerClassOf n = { inner := n.className, outer := none, name := some (stripLocalPrefix n.innerName), flags := n.access } := by
  simp [innerClassOf, h]

/-- anonymous: neither outer class nor name -/
theorem innerClass_anonymous (n : Nest) (h : n.kind = .anonymous) :
    innerClassOf n = { inner := n.className, outer := none, name := none, flags := n.access } := by
  simp [innerClassOf, h]

/-- Missing enclosing classes are created (without renaming; with renaming the same classes come first in
`remap_names_partial`, under their new names): each synthesised class is an entry `<name>.class` holding an empty public
class of the jar's lowest class version that extends `java/lang/Object` (with nest attributes if it is itself nested),
unless a source entry of that very name replaces it -/
theorem created_enclosing (jar : Jar) (ns : Nests) (out : Jar) (h : nestJar false jar ns = .ok out) (name : JStr)
    (hc : name ∈ (filterRun jar ns).created) (hfree : name ++ DOT_CLASS ∉ jar.map Prod.fst) :
    ∃ v, minVersion (classesOf jar) = some v ∧
      AList.lookup (name ++ DOT_CLASS) out = some (.cls (addAttrs (filterRun jar ns).kept (newClass v name))) := by
  obtain ⟨v, hv, rfl⟩ := nestJar_false_eq h
  refine ⟨v, hv, ?_⟩
  rw [lookup_insertAll_other]
  · refine lookup_insertAll _ _ (List.forall_mem_map.mpr fun y _ ex => ?_) (Or.inl ⟨_, List.mem_map_of_mem hc, rfl⟩)
    rw [List.append_cancel_right ex]
  · exact List.forall_mem_map.mpr fun y hy ex => hfree (List.mem_map.mpr ⟨y, hy, ex⟩)

/-- nothing else is in the produced jar -/
theorem nothing_else (jar : Jar) (ns : Nests) (out : Jar) (h : nestJar false jar ns = .ok out) (k : JStr)
    (h1 : k ∉ jar.map Prod.fst) (h2 : ∀ name ∈ (filterRun jar ns).created, name ++ DOT_CLASS ≠ k) :
    AList.lookup k out = none := by
  obtain ⟨v, _, rfl⟩ := nestJar_false_eq h
  rw [lookup_insertAll_other, lookup_insertAll_other]
  · rfl
  · exact List.forall_mem_map.mpr h2
  · exact List.forall_mem_map.mpr fun y hy ex => h1 (List.mem_map.mpr ⟨y, hy, ex⟩)

/-- attributes are synthesised first, then the class is renamed (the rename of the class body is C07's theorem) -/
theorem attrs_then_rename (this : Nests) (f : JStr → JStr) (c : JClass) :
    emitClass true this f c = remapClass f (addAttrs this c) := rfl

/-- "rewrites every reference … records each in an InnerClasses entry (plus EnclosingMethod)": after renaming with the class
map `f` (the jar-side map, `remap_names_partial`) the attributes synthesised for a nested class carry the NEW names — the
last `InnerClasses` entry names the new name of the class and, for an inner class, the new name of its enclosing class;
the `EnclosingMethod` attribute of an anonymous or local class names the new name of the enclosing class (also when there
is no enclosing method) and the method with its descriptor rewritten -/
theorem attrs_renamed (this : Nests) (f : JStr → JStr) (c c' : JClass) (n : Nest)
    (h : emitClass true this f c = some c') (hg : get this c.name = some n)
    (h1 : n.className.head? ≠ some LBRACK) (h2 : n.enclClass.head? ≠ some LBRACK) :
    (∃ ics, c'.innerClasses = some (ics ++ [renamedInnerClass f n])) ∧
    ((n.kind = .anonymous ∨ n.kind = .local) → ∃ em, renamedEnclMethod f n = some em ∧ c'.enclosingMethod = some em) := by
  have h : remapClass f (addAttrs this c) = some c' := h
  simp only [addAttrs_some this c n hg, remapClass_eq, Option.bind_eq_some_iff, Option.map_eq_some_iff] at h
  obtain ⟨ms, -, ics, hics, em, hem, rfl⟩ := h
  obtain ⟨l, hl, rfl⟩ := Option.map_eq_some_iff.mp hics
  obtain ⟨r0, b, _, hb, rfl⟩ := List.mapM_concat_eq_some ((mapOpt_eq _ _).symm.trans hl)
  rw [remapInner_plain f n h1 h2] at hb
  cases hb
  refine ⟨⟨r0, rfl⟩, fun hk => ?_⟩
  rw [if_pos hk] at hem
  obtain ⟨em', hem', rfl⟩ := Option.map_eq_some_iff.mp hem
  exact ⟨em', (remapEncl_plain f n h2).symm.trans hem', rfl⟩

/-- an anonymous class without enclosing method whose enclosing class is itself nested: the attribute names `Top$Mid` -/
example :
    let ns : Nests :=
      [{ kind := .inner, className := jstr "A", enclClass := jstr "Top", enclMethod := none, innerName := jstr "Mid", access := 0 },
       { kind := .anonymous, className := jstr "B", enclClass := jstr "A", enclMethod := none, innerName := jstr "1", access := 0 }]
    let jar : Jar := [(jstr "Top.class", .cls (newClass 8 (jstr "Top"))), (jstr "A.class", .cls (newClass 8 (jstr "A"))),
                      (jstr "B.class", .cls (newClass 8 (jstr "B")))]
    (match nestJar true jar ns with
     | .ok out => (AList.lookup (jstr "Top$Mid$1.class") out).map (fun e => match e with
         | .cls c => c.enclosingMethod | _ => none) == some (some { cls := jstr "Top$Mid", method := none })
     | .error _ => false) = true := by
  simp -index only [jstr_ofList]
  decide +kernel

/-- a class entry `<c>.class` is renamed to `<f c>.class` -/
theorem entry_renamed (f : JStr → JStr) (c : JStr) : remapEntryName f (c ++ DOT_CLASS) = f c ++ DOT_CLASS :=
  remapEntryName_class f c

/-- the emitted class carries the jar-side name of its source class -/
theorem class_renamed (this : Nests) (f : JStr → JStr) (c c' : JClass) (h : emitClass true this f c = some c') :
    c'.name = f c.name :=
  emitClass_true_name this f c c' h

/-- nesting with renaming: first the synthesised enclosing classes, each under `<new name>.class` holding the class of that
name, then the source entries in order, every class entry renamed with the jar-side class map (`jarName`) and holding the
class of that name, directories and resources under their old names.
PARTIAL: the expected entry names must be pairwise different — the result is an `IndexMap`, entries whose new names
coincide replace each other (`remap_names_collision_witness`). -/
theorem remap_names_partial (jar : Jar) (ns : Nests) (out : Jar) (h : nestJar true jar ns = .ok out) :
    ∃ table, jarTable (filterRun jar ns).kept = some table ∧ (∀ c, jarName jar ns c = some (tableMap table c)) ∧
      (((filterRun jar ns).created.map (fun n => (createdView (tableMap table) n).1) ++
          jar.map (fun e => (renamedView (tableMap table) e).1)).Nodup →
        out.map nameView = (filterRun jar ns).created.map (createdView (tableMap table)) ++
          jar.map (renamedView (tableMap table))) := by
  obtain ⟨v, table, es1, es2, _, ht, h1, h2, rfl⟩ := nestJar_eq_ok.mp h
  refine ⟨table, ht, fun c => congrArg (Option.map fun t => tableMap t c) ht, fun hnd => ?_⟩
  -- the entry names the property speaks of are the keys that are inserted, so each insertion appends
  have k1 : es1.map Prod.fst = (filterRun jar ns).created.map (fun n => (createdView (tableMap table) n).1) :=
    List.map_eq_of_mapM h1 fun _ _ _ hb => congrArg Prod.fst (createdEntry_remap_view hb)
  have k2 : es2.map Prod.fst = jar.map (fun e => (renamedView (tableMap table) e).1) :=
    List.map_eq_of_mapM h2 fun _ _ _ hb => congrArg Prod.fst (sourceEntry_remap_view hb)
  rw [← k1, ← k2, ← List.map_append] at hnd
  rw [insertAll, insertAll, AList.foldl_insert_of_nodup es1 [] (List.nodup_append.mp (List.map_append ▸ hnd)).1, List.nil_append,
    AList.foldl_insert_of_nodup es2 es1 hnd, List.map_append, List.map_eq_of_mapM h1 fun _ _ _ => createdEntry_remap_view,
    List.map_eq_of_mapM h2 fun _ _ _ => sourceEntry_remap_view]

/-- a class that already carries the nested name of a listed class is replaced by it -/
theorem remap_names_collision_witness :
    let ns : Nests := [{ kind := .inner, className := jstr "X", enclClass := jstr "A", enclMethod := none, innerName := jstr "In", access := 0 }]
    let jar : Jar := [(jstr "A.class", .cls (newClass 8 (jstr "A"))), (jstr "A$In.class", .cls (newClass 8 (jstr "A$In"))),
                      (jstr "X.class", .cls (newClass 8 (jstr "X")))]
    (match nestJar true jar ns with
     | .ok out => out.map Prod.fst == [jstr "A.class", jstr "A$In.class"]
     | .error _ => false) = true := by
  simp -index only [jstr_ofList]
  decide +kernel

/-- REGRESSION (the code before 8d867d6 stored the entry as `Out`, without `.class`): with `remap = true` a synthesised
enclosing class is stored under `<name>.class`, like without renaming -/
theorem created_entry_name_remap_regression :
    let ns : Nests := [{ kind := .inner, className := jstr "X", enclClass := jstr "Out", enclMethod := none, innerName := jstr "In", access := 0 }]
    let jar : Jar := [(jstr "X.class", .cls (newClass 8 (jstr "X")))]
    (match nestJar true jar ns with
     | .ok out => out.map Prod.fst == [jstr "Out.class", jstr "Out$In.class"]
     | .error _ => false) = true ∧
    (match nestJar false jar ns with
     | .ok out => out.map Prod.fst == [jstr "Out.class", jstr "X.class"]
     | .error _ => false) = true := by
  simp -index only [jstr_ofList]
  decide +kernel

/-- nesting renames every class key with the mappings-side name, stores it as first name, keeps entry order and count -/
theorem apply_classes (m m1 : Mappings) (ns : Nests) (h : applyNests m ns = .ok m1) :
    ∃ t, mapTable ns = some t ∧ m1.classes.length = m.classes.length ∧
      ∀ (i : Nat) (e : JStr × Class), m.classes[i]? = some e →
        ∃ e', m1.classes[i]? = some e' ∧ e'.1 = tableMap t e.1 ∧ name0 e'.2.names = some (tableMap t e.1) ∧
          e'.2.doc = e.2.doc ∧
          mapE (stepField (tableMap t)) e.2.fields = .ok e'.2.fields ∧
          mapE (stepMethod (tableMap t)) e.2.methods = .ok e'.2.methods := by
  obtain ⟨mapped, t, mt, cs, ht, _, hr, rfl⟩ := applyNests_ok h
  have hm := foldAddE_mapE hr
  refine ⟨t, ht, mapE_length hm, fun i e he => ?_⟩
  obtain ⟨e', h1, h2⟩ := mapE_getElem hm i e he
  obtain ⟨dst, fs, ms, _, hf, hms, _, rfl⟩ := rewriteClass_eq_ok.mp h2
  exact ⟨_, h1, rfl, rfl, rfl, foldAddE_mapE hf, foldAddE_mapE hms⟩

/-- …and rewrites descriptors accordingly: every field keeps names and comment, its descriptor is `map_desc` with the
nesting names and its key is recomputed from first name and new descriptor -/
theorem apply_field (tr : JStr → JStr) (e e' : MemberKey × Field) (h : stepField tr e = .ok e') :
    MapDesc.mapDesc tr e.2.desc = some e'.2.desc ∧ name0 e.2.names = some e'.1.1 ∧ e'.1.2 = e'.2.desc ∧
    e'.2.names = e.2.names ∧ e'.2.doc = e.2.doc := by
  unfold stepField at h
  obtain ⟨d, n, hd, hn, rfl⟩ := step_ok h
  exact ⟨hd, hn, rfl, rfl, rfl⟩

/-- the same for a method; its parameters are kept -/
theorem apply_method (tr : JStr → JStr) (e e' : MemberKey × Method) (h : stepMethod tr e = .ok e') :
    MapDesc.mapDesc tr e.2.desc = some e'.2.desc ∧ name0 e.2.names = some e'.1.1 ∧ e'.1.2 = e'.2.desc ∧
    e'.2.names = e.2.names ∧ e'.2.doc = e.2.doc ∧ e'.2.params = e.2.params := by
  unfold stepMethod at h
  obtain ⟨d, n, hd, hn, rfl⟩ := step_ok h
  exact ⟨hd, hn, rfl, rfl, rfl, rfl⟩

/-- HEADLINE, PARTIAL (the property text has no side condition; `undo_apply_witness` shows one is needed):
un-nesting a nested mapping set succeeds and restores class keys, first names, comments, and all fields
and methods with their keys and descriptors — everything but the second-namespace class names — on well-formed mapping
sets, when the translation is injective on the names the set uses (`undoApplyDomain`) -/
theorem undo_apply_partial (m m1 : Mappings) (ns : Nests) (hwf : wfMappings m = true) (hdom : undoApplyDomain m ns = true)
    (h : applyNests m ns = .ok m1) : ∃ m2, undoNests m1 ns = .ok m2 ∧ srcView m2 = srcView m := by
  obtain ⟨mapped, t, mt, cs1, ht, hmt, hr, rfl⟩ := applyNests_ok h
  unfold undoApplyDomain at hdom
  rw [ht, Bool.and_eq_true] at hdom
  unfold wfMappings at hwf
  simp only [Bool.and_eq_true, List.all_eq_true, decide_eq_true_eq] at hwf
  obtain ⟨cs2, h1, h2⟩ := rewriteClasses_roundtrip (tableMap mt)
    (fun d => if containsKey ns d then dollarToUU d else d)
    (fun d hd => tableMap_of_all (P := (· ≠ [])) mt (mapTable_values_ne_nil hmt) d hd) m.classes cs1
    hwf.1 (nameOk_of_domain hdom.1 hdom.2) hwf.2 hr
  refine ⟨{ m with classes := cs2 }, ?_, h2⟩
  unfold undoNests
  simp only [ht, h1]

/-- the inverse remapper inverts the nesting remapper on every name that does not collide -/
theorem unmap_map (t : AList JStr JStr) (c : JStr) (h : noCollision t c = true) : tableUnmap t (tableMap t c) = c :=
  tableUnmap_tableMap t c h

def exNests : Nests :=
  [{ kind := .inner, className := jstr "X", enclClass := jstr "A", enclMethod := none, innerName := jstr "B", access := 0 }]

def exField (name desc : String) : MemberKey × Field :=
  ((jstr name, jstr desc), { desc := jstr desc, names := [some (jstr name), none], doc := none })

def exMappings (descs : List String) : Mappings :=
  { ns := [jstr "a", jstr "b"], doc := none,
    classes := [(jstr "P", { names := [some (jstr "P"), some (jstr "Q")], doc := none,
                             fields := descs.mapIdx (fun i d => exField ("f" ++ toString i) d), methods := [] })] }

example : wfMappings (exMappings ["LX;", "[LA;"]) = true ∧ undoApplyDomain (exMappings ["LX;", "[LA;"]) exNests = true ∧
    (match applyNests (exMappings ["LX;", "[LA;"]) exNests with | .ok _ => true | .error _ => false) = true := by
  decide +kernel

/-- the domain is needed: when a mentioned class already has the nested name of a listed class (`A$B` next to `X ↦ A$B`),
un-nesting maps both back to `X` -/
theorem undo_apply_witness :
    let m := exMappings ["LX;", "LA$B;"]
    wfMappings m = true ∧ undoApplyDomain m exNests = false ∧
    (match applyNests m exNests with
     | .ok m1 => (match undoNests m1 exNests with
                  | .ok m2 => !decide (srcView m2 = srcView m)
                  | .error _ => false)
     | .error _ => false) = true := by
  decide +kernel

/-- every nest is kept: the translated table has, under the translated class name of each nest, a translated nest; it has
nothing else; its keys are unique -/
theorem mapNests_keeps_every_nest (ns out : Nests) (m : Mappings) (h : mapNests ns m = some out) :
    ∃ r, remB m = some r ∧
      (∀ n ∈ ns, ∃ n', mapNest r n = some n' ∧ ∃ o, get out n'.className = some o ∧ o.className = n'.className ∧
        ∃ n2 ∈ ns, mapNest r n2 = some o) ∧
      (∀ o ∈ out, ∃ n ∈ ns, mapNest r n = some o) ∧ KeysUnique out := by
  obtain ⟨r, imgs, hr, h1, rfl⟩ := mapNests_some h
  refine ⟨r, hr, ?_, ?_, foldl_add_keysUnique imgs [] List.nodup_nil⟩
  · intro n hn
    obtain ⟨n', hn', e⟩ := List.mapM_of_mem h1 hn
    obtain ⟨o, g1, g2, g3⟩ := foldl_add_get_mem imgs n' hn'
    obtain ⟨n2, hn2, e2⟩ := List.mem_of_mapM h1 g2
    exact ⟨n', e, o, g1, g3, n2, hn2, e2⟩
  · exact fun o ho => List.mem_of_mapM h1 ((foldl_add_mem imgs [] o ho).resolve_right List.not_mem_nil)

/-- no translated nest replaces another: when the translated nests (`imgs`; with `r` they are what `h` determines) have
pairwise different class names, which is the case when the class mapping is injective on the listed classes, the translated
table is exactly these nests, in table order -/
theorem mapNests_injective (ns out : Nests) (m : Mappings) (h : mapNests ns m = some out)
    (r : RemB) (hr : remB m = some r) (imgs : Nests) (hi : mapOpt (mapNest r) ns = some imgs)
    (hnd : (imgs.map (·.className)).Nodup) : out = imgs := by
  obtain ⟨r', imgs', hr', h1, rfl⟩ := mapNests_some h
  cases hr.symm.trans hr'
  cases ((mapOpt_eq _ _).symm.trans hi).symm.trans h1
  exact foldl_add_nodup imgs [] hnd

/-- each translated nest: kind and access flags are copied, the class name and the enclosing method go through the
mappings (the method is looked up in the source enclosing class); enclosing class and inner name are the two halves of the
translated class name when that contains `__` ("already nested"), and otherwise the translated enclosing class and the
inner name computed by `inner_name` -/
theorem mapNest_spec (r : RemB) (n n' : Nest) (h : mapNest r n = some n') :
    n'.kind = n.kind ∧ n'.access = n.access ∧ n'.className = remBMapClass r n.className ∧
    mapMOpt (remBMapMethod r n.enclClass) n.enclMethod = some n'.enclMethod ∧
    ((∃ e i, rsplitUnderscore (remBMapClass r n.className) = some (some (e, i)) ∧ n'.enclClass = e ∧ n'.innerName = i) ∨
     (rsplitUnderscore (remBMapClass r n.className) = some none ∧ n'.enclClass = remBMapClass r n.enclClass ∧
      innerNameOf n.className n.innerName (remBMapClass r n.className) = some n'.innerName)) := by
  unfold mapNest at h
  simp only at h
  generalize rsplitUnderscore (remBMapClass r n.className) = sp at h ⊢
  generalize mapMOpt (remBMapMethod r n.enclClass) n.enclMethod = em at h ⊢
  rcases sp with _ | _ | ⟨e, i⟩
  · cases h
  · generalize innerNameOf n.className n.innerName (remBMapClass r n.className) = io at h ⊢
    cases io <;> cases em <;> cases h
    exact ⟨rfl, rfl, rfl, rfl, Or.inr ⟨rfl, rfl, rfl⟩⟩
  · cases em <;> cases h
    exact ⟨rfl, rfl, rfl, rfl, Or.inl ⟨e, i, rfl, rfl, rfl⟩⟩

/-- the split is at the LAST `__` and loses nothing -/
theorem rsplit_spec (s p i : List Nat) (h : rsplitUU s = some (p, i)) :
    s = p ++ USCORE :: USCORE :: i ∧ rsplitUU i = none := by
  fun_induction rsplitUU s generalizing p i with
  | case2 x xs q j hr ih =>
    cases h
    exact ⟨congrArg (x :: ·) (ih _ _ hr).1, (ih _ _ hr).2⟩
  | case3 x y ys hxy hr =>
    -- no `__` further right, so the split is at the head
    cases h
    obtain ⟨rfl, rfl⟩ := hxy
    refine ⟨rfl, ?_⟩
    simp only [rsplitUU] at hr
    cases hys : rsplitUU ys with
    | none => rfl
    | some q => rw [hys] at hr; cases hr
  | _ => cases h

/-- `inner_name`, anonymous: a Calamus name `C_<digits>` gives the digits, any other target name keeps the table's number -/
theorem innerName_anonymous (cls inner mapped : JStr) (hd : (inner.dropWhile isDigit).isEmpty = true) :
    innerNameOf cls inner mapped =
      match stripPrefix C_ (simpleName mapped) with
      | some number => if number.all isDigit then some number else none
      | none => some inner := by
  simp only [innerNameOf, nestTypeA, hd, if_true]
  rfl

/-- `inner_name`, inner: a derived inner name (the class name ends with it) follows the translated simple name, a custom
one is kept -/
theorem innerName_inner (cls inner mapped : JStr) (hd : (inner.dropWhile isDigit).isEmpty = false)
    (hp : (inner.takeWhile isDigit).isEmpty = true) :
    innerNameOf cls inner mapped = if inner.isSuffixOf cls then some (simpleName mapped) else some inner := by
  simp [innerNameOf, nestTypeA, hd, hp]

/-- `inner_name`, local: the digits are kept, the rest follows the translated simple name unless custom -/
theorem innerName_local (cls inner mapped : JStr) (hd : (inner.dropWhile isDigit).isEmpty = false)
    (hp : (inner.takeWhile isDigit).isEmpty = false) :
    innerNameOf cls inner mapped =
      if (inner.dropWhile isDigit).isSuffixOf cls then some (inner.takeWhile isDigit ++ simpleName mapped) else some inner := by
  simp [innerNameOf, nestTypeA, hd, hp]

def exMap2 : Mappings :=
  { ns := [jstr "a", jstr "b"], doc := none,
    classes := [(jstr "X", { names := [some (jstr "X"), some (jstr "q/T")], doc := none, fields := [], methods := [] }),
                (jstr "Y", { names := [some (jstr "Y"), some (jstr "q/T")], doc := none, fields := [], methods := [] })] }

/-- "keeps every nest" is by translated name: when the mappings send two listed classes to one name, the later nest
replaces the earlier (`Nests::add` is `IndexMap::insert`) -/
theorem mapNests_collapse_witness :
    let ns : Nests :=
      [{ kind := .inner, className := jstr "X", enclClass := jstr "A", enclMethod := none, innerName := jstr "I", access := 0 },
       { kind := .inner, className := jstr "Y", enclClass := jstr "B", enclMethod := none, innerName := jstr "J", access := 0 }]
    (mapNests ns exMap2).map (fun out => out.map (fun n => (n.className, n.enclClass))) =
      some [(jstr "q/T", jstr "B")] := by
  decide +kernel

example : (mapNests exNests exMap2).map (fun out => out.map (fun n => (n.className, n.enclClass, n.innerName))) =
    some [(jstr "q/T", jstr "A", jstr "B")] := by decide +kernel

/-- every nest of a table that was read has its kind from the text of its inner name (all digits: anonymous; leading
digit: local; else inner), non-empty valid class names, and the table has unique keys -/
theorem read_spec (text : List Nat) (ns : Nests) (h : Nest.read text = some ns) :
    KeysUnique ns ∧ ∀ n ∈ ns, n.kind = kindOfInnerName n.innerName ∧ n.className ≠ [] ∧ n.enclClass ≠ [] ∧
      n.innerName ≠ [] ∧ validObjClassName n.className = true ∧ validObjClassName n.enclClass = true ∧
      validObjClassName n.innerName = true := by
  unfold Nest.read at h
  rw [readLines_eq] at h
  obtain ⟨imgs, h1, rfl⟩ := Option.map_eq_some_iff.mp h
  refine ⟨foldl_add_keysUnique imgs [] List.nodup_nil, fun n hn => ?_⟩
  obtain ⟨l, _, hl⟩ := List.mem_of_mapM h1 ((foldl_add_mem imgs [] n hn).resolve_right List.not_mem_nil)
  exact (readLine_some hl).1

/-- one line: six TAB-separated fields — class, enclosing class, method name, method descriptor, inner name, access
(decimal, `0x…`, `0b…`; bits duke knows) -/
theorem readLine_spec (line : List Nat) (n : Nest) (h : readLine line = some n) :
    ∃ cn en mn md inn acc, splitOn TAB line = [cn, en, mn, md, inn, acc] ∧ n.className = cn ∧ n.enclClass = en ∧
      n.innerName = inn ∧ (n.enclMethod = none ↔ (mn = [] ∨ md = [])) ∧
      ∃ a, parseAccess acc = some a ∧ n.access = maskAccess a :=
  (readLine_some h).2

/-- a parsed anonymous nest is not always applicable: `0` is all digits but not positive -/
theorem anonymous_zero_witness :
    (readLine (jstr "a\tb\t\t\t0\t0")).map (fun n => (n.kind, anonOk n.innerName)) = some (Kind.anonymous, false) := by
  decide +kernel

example : (Nest.read (jstr "p/A$1\tp/A\tm\t()V\t1\t0x8\np/B\tp/A\t\t\t1Loc\t0\n")).map (fun ns => ns.map (·.kind)) =
    some [Kind.anonymous, Kind.local] := by
  simp -index only [jstr_ofList]
  decide +kernel

end Thm.C14
