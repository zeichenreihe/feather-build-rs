import FeatherModel.Lemmas.ReorderInv
import FeatherModel.Lemmas.JStrLit

/-!
# C08 — reordering namespaces is a faithful permutation
Model: `FeatherModel/Model/Reorder.lean` (`Reorder.reorder m req`, `none` = `Err`).
The relational specification `Reorder.Spec` (with `ClassRel`, `FieldRel`, `MethodRel`, `ParamRel`, `ListRel`) is defined in
`FeatherModel/Lemmas/ReorderSpec.lean`; the domains `WF`, `DescsOk`, `DescInjective` in the model file.
The statements quantify over every mapping set, number of namespaces and request; what each assumes (`WF`, `DescsOk`,
`DescInjective`, a request containing every namespace) is in its hypotheses.
-/

namespace Thm.C08
open Reorder MapDesc

/-- `ListRel R l l'` = same length and `R` at every position (so: entry order preserved) -/
theorem listRel_iff_index {α β : Type} {R : α → β → Prop} {l : List α} {l' : List β} :
    ListRel R l l' ↔ l.length = l'.length ∧ ∀ (i : Nat) (hi : i < l.length) (hi' : i < l'.length), R l[i] l'[i] :=
  ⟨fun h => ⟨h.length_eq, h.get⟩, fun ⟨h1, h2⟩ => ListRel.of_get h1 h2⟩

/-- position `j` of a reordered row is position `table[j]` of the old row -/
theorem reorderNames_row (table : List Nat) (names : Names) :
    (reorderNames table names).length = table.length ∧
    ∀ (j : Nat) (hj : j < table.length), (reorderNames table names)[j]? = some (names.getD table[j] none) := by
  refine ⟨by simp [reorderNames], ?_⟩
  intro j hj
  simp [reorderNames, hj]

/-- **Faithful permutation.** `reorder` succeeds with `m'` exactly when `m'` is the specified result: namespaces,
entries (in the same order) at all four levels, every row read through the table, descriptors rewritten by the class map
`0 → table[0]`, comments and parameter indices equal, every entry stored under its new first name (+ new descriptor) /
its index, keys of every map pairwise different. In particular the result is unique and failure means no such result. -/
theorem reorder_spec {m m' : Mappings} {req : List JStr} : reorder m req = some m' ↔ Spec m req m' :=
  reorder_iff_spec

/-- the specification unfolded for the class level, index by index -/
theorem reorder_spec_classes {m m' : Mappings} {req : List JStr} {table : List Nat}
    (h : reorder m req = some m') (ht : tableOf m req = some table) :
    m'.ns = table.map (fun i => m.ns.getD i []) ∧ m'.ns = req ∧ m'.doc = m.doc ∧
    m'.classes.length = m.classes.length ∧
    ∀ (i : Nat) (hi : i < m.classes.length) (hi' : i < m'.classes.length),
      m'.classes[i].2.names = reorderNames table m.classes[i].2.names ∧
      m'.classes[i].2.names.head? = some (some m'.classes[i].1) ∧
      m'.classes[i].2.doc = m.classes[i].2.doc ∧
      ListRel (FieldRel (mapClass (rows m (table.headD 0))) table) m.classes[i].2.fields m'.classes[i].2.fields ∧
      ListRel (MethodRel (mapClass (rows m (table.headD 0))) table) m.classes[i].2.methods m'.classes[i].2.methods := by
  obtain ⟨hns, hdoc, hrel, _⟩ := (reorder_spec.mp h).of_table ht
  refine ⟨hns, by rw [hns]; exact tableOf_ns ht, hdoc, hrel.length_eq.symm, ?_⟩
  intro i hi hi'
  have h := hrel.get i hi hi'
  exact ⟨h.names, h.head, h.doc, h.fields, h.methods⟩

/-- an unknown namespace name in the request is an error -/
theorem reorder_fails_unknown_namespace {m : Mappings} {req : List JStr} {x : JStr}
    (hx : x ∈ req) (hns : m.getNamespace x = none) : reorder m req = none :=
  Option.eq_none_iff_forall_ne_some.mpr fun m' h => by
    obtain ⟨_, t0, rest, htab, _⟩ := reorder_spec.mp h
    obtain ⟨i, _, hi⟩ := List.mapM_of_mem (tableOf_eq m req ▸ htab) hx
    rw [hns] at hi
    cases hi

/-- a class without a name in the new first namespace makes the whole operation fail -/
theorem reorder_fails_missing_class {m : Mappings} {req : List JStr} {t0 : Nat} {rest : List Nat} {e : JStr × Class}
    (ht : tableOf m req = some (t0 :: rest)) (he : e ∈ m.classes) (hmiss : e.2.names.getD t0 none = none) :
    reorder m req = none :=
  Option.eq_none_iff_forall_ne_some.mpr fun m' h => by
    obtain ⟨e', hr⟩ := reorder_class h ht he
    rw [hr.key_eq] at hmiss
    cases hmiss

/-- the same for a field -/
theorem reorder_fails_missing_field {m : Mappings} {req : List JStr} {t0 : Nat} {rest : List Nat} {e : JStr × Class}
    {x : MemberKey × Field}
    (ht : tableOf m req = some (t0 :: rest)) (he : e ∈ m.classes) (hx : x ∈ e.2.fields)
    (hmiss : x.2.names.getD t0 none = none) : reorder m req = none :=
  Option.eq_none_iff_forall_ne_some.mpr fun m' h => by
    obtain ⟨e', hr⟩ := reorder_class h ht he
    obtain ⟨x', _, hxr⟩ := hr.fields.mem_left hx
    rw [hxr.key_eq.1] at hmiss
    cases hmiss

/-- the same for a method -/
theorem reorder_fails_missing_method {m : Mappings} {req : List JStr} {t0 : Nat} {rest : List Nat} {e : JStr × Class}
    {x : MemberKey × Method}
    (ht : tableOf m req = some (t0 :: rest)) (he : e ∈ m.classes) (hx : x ∈ e.2.methods)
    (hmiss : x.2.names.getD t0 none = none) : reorder m req = none :=
  Option.eq_none_iff_forall_ne_some.mpr fun m' h => by
    obtain ⟨e', hr⟩ := reorder_class h ht he
    obtain ⟨x', _, hxr⟩ := hr.methods.mem_left hx
    rw [hxr.key_eq.1] at hmiss
    cases hmiss

/-- two classes with the same name in the new first namespace: error (neither is dropped or overwritten) -/
theorem reorder_fails_dup_class {m : Mappings} {req : List JStr} {t0 : Nat} {rest : List Nat} {i j : Nat}
    (ht : tableOf m req = some (t0 :: rest)) (hi : i < m.classes.length) (hj : j < m.classes.length) (hij : i < j)
    (hsame : m.classes[i].2.names.getD t0 none = m.classes[j].2.names.getD t0 none) :
    reorder m req = none :=
  Option.eq_none_iff_forall_ne_some.mpr fun m' h => by
    obtain ⟨_, _, hrel, hnd⟩ := (reorder_spec.mp h).of_table ht
    obtain ⟨a, b, ra, rb, hne⟩ := hrel.key_ne (key := Prod.fst) hnd hi hj hij
    exact hne (Option.some.inj (ra.key_eq.symm.trans (hsame.trans rb.key_eq)))

/-- two fields of a class with the same new first name and the same rewritten descriptor: error -/
theorem reorder_fails_dup_field {m : Mappings} {req : List JStr} {t0 : Nat} {rest : List Nat} {e : JStr × Class}
    {i j : Nat}
    (ht : tableOf m req = some (t0 :: rest)) (he : e ∈ m.classes)
    (hi : i < e.2.fields.length) (hj : j < e.2.fields.length) (hij : i < j)
    (hname : e.2.fields[i].2.names.getD t0 none = e.2.fields[j].2.names.getD t0 none)
    (hdesc : mapDesc (mapClass (rows m t0)) e.2.fields[i].2.desc = mapDesc (mapClass (rows m t0)) e.2.fields[j].2.desc) :
    reorder m req = none :=
  Option.eq_none_iff_forall_ne_some.mpr fun m' h => by
    obtain ⟨e', hr⟩ := reorder_class h ht he
    obtain ⟨a, b, ra, rb, hne⟩ := hr.fields.key_ne (key := Prod.fst) hr.fields_nodup hi hj hij
    exact hne (Prod.ext (Option.some.inj (ra.key_eq.1.symm.trans (hname.trans rb.key_eq.1)))
      (Option.some.inj (ra.key_eq.2.symm.trans (hdesc.trans rb.key_eq.2))))

/-- two methods of a class with the same new first name and the same rewritten descriptor: error -/
theorem reorder_fails_dup_method {m : Mappings} {req : List JStr} {t0 : Nat} {rest : List Nat} {e : JStr × Class}
    {i j : Nat}
    (ht : tableOf m req = some (t0 :: rest)) (he : e ∈ m.classes)
    (hi : i < e.2.methods.length) (hj : j < e.2.methods.length) (hij : i < j)
    (hname : e.2.methods[i].2.names.getD t0 none = e.2.methods[j].2.names.getD t0 none)
    (hdesc : mapDesc (mapClass (rows m t0)) e.2.methods[i].2.desc = mapDesc (mapClass (rows m t0)) e.2.methods[j].2.desc) :
    reorder m req = none :=
  Option.eq_none_iff_forall_ne_some.mpr fun m' h => by
    obtain ⟨e', hr⟩ := reorder_class h ht he
    obtain ⟨a, b, ra, rb, hne⟩ := hr.methods.key_ne (key := Prod.fst) hr.methods_nodup hi hj hij
    exact hne (Prod.ext (Option.some.inj (ra.key_eq.1.symm.trans (hname.trans rb.key_eq.1)))
      (Option.some.inj (ra.key_eq.2.symm.trans (hdesc.trans rb.key_eq.2))))

/-- a descriptor `map_desc` rejects (`L;`, missing `;`) is an error -/
theorem reorder_fails_bad_descriptor {m : Mappings} {req : List JStr} {d : JStr}
    (hd : d ∈ descsOf m) (hbad : ¬ DescOk d) : reorder m req = none := by
  cases h : reorder m req with
  | none => rfl
  | some m' =>
    obtain ⟨_, t0, rest, _, _, _, hrel, _⟩ := reorder_spec.mp h
    obtain ⟨e, he, hx⟩ := mem_descsOf.mp hd
    obtain ⟨e', _, hr⟩ := hrel.mem_left he
    -- the reordered entry holds the rewritten descriptor, so `map_desc` accepted `d`
    obtain ⟨d', hd'⟩ : ∃ d', mapDesc (mapClass (rows m t0)) d = some d' := by
      rcases hx with ⟨x, hx, rfl⟩ | ⟨x, hx, rfl⟩
      · obtain ⟨x', _, hxr⟩ := hr.fields.mem_left hx
        exact ⟨_, hxr.desc⟩
      · obtain ⟨x', _, hxr⟩ := hr.methods.mem_left hx
        exact ⟨_, hxr.desc⟩
    refine absurd ?_ hbad
    unfold DescOk
    rw [mapDesc_id_of_isSome (f := mapClass (rows m t0)) (by rw [hd']; rfl)]
    rfl

/-- parameters never fail on a missing name: rebuilding a parameter map succeeds as soon as the indices are pairwise
different (the model ignores the keys of the input map, so equal indices under different keys do fail), whatever names
are absent -/
theorem reorder_params_never_fail (table : List Nat) (ps : AList Nat Param)
    (hnd : (ps.map (fun e => e.2.index)).Nodup) :
    ∃ ps', buildMap (reorderParam table) (AList.values ps) [] = some ps' ∧ ListRel (ParamRel table) ps ps' := by
  let ps' : AList Nat Param := ps.map (fun e => (e.2.index, { e.2 with names := reorderNames table e.2.names }))
  have hrel : ListRel (ParamRel table) ps ps' := by
    apply ListRel.of_get (by simp [ps'])
    intro i hi hi'
    simp [ps', ParamRel]
  refine ⟨ps', ?_, hrel⟩
  apply (buildVals_iff (R := ParamRel table) (fun a b => reorderParam_iff a b)).mpr
  refine ⟨hrel, ?_⟩
  simpa [ps', AList.keys, List.map_map, Function.comp_def] using hnd

/-- **Identity.** Reordering to the current order returns the input unchanged, for every well-formed set (unique
namespace names, rows of length `N`, entries stored under the keys derived from their info) whose descriptors
`map_desc` accepts. The two `_witness` theorems below show that unique namespace names and accepted descriptors cannot
be dropped. -/
theorem reorder_id {m : Mappings} (hwf : WF m) (hd : DescsOk m) (hne : m.ns ≠ []) : reorder m m.ns = some m := by
  apply reorder_spec.mpr
  obtain ⟨hnsnd, hknd, hcwf⟩ := hwf
  obtain ⟨table, htab⟩ : ∃ table, tableOf m m.ns = some table := tableOf_exists (fun x hx => hx)
  have hlen : table.length = m.ns.length := tableOf_length htab
  have hid : ∀ i j : Nat, table[i]? = some j → j = i := fun _ _ => tableOf_self hnsnd htab
  have hnames : ∀ names : Names, names.length = m.ns.length → reorderNames table names = names :=
    fun names hn => reorderNames_ext (hlen.trans hn.symm) fun i j hij => by rw [hid i j hij]
  cases table with
  | nil =>
    simp only [List.length_nil] at hlen
    exact absurd (List.length_eq_zero_iff.mp hlen.symm) hne
  | cons t0 rest =>
  cases hid 0 t0 rfl
  have hf : mapClass (rows m 0) = id := funext (mapClass_rows_zero m)
  have hdesc : ∀ d ∈ descsOf m, mapDesc (mapClass (rows m 0)) d = some d := by
    intro d hdm
    rw [hf]
    exact mapDesc_id_of_isSome (f := id) (hd d hdm)
  refine ⟨rfl, 0, rest, htab, (tableOf_ns htab).symm, rfl, ?_, hknd⟩
  apply ListRel.refl_mem
  intro e he
  obtain ⟨w1, w2, w3, w4, w5, w6⟩ := hcwf e he
  refine ⟨(hnames _ w1).symm, rfl, w2, ?_, w3, ?_, w5⟩
  · apply ListRel.refl_mem
    intro x hx
    obtain ⟨x1, x2, x3⟩ := w4 x hx
    exact ⟨hdesc _ (mem_descsOf.mpr ⟨e, he, Or.inl ⟨x, hx, rfl⟩⟩), (hnames _ x1).symm, rfl, x2, x3⟩
  · apply ListRel.refl_mem
    intro x hx
    obtain ⟨x1, x2, x3, x4, x5⟩ := w6 x hx
    refine ⟨hdesc _ (mem_descsOf.mpr ⟨e, he, Or.inr ⟨x, hx, rfl⟩⟩), (hnames _ x1).symm, rfl, x2, x3, ?_, x4⟩
    apply ListRel.refl_mem
    intro p hp
    obtain ⟨p1, p2⟩ := x5 p hp
    exact ⟨p2, rfl, (hnames _ p1).symm, rfl⟩

/-- with two namespaces of the same name the "identity" request resolves both to the first one -/
theorem reorder_id_dupns_witness :
    let m : Mappings := { ns := [jstr "a", jstr "a"], doc := none, classes := [
      (jstr "A", { names := [some (jstr "A"), some (jstr "B")], doc := none, fields := [], methods := [] })] }
    reorder m m.ns ≠ some m := by open Mappings in decide +kernel

/-- a descriptor `map_desc` rejects makes even the identity reorder fail -/
theorem reorder_id_baddesc_witness :
    let m : Mappings := { ns := [jstr "a", jstr "b"], doc := none, classes := [
      (jstr "A", { names := [some (jstr "A"), some (jstr "B")], doc := none, fields := [((jstr "f", jstr "L;"), { desc := jstr "L;", names := [some (jstr "f"), none], doc := none })], methods := [] })] }
    reorder m m.ns = none := by open Mappings in decide +kernel

/-- **Inverse.** For a well-formed set, a request containing every namespace (a permutation, the length being fixed) and
an injective class-name map (`DescInjective`), reordering back to the original order returns exactly the original set,
entry order included. -/
theorem reorder_inverse {m m' : Mappings} {req : List JStr} {t0 : Nat} {rest : List Nat}
    (hwf : WF m) (hreq : ∀ n ∈ m.ns, n ∈ req) (ht : tableOf m req = some (t0 :: rest))
    (hinj : DescInjective m t0) (h : reorder m req = some m') : reorder m' m.ns = some m :=
  reorder_spec.mpr (spec_inverse hwf hreq ht hinj (reorder_spec.mp h))

/-- outside `DescInjective`: a descriptor mentions `B`, which is not a class of the set (so it stays `B`), while the
class `A` is called `B` in the other namespace; on the way back `B` is taken for the class and becomes `A` -/
theorem reorder_inverse_witness :
    let m : Mappings := { ns := [jstr "x", jstr "y"], doc := none, classes := [
      (jstr "A", { names := [some (jstr "A"), some (jstr "B")], doc := none, fields := [((jstr "f", jstr "LB;"), { desc := jstr "LB;", names := [some (jstr "f"), some (jstr "g")], doc := none })], methods := [] })] }
    WF m ∧ (∃ m', reorder m [jstr "y", jstr "x"] = some m' ∧ ∃ m'', reorder m' m.ns = some m'' ∧ m'' ≠ m) := by
  open Mappings in decide +kernel

/-- the hypotheses of `reorder_inverse` and `reorder_id` are satisfiable by a set with three namespaces, an absent
name, descriptors mentioning a mapped, an unmapped and an array class, a parameter and comments -/
example :
    let m : Mappings := { ns := [jstr "x", jstr "y", jstr "z"], doc := none, classes := [
      (jstr "p/A", { names := [some (jstr "p/A"), some (jstr "q/B"), none], doc := some (jstr "doc"), fields := [((jstr "f", jstr "[Lp/A;"), { desc := jstr "[Lp/A;", names := [some (jstr "f"), some (jstr "g"), none], doc := none })], methods := [((jstr "m", jstr "(Lp/A;Lun/mapped;I)V"), { desc := jstr "(Lp/A;Lun/mapped;I)V", names := [some (jstr "m"), some (jstr "n"), some (jstr "o")], doc := none, params := [(1, { index := 1, names := [none, some (jstr "arg"), none], doc := some (jstr "d") })] })] })] }
    WF m ∧ DescsOk m ∧ DescInjective m 1 ∧ tableOf m [jstr "y", jstr "z", jstr "x"] = some [1, 2, 0] ∧
    reorder m [jstr "y", jstr "z", jstr "x"] = some { ns := [jstr "y", jstr "z", jstr "x"], doc := none, classes := [
      (jstr "q/B", { names := [some (jstr "q/B"), none, some (jstr "p/A")], doc := some (jstr "doc"), fields := [((jstr "g", jstr "[Lq/B;"), { desc := jstr "[Lq/B;", names := [some (jstr "g"), none, some (jstr "f")], doc := none })], methods := [((jstr "n", jstr "(Lq/B;Lun/mapped;I)V"), { desc := jstr "(Lq/B;Lun/mapped;I)V", names := [some (jstr "n"), some (jstr "o"), some (jstr "m")], doc := none, params := [(1, { index := 1, names := [some (jstr "arg"), none, none], doc := some (jstr "d") })] })] })] } := by
  simp -index only [jstr_ofList]
  open Mappings in decide +kernel

end Thm.C08
