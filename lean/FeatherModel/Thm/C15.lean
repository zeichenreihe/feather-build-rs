import FeatherModel.Model.BridgeMap
import FeatherModel.Lemmas.BridgeSelect
import FeatherModel.Lemmas.BridgeApply
import FeatherModel.Lemmas.JStrLit

/-!
# C15 — bridge targets inherit the bridge's mapped name, nothing else changes

Model: `Model/Bridge.lean` (index, bridge predicate, selection loop, insertion loop), `Model/BridgeMap.lean` (the
whole of `add_specialized_methods_to_mappings` with the C06 remapper model). The statements are written in the
vocabulary of `Model/BridgeSpec.lean` (`Reach`, `Compat`, `RetCompat`, `Potential`, `IsBridgePair`, `foldHigher`,
`touches`, `lastTouch`, `methodAt`) and, for the jar, of `Lemmas/BridgeIndex.lean` (`directSupers`, `Invoked`,
`Declared`); `ClassRel` / `MapRel` (`Lemmas/BridgeApply.lean`) are the relation the `apply_*` theorems project.

All statements are for every jar description / index / mapping set / fuel. In `select` the fuel only bounds the
hierarchy walks of the Rust code, which have no visited set and do not terminate on a cyclic hierarchy: the selection
does not depend on it (`select_fuel_independent`) and some fuel suffices on every acyclic hierarchy
(`select_terminates`). In `addFull` the same fuel also bounds the super-type search of the two remappers; `add_untouched`
and `add_touched` are stated at the remappers `su.interOf fuel` / `su.namedOf fuel` of that fuel, and nothing is stated
here about how those depend on it.
-/

namespace Thm.C15

open Bridge

/-- the class set is the set of class names of the jar -/
theorem index_classes (jar : JarDesc) (c : JStr) : c ∈ (ofJar jar).classes ↔ ∃ cd, cd ∈ jar ∧ cd.name = c := by
  refine (foldl_accum visitClass (fun i => c ∈ i.classes) (fun cd => cd.name = c) (fun b a => ?_)
    jar Index.empty).trans (or_iff_right List.not_mem_nil)
  rw [visitClass_eq, foldl_preserve (visitMethod a.name) Index.classes fun b m => by rw [visitMethod_eq],
    headerOf_pred (fun i => i.classes = setInsert a.name b.classes) b a rfl fun _ _ h => h, mem_setInsert, eq_comm]

/-- recorded parents of `c`: the super class (unless it is `java/lang/Object`) and the interfaces of every class
description named `c` -/
theorem index_parents (jar : JarDesc) (c p : JStr) :
    p ∈ nexts (ofJar jar).parents c ↔ ∃ cd, cd ∈ jar ∧ cd.name = c ∧ directSupers cd p := by
  refine (foldl_accum visitClass (fun i => p ∈ nexts i.parents c) (fun cd => cd.name = c ∧ directSupers cd p)
    (fun b a => ?_) jar Index.empty).trans (or_iff_right List.not_mem_nil)
  rw [visitClass_eq, foldl_preserve (visitMethod a.name) Index.parents fun b m => by rw [visitMethod_eq], eq_comm]
  exact headerOf_parents b a c p

/-- the children map is the converse of the parents map -/
theorem index_children (jar : JarDesc) (c p : JStr) :
    c ∈ nexts (ofJar jar).children p ↔ p ∈ nexts (ofJar jar).parents c :=
  ofJar_converse jar c p

/-- "the body invokes exactly one distinct method": the recorded call set of `b` is `[s]` iff the invoke instructions
(virtual, special, static, interface; receivers that are array classes and `invokedynamic` do not count) of the
bodies declared for `b` name `s` and nothing else -/
theorem index_single_call (jar : JarDesc) (b s : MRef) :
    AList.lookup b (ofJar jar).refs = some [s] ↔ ∀ t, Invoked jar b t ↔ t = s :=
  ofJar_refs_single jar b s

/-- every entry of the method table comes from a declaration of the jar, with the access flags declared there -/
theorem index_methods_declared (jar : JarDesc) (b : MRef) (acc : Access)
    (h : AList.lookup b (ofJar jar).methods = some acc) : Declared jar b acc :=
  ofJar_methods_declared jar b acc h

/-- the method table has one entry per method reference -/
theorem index_methods_unique (jar : JarDesc) : ((ofJar jar).methods.map Prod.fst).Nodup := by
  refine ofJar_pred (fun i => (i.methods.map Prod.fst).Nodup) jar List.nodup_nil (fun _ _ h => h) (fun _ _ _ h => h)
    (fun idx c m _ _ h => ?_)
  rw [visitMethod_eq, keys_upsert]
  exact nodup_setInsert _ h

/-- `get_ancestors` returns (with repetitions) exactly the classes reachable through one or more parent edges -/
theorem ancestors_iff_reach (idx : Index) (fuel : Nat) (c : JStr) (as : List JStr)
    (h : ancestors idx fuel c = some as) (a : JStr) : a ∈ as ↔ Reach idx.parents c a :=
  walk_mem_single idx.parents fuel c as h a

/-- `get_descendants`, likewise over the child edges -/
theorem descendants_iff_reach (idx : Index) (fuel : Nat) (c : JStr) (ds : List JStr)
    (h : descendants idx fuel c = some ds) (a : JStr) : a ∈ ds ↔ Reach idx.children c a :=
  walk_mem_single idx.children fuel c ds h a

/-- fuel independence: a result obtained with some fuel is the result for every larger fuel -/
theorem select_fuel_independent (idx : Index) (f f' : Nat) (st : SelState) (h : select idx f = some st) (hle : f ≤ f') :
    select idx f' = some st :=
  selectWith_mono idx (walksOf_le idx hle) st h

/-- fuel sufficiency: on an acyclic hierarchy (a rank strictly decreasing along the parent edges, one along the child
edges) `get_specialized_methods` terminates -/
theorem select_terminates (idx : Index) (rankP rankC : JStr → Nat)
    (hp : ∀ c p, p ∈ nexts idx.parents c → rankP p < rankP c)
    (hc : ∀ p c, c ∈ nexts idx.children p → rankC c < rankC p) :
    ∃ fuel st, select idx fuel = some st := by
  obtain ⟨F, hF⟩ := walksOf_total idx rankP rankC hp hc
  exact ⟨F, selectWith_total idx hF⟩

/-- **Bridge characterisation.** For an index with unique method keys (every index built from a jar,
`index_methods_unique`): `(b, s)` is in `bridge_to_specialized` iff `b` is synthetic, its recorded call set is exactly
`{s}`, and it is flagged as a bridge or is inheritable (not private / static / final) with both descriptors parsing,
the same arity, position-wise bridge-compatible parameter types and bridge-compatible return types (`Potential`,
`Compat`: through the class hierarchy recorded for the jar). -/
theorem bridge_iff_index (idx : Index) (hnd : (idx.methods.map Prod.fst).Nodup) (fuel : Nat) (st : SelState)
    (h : select idx fuel = some st) (b s : MRef) : (b, s) ∈ st.1 ↔ IsBridgePair idx b s :=
  selectWith_mem idx hnd (walksOf_sound idx fuel) st h b s

/-- the same for a jar -/
theorem bridge_iff (jar : JarDesc) (fuel : Nat) (st : SelState) (h : select (ofJar jar) fuel = some st) (b s : MRef) :
    (b, s) ∈ st.1 ↔ IsBridgePair (ofJar jar) b s :=
  bridge_iff_index (ofJar jar) (index_methods_unique jar) fuel st h b s

/-- ... with the call-set condition spelled out on the instructions of the jar -/
theorem bridge_iff_jar (jar : JarDesc) (fuel : Nat) (st : SelState) (h : select (ofJar jar) fuel = some st) (b s : MRef) :
    (b, s) ∈ st.1 ↔ ∃ acc, AList.lookup b (ofJar jar).methods = some acc ∧ acc.synthetic = true ∧
      (∀ t, Invoked jar b t ↔ t = s) ∧ (acc.bridge = true ∨ Potential (ofJar jar) b acc s) := by
  rw [bridge_iff jar fuel st h b s, IsBridgePair]
  simp only [ofJar_refs_single]

/-- the result is in the order of the method table and has one entry per bridge -/
theorem bridges_are_candidates (idx : Index) (hnd : (idx.methods.map Prod.fst).Nodup) (fuel : Nat) (st : SelState)
    (h : select idx fuel = some st) :
    (st.1.map Prod.fst).Sublist (idx.methods.map Prod.fst) ∧ (st.1.map Prod.fst).Nodup := by
  have hs := candidates_keys idx (walksOf idx fuel) idx.methods st.1 (select_fst idx _ hnd st h).1
  exact ⟨hs, hs.nodup hnd⟩

/-- a bridge has one specialized method -/
theorem bridge_unique_delegate (jar : JarDesc) (fuel : Nat) (st : SelState) (h : select (ofJar jar) fuel = some st)
    (b s s' : MRef) (h1 : (b, s) ∈ st.1) (h2 : (b, s') ∈ st.1) : s = s' :=
  ((bridge_iff jar fuel st h b s).mp h1).unique ((bridge_iff jar fuel st h b s').mp h2)

/-- no other method is selected: ordinary (non-synthetic) methods -/
theorem ordinary_method_not_selected (jar : JarDesc) (fuel : Nat) (st : SelState) (h : select (ofJar jar) fuel = some st)
    (b s : MRef) (acc : Access) (hb : AList.lookup b (ofJar jar).methods = some acc) (hs : acc.synthetic = false) :
    (b, s) ∉ st.1 := by
  intro hm
  have h2 := (((bridge_iff jar fuel st h b s).mp hm).of_lookup hb).1
  rw [hs] at h2
  cases h2

/-- ... synthetic methods invoking no method, or several distinct ones -/
theorem zero_or_several_calls_not_selected (jar : JarDesc) (fuel : Nat) (st : SelState)
    (h : select (ofJar jar) fuel = some st) (b s : MRef)
    (hcalls : (¬ ∃ t, Invoked jar b t) ∨ ∃ t t', Invoked jar b t ∧ Invoked jar b t' ∧ t ≠ t') : (b, s) ∉ st.1 := by
  intro hm
  obtain ⟨_, _, _, h3, _⟩ := (bridge_iff_jar jar fuel st h b s).mp hm
  rcases hcalls with hno | ⟨t, t', ht, ht', hne⟩
  · exact hno ⟨s, (h3 s).mpr rfl⟩
  · exact hne (((h3 t).mp ht).trans ((h3 t').mp ht').symm)

/-- ... unflagged synthetics that are private, static or final, or whose signatures are not compatible -/
theorem unflagged_incompatible_not_selected (jar : JarDesc) (fuel : Nat) (st : SelState)
    (h : select (ofJar jar) fuel = some st) (b s : MRef) (acc : Access)
    (hb : AList.lookup b (ofJar jar).methods = some acc) (hflag : acc.bridge = false)
    (hbad : acc.priv = true ∨ acc.static = true ∨ acc.final = true ∨ ¬ Potential (ofJar jar) b acc s) :
    (b, s) ∉ st.1 := by
  intro hm
  rcases (((bridge_iff jar fuel st h b s).mp hm).of_lookup hb).2.2 with h4 | h4
  · rw [hflag] at h4
    cases h4
  · simp only [h4.1, h4.2.1, h4.2.2.1, Bool.false_eq_true, false_or] at hbad
    exact hbad h4

/-- `get_higher_method b1 b2` answers `b1` when the class of `b2` is a proper descendant of the class of `b1`, and `b2`
otherwise -/
theorem higher_iff (idx : Index) (fuel : Nat) (b1 b2 r : MRef) (h : higher (walksOf idx fuel) b1 b2 = some r) :
    (Reach idx.children b1.cls b2.cls → r = b1) ∧ (¬ Reach idx.children b1.cls b2.cls → r = b2) :=
  higher_spec idx (walksOf_sound idx fuel) b1 b2 r h

/-- the bridge recorded for a specialized method `s` is the fold of `get_higher_method` over the bridges selected for
`s`, in the order of the method table: the first one is recorded, a later one replaces the recorded one iff the
recorded one's class is a proper descendant of the later one's class (`foldHigher`, `higher_iff`) -/
theorem s2b_spec (idx : Index) (hnd : (idx.methods.map Prod.fst).Nodup) (fuel : Nat) (st : SelState)
    (h : select idx fuel = some st) (s : MRef) :
    foldHigher (walksOf idx fuel) none ((st.1.filter fun p => p.2 == s).map Prod.fst) = some (AList.lookup s st.2) :=
  foldSel_snd (walksOf idx fuel) s st.1 ([], []) st (select_fst idx _ hnd st h).2

/-- what an inserted / overwritten entry looks like: descriptor and name row come from the pair, comment and
parameters are kept (empty for a new entry) -/
theorem newEntry_spec (old : Option Method) (s : MRef) (named : JStr) :
    (newEntry old s named).desc = s.desc ∧ (newEntry old s named).names = [mkName s.name, mkName named] ∧
    (newEntry old s named).doc = (old.map (·.doc)).join ∧ (newEntry old s named).params = (old.map (·.params)).getD [] := by
  cases old <;> simp [newEntry]

/-- header, class keys and their order are unchanged -/
theorem apply_header (namedOf : MRef → Option JStr) (ps : List (MRef × MRef)) (m m' : Mappings)
    (h : applyPairs namedOf ps m = some m') :
    m'.ns = m.ns ∧ m'.doc = m.doc ∧ m'.classes.map Prod.fst = m.classes.map Prod.fst := by
  have r := applyPairs_rel namedOf ps m m' h
  exact ⟨r.ns, r.doc, r.keys⟩

/-- no class appears -/
theorem apply_absent_class (namedOf : MRef → Option JStr) (ps : List (MRef × MRef)) (m m' : Mappings)
    (h : applyPairs namedOf ps m = some m') (c : JStr) (hc : AList.lookup c m.classes = none) :
    AList.lookup c m'.classes = none :=
  (applyPairs_rel namedOf ps m m' h).absent c hc

/-- names, comment and fields of every class are unchanged; its method keys keep their positions, new ones are appended -/
theorem apply_class_info (namedOf : MRef → Option JStr) (ps : List (MRef × MRef)) (m m' : Mappings)
    (h : applyPairs namedOf ps m = some m') (c : JStr) (cl : Class) (hc : AList.lookup c m.classes = some cl) :
    ∃ cl', AList.lookup c m'.classes = some cl' ∧ cl'.names = cl.names ∧ cl'.doc = cl.doc ∧ cl'.fields = cl.fields ∧
      ∃ extra, cl'.methods.map Prod.fst = cl.methods.map Prod.fst ++ extra := by
  obtain ⟨cl', h1, r⟩ := (applyPairs_rel namedOf ps m m' h).present c cl hc
  exact ⟨cl', h1, r.names, r.doc, r.fields, r.order⟩

/-- a method entry after the loop: absent when its class is, otherwise the effect `foldF` of the pairs on the entry
before -/
theorem methodAt_rel (namedOf : MRef → Option JStr) (ps : List (MRef × MRef)) (m m' : Mappings)
    (h : applyPairs namedOf ps m = some m') (c : JStr) (k : MemberKey) :
    methodAt m' c k = match AList.lookup c m.classes with
      | none => none
      | some _ => foldF namedOf ps c k (methodAt m c k) := by
  have r := applyPairs_rel namedOf ps m m' h
  unfold methodAt
  cases hc : AList.lookup c m.classes with
  | none => rw [r.absent c hc]
  | some cl =>
    obtain ⟨cl', h1, rc⟩ := r.present c cl hc
    rw [h1]
    exact rc.entries k

/-- **Frame.** A method entry `(c, k)` that no pair writes — no pair `(b, s)` with `b.cls = c` and
`(s.name, s.desc) = k` — is exactly what it was (present with the same content, or absent) -/
theorem apply_untouched (namedOf : MRef → Option JStr) (ps : List (MRef × MRef)) (m m' : Mappings)
    (h : applyPairs namedOf ps m = some m') (c : JStr) (k : MemberKey) (hno : lastTouch ps c k = none) :
    methodAt m' c k = methodAt m c k := by
  rw [methodAt_rel namedOf ps m m' h c k]
  cases hc : AList.lookup c m.classes with
  | none => unfold methodAt; rw [hc]
  | some cl => rw [foldF_eq, hno]

/-- **Effect.** If `(b, s)` is the last pair writing `(c, k)` and `c` is a class of the mapping set, the entry afterwards
is `newEntry` of the old entry: name row `[mkName s.name, mkName named]` with `namedOf b = some named` (an empty name
is an absent one), descriptor `s.desc`, comment and parameters kept -/
theorem apply_touched (namedOf : MRef → Option JStr) (ps : List (MRef × MRef)) (m m' : Mappings)
    (h : applyPairs namedOf ps m = some m') (c : JStr) (k : MemberKey) (b s : MRef)
    (hlast : lastTouch ps c k = some (b, s)) (cl : Class) (hc : AList.lookup c m.classes = some cl) :
    ∃ named, namedOf b = some named ∧ methodAt m' c k = some (newEntry (methodAt m c k) s named) := by
  obtain ⟨named, hn⟩ := applyPairs_named namedOf ps m m' h (b, s) (lastTouch_mem hlast).1
  refine ⟨named, hn, ?_⟩
  rw [methodAt_rel namedOf ps m m' h c k, hc, foldF_eq, hlast]
  dsimp only
  rw [hn]
  rfl

/-- a pair that is the only one writing its entry is the last one -/
theorem lastTouch_of_unique (ps : List (MRef × MRef)) (c : JStr) (k : MemberKey) (p : MRef × MRef) (hp : p ∈ ps)
    (ht : touches c k p = true) (huniq : ∀ q, q ∈ ps → touches c k q = true → q = p) : lastTouch ps c k = some p := by
  cases hl : lastTouch ps c k with
  | none => exact absurd ((lastTouch_eq_none_iff.mp hl p hp).symm.trans ht) Bool.false_ne_true
  | some q =>
    obtain ⟨h1, h2⟩ := lastTouch_mem hl
    rw [huniq q h1 h2]

/-- a successful run decomposes into: set-up (namespaces, both remappers, providers), selection, remapping of the
selected pairs with the calamus remapper, insertion with the named remapper -/
theorem add_spec (jar : JarDesc) (libs : List JarDesc) (cal m m' : Mappings) (fuel : Nat)
    (h : addFull jar libs cal m fuel = some (some m')) :
    ∃ su st ps, setup jar libs cal m = some su ∧ select (ofJar jar) fuel = some st ∧
      remapPairs (su.interOf fuel) st.1 [] = some ps ∧ applyPairs (su.namedOf fuel) ps m = some m' := by
  unfold addFull at h
  split at h
  · cases h
  next su hsu =>
  split at h
  · cases h
  next st hst =>
  unfold addWith at h
  split at h
  · cases h
  split at h
  · cases h
  next ps hps =>
  split at h
  · cases h
  exact ⟨su, st, ps, hsu, hst, hps, Option.some.inj h⟩

/-- a failing set-up (a namespace missing, a remapper that cannot be built) is an error, whatever the jar -/
theorem add_setup_error (jar : JarDesc) (libs : List JarDesc) (cal m : Mappings) (fuel : Nat)
    (h : setup jar libs cal m = none) : addFull jar libs cal m fuel = some none := by
  rw [addFull, h]

/-- every pair the insertion loop sees is the calamus image of a bridge pair of the jar (`bridge_iff`) -/
theorem add_pairs_are_bridges (jar : JarDesc) (fuel : Nat) (st : SelState) (h : select (ofJar jar) fuel = some st)
    (f : MRef → Option MRef) (ps : AList MRef MRef) (hps : remapPairs f st.1 [] = some ps) (p : MRef × MRef) (hp : p ∈ ps) :
    ∃ b s, IsBridgePair (ofJar jar) b s ∧ f b = some p.1 ∧ f s = some p.2 := by
  rcases remapPairs_sound f st.1 [] ps hps p hp with h1 | ⟨q, hq, h1, h2⟩
  · cases h1
  · exact ⟨q.1, q.2, (bridge_iff jar fuel st h q.1 q.2).mp hq, h1, h2⟩

/-- **No other method causes a rename, every entry not concerned is returned unchanged.** After a successful run the
mapping set has the same namespaces, comment, classes (keys, order, names, comments, fields); and a method entry
`(c, k)` is exactly what it was unless some bridge pair `(b, s)` of the jar (`IsBridgePair`) has intermediary images
`b'`, `s'` with `b'.cls = c` and `(s'.name, s'.desc) = k`. -/
theorem add_untouched (jar : JarDesc) (libs : List JarDesc) (cal m m' : Mappings) (fuel : Nat) (su : Setup)
    (hsu : setup jar libs cal m = some su) (h : addFull jar libs cal m fuel = some (some m')) :
    m'.ns = m.ns ∧ m'.doc = m.doc ∧ m'.classes.map Prod.fst = m.classes.map Prod.fst ∧
    (∀ c, AList.lookup c m.classes = none → AList.lookup c m'.classes = none) ∧
    (∀ c cl, AList.lookup c m.classes = some cl → ∃ cl', AList.lookup c m'.classes = some cl' ∧
        cl'.names = cl.names ∧ cl'.doc = cl.doc ∧ cl'.fields = cl.fields ∧
        ∃ extra, cl'.methods.map Prod.fst = cl.methods.map Prod.fst ++ extra) ∧
    ∀ c k, (∀ b s b' s', IsBridgePair (ofJar jar) b s → su.interOf fuel b = some b' → su.interOf fuel s = some s' →
        touches c k (b', s') = false) → methodAt m' c k = methodAt m c k := by
  obtain ⟨su', st, ps, h1, h2, h3, h4⟩ := add_spec jar libs cal m m' fuel h
  rw [hsu] at h1
  cases h1
  obtain ⟨e1, e2, e3⟩ := apply_header _ ps m m' h4
  refine ⟨e1, e2, e3, fun c hc => apply_absent_class _ ps m m' h4 c hc,
    fun c cl hc => apply_class_info _ ps m m' h4 c cl hc, ?_⟩
  intro c k hno
  refine apply_untouched _ ps m m' h4 c k (lastTouch_eq_none_iff.mpr fun q hq => ?_)
  obtain ⟨b, s, hbs, hb, hs⟩ := add_pairs_are_bridges jar fuel st h2 _ ps h3 q hq
  exact hno b s q.1 q.2 hbs hb hs

/-- **The delegate receives the bridge's name.** Let `(b, s)` be a bridge pair of the jar with intermediary images
`b'`, `s'`, such that no other bridge has the intermediary reference `b'` and no bridge pair with another intermediary
bridge reference writes the same entry (at most one bridge per delegate and class). If `b'.cls` is a class of the
mapping set, then after a successful run the entry `(s'.name, s'.desc)` of that class has the name row
`[mkName s'.name, mkName named]` (an empty name is an absent one) where `named` is the name the named remapper
(through inheritance) gives to `b'`, the descriptor
`s'.desc`, and the comment and parameters it had before (none if it is new). -/
theorem add_touched (jar : JarDesc) (libs : List JarDesc) (cal m m' : Mappings) (fuel : Nat) (su : Setup)
    (hsu : setup jar libs cal m = some su) (h : addFull jar libs cal m fuel = some (some m'))
    (b s b' s' : MRef) (hpair : IsBridgePair (ofJar jar) b s)
    (hb : su.interOf fuel b = some b') (hs : su.interOf fuel s = some s')
    (hinj : ∀ b2 s2, IsBridgePair (ofJar jar) b2 s2 → su.interOf fuel b2 = some b' → b2 = b)
    (huniq : ∀ b2 s2 b2' s2', IsBridgePair (ofJar jar) b2 s2 → su.interOf fuel b2 = some b2' →
      su.interOf fuel s2 = some s2' → touches b'.cls (s'.name, s'.desc) (b2', s2') = true → b2' = b')
    (cl : Class) (hcl : AList.lookup b'.cls m.classes = some cl) :
    ∃ named, su.namedOf fuel b' = some named ∧
      methodAt m' b'.cls (s'.name, s'.desc) = some (newEntry (methodAt m b'.cls (s'.name, s'.desc)) s' named) := by
  obtain ⟨su', st, ps, h1, h2, h3, h4⟩ := add_spec jar libs cal m m' fuel h
  rw [hsu] at h1
  cases h1
  have hall : ∀ q, q ∈ ps → q.1 = b' → q = (b', s') := by
    intro q hq hq1
    obtain ⟨b2, s2, hbs, hb2, hs2⟩ := add_pairs_are_bridges jar fuel st h2 _ ps h3 q hq
    cases hinj b2 s2 hbs (hq1 ▸ hb2)
    cases hbs.unique hpair
    cases hs.symm.trans hs2
    cases q
    cases hq1
    rfl
  have hmem : (b', s') ∈ ps := by
    obtain ⟨p, hp, hp1⟩ := List.mem_map.mp (remapPairs_complete _ st.1 [] ps h3 b'
      (Or.inr ⟨(b, s), (bridge_iff jar fuel st h2 b s).mpr hpair, hb⟩))
    exact hall p hp hp1 ▸ hp
  have htouch : touches b'.cls (s'.name, s'.desc) (b', s') = true := touches_iff.mpr ⟨rfl, rfl⟩
  have hlast : lastTouch ps b'.cls (s'.name, s'.desc) = some (b', s') := by
    apply lastTouch_of_unique ps _ _ (b', s') hmem htouch
    intro q hq hqt
    obtain ⟨b2, s2, hbs, hb2, hs2⟩ := add_pairs_are_bridges jar fuel st h2 _ ps h3 q hq
    have := huniq b2 s2 q.1 q.2 hbs hb2 hs2 hqt
    exact hall q hq this
  exact apply_touched _ ps m m' h4 b'.cls (s'.name, s'.desc) b' s' hlast cl hcl

/-- covariant return (flagged), generic parameter erased to a bound two levels up (unflagged synthetic), a private
near-miss, a synthetic calling two methods: exactly the first two are selected -/
example :
    let mk := fun (n d : String) (fl : Nat) (code : Option (List Insn)) => ({ name := jstr n, desc := jstr d, flags := fl, code := code } : MethodDesc)
    let jar : JarDesc := [
      { name := jstr "Sub", super := some (jstr "Mid"), ifaces := [], methods := [
          mk "get" "()LTop;" 0x1041 (some [.other, .invoke (jstr "Sub") (jstr "get") (jstr "()LSub;")]),
          mk "get" "()LSub;" 1 (some [.other]),
          mk "set" "(LTop;)V" 0x1001 (some [.invoke (jstr "Sub") (jstr "set") (jstr "(LSub;)V")]),
          mk "set" "(LSub;)V" 1 (some [.other]),
          mk "cmp" "(LTop;)I" 0x1002 (some [.invoke (jstr "Sub") (jstr "cmp") (jstr "(LSub;)I")]),
          mk "two" "()V" 0x1041 (some [.invoke (jstr "Sub") (jstr "a") (jstr "()V"), .invoke (jstr "Sub") (jstr "b") (jstr "()V")])] },
      { name := jstr "Mid", super := some (jstr "Top"), ifaces := [], methods := [] },
      { name := jstr "Top", super := some (jstr "java/lang/Object"), ifaces := [], methods := [] }]
    (select (ofJar jar) 10).map (·.1) = some [
      (⟨jstr "Sub", jstr "get", jstr "()LTop;"⟩, ⟨jstr "Sub", jstr "get", jstr "()LSub;"⟩),
      (⟨jstr "Sub", jstr "set", jstr "(LTop;)V"⟩, ⟨jstr "Sub", jstr "set", jstr "(LSub;)V"⟩)] := by
  simp -index only [jstr_ofList]
  decide +kernel

/-- the whole function on a jar with one bridge: the delegate `a(LSub;)V` of the bridge `a(LTop;)V` in class `C_1`
gets the name the mapping set gives to the bridge *in the super class* `C_2` (inheritance), its comment survives,
nothing else changes -/
example :
    let jar : JarDesc := [
      { name := jstr "Sub", super := some (jstr "Top"), ifaces := [], methods := [
          { name := jstr "a", desc := jstr "(LTop;)V", flags := 0x1041, code := some [.invoke (jstr "Sub") (jstr "a") (jstr "(LSub;)V")] },
          { name := jstr "a", desc := jstr "(LSub;)V", flags := 1, code := some [.other] }] },
      { name := jstr "Top", super := some (jstr "java/lang/Object"), ifaces := [], methods := [] }]
    let cal : Mappings := { ns := [jstr "official", jstr "intermediary"], doc := none, classes := [
      (jstr "Sub", { names := [some (jstr "Sub"), some (jstr "C_1")], doc := none, fields := [], methods := [
        ((jstr "a", jstr "(LSub;)V"), { desc := jstr "(LSub;)V", names := [some (jstr "a"), some (jstr "m_1")], doc := none, params := [] })] }),
      (jstr "Top", { names := [some (jstr "Top"), some (jstr "C_2")], doc := none, fields := [], methods := [
        ((jstr "a", jstr "(LTop;)V"), { desc := jstr "(LTop;)V", names := [some (jstr "a"), some (jstr "m_2")], doc := none, params := [] })] })] }
    let m : Mappings := { ns := [jstr "intermediary", jstr "named"], doc := none, classes := [
      (jstr "C_1", { names := [some (jstr "C_1"), some (jstr "Impl")], doc := none, fields := [], methods := [
        ((jstr "m_1", jstr "(LC_1;)V"), { desc := jstr "(LC_1;)V", names := [some (jstr "m_1"), some (jstr "old")], doc := some (jstr "keep"), params := [] })] }),
      (jstr "C_2", { names := [some (jstr "C_2"), some (jstr "Base")], doc := none, fields := [], methods := [
        ((jstr "m_2", jstr "(LC_2;)V"), { desc := jstr "(LC_2;)V", names := [some (jstr "m_2"), some (jstr "accept")], doc := none, params := [] })] })] }
    addFull jar [] cal m 10 = some (some { m with classes := [
      (jstr "C_1", { names := [some (jstr "C_1"), some (jstr "Impl")], doc := none, fields := [], methods := [
        ((jstr "m_1", jstr "(LC_1;)V"), { desc := jstr "(LC_1;)V", names := [some (jstr "m_1"), some (jstr "accept")], doc := some (jstr "keep"), params := [] })] }),
      (jstr "C_2", { names := [some (jstr "C_2"), some (jstr "Base")], doc := none, fields := [], methods := [
        ((jstr "m_2", jstr "(LC_2;)V"), { desc := jstr "(LC_2;)V", names := [some (jstr "m_2"), some (jstr "accept")], doc := none, params := [] })] })] }) := by
  simp -index only [jstr_ofList]
  decide +kernel

end Thm.C15
