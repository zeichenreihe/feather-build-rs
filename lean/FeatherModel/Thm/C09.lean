import FeatherModel.Lemmas.Merge

/-!
# C09 — merging two mapping sets is a faithful join on the shared namespace
The property theorems, and at the end the example sets `exA`, `exB` with their builders. Model: `FeatherModel/Model/Merge.lean` (`merge`, and the vocabulary `cls/fld/mth/prm` = entry at a
path, `joinRow`, `joinDoc`, `sideKeys`, `project`, `AgreesOn`, `Shape`, `KeysConsistent`, `conflict`, `Conflict`).
No size bound anywhere. The error characterisations assume the invariants of the Rust input types (`Shape`), `merge_errors`
and `merge_total_on` also `KeysConsistent`, which is all `merge_key_conflicts_unreachable` assumes; `merge_keys_order` is a
fact about `unionKeys` of maps with unique keys.
-/

namespace Thm.C09
open Merge AList

/-- a merge succeeds only on `(s, a)` and `(s, b)` and produces `(s, a, b)` -/
theorem merge_namespaces {A B R : Mappings} (h : merge A B = some R) :
    ∃ s a b, A.ns = [s, a] ∧ B.ns = [s, b] ∧ R.ns = [s, a, b] :=
  mergeNamespaces_spec (merge_inv h).1

/-- the key list of every map of the result is the key union of the corresponding maps of the inputs:
classes; fields and methods of every class of the result; parameters of every method of the result.
(`sideKeys`: the side's own key list when only one side has the parent, `unionKeys` when both have it.) -/
theorem merge_keys {A B R : Mappings} (h : merge A B = some R) :
    R.classes.keys = unionKeys A.classes B.classes ∧
    (∀ kc c, cls R kc = some c →
      c.fields.keys = sideKeys ((cls A kc).map (·.fields)) ((cls B kc).map (·.fields)) ∧
      c.methods.keys = sideKeys ((cls A kc).map (·.methods)) ((cls B kc).map (·.methods))) ∧
    (∀ kc km m, mth R kc km = some m →
      m.params.keys = sideKeys ((mth A kc km).map (·.params)) ((mth B kc km).map (·.params))) := by
  refine ⟨zipMap_keys (merge_inv h).2.1, ?_, ?_⟩
  · intro kc c hc
    obtain ⟨co, hl, hr, hf⟩ := (merge_cls h kc).inv hc
    obtain ⟨_, hfs, hms, _⟩ := mergeClass_inv hf
    rw [← hl, ← hr, zipComb_keys hfs, zipComb_keys hms]
    simp only [Comb.left_map, Comb.right_map, and_self]
  · intro kc km m hm
    obtain ⟨co, hl, hr, hf⟩ := (merge_mth h kc km).inv hm
    rw [← hl, ← hr, zipComb_keys (mergeMethod_inv hf).2.2.1, Comb.left_map, Comb.right_map]

/-- the order and multiplicity of a key union: A's keys in A's order, then the keys only B has in B's order; every key
exactly once; nothing else -/
theorem merge_keys_order {K V : Type} [BEq K] [LawfulBEq K] {m n : AList K V} (hm : NoDupKeys m) (hn : NoDupKeys n) :
    unionKeys m n = m.keys ++ n.keys.filter (fun k => !contains k m) ∧ (unionKeys m n).Nodup ∧
      ∀ k, k ∈ unionKeys m n ↔ k ∈ m.keys ∨ k ∈ n.keys :=
  ⟨unionKeys_eq hm hn, nodup_dedup _, fun _ => mem_unionKeys⟩

/-- entry-wise: at every path the result has an entry iff A or B has one -/
theorem merge_keys_exact {A B R : Mappings} (h : merge A B = some R) :
    (∀ kc, (cls R kc).isSome = true ↔ (cls A kc).isSome = true ∨ (cls B kc).isSome = true) ∧
    (∀ kc kf, (fld R kc kf).isSome = true ↔ (fld A kc kf).isSome = true ∨ (fld B kc kf).isSome = true) ∧
    (∀ kc km, (mth R kc km).isSome = true ↔ (mth A kc km).isSome = true ∨ (mth B kc km).isSome = true) ∧
    (∀ kc km kp, (prm R kc km kp).isSome = true ↔
      (prm A kc km kp).isSome = true ∨ (prm B kc km kp).isSome = true) :=
  ⟨fun kc => (merge_cls h kc).isSome_iff, fun kc kf => (merge_fld h kc kf).isSome_iff,
   fun kc km => (merge_mth h kc km).isSome_iff, fun kc km kp => (merge_prm h kc km kp).isSome_iff⟩

/-- every entry of the result carries the row `[s, a?, b?]`: `a?` is A's name (absent when A lacks the entry or the name),
`b?` likewise for B, `s` the first-namespace name of the side(s) having the entry -/
theorem merge_columns {A B R : Mappings} (h : merge A B = some R) :
    (∀ kc r, cls R kc = some r → r.names = joinRow ((cls A kc).map (·.names)) ((cls B kc).map (·.names))) ∧
    (∀ kc kf r, fld R kc kf = some r →
      r.names = joinRow ((fld A kc kf).map (·.names)) ((fld B kc kf).map (·.names))) ∧
    (∀ kc km r, mth R kc km = some r →
      r.names = joinRow ((mth A kc km).map (·.names)) ((mth B kc km).map (·.names))) ∧
    (∀ kc km kp r, prm R kc km kp = some r →
      r.names = joinRow ((prm A kc km kp).map (·.names)) ((prm B kc km kp).map (·.names))) := by
  exact ⟨fun kc _ hr => ((merge_cls h kc).row_doc nodeClass hr).1,
    fun kc kf _ hr => ((merge_fld h kc kf).row_doc nodeField hr).1,
    fun kc km _ hr => ((merge_mth h kc km).row_doc nodeMethod hr).1,
    fun kc km kp _ hr => ((merge_prm h kc km kp).row_doc nodeParam hr).1⟩

/-- the comment of every node of the result is A's if A has one, otherwise B's (an absent entry has none) -/
theorem merge_comments {A B R : Mappings} (h : merge A B = some R) :
    R.doc = joinDoc A.doc B.doc ∧
    (∀ kc r, cls R kc = some r → r.doc = joinDoc ((cls A kc).bind (·.doc)) ((cls B kc).bind (·.doc))) ∧
    (∀ kc kf r, fld R kc kf = some r →
      r.doc = joinDoc ((fld A kc kf).bind (·.doc)) ((fld B kc kf).bind (·.doc))) ∧
    (∀ kc km r, mth R kc km = some r →
      r.doc = joinDoc ((mth A kc km).bind (·.doc)) ((mth B kc km).bind (·.doc))) ∧
    (∀ kc km kp r, prm R kc km kp = some r →
      r.doc = joinDoc ((prm A kc km kp).bind (·.doc)) ((prm B kc km kp).bind (·.doc))) := by
  exact ⟨(mergeDoc_spec (merge_inv h).2.2).1,
    fun kc _ hr => ((merge_cls h kc).row_doc nodeClass hr).2,
    fun kc kf _ hr => ((merge_fld h kc kf).row_doc nodeField hr).2,
    fun kc km _ hr => ((merge_mth h kc km).row_doc nodeMethod hr).2,
    fun kc km kp _ hr => ((merge_prm h kc km kp).row_doc nodeParam hr).2⟩

/-- projecting the result onto `(s, a)` and restricting it to the keys of A gives back A; likewise `(s, b)` and B:
names rows, descriptors, parameter indices; comments wherever the side has one (see `AgreesOn`, `merge_comments`) -/
theorem merge_project {A B R : Mappings} (h : merge A B = some R) :
    AgreesOn A (project 0 1 R) ∧ AgreesOn B (project 0 2 R) := by
  obtain ⟨s, a, b, hA, hB, hR⟩ := merge_namespaces h
  have hdoc := (mergeDoc_spec (merge_inv h).2.2).2
  -- side `false` is A, found in column 1; side `true` is B, in column 2
  have side (j : Bool) : AgreesOn (bif j then B else A) (project 0 (j.toNat + 1) R) := by
    refine ⟨by cases j <;> simp [project, hA, hB, hR], fun d hd => hdoc j d (by cases j <;> exact congrArg some hd),
      ?_, ?_, ?_, ?_⟩
    · intro kc x hx
      obtain ⟨r, hr, hn, _, hd⟩ := (merge_cls h kc).side nodeClass j (a := x) (by cases j <;> exact hx)
      exact ⟨projClass 0 _ r, by rw [cls_project, hr]; rfl, hn, hd⟩
    · intro kc kf x hx
      obtain ⟨r, hr, hn, he, hd⟩ := (merge_fld h kc kf).side nodeField j (a := x) (by cases j <;> exact hx)
      exact ⟨projField 0 _ r, by rw [fld_project, hr]; rfl, hn, he, hd⟩
    · intro kc km x hx
      obtain ⟨r, hr, hn, he, hd⟩ := (merge_mth h kc km).side nodeMethod j (a := x) (by cases j <;> exact hx)
      exact ⟨projMethod 0 _ r, by rw [mth_project, hr]; rfl, hn, he, hd⟩
    · intro kc km kp x hx
      obtain ⟨r, hr, hn, he, hd⟩ := (merge_prm h kc km kp).side nodeParam j (a := x) (by cases j <;> exact hx)
      exact ⟨projParam 0 _ r, by rw [prm_project, hr]; rfl, hn, he, hd⟩
  exact ⟨side false, side true⟩

/-- every conflict is reported, whatever the inputs look like: different first namespaces, different comments on the two
sides of the set / a shared class / field / method / parameter, different source names of a shared parameter
(one side naming it and the other not counts as different) -/
theorem merge_fails {A B : Mappings} (hc : Conflict A B) : merge A B = none :=
  Option.eq_none_iff_forall_ne_some.mpr fun R h => by
    have no {x : Bool} (h1 : x = false) (h2 : x = true) : False := Bool.false_ne_true (h1.symm.trans h2)
    rcases hc with hc | hc | ⟨kc, a, b, ha, hb, hc⟩ | ⟨kc, kf, a, b, ha, hb, hc⟩ | ⟨kc, km, a, b, ha, hb, hc⟩ |
      ⟨kc, km, kp, a, b, ha, hb, hc⟩
    · obtain ⟨s, a, b, hA, hB, _⟩ := merge_namespaces h
      simp [hA, hB] at hc
    · have := (mergeDoc_none_iff (c := .ab A.doc B.doc)).mpr hc
      rw [(merge_inv h).2.2] at this
      cases this
    · exact no ((merge_cls h kc).clash nodeClass ha hb).2 hc
    · exact no ((merge_fld h kc kf).clash nodeField ha hb).2 hc
    · exact no ((merge_mth h kc km).clash nodeMethod ha hb).2 hc
    · have hab := (merge_prm h kc km kp).clash nodeParam ha hb
      exact hc.elim (fun hc => hc hab.1) (no hab.2)

/-- on all values of the Rust input types (`Shape`: two non-empty namespace names, unique keys, rows `Names<2>`), `merge`
fails exactly when the executable predicate `conflict` holds: first namespaces differ, or some key present on both sides
leads to entries whose first names, descriptors, parameter indices or comments differ (at any level) -/
theorem merge_errors_general {A B : Mappings} (hA : Shape A) (hB : Shape B) :
    merge A B = none ↔ conflict A B = true := by
  have e2 : zipMap A.classes B.classes mergeClass = none ↔ anyShared A.classes B.classes classConflict = true :=
    zipComb_none_iff (fun _ hc => mergeClass_none_iff hc) (ab := .ab A.classes B.classes)
      ⟨hA.classes, hB.classes⟩
  have e3 : mergeDoc (.ab A.doc B.doc) = none ↔ docConflict A.doc B.doc = true := mergeDoc_none_iff
  rw [conflict, Bool.or_eq_true, Bool.or_eq_true, ← mergeNamespaces_none_iff hA.ns hB.ns, ← e2, ← e3]
  set_option smartUnfolding false in exact match3_eq_none

/-- descriptor, parameter-index and (class, field, method) first-name conflicts are unreachable between key-consistent
inputs: they are part of the key under which two entries meet -/
theorem merge_key_conflicts_unreachable {A B : Mappings} (kA : KeysConsistent A) (kB : KeysConsistent B) :
    (∀ kc a b, cls A kc = some a → cls B kc = some b → a.names[0]? = b.names[0]?) ∧
    (∀ kc kf a b, fld A kc kf = some a → fld B kc kf = some b → a.desc = b.desc ∧ a.names[0]? = b.names[0]?) ∧
    (∀ kc km a b, mth A kc km = some a → mth B kc km = some b → a.desc = b.desc ∧ a.names[0]? = b.names[0]?) ∧
    (∀ kc km kp a b, prm A kc km kp = some a → prm B kc km kp = some b → a.index = b.index) :=
  ⟨fun _ _ _ ha hb => (kA.atCls ha).trans (kB.atCls hb).symm,
   fun _ _ _ _ ha hb => ⟨(kA.atFld ha).2.trans (kB.atFld hb).2.symm, (kA.atFld ha).1.trans (kB.atFld hb).1.symm⟩,
   fun _ _ _ _ ha hb => ⟨(kA.atMth ha).2.1.trans (kB.atMth hb).2.1.symm, (kA.atMth ha).1.trans (kB.atMth hb).1.symm⟩,
   fun _ _ _ _ _ ha hb => (kA.atPrm ha).trans (kB.atPrm hb).symm⟩

/-- between key-consistent inputs `merge` fails iff the first namespaces differ, or a node present on both sides (the set,
a class, field, method, parameter) carries different comments, or a parameter present on both sides has different
source names — nothing else -/
theorem merge_errors {A B : Mappings} (hA : Shape A) (hB : Shape B) (kA : KeysConsistent A) (kB : KeysConsistent B) :
    merge A B = none ↔ Conflict A B :=
  ⟨fun h => conflict_imp_Conflict hA kA kB ((merge_errors_general hA hB).mp h), merge_fails⟩

/-- `merge` succeeds whenever none of the conflicts is present -/
theorem merge_total_on {A B : Mappings} (hA : Shape A) (hB : Shape B) (kA : KeysConsistent A) (kB : KeysConsistent B)
    (hc : ¬ Conflict A B) : ∃ R, merge A B = some R := by
  cases h : merge A B with
  | some R => exact ⟨R, rfl⟩
  | none => exact absurd ((merge_errors hA hB kA kB).mp h) hc

def mkParam (i : Nat) (s t : Option JStr) : Nat × Param := (i, { index := i, names := [s, t], doc := none })

def mkMethod (t : Option JStr) (d : Option JStr) (ps : AList Nat Param) : MemberKey × Method :=
  ((jstr "m", jstr "(I)V"), { desc := jstr "(I)V", names := [some (jstr "m"), t], doc := d, params := ps })

def mkField (t : Option JStr) : MemberKey × Field :=
  ((jstr "f", jstr "I"), { desc := jstr "I", names := [some (jstr "f"), t], doc := none })

def mkClass (k : JStr) (t d : Option JStr) (fs : AList MemberKey Field) (ms : AList MemberKey Method) : JStr × Class :=
  (k, { names := [some k, t], doc := d, fields := fs, methods := ms })

def exA : Mappings := { ns := [jstr "s", jstr "a"], doc := none, classes := [
  mkClass (jstr "C") (some (jstr "Ca")) (some (jstr "doc")) [] [mkMethod (some (jstr "ma")) none [mkParam 1 none (some (jstr "pa"))]],
  mkClass (jstr "OnlyA") none none [mkField (some (jstr "fa"))] []] }

def exB : Mappings := { ns := [jstr "s", jstr "b"], doc := none, classes := [
  mkClass (jstr "OnlyB") (some (jstr "Bb")) none [] [],
  mkClass (jstr "C") (some (jstr "Cb")) none []
    [mkMethod none (some (jstr "md")) [mkParam 0 none (some (jstr "p0")), mkParam 1 none (some (jstr "pb"))]]] }

/-- a partially overlapping pair satisfies `Shape`, `KeysConsistent`, has no conflict, and merges to the expected join -/
example : Shape exA ∧ Shape exB ∧ KeysConsistent exA ∧ KeysConsistent exB ∧ conflict exA exB = false ∧
    (merge exA exB).map (fun R => (R.ns, R.classes.keys)) =
      some ([jstr "s", jstr "a", jstr "b"], [jstr "C", jstr "OnlyA", jstr "OnlyB"]) ∧
    (merge exA exB).map (fun R => (prm R (jstr "C") (jstr "m", jstr "(I)V") 1).map (·.names)) =
      some (some [none, some (jstr "pa"), some (jstr "pb")]) ∧
    (merge exA exB).map (fun R => (mth R (jstr "C") (jstr "m", jstr "(I)V")).map (fun m => (m.doc, m.params.keys))) =
      some (some (some (jstr "md"), [1, 0])) := by decide +kernel

/-- a shared parameter named in the source namespace on one side only makes the merge fail -/
example :
    let A : Mappings := { ns := [jstr "s", jstr "a"], doc := none, classes := [
      mkClass (jstr "C") none none [] [mkMethod none none [mkParam 0 (some (jstr "x")) none]]] }
    let B : Mappings := { ns := [jstr "s", jstr "b"], doc := none, classes := [
      mkClass (jstr "C") none none [] [mkMethod none none [mkParam 0 none (some (jstr "y"))]]] }
    Shape A ∧ Shape B ∧ KeysConsistent A ∧ KeysConsistent B ∧ merge A B = none ∧ conflict A B = true := by decide +kernel

end Thm.C09
