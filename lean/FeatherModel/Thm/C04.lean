import FeatherModel.Lemmas.DiffNorm
import FeatherModel.Lemmas.DiffText
import FeatherModel.Lemmas.JStrLit

/-!
# C04 — applying a mapping diff is exact; diff and apply are inverse
The property theorems and one helper about the domains (`keysUnique_of_WF`). Model: `FeatherModel/Model/Diff.lean` (apply, diff), `FeatherModel/Model/TinyDiff.lean`
(`.tinydiff` reader, specification writer), `FeatherModel/Model/DiffSpec.lean` (the table `applySpec`, domains).

`NoDup m` (keys of `m` pairwise different) is the `IndexMap` invariant; it is a hypothesis wherever a map is looked up.
All theorems of parts (1)–(3) are for every namespace count, every namespace index and maps of every size, and so are
the theorems of part (5) about the reader alone (`read_write`, `read_no_top_level`, `text_keeps_top_level`,
`apply_read_back`); part (4), `diff_apply_text_partial` and their witnesses are about `MappingsDiff::diff`, which the Rust
types restrict to two namespaces.

The witnesses are evaluated by `decide +kernel` as written; only the large example of part (6) first rewrites its
`jstr "…"` literals (`Lemmas/JStrLit.lean`), the others hold too few names for that to pay.

Overview: (1) `apply_exact` + the five level theorems, (2) `apply_untouched*`, (3) `apply_refuses*` and the refusal tables, (3b) `apply_preserves_wf` with its regression input,
(4) `diff_total_on`, `diff_apply_partial` with its witnesses, (5) the `.tinydiff` text: `read_write`,
`read_no_top_level`, `apply_read_back`, `diff_apply_text_partial` with its witnesses, (6) non-vacuity examples.
-/

namespace Thm.C04
open DiffModel AList

/-! ## (1) exactness: the result under every key is what the 4 × 3 table says — at every level -/

/-- **apply_exact** (level-generic: `ops`/`child` are instantiated with the class, field, method and parameter level
below). If `apply_diff_map` succeeds, then under EVERY key `k` the result holds exactly what the explicit table
`applySpec` gives for the diff entry under `k` (if any) and the target entry under `k` (if any): untouched without a diff
entry; created from the key by Add on an absent key; name filled by Add on a nameless entry; entry gone (children not
looked at) by Remove with the right old name; name replaced by Edit with the right old name; children/javadoc diff applied
for None/Add/Edit. -/
theorem apply_exact {K D T : Type} [BEq K] [LawfulBEq K] (ops : Ops K D T) (ns N : Nat) (child : D → T → Option T)
    {diffs : AList K D} {targets res : AList K T} (hnD : NoDup diffs) (hnT : NoDup targets)
    (h : applyMap ops ns N child diffs targets = some res) (k : K) :
    applySpec ops ns N child k (lookup k diffs) (lookup k targets) = some (lookup k res) :=
  applyMap_exact ops ns N child hnD hnT h k

/-- **apply_refuses** (level-generic, both directions): `apply_diff_map` is refused exactly when the table refuses some
key. Which combinations the table refuses is spelled out by `refuses_present_iff` / `refuses_absent_iff` /
`option_refuses_iff`; refusal of a child (its javadoc or one of its own child maps) propagates through `child`. Entries
below a removed entry are never looked at (`Remove` does not call `child`). -/
theorem apply_refuses {K D T : Type} [BEq K] [LawfulBEq K] (ops : Ops K D T) (ns N : Nat) (child : D → T → Option T)
    {diffs : AList K D} {targets : AList K T} (hnD : NoDup diffs) (hnT : NoDup targets) :
    applyMap ops ns N child diffs targets = none ↔
      ∃ k, applySpec ops ns N child k (lookup k diffs) (lookup k targets) = none :=
  applyMap_eq_none_iff ops ns N child hnD hnT

/-- the refused combinations for a key that exists in the target -/
theorem refuses_present_iff {K D T : Type} (ops : Ops K D T) (ns N : Nat) (child : D → T → Option T) (k : K) (d : D) (t : T) :
    applySpec ops ns N child k (some d) (some t) = none ↔
      match ops.action d with
      | .none => child d t = none
      | .add b => ns = 0 ∨ (ops.names t)[ns]? ≠ some none ∨
          child d (ops.setNames t ((ops.names t).set ns (some b))) = none
      | .remove a => ns = 0 ∨ (ops.names t)[ns]? ≠ some (some a)
      | .edit a b => ns = 0 ∨ (ops.names t)[ns]? ≠ some (some a) ∨
          child d (ops.setNames t ((ops.names t).set ns (some b))) = none := by
  simp only [applySpec]
  cases ops.action d with
  | none => exact Option.map_eq_none_iff
  | remove a => simp only [guarded_eq_none_iff, reduceCtorEq, or_false]
  | _ => simp only [guarded_eq_none_iff, Option.map_eq_none_iff]

/-- the refused combinations for a key that does not exist in the target: everything but Add; an Add in the first
namespace (the new name goes through `change_name` like any other: the first namespace "needs to be kept in sync with the
keys"); an Add whose children/javadoc diff is refused. -/
theorem refuses_absent_iff {K D T : Type} (ops : Ops K D T) (ns N : Nat) (child : D → T → Option T) (k : K) (d : D) :
    applySpec ops ns N child k (some d) none = none ↔
      match ops.action d with
      | .add b => ns = 0 ∨ (ops.names (ops.fromKey N k))[ns]? ≠ some none ∨
          child d (ops.setNames (ops.fromKey N k) ((ops.names (ops.fromKey N k)).set ns (some b))) = none
      | _ => True := by
  simp only [applySpec]
  cases ops.action d with
  | add b => simp only [guarded_eq_none_iff, Option.map_eq_none_iff]
  | _ => exact iff_true_intro rfl

/-- in the first namespace nothing can be added, removed or renamed: every diff entry whose action is not `None` is
refused, whether its key exists or not -/
theorem first_namespace_refuses {K D T : Type} (ops : Ops K D T) (N : Nat) (child : D → T → Option T) (k : K) (d : D)
    (ot : Option T) (h : ops.action d ≠ .none) : applySpec ops 0 N child k (some d) ot = none := by
  cases ot with
  | none =>
    rw [refuses_absent_iff]
    split
    · exact .inl rfl
    · trivial
  | some t =>
    rw [refuses_present_iff]
    split
    · exact absurd ‹_› h
    · exact .inl rfl
    · exact .inl rfl
    · exact .inl rfl

/-- the refused combinations of `apply_diff_option` (javadoc at all five levels): Add on an existing comment,
Remove/Edit with an absent or different old comment -/
theorem option_refuses_iff {α : Type} [DecidableEq α] (a : Action α) (t : Option α) :
    applyOption a t = none ↔
      match a with
      | .none => False
      | .add _ => t ≠ none
      | .remove x => t ≠ some x
      | .edit x _ => t ≠ some x := by
  cases a <;> cases t <;> simp [applyOption]

/-- the accepted combinations of `apply_diff_option` and their results -/
theorem option_exact {α : Type} [DecidableEq α] (a : Action α) (t r : Option α) :
    applyOption a t = some r ↔
      match a with
      | .none => r = t
      | .add b => t = none ∧ r = some b
      | .remove x => t = some x ∧ r = none
      | .edit x b => t = some x ∧ r = some b := by
  cases a <;> cases t <;> simp [applyOption, eq_comm]

/-- parameter level: the child step touches only the javadoc, by the option table (`option_exact`); the table `applySpec`
enters one level up, where `apply_exact` is used with this child step -/
theorem apply_exact_param (d : PDiff) (p : Param) :
    applyParam d p = (applyOption d.doc p.doc).map fun doc => { p with doc := doc } :=
  applyParam_eq d p

/-- field level: likewise -/
theorem apply_exact_field (d : FDiff) (f : Field) :
    applyField d f = (applyOption d.doc f.doc).map fun doc => { f with doc := doc } :=
  applyField_eq d f

/-- method level: javadoc by the option table, parameters by `apply_exact` at parameter level, nothing else changes -/
theorem apply_exact_method {ns N : Nat} {d : MDiff} {m m' : Method} (hd : NoDup d.params) (hm : NoDup m.params)
    (h : applyMethod ns N d m = some m') :
    applyOption d.doc m.doc = some m'.doc ∧ m'.desc = m.desc ∧ m'.names = m.names ∧
    ∀ k, applySpec paramOps ns N applyParam k (lookup k d.params) (lookup k m.params) = some (lookup k m'.params) := by
  obtain ⟨doc, ps, ho, hp, rfl⟩ := applyMethod_eq_some h
  exact ⟨ho, rfl, rfl, apply_exact paramOps ns N applyParam hd hm hp⟩

/-- class level: javadoc by the option table, fields and methods by `apply_exact` at their levels -/
theorem apply_exact_class {ns N : Nat} {d : CDiff} {c c' : Class}
    (hdf : NoDup d.fields) (hcf : NoDup c.fields) (hdm : NoDup d.methods) (hcm : NoDup c.methods)
    (h : applyClass ns N d c = some c') :
    applyOption d.doc c.doc = some c'.doc ∧ c'.names = c.names ∧
    (∀ k, applySpec fieldOps ns N applyField k (lookup k d.fields) (lookup k c.fields) = some (lookup k c'.fields)) ∧
    ∀ k, applySpec methodOps ns N (applyMethod ns N) k (lookup k d.methods) (lookup k c.methods) =
      some (lookup k c'.methods) := by
  obtain ⟨doc, fs, ms, ho, hf, hm, rfl⟩ := applyClass_eq_some h
  exact ⟨ho, rfl, apply_exact fieldOps ns N applyField hdf hcf hf,
    apply_exact methodOps ns N (applyMethod ns N) hdm hcm hm⟩

/-- top level: unknown namespace refused; namespace name by `applyInfo` (Add/Remove refused, Edit needs the old name),
javadoc by the option table, classes by `apply_exact` at class level -/
theorem apply_exact_mappings {d : Diff} {t r : Mappings} {nsName : JStr}
    (hd : NoDup d.classes) (ht : NoDup t.classes) (h : applyTo d t nsName = some r) :
    ∃ ns, t.getNamespace nsName = some ns ∧
      applyInfo d.info t.ns ns = some r.ns ∧ applyOption d.doc t.doc = some r.doc ∧
      ∀ k, applySpec classOps ns t.ns.length (applyClass ns t.ns.length) k (lookup k d.classes) (lookup k t.classes) =
        some (lookup k r.classes) := by
  obtain ⟨ns, nss, doc, cs, hn, hi, ho, hc, rfl⟩ := applyTo_eq_some h
  exact ⟨ns, hn, hi, ho, apply_exact classOps ns t.ns.length _ hd ht hc⟩

/-! ## (2) untouched -/

/-- **apply_untouched**: an entry whose key the diff does not mention is returned identical (with its whole subtree),
and a key in neither stays absent -/
theorem apply_untouched {K D T : Type} [BEq K] [LawfulBEq K] (ops : Ops K D T) (ns N : Nat) (child : D → T → Option T)
    {diffs : AList K D} {targets res : AList K T} (hnD : NoDup diffs) (hnT : NoDup targets)
    (h : applyMap ops ns N child diffs targets = some res) (k : K) (hk : lookup k diffs = none) :
    lookup k res = lookup k targets := by
  have := apply_exact ops ns N child hnD hnT h k
  rw [hk] at this
  simp only [applySpec, Option.some.injEq] at this
  exact this.symm

/-- **apply_untouched_names**: in an entry that stays, the names of all OTHER namespaces are untouched. `hget` and
`hchild` hold at all four levels (`child_keeps_names`). -/
theorem apply_untouched_names {K D T : Type} [BEq K] [LawfulBEq K] (ops : Ops K D T) (ns N : Nat)
    (child : D → T → Option T)
    (hget : ∀ t n, ops.names (ops.setNames t n) = n)
    (hchild : ∀ d t t', child d t = some t' → ops.names t' = ops.names t)
    {diffs : AList K D} {targets res : AList K T} (hnD : NoDup diffs) (hnT : NoDup targets)
    (h : applyMap ops ns N child diffs targets = some res) {k : K} {t t' : T}
    (ht : lookup k targets = some t) (hr : lookup k res = some t') (i : Nat) (hi : i ≠ ns) :
    (ops.names t')[i]? = (ops.names t)[i]? := by
  have := apply_exact ops ns N child hnD hnT h k
  rw [ht, hr] at this
  rcases applySpec_some_some this with ⟨_, e⟩ | ⟨d, _, t0, hc, e | ⟨t1, b, e, _, rfl⟩ | ⟨_, e, _⟩⟩
  · cases e; rfl
  · cases e.1; rw [hchild _ _ _ hc]
  · cases e; rw [hchild _ _ _ hc, hget, List.getElem?_set_ne (Ne.symm hi)]
  · cases e

/-- the child steps of all four levels keep the names (hypothesis `hchild` of `apply_untouched_names`) and, where there
is one, the descriptor / index -/
theorem child_keeps_names (ns N : Nat) :
    (∀ d p p', applyParam d p = some p' → p'.names = p.names ∧ p'.index = p.index) ∧
    (∀ d f f', applyField d f = some f' → f'.names = f.names ∧ f'.desc = f.desc) ∧
    (∀ d m m', applyMethod ns N d m = some m' → m'.names = m.names ∧ m'.desc = m.desc) ∧
    (∀ d c c', applyClass ns N d c = some c' → c'.names = c.names) := by
  refine ⟨?_, ?_, ?_, ?_⟩
  · intro d p p' h
    obtain ⟨doc, _, rfl⟩ := Option.map_eq_some_iff.mp (applyParam_eq d p ▸ h)
    exact ⟨rfl, rfl⟩
  · intro d f f' h
    obtain ⟨doc, _, rfl⟩ := Option.map_eq_some_iff.mp (applyField_eq d f ▸ h)
    exact ⟨rfl, rfl⟩
  · intro d m m' h
    obtain ⟨doc, ps, _, _, rfl⟩ := applyMethod_eq_some h
    exact ⟨rfl, rfl⟩
  · intro d c c' h
    obtain ⟨doc, fs, ms, _, _, _, rfl⟩ := applyClass_eq_some h
    rfl

/-! ## (3) refusal at the five levels -/

/-- a parameter / field child step is refused exactly when its javadoc action is -/
theorem param_refuses_iff (d : PDiff) (p : Param) : applyParam d p = none ↔ applyOption d.doc p.doc = none := by
  rw [applyParam_eq, Option.map_eq_none_iff]

theorem field_refuses_iff (d : FDiff) (f : Field) : applyField d f = none ↔ applyOption d.doc f.doc = none := by
  rw [applyField_eq, Option.map_eq_none_iff]

theorem method_refuses_iff {ns N : Nat} {d : MDiff} {m : Method} (hd : NoDup d.params) (hm : NoDup m.params) :
    applyMethod ns N d m = none ↔ applyOption d.doc m.doc = none ∨
      ∃ k, applySpec paramOps ns N applyParam k (lookup k d.params) (lookup k m.params) = none := by
  rw [← apply_refuses paramOps ns N applyParam hd hm, applyMethod_eq]
  cases applyOption d.doc m.doc <;> simp

theorem class_refuses_iff {ns N : Nat} {d : CDiff} {c : Class}
    (hdf : NoDup d.fields) (hcf : NoDup c.fields) (hdm : NoDup d.methods) (hcm : NoDup c.methods) :
    applyClass ns N d c = none ↔ applyOption d.doc c.doc = none ∨
      (∃ k, applySpec fieldOps ns N applyField k (lookup k d.fields) (lookup k c.fields) = none) ∨
      ∃ k, applySpec methodOps ns N (applyMethod ns N) k (lookup k d.methods) (lookup k c.methods) = none := by
  rw [← apply_refuses fieldOps ns N applyField hdf hcf, ← apply_refuses methodOps ns N (applyMethod ns N) hdm hcm]
  rw [applyClass_eq]
  cases applyOption d.doc c.doc with
  | none => simp
  | some doc => cases applyMap fieldOps ns N applyField d.fields c.fields <;> simp

/-- **apply_refuses_mappings**: the whole application is refused exactly when the namespace is unknown, or the
namespace-name action is Add/Remove/an Edit with the wrong old name, or the top-level javadoc action is inconsistent, or
the table refuses some class key (which, through `class_refuses_iff`, `method_refuses_iff`, `field_refuses_iff`,
`param_refuses_iff`, `refuses_present_iff`, `refuses_absent_iff`, `option_refuses_iff`, means: some node that is not below
a removed entry carries an inconsistent action) -/
theorem apply_refuses_mappings {d : Diff} {t : Mappings} {nsName : JStr} (hd : NoDup d.classes) (ht : NoDup t.classes) :
    applyTo d t nsName = none ↔
      match t.getNamespace nsName with
      | none => True
      | some ns =>
        (match d.info with
          | .none => False
          | .add _ => True
          | .remove _ => True
          | .edit a _ => t.ns[ns]? ≠ some a) ∨
        applyOption d.doc t.doc = none ∨
        ∃ k, applySpec classOps ns t.ns.length (applyClass ns t.ns.length) k (lookup k d.classes) (lookup k t.classes)
          = none := by
  rw [applyTo_eq]
  cases t.getNamespace nsName with
  | none => simp
  | some ns =>
    simp only [Option.bind_some]
    rw [← apply_refuses classOps ns t.ns.length (applyClass ns t.ns.length) hd ht]
    have hi : applyInfo d.info t.ns ns = none ↔
        match d.info with
        | .none => False
        | .add _ => True
        | .remove _ => True
        | .edit a _ => t.ns[ns]? ≠ some a := by
      cases d.info <;> simp [applyInfo]
    rw [← hi]
    cases applyInfo d.info t.ns ns <;> cases applyOption d.doc t.doc <;> simp

/-- **regression** (defect C04-add-first-namespace-absent-key): an `Add` under a key the target does not have is refused in
the first namespace. The code before c65b1ae ("fix: applying a diff refuses an addition under a new key in the first
namespace") applied it (entry stored under key `Z` with first-namespace name `b`). -/
theorem add_absent_first_namespace_refused :
    applyTo { info := .none, doc := .none, classes := [(jstr "Z", { info := .add (jstr "b"), doc := .none, fields := [], methods := [] })] }
      { ns := [jstr "official", jstr "named"], doc := none, classes := [] } (jstr "official") = none := by
  decide +kernel

/-! ## (3b) the result is a well-formed mapping set again -/

/-- the result of `apply_diff_map` has unique keys, whatever the diff -/
theorem apply_result_keys_unique {K D T : Type} [BEq K] [LawfulBEq K] (ops : Ops K D T) (ns N : Nat) (child : D → T → Option T)
    {diffs : AList K D} {targets res : AList K T} (h : applyMap ops ns N child diffs targets = some res) : NoDup res :=
  nodup_applyMap ops ns N child h

/-- **apply_preserves_wf** (every namespace): a successful application of a key-unique diff to a
well-formed set (`WF`: unique keys, every entry stored under the key its first-namespace name (+ descriptor / index)
gives, name rows as long as the namespace list) gives a well-formed set again — nothing "silently wrong" comes out. -/
theorem apply_preserves_wf {d : Diff} {t r : Mappings} {nsName : JStr} (hd : Diff.WF d) (ht : WF t)
    (h : applyTo d t nsName = some r) : WF r := by
  obtain ⟨ns, nss, doc, cs, _, hi, _, hc, rfl⟩ := applyTo_eq_some h
  obtain ⟨hnd, hku⟩ := diffWF_iff.mp hd
  obtain ⟨hnr, hwr⟩ := classes_preserve hnd ht.1 hku ht.2 hc
  refine ⟨hnr, fun e he => ?_⟩
  simp only
  rw [applyInfo_length hi]
  exact hwr e he

/-- **regression**: the input of `add_absent_first_namespace_refused` (first namespace, `Add` under an absent key) is inside
the domain of `apply_preserves_wf` and is refused -/
theorem apply_preserves_wf_first_namespace_regression :
    let d : Diff := { info := .none, doc := .none, classes := [(jstr "Z", { info := .add (jstr "b"), doc := .none, fields := [], methods := [] })] }
    let t : Mappings := { ns := [jstr "official", jstr "named"], doc := none, classes := [] }
    Diff.WF d ∧ WF t ∧ t.getNamespace (jstr "official") = some 0 ∧ applyTo d t (jstr "official") = none := by
  decide +kernel

/-! ## (4) `diff` then `apply` -/

/-- **diff_total_on**: for key-unique mapping sets, `diff a b` succeeds exactly when both have two namespaces with the
same names and every class, field, method and parameter of both has a name in the second namespace (`gen_diff_names`
fails on an absent name; nothing else can fail) -/
theorem diff_total_on {a b : Mappings} (ka : KeysUnique a) (kb : KeysUnique b) :
    (diff a b).isSome = (decide (a.ns.length = 2) && decide (a.ns = b.ns) && allNamed a && allNamed b) := by
  obtain ⟨hna, hka⟩ := keysUnique_iff.mp ka
  obtain ⟨hnb, hkb⟩ := keysUnique_iff.mp kb
  rw [diff_eq, ← Bool.decide_and]
  split
  · next h =>
    rw [Option.isSome_map, zipMap_isSome hna hnb hka hkb diffClass_isSome, decide_eq_true h, Bool.true_and, allNamed,
      allNamed]
  · next h => rw [decide_eq_false h]; rfl

/-- `diff` never renames the namespace (`// TODO: namespace renaming is possible!`) -/
theorem diff_info_none {a b : Mappings} {d : Diff} (h : diff a b = some d) : d.info = .none := by
  rw [diff_eq] at h
  split at h
  · obtain ⟨cs, _, rfl⟩ := Option.map_eq_some_iff.mp h
    rfl
  · cases h

/-- **diff_apply_partial** (`apply(diff(A, B), A) ≈ B`). For well-formed `A`, `B` (`WF`: unique keys, entries stored under
the key their first name gives — the invariants of trees built through quill's API) over two DIFFERENT namespace names:
whenever `diff A B` succeeds, applying it to `A` in the second namespace succeeds and the result has the same namespaces,
the same comment and, under every key at every level, the same entry as `B` (`MappingsEqv`; `eqvMappings` is the Boolean
the oracles evaluate). Weaker than the property text in two ways, each with a witness below:
* `ParamSrcless A B`: a parameter of `B` carries the first-namespace name of the same parameter of `A`, and none if `A`
  has no such parameter (`diff_apply_param_src_witness`: the diff has no place for it and `from_key` creates the row empty);
* `≈` instead of `=`: the ORDER of the result is `A`'s order followed by the additions (`diff_apply_order_witness`). -/
theorem diff_apply_partial {a b : Mappings} {d : Diff} {n0 n1 : JStr} (wa : WF a) (wb : WF b)
    (hns : a.ns = [n0, n1]) (hne : n0 ≠ n1) (hsrc : ParamSrcless a b) (hd : diff a b = some d) :
    ∃ r, applyTo d a n1 = some r ∧ MappingsEqv r b ∧ eqvMappings r b = true := by
  obtain ⟨r, hr, he⟩ := diff_apply_eqv wa wb hns hne hsrc hd
  exact ⟨r, hr, he, eqvMappings_of he⟩

/-- **the known gap** (reproduced on the real code): `B` adds parameter 0 with names `src`/`dst`; the diff carries `Add dst`
only, the applied result has the parameter with an EMPTY first-namespace name, so it differs from `B` -/
theorem diff_apply_param_src_witness :
    let m (ps : AList Nat Param) : Mappings := { ns := [jstr "official", jstr "named"], doc := none, classes := [
      (jstr "A", { names := [some (jstr "A"), some (jstr "X")], doc := none, fields := [], methods := [
        ((jstr "m", jstr "(I)V"), { desc := jstr "(I)V", names := [some (jstr "m"), some (jstr "n")], doc := none, params := ps })] })] }
    let a := m []
    let b := m [(0, { index := 0, names := [some (jstr "src"), some (jstr "dst")], doc := none })]
    WF a ∧ WF b ∧ ¬ ParamSrcless a b ∧
      ∃ d, diff a b = some d ∧
        applyTo d a (jstr "named") = some (m [(0, { index := 0, names := [none, some (jstr "dst")], doc := none })]) ∧
        ∀ r, applyTo d a (jstr "named") = some r → eqvMappings r b = false := by
  decide +kernel

/-- the namespace names must differ: `apply_to` looks the namespace up BY NAME, finds the first one, and the first
namespace cannot be edited -/
theorem diff_apply_same_namespace_witness :
    let m (x : String) : Mappings := { ns := [jstr "n", jstr "n"], doc := none, classes := [
      (jstr "A", { names := [some (jstr "A"), some (jstr x)], doc := none, fields := [], methods := [] })] }
    WF (m "X") ∧ WF (m "Y") ∧ ParamSrcless (m "X") (m "Y") ∧
      ∃ d, diff (m "X") (m "Y") = some d ∧ applyTo d (m "X") (jstr "n") = none := by
  decide +kernel

/-- content equality is the most that holds: additions are appended after the surviving entries of `A`, whatever their
place in `B` -/
theorem diff_apply_order_witness :
    let c (k x : String) : JStr × Class := (jstr k, { names := [some (jstr k), some (jstr x)], doc := none, fields := [], methods := [] })
    let a : Mappings := { ns := [jstr "official", jstr "named"], doc := none, classes := [c "B" "Y"] }
    let b : Mappings := { ns := [jstr "official", jstr "named"], doc := none, classes := [c "A" "X", c "B" "Y"] }
    WF a ∧ WF b ∧ ParamSrcless a b ∧
      ∃ d, diff a b = some d ∧ ∃ r, applyTo d a (jstr "named") = some r ∧ eqvMappings r b = true ∧ r ≠ b := by
  decide +kernel

/-! ## (5) the same through `.tinydiff` text
The repository has a READER only (`quill/src/tiny_v2_diff.rs`); `TinyDiff.writeSpec` is specification text (mirrored by
`harness/src/diffcodec.rs::write_spec`, which is harness code, not repository code): the statements below say that the
reader inverts this printer. -/

/-- **read_write**: the reader reads the specification text of a `Writable` diff back as the diff with every
`Edit(a, a)` replaced by `None` (two equal cells mean "no action" in the format), same keys in the same order -/
theorem read_write (d : Diff) (h : Writable d) : TinyDiff.read (TinyDiff.writeSpec d) = some (normDiff d) := by
  obtain ⟨_, _, hwf, hw⟩ := h
  obtain ⟨hnc, hk⟩ := diffWF_iff.mp hwf
  obtain ⟨st2, hv, hrun⟩ := AList.entries_run TinyDiff.steps (fun l s => TinyDiff.viewS s = l) TinyDiff.classL Prod.fst (normClass ·.2) [] d.classes []
    { done := [], cls := none } rfl
    (fun e he _ _ tail =>
      TinyDiff.class_run e (List.all_eq_true.mp hw e he) (hk e he).1 (hk e he).2.1 (hk e he).2.2 tail)
    hnc (fun _ _ => rfl)
  have hh : TinyDiff.headerOk TinyDiff.headerL = true := by decide
  rw [List.append_nil, TinyDiff.steps] at hrun
  simp only [TinyDiff.read, TinyDiff.lines_writeSpec d hw, hh, Bool.not_true, Bool.false_eq_true, if_false, hrun, normDiff]
  exact congrArg (fun cs => some ({ info := .none, doc := .none, classes := cs } : Diff)) hv

/-- no text at all carries a namespace rename or a change of the top-level comment: the reader always returns
`info = None`, `javadoc = None` -/
theorem read_no_top_level {text : List Nat} {d : Diff} (h : TinyDiff.read text = some d) :
    d.info = .none ∧ d.doc = .none := by
  unfold TinyDiff.read at h
  split at h
  · cases h
  · split at h
    · cases h
    · split at h
      · cases h
      · cases h
        exact ⟨rfl, rfl⟩

/-- … hence applying a diff that was read from text never changes namespaces or top-level comment -/
theorem text_keeps_top_level {text : List Nat} {d : Diff} {t r : Mappings} {nsName : JStr}
    (h : TinyDiff.read text = some d) (ha : applyTo d t nsName = some r) : r.ns = t.ns ∧ r.doc = t.doc := by
  obtain ⟨hi, hdoc⟩ := read_no_top_level h
  obtain ⟨ns, nss, doc, cs, _, h1, h2, _, rfl⟩ := applyTo_eq_some ha
  cases hi ▸ h1
  cases hdoc ▸ h2
  exact ⟨rfl, rfl⟩

/-- **apply_read_back**: replacing `Edit(a, a)` by `None` (what travelling through text does) never changes a SUCCESSFUL
application: same namespaces, same comment, and under every key at every level the same entry. (The converse is false:
`text_weakens_same_edit_witness`.) -/
theorem apply_read_back {d : Diff} {t r : Mappings} {nsName : JStr} (hd : Diff.WF d) (ht : KeysUnique t)
    (hinfo : d.info = .none) (hdoc : normAction d.doc = .none) (h : applyTo d t nsName = some r) :
    ∃ r', applyTo (normDiff d) t nsName = some r' ∧ MappingsEqv r' r := by
  obtain ⟨ns, nss, doc, cs, hn, hi, ho, hc, rfl⟩ := applyTo_eq_some h
  rw [hinfo] at hi
  cases hi
  have hdoc' := norm_applyOption ho
  rw [hdoc] at hdoc'
  cases hdoc'
  obtain ⟨hnd, hkd⟩ := diffWF_iff.mp hd
  obtain ⟨hnt, hkt⟩ := keysUnique_iff.mp ht
  obtain ⟨cs', hcs', hrel⟩ := norm_apply_map classOps ns t.ns.length (applyClass ns t.ns.length) normClass ClassEqv
    Class.KU (fun _ => rfl) (fun _ => rfl)
    (fun _ _ h => h) (fun _ => ⟨NoDup.nil, NoDup.nil, fun _ hm => by cases hm⟩) classEqv_refl hnd hnt
    (fun e he t t' ht hc => norm_applyClass (hkd e he) ht hc) hkt hc
  refine ⟨{ ns := t.ns, doc := t.doc, classes := cs' }, ?_, rfl, rfl, hrel⟩
  simp only [applyTo_eq, hn, normDiff, applyInfo, applyOption, hcs', Option.bind_some, Option.map_some]

/-- an `Edit(X, X)` with a WRONG old value is refused when applied directly, but is accepted (as `None`) after the diff
went through text: the old-value check of an unchanged name does not survive the format -/
theorem text_weakens_same_edit_witness :
    let d : Diff := { info := .none, doc := .none, classes := [
      (jstr "A", { info := .edit (jstr "X") (jstr "X"), doc := .none, fields := [], methods := [] })] }
    let t : Mappings := { ns := [jstr "official", jstr "named"], doc := none, classes := [
      (jstr "A", { names := [some (jstr "A"), some (jstr "Y")], doc := none, fields := [], methods := [] })] }
    Writable d ∧ applyTo d t (jstr "named") = none ∧
      ∃ d', TinyDiff.read (TinyDiff.writeSpec d) = some d' ∧ applyTo d' t (jstr "named") = some t := by
  decide +kernel

theorem keysUnique_of_WF {m : Mappings} (h : WF m) : KeysUnique m :=
  keysUnique_iff.mpr ⟨h.1, fun c hc => (h.2 c hc).ku⟩

/-- **diff_apply_text_partial**: on the domain of `diff_apply_partial`, if moreover the diff is `Writable` (names and
comments survive a line of text; the top-level comment is unchanged), the diff read back from its specification text
still turns `A` into (something `≈`) `B` -/
theorem diff_apply_text_partial {a b : Mappings} {d : Diff} {n0 n1 : JStr} (wa : WF a) (wb : WF b)
    (hns : a.ns = [n0, n1]) (hne : n0 ≠ n1) (hsrc : ParamSrcless a b) (hd : diff a b = some d) (hw : Writable d) :
    ∃ d' r, TinyDiff.read (TinyDiff.writeSpec d) = some d' ∧ applyTo d' a n1 = some r ∧
      MappingsEqv r b ∧ eqvMappings r b = true := by
  obtain ⟨r, hr, he, _⟩ := diff_apply_partial wa wb hns hne hsrc hd
  obtain ⟨r', hr', he'⟩ := apply_read_back hw.2.2.1 (keysUnique_of_WF wa) hw.1 hw.2.1 hr
  have := mappingsEqv_trans he' he
  exact ⟨normDiff d, r', read_write d hw, hr', this, eqvMappings_of this⟩

/-- a change of the top-level comment cannot travel through text (`Writable` excludes it for this reason) -/
theorem diff_apply_text_top_comment_witness :
    let m (doc : Option JStr) : Mappings := { ns := [jstr "official", jstr "named"], doc := doc, classes := [] }
    (∃ d, diff (m none) (m (some (jstr "x"))) = some d ∧ ¬ Writable d ∧
      applyTo d (m none) (jstr "named") = some (m (some (jstr "x")))) ∧
    ∀ text d' r, TinyDiff.read text = some d' → applyTo d' (m none) (jstr "named") = some r → r.doc = none := by
  exact ⟨by decide +kernel, fun _ _ _ h ha => (text_keeps_top_level h ha).2⟩

/-! ## (6) the hypotheses are satisfiable -/

/-- `diff_apply_partial` / `diff_apply_text_partial` apply to a pair sharing some keys and differing at all five levels
(class renamed, field removed, method added with a parameter, parameter renamed keeping its source name, comments
added / removed / edited with a line feed, a TAB, a CR, a backslash and the two characters backslash-`n`) -/
example :
    let a : Mappings := { ns := [jstr "official", jstr "named"], doc := some (jstr "top"), classes := [
      (jstr "p/A", { names := [some (jstr "p/A"), some (jstr "q/X")], doc := some (jstr "old"), fields := [((jstr "f", jstr "I"), { desc := jstr "I", names := [some (jstr "f"), some (jstr "g")], doc := none })], methods := [((jstr "m", jstr "(I)V"), { desc := jstr "(I)V", names := [some (jstr "m"), some (jstr "n")], doc := none, params := [(0, { index := 0, names := [some (jstr "s"), some (jstr "p")], doc := some (jstr "pd") })] })] }),
      (jstr "B", { names := [some (jstr "B"), some (jstr "Y")], doc := none, fields := [], methods := [] })] }
    let b : Mappings := { ns := [jstr "official", jstr "named"], doc := some (jstr "top"), classes := [
      (jstr "C", { names := [some (jstr "C"), some (jstr "Z")], doc := none, fields := [], methods := [] }),
      (jstr "p/A", { names := [some (jstr "p/A"), some (jstr "q/W")], doc := some (jstr "new\nline\ttab \\n bs\\ cr\r"), fields := [], methods := [((jstr "k", jstr "()V"), { desc := jstr "()V", names := [some (jstr "k"), some (jstr "l")], doc := some (jstr "md"), params := [(1, { index := 1, names := [none, some (jstr "q")], doc := none })] }), ((jstr "m", jstr "(I)V"), { desc := jstr "(I)V", names := [some (jstr "m"), some (jstr "n")], doc := none, params := [(0, { index := 0, names := [some (jstr "s"), some (jstr "r")], doc := none })] })] })] }
    WF a ∧ WF b ∧ ParamSrcless a b ∧ ∃ d, diff a b = some d ∧ Writable d ∧ d ≠ normDiff d := by
  simp -index only [jstr_ofList]
  decide +kernel

/-- `apply_exact` / `apply_refuses` speak about real refusals: one diff per refused combination of the table -/
example :
    let t : Mappings := { ns := [jstr "official", jstr "named"], doc := none, classes := [
      (jstr "A", { names := [some (jstr "A"), some (jstr "X")], doc := none, fields := [], methods := [] }),
      (jstr "B", { names := [some (jstr "B"), none], doc := none, fields := [], methods := [] })] }
    let d (k : String) (a : Action JStr) : Diff := { info := .none, doc := .none, classes := [
      (jstr k, { info := a, doc := .none, fields := [], methods := [] })] }
    applyTo (d "A" (.add (jstr "N"))) t (jstr "named") = none ∧ applyTo (d "A" (.remove (jstr "W"))) t (jstr "named") = none ∧
    applyTo (d "A" (.edit (jstr "W") (jstr "N"))) t (jstr "named") = none ∧ applyTo (d "Z" .none) t (jstr "named") = none ∧
    applyTo (d "Z" (.remove (jstr "X"))) t (jstr "named") = none ∧ applyTo (d "B" (.remove (jstr "X"))) t (jstr "named") = none ∧
    (applyTo (d "B" (.add (jstr "N"))) t (jstr "named")).isSome ∧ (applyTo (d "A" (.remove (jstr "X"))) t (jstr "named")).isSome ∧
    (applyTo (d "Z" (.add (jstr "N"))) t (jstr "named")).isSome ∧ applyTo (d "A" (.edit (jstr "X") (jstr "N"))) t (jstr "official") = none ∧
    applyTo (d "Z" (.add (jstr "N"))) t (jstr "official") = none := by
  decide +kernel

end Thm.C04
