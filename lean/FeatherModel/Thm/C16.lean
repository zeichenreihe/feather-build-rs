import FeatherModel.Lemmas.TotalPasses
import FeatherModel.Lemmas.TotalDyn
import FeatherModel.Lemmas.TotalText
import FeatherModel.Model.TotalClass
import FeatherModel.Lemmas.JStrLit

/-!
# C16 — parsers fail with an error, never crash, on arbitrary input

> Given arbitrary bytes or text, the class reader, the Tiny v2, tiny-diff, Enigma and nests parsers and the
> descriptor parsers either return a value or return an error: they do not panic, overflow the stack, loop forever or
> allocate memory unrelated to the input size; and whatever the class reader accepts, the class writer handles without
> panicking.

The models (`Model/Total*.lean`) return `ok | err | panic site`; every unchecked Rust operation found by the audit
(`Total.Sites.table`) is a checked operation of the model.  The `no_panic_*` and bound theorems quantify over **all**
inputs (`Bytes = List Nat`, elements are taken modulo 256) and, `alloc_bound_code` apart, over all initial accounts; the
`…_is_err` / `…_is_ok` theorems are single inputs run from the empty account.

State of the code (`/repo` after e3534dd, 4853513, 6b80d4b, 8349742, cf30e8c, cb2ce34, 835fdd2, 136eeb3): the nine sites
the audit found open in the class reader, in `get_arguments_size` (1–8) and in the class writer's `if_helper` (9) are
repaired; each has a regression theorem on an input that reached it (`…_is_err` / `…_is_ok`; site 6:
`alloc_u32_is_small`; site 2: `labels_all_offsets_is_ok`, about the label table by itself).  No audited site is open
(`open_sites`).  The expansion of acyclic bootstrap-argument DAGs into trees (a copy per use, `fanout ^ 16` nodes in the code before the budget)
is bounded since the budget `MAX_BOOTSTRAP_ARGUMENT_CONSTANTS`: `dyn_nodes_bounded`.  The writer as a whole is C02's model: `Thm.C02.write_fails_cleanly`
(the code array is written or refused with an error for every instruction list).

* No panic on any input (`no_panic_X`): Tiny v2, tiny-diff, Enigma, nests, the three descriptor parsers, `read_code`
  (`no_panic_code`: in particular the guarded sites 20–34 never fire), element values, `Dynamic` resolution,
  `get_arguments_size`.
* The writer scenario of former site 9: `no_panic_writer_grow`.
* Termination: every model function is structurally recursive (Lean's own check); the two bytecode loops and the
  `get_arguments_size` loop take fuel, `pass1_fuel` / `pass2_fuel` show that more fuel never changes the result.
* Recursion is bounded by constants: `depth_bound_anno` (a value that is read is nested at most 256 deep),
  `depth_bound_dyn` (two inputs: a chain of 17 constants is resolved, a chain of 18 is an error; the model of the
  resolver recurses structurally on `16 - depth`), `depth_bound_enigma` (a bound on `Text.enigmaDepth`, the longest run of TABs
  plus one; that CLASS lines nest no deeper than they are indented is the argument of `Total.Sites.table`, entry 10,
  not a theorem).
* Allocation: `alloc_bound_code` (`≤ max 65535 (|input| + 2)` elements: 16-bit counts, switch capacities because the first
  pass has stepped over the same instruction (`Code.pass2_spec_scanned`), `read_u8_vec` buffers hold bytes that are
  present).
-/

namespace Thm.C16

open Total

/-- `quill::tiny_v2::read::<N>` never panics: the only unchecked operation (`&line[idents..]`, lines.rs:86) is always on
a char boundary -/
theorem no_panic_tiny (n : Nat) (b : Bytes) (st : Acct) (s : Nat) : (Text.tinyOp n b st).1 ≠ .panic s :=
  (Text.tinyOp_spec (B := 0) n b).not_panic st s

theorem no_panic_tinydiff (b : Bytes) (st : Acct) (s : Nat) : (Text.tinyDiffOp b st).1 ≠ .panic s :=
  (Text.tinyDiffOp_spec (B := 0) b).not_panic st s

theorem no_panic_enigma (b : Bytes) (st : Acct) (s : Nat) : (Text.enigmaOp b st).1 ≠ .panic s :=
  (Text.enigmaOp_spec (B := 0) b).not_panic st s

theorem no_panic_nests (b : Bytes) (st : Acct) (s : Nat) : (Text.nestsOp b st).1 ≠ .panic s :=
  (Text.nestsOp_spec (B := 0) b).not_panic st s

/-- the slice `&line[idents..]` is on a char boundary for every string, not only for the lines of a valid file -/
theorem line_slice_on_char_boundary (line : List Nat) : isCharBoundary line (Text.leadingTabs line) = true :=
  Text.isCharBoundary_leadingTabs line

/-- recursion depth of `parse_class` (bounded by the longest run of TABs + 1) is at most linear in the input -/
theorem depth_bound_enigma (t : List Nat) : Text.enigmaDepth t ≤ t.length + 1 := by
  have := Text.maxTabRun_le t 0 0
  unfold Text.enigmaDepth
  omega

theorem no_panic_desc_field (d : JStr) (st : Acct) (s : Nat) : (Text.descFieldOp d st).1 ≠ .panic s :=
  (Text.unitOf_spec (B := 0) _).not_panic st s

theorem no_panic_desc_method (d : JStr) (st : Acct) (s : Nat) : (Text.descMethodOp d st).1 ≠ .panic s :=
  (Text.unitOf_spec (B := 0) _).not_panic st s

theorem no_panic_desc_return (d : JStr) (st : Acct) (s : Nat) : (Text.descReturnOp d st).1 ≠ .panic s :=
  (Text.unitOf_spec (B := 0) _).not_panic st s

/-- `array_dimension += 1` in `u8` (descriptor.rs:101) never overflows, and the checked loop is the loop C18 models -/
theorem array_dimension_never_overflows (d : JStr) (st : Acct) :
    Text.bracketsChecked 0 d st = (match Descriptor.readBrackets 0 d with
      | some r => (.ok r, st)
      | none => (.err, st)) :=
  Text.bracketsChecked_eq d 0 st (Nat.zero_le _)

/-- `read_code` never panics: the guarded operations (slice in the second pass, `iload_n` / `istore_n` arithmetic,
frame-type subtractions, the `unreachable!()`s: sites 20–34) never fire, and the formerly open sites 1, 2, 3, 5 are
errors or gone -/
theorem no_panic_code (body : Bytes) (st : Acct) (s : Nat) : (Code.codeOp body st).1 ≠ .panic s :=
  (Code.codeOp_spec_sharp body).not_panic st s

example : (Code.codeOp [0, 1, 0, 1, 0, 0, 0, 1, 177, 0, 0, 0, 0]).run.1 = .ok () := by decide +kernel

/-- regression of site 1 (e3534dd): `nop; return` with a LocalVariableTable entry `start_pc = 1, length = 65535` -/
theorem code_labels_range_is_err :
    (Code.codeOp [0, 1, 0, 1, 0, 0, 0, 2, 0, 177, 0, 0, 0, 1, 0, 26, 0, 0, 0, 12,
      0, 1, 0, 1, 255, 255, 0, 1, 0, 10, 0, 0]).run.1 = .err := by decide +kernel

/-- regression of site 3 (6b80d4b): `return` with a StackMapTable of two frames, the second `same_frame_extended` with
`offset_delta = 65535` -/
theorem code_frame_offset_is_err :
    (Code.codeOp [0, 1, 0, 1, 0, 0, 0, 1, 177, 0, 0, 0, 1, 0, 24, 0, 0, 0, 6,
      0, 2, 0, 251, 255, 255]).run.1 = .err := by decide +kernel

/-- regression of site 2 (4853513): every offset `0 … n` can get a label, for every `n` (in particular `n = 65535`: all
65536 offsets; the harness replays the full class file: `labels-full 65534`) -/
theorem labels_all_offsets_is_ok (n : Nat) (st : Acct) :
    ((Code.Labels.addRange ⟨n, 0, 0⟩ n >>= fun l => l.addUnchecked n) st).1 = .ok ⟨n, 2 ^ (n + 1) - 1, n + 1⟩ := by
  rw [bnd_apply, Code.addRange_new n n st]
  exact congrArg Prod.fst (Code.addUnchecked_fresh n n st)

/-- regression (52b8362): a truncated last instruction (`sipush` with one operand byte) is an error -/
theorem code_truncated_insn_is_err :
    (Code.codeOp [0, 4, 0, 4, 0, 0, 0, 2, 17, 0, 0, 0, 0, 0]).run.1 = .err := by decide +kernel

/-- regression (52b8362): `tableswitch` with `low = i32::MIN`, `high = i32::MAX` is an error -/
theorem code_tableswitch_range_is_err :
    (Code.codeOp [0, 4, 0, 4, 0, 0, 0, 16, 170, 0, 0, 0, 0, 0, 0, 0, 128, 0, 0, 0, 127, 255, 255, 255,
      0, 0, 0, 0]).run.1 = .err := by decide +kernel

/-- fuel of the first pass: anything ≥ `len - pos` gives the same result -/
theorem pass1_fuel (f1 f2 : Nat) (l : Code.Labels) (c : Code.Cur) (h1 : c.len - c.pos ≤ f1) (h2 : c.len - c.pos ≤ f2) :
    Code.pass1 f1 l c = Code.pass1 f2 l c :=
  Code.pass1_fuel f1 f2 l c h1 h2

/-- the same for the second pass, from the start of a code array -/
theorem pass2_fuel (l : Code.Labels) (f1 f2 : Nat) (code : Bytes) (h1 : code.length ≤ f1) (h2 : code.length ≤ f2) :
    Code.pass2 l f1 (Code.Cur.start code) = Code.pass2 l f2 (Code.Cur.start code) :=
  Code.pass2_fuel l f1 f2 _ (Code.WF.start code) (by simpa [Code.Cur.start] using h1) (by simpa [Code.Cur.start] using h2)

/-- the two decoders agree: where a step of the first pass ends, a successful step of the second pass at the same
cursor ends too (all 256 opcodes, `wide`, both switches with every padding): both end `Code.insnLen c` bytes on,
whatever the cursor (`Code.passes_agree`) -/
theorem passes_visit_same_instructions (l l2 : Code.Labels) (c : Code.Cur) (st st2 : Acct) (l1 : Code.Labels)
    (c1 c2 : Code.Cur) (hw : Code.WF c) (hlen : c.len ≤ 65535)
    (h1 : (Code.pass1Step l c st).1 = .ok (l1, c1)) (h2 : (Code.pass2Step l2 c st2).1 = .ok c2) : c2 = c1 :=
  Code.passes_agree h1 h2

/-- every allocation request of `read_code` is at most `max 65535 (|input| + 2)` elements: 16-bit counts and what is
derived from them, `Vec::with_capacity(high - low + 1)` / `(npairs)` of the second pass (sites 33, 34; up to 2^31 - 1
by themselves, but the first pass has stepped over the same instruction, which therefore lies inside the code:
`Code.pass2_spec_scanned`),
and the buffers of `read_u8_vec`, which since 8349742 only hold bytes that are present (former site 6) -/
theorem alloc_bound_code (body : Bytes) : (Code.codeOp body).run.2.alloc ≤ max 65535 (body.length + 2) :=
  (Code.codeOp_spec_sharp body).alloc_le

/-- regression of site 6 (8349742): a Code attribute with one unknown attribute of `attribute_length = 0xFFFFFFFF`
is an error after a request of the 2 bytes that are left (the code before 8349742 requested 4 GiB) -/
theorem alloc_u32_is_small :
    (Code.codeOp [0, 1, 0, 1, 0, 0, 0, 1, 177, 0, 0, 0, 1, 0, 32, 255, 255, 255, 255]).run = (.err, { alloc := 2 }) := by
  decide +kernel

/-- the element-value reader never panics (former site 5) -/
theorem no_panic_anno (body : Bytes) (st : Acct) (s : Nat) : (Anno.annoOp body st).1 ≠ .panic s :=
  (Anno.annoOp_spec (B := 0) body).not_panic st s

/-- the recursion is structural in `255 - depth`, and a value that is read is nested at most 256 levels deep -/
theorem depth_bound_anno (body : Bytes) (st : Acct) (d : Nat) (h : (Anno.annoOp body st).1 = .ok d) : d ≤ 256 :=
  (Anno.annoOp_spec (S := []) (B := 0) body).of_ok h

/-- 255 nested arrays are read … -/
theorem anno_nesting_255_is_ok : (Anno.annoOp (Anno.nested 255)).run.1 = .ok 256 := Anno.annoOp_nested 255

/-- … one more is an error (regression of site 5: the code before 835fdd2 recursed once per level, three input bytes
each, until the stack was exhausted) -/
theorem anno_nesting_is_err : (Anno.annoOp (Anno.nested 256)).run.1 = .err := Anno.annoOp_nested 256

/-- resolving `Dynamic` constants never panics (former site 4) -/
theorem no_panic_dyn (spec : Dyn.Bsms) (st : Acct) (s : Nat) : (Dyn.dynOp spec st).1 ≠ .panic s :=
  (Dyn.dynOp_spec (S := []) (Dyn.argsLe_sum spec)).not_panic st s

/-- **the expansion of shared bootstrap arguments is bounded** (every pool, every sharing structure, every
initial account): one resolution of a loadable constant builds at most `MAX_BOOTSTRAP_ARGUMENT_CONSTANTS = 65536`
`Loadable` nodes — each `get_loadable_at_depth` call pays one unit of a budget that the top-level call sets up — and the
largest single allocation request is the length of an argument list of the input. The code before the budget expanded a
pool of `16·k` two-byte indices into `k ^ 16` nodes -/
theorem dyn_nodes_bounded (spec : Dyn.Bsms) (st : Acct) (n : Nat) (h : (Dyn.dynOp spec st).1 = .ok n) :
    n ≤ 65536 ∧ (st.alloc ≤ (spec.map List.length).sum → (Dyn.dynOp spec st).2.alloc ≤ (spec.map List.length).sum) := by
  have hs := Dyn.dynOp_spec (S := []) (Dyn.argsLe_sum spec)
  exact ⟨hs.of_ok h, (hs st).1⟩

/-- regression of site 4 (cb2ce34): a `Dynamic` constant that lists itself as bootstrap argument is an error (the
code before cb2ce34 recursed until the stack was exhausted) -/
theorem dyn_self_reference_is_err : (Dyn.dynOp Dyn.selfRef).run.1 = .err := by decide +kernel

/-- the recursion depth is bounded by a constant: `resolve` is structurally recursive in `16 - depth`; a chain of 17
constants (depths 0 … 16) is resolved, a chain of 18 is an error -/
theorem depth_bound_dyn :
    (Dyn.dynOp ((List.range 17).map fun i => if i + 1 < 17 then [Dyn.Arg.dyn (i + 1)] else [])).run.1 = .ok 17 ∧
    (Dyn.dynOp ((List.range 18).map fun i => if i + 1 < 18 then [Dyn.Arg.dyn (i + 1)] else [])).run.1 = .err := by
  decide +kernel

/-- sharing is still resolved by copying: 7 constants (a binary DAG of depth 6) become 127 `Loadable`s … -/
theorem dyn_sharing_is_copied : (Dyn.dynOp (Dyn.binDag 6 0)).run.1 = .ok 127 := by decide +kernel

/-- … but the copies are paid from the budget: three constants whose bootstrap methods list the next one 300 times
(1 + 300 + 90000 nodes, a pool of about 1.3 KB) are an error, not 90301 nodes (regression of the expansion repair; with
sixteen such levels the unrepaired reader asked for `300 ^ 16` nodes) -/
theorem dyn_expansion_is_err :
    (Dyn.dynOp [List.replicate 300 (Dyn.Arg.dyn 1), List.replicate 300 (Dyn.Arg.dyn 2), []]).run.1 = .err := by
  rw [TM.run]
  exact Dyn.dynOp_err (c := 1 + 300 * (1 + 300 * 1))
    (Dyn.resolve_costs_replicate rfl (Dyn.resolve_costs_replicate rfl (Dyn.resolve_costs_nil rfl _))) (by decide) {}

/-- `get_arguments_size` (reached from the writer's `invokeinterface` arm on any descriptor the reader accepted)
never panics (former sites 7, 8) -/
theorem no_panic_argsize (d : JStr) (st : Acct) (s : Nat) : (Text.argSizeOp d st).1 ≠ .panic s :=
  (Text.argSizeOp_spec (B := 0) d).not_panic st s

/-- regression of site 7 (cf30e8c): `(` + 128 × `D` + `)V` -/
theorem argsize_wide_is_err :
    (Text.argSizeOp (40 :: List.replicate 128 68 ++ [41, 86])).run.1 = .err := by decide +kernel

/-- regression of site 8 (cf30e8c): `(` + 255 × `I` + `)V` -/
theorem argsize_one_is_err :
    (Text.argSizeOp (40 :: List.replicate 255 73 ++ [41, 86])).run.1 = .err := by decide +kernel

example : (Text.argSizeOp (jstr "(IDLjava/lang/Thread;)V")).run.1 = .ok () := by
  simp -index only [jstr_ofList]
  decide +kernel
example : (Text.argSizeOp (40 :: List.replicate 254 73 ++ [41, 86])).run.1 = .ok () := by decide +kernel

/-- the writer scenario `if_helper` with a known target never panics (former site 9; the writer as a whole:
`Thm.C02.write_fails_cleanly`) -/
theorem no_panic_writer_grow (nops nitf : Nat) (st : Acct) (s : Nat) : (Writer.growOp nops nitf st).1 ≠ .panic s :=
  (Writer.growOp_spec (B := 0) nops nitf).not_panic st s

/-- regression of site 9 (136eeb3): a 65535-byte method (65530 `nop`, `ldc`, `ifeq` 32768 bytes back) in a class with
130 interfaces: the writer turns `ldc` into `ldc_w`; `65533 + 1 + 2` leaves `u16` — an error (the code before
136eeb3 panicked here) -/
theorem writer_if_wide_is_err : (Writer.growOp 65530 130).run.1 = .err := by decide +kernel

example : (Writer.growOp 65530 100).run.1 = .ok () := by decide +kernel

/-- no site of the audit is still open -/
theorem open_sites : Sites.openIds = [] := by decide +kernel

/-- the outcome class of a whole file is `ok` or `err` (the unchecked operations of the reader are the subject of the
component theorems above; C01's model is only the value part) -/
theorem no_panic_classRead (b : Bytes) (st : Acct) (s : Nat) : (classReadOp b st).1 ≠ .panic s := by
  unfold classReadOp
  cases ClassRead.read b <;> simp [TM.fail, Pure.pure, TM.ret]

end Thm.C16
