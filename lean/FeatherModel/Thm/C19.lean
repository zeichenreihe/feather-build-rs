import FeatherModel.Lemmas.MavenText
import FeatherModel.Lemmas.MavenPom
import FeatherModel.Lemmas.MavenMediation

/-!
# C19 — Maven dependency resolution follows nearest-wins mediation and scope rules

The property theorems, each proved from the lemma modules `Lemmas/Maven*.lean`, with the definitions of their witnesses and
non-vacuity examples (`witnessCoord`, `witnessFound`, `exUniverse`, …).  Model: `Model/Maven.lean` (scope table, `Display` / `FromStr` tables of `DependencyScope` come
from `Gen/ScopeTable.lean`, regenerated from `maven_dependency_resolver/src/lib.rs` by `translate/scope_to_lean.py`).
Specifications: `Spec/MavenScope.lean` (Maven's documented scope table), `Spec/MavenPom.lean` (effective-POM and
transitive-dependency rules), `Spec/MavenLevels.lean` (level-order mediation trace, `Pruned`, `levelOrder`).

The statements about POMs, trees and mediation are for every universe of POM documents, every list of repositories, every
forest (any width, any depth); the print / parse round trips are for coordinates without `:` in a field and without
`" @ "` in their printed form (`*_witness`: neither condition can be dropped).
The recursive model functions take fuel (the Rust code has no recursion limiter and does not terminate on cyclic
universes); `Eff`, `DepTreeOf`, `Resolves` are their fuel-free readings ("some amount of fuel gives this answer"),
`*_fuel_independent` show the answer never depends on the amount, `resolve_terminates_acyclic` that on acyclic
universes (a rank function decreasing along parent, import and dependency edges) a computable amount always suffices.
-/

namespace Thm.C19
open Maven

/-- the table translated from the Rust source = Maven's documented table (with `system` treated like `provided`),
for every pair of scopes; `none` = the dependency is omitted -/
theorem scope_table_maven (left top : Scope) :
    (theScopeTable left top).map Scope.toSpec = Spec.MavenScope.table left.toSpec top.toSpec := by
  rw [scope_table_spec]
  cases Spec.MavenScope.table left.toSpec top.toSpec with
  | none => rfl
  | some s => cases s <;> rfl

/-- the same on the raw translator output: every arm list entry of `the_scope_table`, evaluated with Rust's
first-match-wins semantics, gives the documented cell; in particular the arms are exhaustive -/
theorem scope_table_translated :
    ∀ l ∈ Spec.MavenScope.S.all, ∀ t ∈ Spec.MavenScope.S.all,
      evalArms Gen.ScopeTable.arms l.id t.id = Spec.MavenScope.tableId l.id t.id := by
  decide +kernel

/-- `enum DependencyScope` has exactly the five scopes the model knows -/
theorem scope_variants_complete :
    Gen.ScopeTable.variants.length = 5 ∧ ∀ s ∈ Spec.MavenScope.S.all, s.id ∈ Gen.ScopeTable.variants := by
  decide +kernel

/-- `Display for DependencyScope` prints the names used in POM files -/
theorem scope_names_maven (s : Scope) : s.print = s.toSpec.name := by
  cases s <;> decide +kernel

/-- `FromStr ∘ Display = id` on scopes -/
theorem scope_print_parse (s : Scope) : Scope.parse s.print = some s := by
  cases s <;> decide +kernel

/-- the loop over `pom.dependencies` in `get_dependencies_tree` requests a subtree exactly for the dependencies selected
by `transitive` (declaration order, composed scope), stopping at the first failure -/
theorem scopes_compose (rec : Coord → Scope → Res (Tree Found)) (scope : Scope) (deps : List DepDone) :
    depChildren rec scope deps = mapRes (fun p => rec p.1 p.2) (transitive scope deps) :=
  depChildren_eq rec scope deps

/-- an optional dependency is never followed -/
theorem optional_cut (scope : Scope) (d : DepDone) (rest : List DepDone) (h : d.optional = some true) :
    transitive scope (d :: rest) = transitive scope rest := by
  rw [transitive, List.filterMap_cons, if_pos h]
  rfl

/-- a dependency declared `test`, `provided` or `system` is never followed, whatever the scope of the depending node -/
theorem nontransitive_cut (scope : Scope) (d : DepDone) (rest : List DepDone)
    (h : d.scope = some .test ∨ d.scope = some .provided ∨ d.scope = some .system) :
    transitive scope (d :: rest) = transitive scope rest := by
  have : Spec.MavenScope.table scope.toSpec (d.scope.getD .compile).toSpec = none := by
    rcases h with h | h | h <;> rw [h] <;> cases scope <;> rfl
  simp only [transitive, List.filterMap_cons, this, Option.map_none, ite_self]

/-- a non-optional dependency whose table cell is a scope is followed with that scope (declared scope omitted =
`compile`) -/
theorem transitive_follow (scope : Scope) (d : DepDone) (rest : List DepDone) (s : Spec.MavenScope.S)
    (ho : d.optional ≠ some true)
    (ht : Spec.MavenScope.table scope.toSpec (d.scope.getD .compile).toSpec = some s) :
    transitive scope (d :: rest) = (d.coord, Scope.ofSpec s) :: transitive scope rest := by
  rw [transitive, List.filterMap_cons, if_neg ho, ht]
  rfl

example : transitive .runtime
    [{ coord := default, scope := none, optional := none }, { coord := default, scope := some .test, optional := none },
     { coord := default, scope := some .runtime, optional := some true }] = [(default, .runtime)] := by decide +kernel

/-- `try_resolvers`: the POM comes from the first repository (in list order) that serves the URL; a document that does
not parse, or whose `modelVersion` is not `4.0.0`, is an error, not a reason to try the next repository -/
theorem try_resolvers_first (U : Universe) (rs : List Resolver) (c : Coord) (r : Resolver) (pom : Pom) :
    tryGetPom U rs c = .ok (r, pom) ↔
      ∃ pre post, rs = pre ++ r :: post ∧ (∀ q ∈ pre, AList.lookup (c.pomUrl q) U = none) ∧
        AList.lookup (c.pomUrl r) U = some (some pom) ∧ pom.modelVersion = jstr "4.0.0" := by
  rw [tryGetPom_eq]
  constructor
  · intro h
    split at h
    · cases h
    · rename_i r' hf
      obtain ⟨_, pre, post, hrs, hpre⟩ := List.find?_eq_some_iff_append.mp hf
      split at h
      · rename_i pom' hl
        split at h
        · rename_i hv
          cases h
          exact ⟨pre, post, hrs, fun q hq => by simpa using hpre q hq, hl, hv⟩
        · cases h
      · cases h
  · rintro ⟨pre, post, hrs, hpre, hl, hv⟩
    rw [List.find?_eq_some_iff_append.mpr ⟨by simp [hl], pre, post, hrs, fun q hq => by simp [hpre q hq]⟩]
    simp only [hl, hv, if_true]

/-- fuel independence: an `ok` answer of `get_merged_pom` is the answer for every larger amount of fuel -/
theorem effective_pom_fuel_independent (U : Universe) (rs : List Resolver) {n m : Nat} (h : n ≤ m) (c : Coord)
    (x : Resolver × PomDone) (hx : getMergedPom U rs n c = .ok x) : getMergedPom U rs m c = .ok x :=
  Res.le_ok (getMergedPom_mono U rs h c) hx

/-- … and so is an error -/
theorem effective_pom_error_fuel_independent (U : Universe) (rs : List Resolver) {n m : Nat} (h : n ≤ m) (c : Coord)
    (hx : getMergedPom U rs n c = .err) : getMergedPom U rs m c = .err :=
  Res.le_err (getMergedPom_mono U rs h c) hx

/-- an artifact has at most one effective POM -/
theorem effective_pom_functional (U : Universe) (rs : List Resolver) (c : Coord) (r r' : Resolver) (e e' : PomDone)
    (h : Eff U rs c r e) (h' : Eff U rs c r' e') : r = r' ∧ e = e' := by
  obtain ⟨n, hn⟩ := h
  obtain ⟨m, hm⟩ := h'
  have h1 := effective_pom_fuel_independent U rs (Nat.le_max_left n m) c _ hn
  have h2 := effective_pom_fuel_independent U rs (Nat.le_max_right n m) c _ hm
  exact Prod.mk.inj (Res.ok.inj (h1.symm.trans h2))

/-- **effective POM = Maven's rule** (`Spec/MavenPom.lean`, `EffRule`): the document comes from the first repository
serving it; group and version are inherited from the parent's effective POM when omitted; the effective dependency
management is the own entries with import-scoped BOMs replaced in place by their effective dependency management,
followed by the parent's; the effective dependencies are the own ones completed from the first matching managed entry,
followed by the parent's.  Both directions: what the parent-stack loop of `get_merged_pom` computes satisfies the rule,
and everything the rule derives is computed. -/
theorem effective_pom_spec (U : Universe) (rs : List Resolver) (c : Coord) (r : Resolver) (e : PomDone) :
    Eff U rs c r e ↔ EffRule U rs (EffPom U rs) c r e := by
  constructor
  · rintro ⟨n, hn⟩
    cases n with
    | zero => rw [getMergedPom] at hn; cases hn
    | succ n =>
      obtain ⟨pom, parent, h1, h2, h3⟩ := (getMergedPom_ok_iff U rs n c r e).1 hn
      obtain ⟨own, deps, coord, hc, ho, hd, he⟩ := (mergeParent_ok_iff _ _ _ _).1 h3
      refine ⟨pom, parent, own, deps, coord, h1, parentEff_of_parentOf U rs n _ parent h2, hc, ?_, hd, he⟩
      exact managed_of_makeDMOwn (fun c b hb => (impOf_ok_iff U rs n c b).1 hb |>.elim fun r hr => ⟨r, n, hr⟩) _ _ ho
  · rintro ⟨pom, par, own, deps, coord, h1, hp, hc, hm, hd, he⟩
    obtain ⟨N1, hN1⟩ := parentOf_of_parentEff U rs _ _ hp
    obtain ⟨N2, hN2⟩ := makeDMOwn_of_managed U rs hm
    refine ⟨max N1 N2 + 1, ?_⟩
    rw [getMergedPom_ok_iff]
    refine ⟨pom, par, h1, hN1 (max N1 N2) (Nat.le_max_left _ _), ?_⟩
    rw [mergeParent_ok_iff]
    exact ⟨own, deps, coord, hc, hN2 _ (Nat.le_max_right _ _), hd, he⟩

/-- inheritance of group and version; artifact id, packaging (type) are the POM's own; a parent must have packaging `pom` -/
theorem inherit_group_version (p : PomDone) (child : Pom) (c : Coord) (h : inheritCoord (some p) child = some c) :
    p.coord.type_ = jstr "pom" ∧ c.group = child.group.getD p.coord.group ∧
      c.version = child.version.getD p.coord.version ∧ c.artifact = child.artifact ∧
      c.type_ = child.packaging.getD (jstr "jar") ∧ c.classifier = none := by
  simp only [inheritCoord] at h
  split at h
  · rename_i ht
    cases h
    exact ⟨ht, rfl, rfl, rfl, rfl, rfl⟩
  · cases h

/-- without a parent, group and version must be present -/
theorem inherit_none (child : Pom) (c : Coord) (h : inheritCoord none child = some c) :
    child.group = some c.group ∧ child.version = some c.version ∧ c.artifact = child.artifact := by
  simp only [inheritCoord] at h
  split at h
  · rename_i g v hg hv
    cases h
    exact ⟨hg, hv, rfl⟩
  · cases h

/-- a dependency with a managed entry of the same (group, artifact, classifier, type): omitted version, scope and
optional flag are filled in from the **first** such entry, explicit ones win -/
theorem managed_fill (dm : List DepDone) (x : RawDep Scope) (m : DepDone)
    (h : dm.find? (fun i => i.coord.matchesBesidesVersion x.group x.artifact
          (orDefaultClassifier x.classifier (x.type_.getD (jstr "jar"))) (x.type_.getD (jstr "jar"))) = some m) :
    fillDep dm x = some
      { coord := { group := x.group, artifact := x.artifact, version := x.version.getD m.coord.version,
                   classifier := orDefaultClassifier x.classifier (x.type_.getD (jstr "jar")),
                   type_ := x.type_.getD (jstr "jar") },
        scope := x.scope <|> m.scope, optional := x.optional <|> m.optional } := by
  unfold fillDep
  simp only [h]
  cases x.scope <;> cases x.optional <;> rfl

/-- without a managed entry a dependency must carry its own version; nothing is filled in -/
theorem unmanaged_fill (dm : List DepDone) (x : RawDep Scope)
    (h : dm.find? (fun i => i.coord.matchesBesidesVersion x.group x.artifact
          (orDefaultClassifier x.classifier (x.type_.getD (jstr "jar"))) (x.type_.getD (jstr "jar"))) = none) :
    fillDep dm x = x.version.map fun v =>
      { coord := { group := x.group, artifact := x.artifact, version := v,
                   classifier := orDefaultClassifier x.classifier (x.type_.getD (jstr "jar")),
                   type_ := x.type_.getD (jstr "jar") },
        scope := x.scope, optional := x.optional } := by
  unfold fillDep
  simp only [h]
  cases x.version <;> rfl

/-- precedence among managed entries: own entries and imports in declaration order, then the parent's -/
theorem managed_lookup_order (own par : List DepDone) (p : DepDone → Bool) :
    (own ++ par).find? p = (own.find? p <|> par.find? p) := by
  rw [List.find?_append]
  cases own.find? p <;> rfl

theorem dep_tree_fuel_independent (U : Universe) (rs : List Resolver) {n m : Nat} (h : n ≤ m) (c : Coord) (s : Scope)
    (t : Tree Found) (ht : depTree U rs n c s = .ok t) : depTree U rs m c s = .ok t :=
  Res.le_ok (depTree_mono U rs h c s) ht

/-- **dependency tree = rule** (`TreeRule`): a node for the requested artifact (with the repository its POM came from
and the requested scope) and, in declaration order, the trees of the dependencies of its effective POM that `transitive`
selects, each requested with its composed scope -/
theorem dep_tree_spec (U : Universe) (rs : List Resolver) (c : Coord) (s : Scope) (t : Tree Found) :
    DepTreeOf U rs c s t ↔ TreeRule U rs (DepTreeOf U rs) c s t := by
  constructor
  · rintro ⟨n, hn⟩
    cases n with
    | zero => rw [depTree] at hn; cases hn
    | succ n =>
      rw [depTree_succ] at hn
      simp only [Res.bind_eq_ok, Res.ok.injEq] at hn
      obtain ⟨⟨r, e⟩, h1, cs, h2, rfl⟩ := hn
      exact ⟨r, e, cs, ⟨n, h1⟩, treesFor_of_mapRes (fun p t ht => ⟨n, ht⟩) _ _ h2, rfl⟩
  · rintro ⟨r, e, cs, ⟨k, hk⟩, hcs, ht⟩
    obtain ⟨N, hN⟩ := mapRes_of_treesFor U rs hcs
    refine ⟨max k N + 1, ?_⟩
    rw [depTree_succ, effective_pom_fuel_independent U rs (Nat.le_max_left k N) c _ hk]
    simp only [Res.bind, hN _ (Nat.le_max_right k N), ht]

/-- the queue of `Forest::breadth_first_retain` serves the forest level by level: its run equals the specification that
finishes a whole level (threading the closure's state left to right) before starting the next one; any closure, any
forest -/
theorem cleanUp_levelorder {α σ : Type} (f : σ → α → Bool × σ) (s : σ) (q : List (Tree α)) :
    queueRun f s q = levelRun f s q :=
  queueRun_eq_levelRun f s q

/-- `Forest::into_breadth_first` lists a forest level by level -/
theorem bfs_levelorder {α : Type} (forest : List (Tree α)) : bfs forest = levelOrder forest := by
  induction forest using levelOrder.induct with
  | case1 => rw [bfs.eq_1, levelOrder.eq_1]
  | case2 t ts ih =>
    have := bfs_level (t :: ts) []
    rw [List.append_nil, List.nil_append] at this
    rw [this, levelOrder.eq_2, ih]

/-- **result = kept nodes of the level trace**: what `clean_up_dependencies` followed by `into_breadth_first` returns
is, in order, the considered nodes (roots; then the children of the kept nodes of the previous level, in order) whose id
has not been seen before.  `considered` is defined in `Spec/MavenLevels.lean` without any queue; the code's shrinking
`HashSet` of all ids is shown equivalent to the growing set of ids seen. -/
theorem mediation_result {α ι : Type} [DecidableEq ι] (idOf : α → ι) (forest : List (Tree α)) :
    bfs (cleanUpBy idOf forest) = keptOf (considered (firstSeen idOf) [] forest) := by
  unfold cleanUpBy
  rw [bfs_bfsRetain, removeFirst_firstSeen]

/-- **nearest wins, declaration order breaks ties**: a considered node is kept iff no node considered before it — that
is, no considered node of a smaller depth and no earlier considered node of the same depth — has the same id -/
theorem mediation_nearest {α ι : Type} [DecidableEq ι] (idOf : α → ι) (forest : List (Tree α))
    (pre : List (α × Bool)) (x : α × Bool) (post : List (α × Bool))
    (h : considered (firstSeen idOf) [] forest = pre ++ x :: post) :
    x.2 = true ↔ ∀ y ∈ pre, idOf y.1 ≠ idOf x.1 := by
  rw [considered_pass] at h
  exact firstSeen_first idOf _ pre x post h

/-- the same with depths spelled out: the node at position `pre.length` of level `d` of the trace is kept iff its id
occurs neither in a level above nor earlier in its own level -/
theorem mediation_nearest_depth {α ι : Type} [DecidableEq ι] (idOf : α → ι) (forest : List (Tree α))
    (above : List (List (α × Bool))) (lvl : List (α × Bool)) (below : List (List (α × Bool)))
    (hl : levels (firstSeen idOf) [] forest = above ++ lvl :: below)
    (pre : List (α × Bool)) (x : α × Bool) (post : List (α × Bool)) (hx : lvl = pre ++ x :: post) :
    x.2 = true ↔ (∀ l ∈ above, ∀ y ∈ l, idOf y.1 ≠ idOf x.1) ∧ ∀ y ∈ pre, idOf y.1 ≠ idOf x.1 := by
  have h : considered (firstSeen idOf) [] forest = (above.flatten ++ pre) ++ x :: (post ++ below.flatten) := by
    unfold considered
    rw [hl, hx]
    simp
  rw [mediation_nearest idOf forest _ x _ h, List.forall_mem_append, List.forall_mem_flatten]

/-- **rivals' subtrees are discarded, kept nodes keep their ancestors**: the retained forest is obtained from the full
forest by deleting whole subtrees, siblings keeping their order -/
theorem mediation_closed {α ι : Type} [DecidableEq ι] (idOf : α → ι) (forest : List (Tree α)) :
    Pruned forest (cleanUpBy idOf forest) :=
  bfsRetain_pruned _ _ forest

/-- **no duplicates**: the resolved list contains every id (group, artifact, classifier, type) at most once -/
theorem bfs_order_nodup {α ι : Type} [DecidableEq ι] (idOf : α → ι) (forest : List (Tree α)) :
    ((bfs (cleanUpBy idOf forest)).map idOf).Nodup := by
  unfold cleanUpBy
  rw [bfs_bfsRetain, considered_pass]
  exact ((tracks_removeFirst idOf).kept_nodup _ _).1

/-- every resolved dependency is a node of the full forest -/
theorem mediation_subset {α ι : Type} [DecidableEq ι] (idOf : α → ι) (forest : List (Tree α)) :
    ∀ a ∈ bfs (cleanUpBy idOf forest), a ∈ nodesList forest := by
  intro a ha
  rw [mediation_result] at ha
  simp only [keptOf, List.mem_map, List.mem_filter] at ha
  obtain ⟨x, ⟨hx, _⟩, rfl⟩ := ha
  exact considered_mem _ _ forest x hx

/-- the roots are always considered first: a root loses only against an earlier root -/
theorem mediation_roots {α ι : Type} [DecidableEq ι] (idOf : α → ι) (forest : List (Tree α)) :
    ∃ rest, considered (firstSeen idOf) [] forest = verdicts (firstSeen idOf) [] forest ++ rest ∧
      (verdicts (firstSeen idOf) [] forest).map Prod.fst = forest.map Tree.data :=
  ⟨_, considered_step _ _ forest, verdicts_map_fst _ _ forest⟩

theorem resolve_fuel_independent (U : Universe) (rs : List Resolver) {n m : Nat} (h : n ≤ m)
    (roots : List (Coord × Scope)) (l : List Found) (hl : resolve U rs n roots = .ok l) : resolve U rs m roots = .ok l :=
  Res.le_ok (resolve_mono U rs h roots) hl

theorem resolve_error_fuel_independent (U : Universe) (rs : List Resolver) {n m : Nat} (h : n ≤ m)
    (roots : List (Coord × Scope)) (hl : resolve U rs n roots = .err) : resolve U rs m roots = .err :=
  Res.le_err (resolve_mono U rs h roots) hl

/-- **`get_maven_dependencies` = specification**: the answer is `l` iff the roots have dependency trees (by the tree
rule, effective POMs by the effective-POM rule) and `l` is the list of kept nodes of the nearest-wins level trace of that
forest, ids being (group, artifact, classifier, type) -/
theorem resolve_spec (U : Universe) (rs : List Resolver) (roots : List (Coord × Scope)) (l : List Found) :
    Resolves U rs roots l ↔
      ∃ forest, TreesFor (DepTreeOf U rs) roots forest ∧
        l = keptOf (considered (firstSeen (fun f : Found => f.coord.collisionId)) [] forest) := by
  constructor
  · rintro ⟨n, hn⟩
    rw [resolve_eq] at hn
    simp only [Res.bind_eq_ok, Res.ok.injEq] at hn
    obtain ⟨forest, h1, rfl⟩ := hn
    exact ⟨forest, treesFor_of_mapRes (fun p t ht => ⟨n, ht⟩) _ _ h1, mediation_result _ forest⟩
  · rintro ⟨forest, hf, hl⟩
    obtain ⟨N, hN⟩ := mapRes_of_treesFor U rs hf
    refine ⟨N, ?_⟩
    rw [resolve_eq, hN N (Nat.le_refl _), hl]
    exact congrArg _ (mediation_result _ forest)

/-- **breadth-first order without duplicates**: the resolved list is the level-order listing of a forest obtained from
the full dependency forest of the roots by deleting whole subtrees, and no (group, artifact, classifier, type) occurs
twice in it -/
theorem resolve_breadth_first_nodup (U : Universe) (rs : List Resolver) (roots : List (Coord × Scope)) (l : List Found)
    (h : Resolves U rs roots l) :
    ∃ full kept, TreesFor (DepTreeOf U rs) roots full ∧ Pruned full kept ∧ l = levelOrder kept ∧
      (l.map (fun f => f.coord.collisionId)).Nodup := by
  obtain ⟨forest, hf, rfl⟩ := (resolve_spec U rs roots l).1 h
  rw [← mediation_result]
  exact ⟨forest, cleanUp forest, hf, mediation_closed _ forest, bfs_levelorder _, bfs_order_nodup _ forest⟩

/-- on an acyclic universe — a rank function on coordinates that decreases from a POM to its parent, to the BOMs it
imports and from an artifact to the dependencies of its effective POM — resolution terminates: fuel
`maxRank + 2` always gives an answer (`ok` or `err`), which by fuel independence is the answer -/
theorem resolve_terminates_acyclic (U : Universe) (rs : List Resolver) (rank : Coord → Nat)
    (hr : Ranked U rs rank) (roots : List (Coord × Scope)) (bound : Nat) (hb : ∀ p ∈ roots, rank p.1 ≤ bound) :
    resolve U rs (bound + 2) roots ≠ .fuel := by
  rw [resolve_eq]
  refine Res.bind_ne_fuel (mapRes_ne_fuel fun p hp => depTree_ne_fuel U rs rank hr _ p.1 p.2 ?_) fun _ _ => nofun
  have := hb p hp
  omega

/-- a universe with one repository URL: artifact `g:a:1` without parent, management or dependencies -/
def exPom : Pom :=
  { modelVersion := jstr "4.0.0", parent := none, group := some [103], artifact := [97], version := some [49],
    packaging := none, depMgmt := [], deps := [] }

/-- its one key spells `u/g/a/1/a-1.pom`: the POM URL (`Coord.pomUrl`) of `g:a:1` in the repository `u` of `exFound` -/
def exUniverse : Universe := [([117, 47, 103, 47, 97, 47, 49, 47, 97, 45, 49, 46, 112, 111, 109], some exPom)]

/-- the hypothesis of `resolve_terminates_acyclic` is satisfiable by a non-empty universe -/
example (rs : List Resolver) : Ranked exUniverse rs (fun _ => 0) := by
  have key : ∀ c r pom, tryGetPom exUniverse rs c = .ok (r, pom) → pom = exPom := by
    intro c r pom h
    obtain ⟨pre, post, _, _, h3, _⟩ := (try_resolvers_first exUniverse rs c r pom).1 h
    simp only [exUniverse, AList.lookup] at h3
    split at h3
    · simp only [Option.some.injEq] at h3; exact h3.symm
    · cases h3
  refine ⟨?_, ?_, ?_⟩
  · intro c r pom pc h hp
    rw [key c r pom h] at hp
    cases hp
  · intro c r pom x v h hx
    rw [key c r pom h] at hx
    cases hx
  · intro c r e d he hd
    obtain ⟨pom, par, own, deps, coord, h1, hp, _, _, hf, hE⟩ := (effective_pom_spec exUniverse rs c r e).1 he
    have hk := key c r pom h1
    subst hk
    have hpar : par = none := hp
    subst hpar
    simp only [exPom, fillDeps, Option.some.injEq] at hf
    subst hf hE
    simp [parDeps] at hd

def exCoord : Coord := { group := [103], artifact := [97], version := [49], classifier := none, type_ := [106, 97, 114] }
def exFound : Found := { resolver := { name := [114], maven := [117] }, coord := exCoord, scope := .compile }

/-- and it resolves: the artifact itself, nothing else -/
example : Resolves exUniverse [{ name := [114], maven := [117] }] [(exCoord, .compile)] [exFound] := by
  have ht : DepTreeOf exUniverse [{ name := [114], maven := [117] }] exCoord .compile (.node exFound []) :=
    ⟨2, by rfl⟩
  refine (resolve_spec _ _ _ _).2 ⟨[.node exFound []], TreesFor.cons ht TreesFor.nil, ?_⟩
  simp [considered, levels, verdicts, filterS, firstSeen, levelsFrom.eq_2, levelsFrom.eq_1, keptOf, Tree.data,
    Tree.children]

/-- `FromStr ∘ Display = id` on coordinates whose fields contain no `:` -/
theorem coord_print_parse_partial (c : Coord) (h : c.colonFree) : Coord.parse c.print = some c := by
  obtain ⟨hg, ha, hv, ht, hk⟩ := h
  obtain ⟨g, a, v, k, t⟩ := c
  cases k with
  | none =>
    simp only [Coord.print, Coord.parse, List.append_nil]
    rw [splitOn_append _ hg, splitOn_append _ ha, splitOn_append _ ht, splitOn_not_mem hv]
  | some k =>
    have hk' : COLON ∉ k := hk k rfl
    simp only [Coord.print, Coord.parse, List.append_assoc, List.cons_append]
    rw [splitOn_append _ hg, splitOn_append _ ha, splitOn_append _ ht, splitOn_append _ hk', splitOn_not_mem hv]

example : Coord.colonFree
    { group := [111, 114, 103], artifact := [97], version := [49, 46, 48], classifier := some [120], type_ := [106, 97, 114] } := by
  refine ⟨by decide, by decide, by decide, by decide, ?_⟩
  intro k hk
  cases hk
  decide +kernel

/-- group `a:b`, artifact `c`, type `j`, version `1` -/
def witnessCoord : Coord := { group := [97, 58, 98], artifact := [99], version := [49], classifier := none, type_ := [106] }

/-- a `:` inside a field cannot survive (the format has no escaping) -/
theorem coord_print_parse_witness : Coord.parse witnessCoord.print ≠ some witnessCoord := by
  decide +kernel

/-- `TryFrom<&str> ∘ Display` on resolved dependencies: coordinate and scope survive, the repository is re-created from
its URL (its name is not printed); for coordinates without `:` in a field and without `" @ "` in their printed form -/
theorem found_print_parse_partial (f : Found) (h : f.coord.colonFree) (hs : splitOnceAt f.coord.print = none) :
    Found.parse f.print =
      some { resolver := { name := f.resolver.maven, maven := f.resolver.maven }, coord := f.coord, scope := f.scope } := by
  have e : f.print = (f.coord.print ++ COLON :: f.scope.print) ++ SPACE :: AT :: SPACE :: f.resolver.maven := by
    simp [Found.print]
  have h1 : splitOnceAt ((f.coord.print ++ COLON :: f.scope.print) ++ [SPACE, AT]) = none := by
    rw [List.append_assoc, List.cons_append]
    exact splitOnceAt_colon _ _ hs (scope_print_sepfree f.scope)
  unfold Found.parse
  rw [e, splitOnceAt_append _ _ h1]
  simp only [rsplitOnce_append _ (scope_print_no_colon f.scope), coord_print_parse_partial _ h, scope_print_parse]

/-- artifact `x @ y` found in repository `u` -/
def witnessFound : Found :=
  { resolver := { name := [114], maven := [117] },
    coord := { group := [103], artifact := [120, 32, 64, 32, 121], version := [49], classifier := none, type_ := [106] },
    scope := .compile }

/-- `" @ "` inside the coordinate is taken for the separator -/
theorem found_print_parse_witness : Found.parse witnessFound.print = none := by
  decide +kernel

example : Coord.colonFree witnessFound.coord := by
  refine ⟨by decide, by decide, by decide, by decide, ?_⟩
  intro k hk
  cases hk

end Thm.C19
