import FeatherModel.Lemmas.VisitLocal
import FeatherModel.Lemmas.VisitFull
import FeatherModel.Lemmas.VisitReplay

/-!
# C17 — partial and replaying visitors observe the same facts as a full read

The property theorems, an example class and configuration (`exClass`, `exCfg`, `exCodeMask`) and `example`s that
evaluate the model on them. Models: `FeatherModel/Model/Visit.lean` (`readWith`: `duke/src/class_reader.rs` at the
granularity of its dispatch logic), `Model/VisitFull.lean` (`fullEvents`, `wellFormed`), `Model/VisitTree.lean`
(`build`: the tree-building visitor, `accept`: `duke/src/tree/*.rs accept`). The statements also use vocabulary
of the lemma files: `Owner`, `Ev.owner`, `Cfg.setField` / `setMethod` / `setRec` / `setCodeV` (`Lemmas/VisitLocal.lean`), `sizes`
(`Lemmas/VisitFull.lean`), `ClassTree.Shaped` (`Lemmas/VisitBuild.lean`), `Ev.isLocals` (`Lemmas/VisitAccept.lean`).

The theorems with hypotheses are unbounded: any class framing (any number of fields, methods, attributes, record
components, code attributes, any lengths and payloads), any configuration `cfg` (interest masks at the class / field /
method / code / record-component level chosen per item, any set of declined classes, fields, methods, record components,
`Code`s), any number of concatenated files. The `…_witness` / `…_regression` / `…_honours_…` theorems and
`accept_strips_halves`, `skipped_members_not_validated` are closed instances evaluated by the kernel.

Scope notes (what "the same facts" means here):
* An event is identified by the item it belongs to, its kind and an abstract payload. Labels are names of bytecode
  positions; the model does not represent them (`visit_last_label`, the `Option<Label>` of an instruction): which
  positions carry a label — and the numeric ids — depends on which `Code` attributes were parsed, so these are compared
  by the harness only after resolving labels to instruction indices.
* `framesExact c`: every attribute the reader may parse consumes exactly its declared length. It is
  what the JVMS demands of a class file; `frames_exact_needed_witness` shows that the reader depends on it.
* The code as of 52da0aa (the reader honours `ClassInterests.fields` / `.methods`: fields are skipped, methods not read),
  47a6ce7 (`Code::accept` strips the stack map frames for a visitor without `stack_map_table` interest) and e55a129
  (`Code::accept` hands out the entries, and halves of entries, of the local variable tables asked for). Read and
  replay differ in the order of delivery (`accept_order_witness`) and `visit_local_variables(vec![])`
  calls without entries (`accept_empty_local_variables_witness`).
-/

namespace Thm.C17
open Visit

/-- two fields, two methods (one with `Code` carrying stack map, line numbers, two local variable tables, a type
annotation and an unknown attribute), class attributes including `Record` with two components -/
def exClass : ClassFrame where
  hdrOk := true
  hdr := 120
  h := 7
  fields := [⟨1, [⟨.constantValue, 2, 2, [5]⟩, ⟨.deprecated, 0, 0, []⟩, ⟨.other, 3, 0, [9]⟩], true⟩,
             ⟨2, [⟨.signature, 2, 2, [1]⟩, ⟨.rva, 8, 8, [1, 2]⟩], true⟩]
  methods := [⟨3, [.leaf ⟨.exceptions, 4, 4, [1]⟩,
                   .code { len := 12 + (2 + (6 + 7) + (6 + 6) + (6 + 12) + (6 + 12) + (6 + 9) + (6 + 4)), hdr := 12,
                           maxs := 1, insns := 2, exc := 3,
                           attrs := [⟨.stackMapTable, 7, 7, [1]⟩, ⟨.lineNumberTable, 6, 6, [1]⟩, ⟨.lvt, 12, 12, [1]⟩,
                                     ⟨.lvtt, 12, 12, [1]⟩, ⟨.rvta, 9, 9, [4]⟩, ⟨.signature, 4, 2, [8]⟩] },
                   .leaf ⟨.rvpa, 5, 0, []⟩, .leaf ⟨.synthetic, 0, 0, []⟩], true⟩,
              ⟨4, [], true⟩]
  attrs := [.leaf ⟨.sourceFile, 2, 2, [3]⟩,
            .record (2 + (4 + (2 + (6 + 2))) + (4 + 2)) [⟨1, [⟨.signature, 2, 2, [6]⟩]⟩, ⟨2, []⟩],
            .leaf ⟨.bootstrapMethods, 6, 6, []⟩, .leaf ⟨.code, 3, 99, [1]⟩]

example : wellFormed exClass = true := by decide +kernel
example : framesExact exClass = true := by decide +kernel

/-- a visitor that skips some attributes at every level and declines field 0, record component 1 and the code of
method 0 -/
def exCfg : Cfg where
  cls := some (fun k => k != .sourceFile)
  fieldsI := true
  methodsI := true
  field := fun i => if i = 0 then none else some (fun k => k == .signature)
  method := fun _ => some { mask := fun k => k != .exceptions, code := true, codeV := none }
  recc := fun r => if r = 1 then none else some allMask

/-- **consumed_mask_independent**: on exactly framed input every read that succeeds — whatever the interest masks and
whatever is declined — leaves the cursor exactly at the end of the class file (`c.size` = the bytes its declared lengths
span). In particular two visitors never disagree on where the next class file starts. -/
theorem consumed_mask_independent {cfg : Cfg} {c : ClassFrame} {avail n : Nat} {evs : List Ev}
    (hx : framesExact c = true) (h : readWith cfg c avail = .ok (n, evs)) : n = c.size :=
  readWith_pos (framesExact_parts hx).2.2 h

/-- **consumed_members_skipped**: a class visitor without interest in fields and methods makes the reader skip every
field and leave the methods unread inside `with_pos`; the cursor is put back to the end of the class attributes all the
same, i.e. to the end of the class file. Only the class attributes need to be exactly framed for that, and for `consumed_mask_independent` as well:
the position handed back never depends on what is inside the members. -/
theorem consumed_members_skipped {cfg : Cfg} {c : ClassFrame} {avail n : Nat} {evs : List Ev}
    (_hf : cfg.fieldsI = false) (_hm : cfg.methodsI = false)
    (hx : c.attrs.all cattrExact = true) (h : readWith cfg c avail = .ok (n, evs)) : n = c.size :=
  readWith_pos hx h

theorem consumed_same {cfg cfg' : Cfg} {c : ClassFrame} {avail n n' : Nat} {evs evs' : List Ev}
    (hx : framesExact c = true) (h : readWith cfg c avail = .ok (n, evs))
    (h' : readWith cfg' c avail = .ok (n', evs')) : n = n' := by
  rw [consumed_mask_independent hx h, consumed_mask_independent hx h']

example : (readWith exCfg exClass exClass.size).map (·.1) = .ok exClass.size := by decide +kernel
example : (readWith { exCfg with fieldsI := false, methodsI := false } exClass exClass.size).map (·.1)
    = .ok exClass.size := by decide +kernel
example : (readWith { full with methodsI := false } exClass exClass.size).map (·.1) = .ok exClass.size := by decide +kernel

/-- the reader depends on exact framing: with a `Deprecated` attribute of declared length 1 (it is neither parsed nor
skipped) the full read is desynchronised while a declining visitor's `skip_attributes` passes over it -/
theorem frames_exact_needed_witness :
    let c : ClassFrame := { hdrOk := true, hdr := 10, h := 1, fields := [], methods := [],
                            attrs := [.leaf ⟨.deprecated, 1, 0, []⟩] }
    readWith full c 100 = .error .desync ∧ readWith { full with cls := none } c 100 = .ok (c.size, [Ev.classBegin 1]) := by
  decide +kernel

/-- **old_stack_map_regression**: the code before 69346bc ordered the entries of an old-format `StackMap` attribute by
label id, so the frames handed out depended on which labels earlier attributes had created — a code visitor without
interest in line numbers received fewer frames than the full read reports. Since 69346bc the entries are ordered by
bytecode offset, which is what the model does: a class whose `Code` carries a `LineNumberTable` followed by a two-entry `StackMap` is well formed,
and a visitor that masks the line numbers receives the same frames as the full read. -/
theorem old_stack_map_regression :
    let c : ClassFrame := { hdrOk := true, hdr := 10, h := 1, fields := [], attrs := [],
                            methods := [⟨2, [.code { len := 12 + 2 + (6 + 6) + (6 + 14), hdr := 12, maxs := 1, insns := 2,
                                                     exc := 3, attrs := [⟨.lineNumberTable, 6, 6, [1]⟩,
                                                                         ⟨.stackMap, 14, 14, [2]⟩] }], true⟩] }
    let cfg : Cfg := { full with method := fun _ => some { mask := allMask, code := true,
                                                           codeV := some (fun k => k != .lineNumberTable) } }
    wellFormed c = true ∧
    (readWith full c c.size).toOption.map (fun r => r.2.contains (Ev.codeInsns 0 (some [2]) 2)) = some true ∧
    (readWith cfg c c.size).toOption.map (fun r => r.2.contains (Ev.codeInsns 0 (some [2]) 2)
                                                     && !r.2.any (fun e => e matches Ev.codeLines _ _)) = some true := by
  decide +kernel

/-- **delivered_projection**: for a well-formed class every configuration receives the projection of `fullEvents c`,
order preserved, and the read consumes `c.size` bytes -/
theorem delivered_projection {cfg : Cfg} {c : ClassFrame} {avail : Nat} (hwf : wellFormed c = true)
    (hle : c.size ≤ avail) :
    readWith cfg c avail = .ok (c.size, (fullEvents c).filterMap (proj cfg)) := by
  simp only [wellFormed, Bool.and_eq_true] at hwf
  obtain ⟨⟨⟨⟨⟨hx, hok⟩, hcw⟩, hmw⟩, hfn⟩, hmn⟩ := hwf
  obtain ⟨hxf, hxm, hxa⟩ := framesExact_parts hx
  exact readWith_looked hok hle (fun _ => ⟨hxa, hcw⟩) (fun _ _ => ⟨hxf, hfn⟩) (fun _ _ => ⟨hxm, hmw, hmn⟩)

/-- **delivered_projection_of_full** (`delivered_projection` with its hypotheses in another form: on exactly framed input the
full read succeeds exactly on a well-formed class whose bytes are there, `readWith_full_inv` and `full_read_spec`): whenever
the full read of an exactly framed class succeeds, the read with
any configuration succeeds as well, consumes the same bytes, and delivers exactly `proj cfg` of the events of the full
read — `filterMap` keeps their order. -/
theorem delivered_projection_of_full {cfg : Cfg} {c : ClassFrame} {avail n : Nat} {evs : List Ev}
    (hx : framesExact c = true) (h : readWith full c avail = .ok (n, evs)) :
    readWith cfg c avail = .ok (n, evs.filterMap (proj cfg)) := by
  obtain ⟨hwf, hle⟩ := readWith_full_inv hx h
  rw [delivered_projection hwf hle, fullEvents_full] at h
  cases h
  exact delivered_projection hwf hle

/-- the full read of a well-formed class succeeds as soon as the bytes are there and delivers `fullEvents c` -/
theorem full_read_spec {c : ClassFrame} {avail : Nat} (hwf : wellFormed c = true) (hle : c.size ≤ avail) :
    readWith full c avail = .ok (c.size, fullEvents c) := by
  rw [delivered_projection hwf hle, fullEvents_full]

example : ((fullEvents exClass).filterMap (proj exCfg)).length = 20 := by decide +kernel
example : (fullEvents exClass).length = 36 := by decide +kernel
example : ((fullEvents exClass).filterMap (proj { exCfg with fieldsI := false })).length = 15 := by decide +kernel
example : ((fullEvents exClass).filterMap (proj { exCfg with methodsI := false })).length = 13 := by decide +kernel

/-- part of `delivered_projection`, spelled out: the projection hands a class visitor
that reports `interests.fields = false` no event of any field, and one that reports `interests.methods = false` no event
of any method or `Code` — while `proj` keeps every other event as it would with the flags set (`member_flags_local`) -/
theorem fields_not_of_interest_not_delivered (cfg : Cfg) (hf : cfg.fieldsI = false) (evs : List Ev) :
    ∀ e ∈ evs.filterMap (proj cfg), ∀ i, e.owner ≠ .field i := by
  intro e' he' i
  obtain ⟨e, _, he⟩ := List.mem_filterMap.mp he'
  obtain ⟨hb, ha, hfl, hen⟩ := proj_fields_none (cfg := cfg) (Or.inr hf)
  -- `proj` keeps the owner, and drops every event of a field
  rw [proj_owner he]
  cases e with
  | fieldBegin | fAttr | fieldFlags | fieldEnd => simp [hb, ha, hfl, hen] at he
  | _ => simp [Ev.owner]

theorem methods_not_of_interest_not_delivered (cfg : Cfg) (hm : cfg.methodsI = false) (evs : List Ev) :
    ∀ e ∈ evs.filterMap (proj cfg), ∀ i, e.owner ≠ .method i ∧ e.owner ≠ .code i := by
  intro e' he' i
  obtain ⟨e, _, he⟩ := List.mem_filterMap.mp he'
  obtain ⟨hb, ha, hfl, hen, hcb, hn⟩ := proj_methods_none (cfg := cfg) (Or.inr hm)
  rw [proj_owner he]
  cases e with
  | methodBegin | mAttr | methodFlags | methodEnd | codeBegin | codeMaxs | codeExc | codeEnd | kAttr | codeInsns
  | codeLines | codeLocals => simp [hb, ha, hfl, hen, hcb, hn, keepIf] at he
  | _ => simp [Ev.owner]

/-- the two flags touch nothing but the members: every event that belongs to the class itself or to a record component
is projected as if the flags were set -/
theorem member_flags_local (cfg : Cfg) (fi mi : Bool) (evs : List Ev) :
    (evs.filterMap (proj { cfg with fieldsI := fi, methodsI := mi })).filter
        (fun e => e.owner == .cls || e matches .recBegin .. || e matches .rAttr .. || e matches .recEnd ..)
      = (evs.filterMap (proj cfg)).filter
        (fun e => e.owner == .cls || e matches .recBegin .. || e matches .rAttr .. || e matches .recEnd ..) := by
  let q : Owner → Bool := fun o => match o with | .cls | .comp _ => true | _ => false
  have hq : ∀ e : Ev, (e.owner == .cls || e matches .recBegin .. || e matches .rAttr .. || e matches .recEnd ..)
      = q e.owner := fun e => by cases e <;> rfl
  simp only [hq]
  exact filter_proj_congr q (cfg := cfg) (cfg' := { cfg with fieldsI := fi, methodsI := mi })
    (fun e h => proj_congr e rfl (fun _ _ => rfl) (fun i hi => by rw [hi] at h; cases h)
      (fun i hi => by rcases hi with hi | hi <;> rw [hi] at h <;> cases h)) evs

/-- **members_skipped_read_spec**: a visitor that declines the class, or whose class visitor reports neither `fields` nor
`methods`, reads every class file whose header and class attributes are well formed (`classLevelWf`: nothing is assumed
about what is inside the fields and methods — unresolvable names, attributes that do not parse, refused duplicates —
beyond the lengths that lay them out): the read succeeds, the cursor ends at the end of the file and the visitor receives
the projection of the class-level events. Errors inside members it did not ask for do not exist for such a visitor. -/
theorem members_skipped_read_spec {cfg : Cfg} {c : ClassFrame} {avail : Nat}
    (hwf : classLevelWf c = true) (hle : c.size ≤ avail)
    (hs : cfg.cls = none ∨ (cfg.fieldsI = false ∧ cfg.methodsI = false)) :
    readWith cfg c avail = .ok (c.size, (classEvents c).filterMap (proj cfg)) := by
  simp only [classLevelWf, Bool.and_eq_true] at hwf
  have hf : cfg.cls = none ∨ cfg.fieldsI = false := hs.imp_right (·.1)
  have hm : cfg.cls = none ∨ cfg.methodsI = false := hs.imp_right (·.2)
  rw [readWith_looked hwf.1.2 hle (fun _ => ⟨hwf.1.1, hwf.2⟩)
    (fun h1 h2 => by rcases hf with h | h <;> simp [h] at h1 h2) (fun h1 h2 => by rcases hm with h | h <;> simp [h] at h1 h2)]
  simp only [fullEvents, classEvents, List.filterMap_append, fieldsEv_drop hf, methodsEv_drop hm, List.append_nil]

/-- … and so are class files concatenated in one stream: one per successive read, whatever their members hold -/
theorem members_skipped_concat (cs : List ClassFrame) (cfgs : List Cfg) (hwf : ∀ c ∈ cs, classLevelWf c = true)
    (hl : cfgs.length = cs.length)
    (hs : ∀ cfg ∈ cfgs, cfg.cls = none ∨ (cfg.fieldsI = false ∧ cfg.methodsI = false)) :
    readStream cfgs cs 0 (sizes cs) =
      List.zipWith (fun cfg c => .ok (c.size, (classEvents c).filterMap (proj cfg))) cfgs cs :=
  readStream_of_reads (fun cfg c => (classEvents c).filterMap (proj cfg)) cs cfgs 0 (sizes cs) hl (by omega)
    fun x hx _ hle => members_skipped_read_spec (hwf x.2 (List.of_mem_zip hx).2) hle (hs x.1 (List.of_mem_zip hx).1)

/-- **skipped_members_not_validated**: what the reader does not look at cannot make it fail. A field whose name index
does not resolve and a method with two `StackMapTable`s make the full read fail; a class visitor that reports
`fields = false, methods = false` reads the same bytes without error, receives the class-level events and the cursor
ends at the end of the file. With only `methods = false` the bad field is still visited (error), with only
`fields = false` the bad method. -/
theorem skipped_members_not_validated :
    let k : Code := { len := 12 + 2 + (6 + 7) + (6 + 7), hdr := 12, maxs := 1, insns := 2, exc := 3,
                      attrs := [⟨.stackMapTable, 7, 7, [4]⟩, ⟨.stackMapTable, 7, 7, [5]⟩] }
    let c : ClassFrame := { hdrOk := true, hdr := 10, h := 1, attrs := [.leaf ⟨.sourceFile, 2, 2, [3]⟩],
                            fields := [⟨5, [], false⟩], methods := [⟨2, [.code k], true⟩] }
    readWith full c c.size = .error .err ∧
    readWith { full with methodsI := false } c c.size = .error .err ∧
    readWith { full with fieldsI := false } c c.size = .error .err ∧
    readWith { full with fieldsI := false, methodsI := false } c c.size
      = .ok (c.size, [.classBegin 1, .cAttr false .sourceFile [3], .classFlags false false, .classEnd]) ∧
    classLevelWf c = true ∧ wellFormed c = false := by
  decide +kernel

/-- the events a visitor receives for everything but field `j` do not depend on what it does with field `j`
(declining it: `x = none`; any other mask: `x = some m`) -/
theorem decline_field_local (cfg : Cfg) (j : Nat) (x : Option Mask) (evs : List Ev) :
    (evs.filterMap (proj (cfg.setField j x))).filter (fun e => e.owner != .field j)
      = (evs.filterMap (proj cfg)).filter (fun e => e.owner != .field j) :=
  filter_proj_congr (· != .field j) (fun _ h => proj_setField (by simpa using h)) evs

/-- same for method `j` (its `Code` belongs to it) -/
theorem decline_method_local (cfg : Cfg) (j : Nat) (x : Option MethodCfg) (evs : List Ev) :
    (evs.filterMap (proj (cfg.setMethod j x))).filter (fun e => e.owner != .method j && e.owner != .code j)
      = (evs.filterMap (proj cfg)).filter (fun e => e.owner != .method j && e.owner != .code j) :=
  filter_proj_congr (fun o => o != .method j && o != .code j) (fun _ h => by
    simp only [Bool.and_eq_true, bne_iff_ne, ne_eq] at h
    exact proj_setMethod h.1 h.2) evs

/-- same for record component `j` -/
theorem decline_record_component_local (cfg : Cfg) (j : Nat) (x : Option Mask) (evs : List Ev) :
    (evs.filterMap (proj (cfg.setRec j x))).filter (fun e => e.owner != .comp j)
      = (evs.filterMap (proj cfg)).filter (fun e => e.owner != .comp j) :=
  filter_proj_congr (· != .comp j) (fun _ h => proj_setRec (by simpa using h)) evs

/-- what `visit_code()` of method `j` answers (`None`, or a code visitor with any interests) changes nothing outside the
code of method `j`. (A statement about `proj` alone; that the reader delivers this projection when `visit_code()`
answers `None` — the code before d898d56 left the `Code` body unread and shifted everything after it — is
`visit_code_none_skips`.) -/
theorem decline_code_local (cfg : Cfg) (j : Nat) (x : Option Mask) (evs : List Ev) :
    (evs.filterMap (proj (cfg.setCodeV j x))).filter (fun e => e.owner != .code j)
      = (evs.filterMap (proj cfg)).filter (fun e => e.owner != .code j) :=
  filter_proj_congr (· != .code j) (fun _ h => proj_setCodeV (by simpa using h)) evs

/-- `delivered_projection` at a configuration whose `visit_code()` for method `j` answers `None`: such a read of a well-formed
class succeeds too, ends at the end of the file and delivers the projection. (The model skips a declined `Code` by its
declared length, as the code does since d898d56.) -/
theorem visit_code_none_skips {cfg : Cfg} {c : ClassFrame} {avail : Nat} (j : Nat) (hwf : wellFormed c = true)
    (hle : c.size ≤ avail) :
    readWith (cfg.setCodeV j none) c avail = .ok (c.size, (fullEvents c).filterMap (proj (cfg.setCodeV j none))) :=
  delivered_projection hwf hle

example : (readWith exCfg exClass 1000).toOption.map (fun r => r.2.contains (Ev.methodBegin 1 4)) = some true := by
  decide +kernel

/-- **concat_delivery**: `n` well-formed class files back to back in one stream are delivered one per successive read:
the k-th read (with its own configuration) starts at the k-th file, consumes exactly that file and delivers the
projection of that file's events — no read is disturbed by what an earlier visitor skipped or declined. -/
theorem concat_delivery (cs : List ClassFrame) (cfgs : List Cfg) (hwf : ∀ c ∈ cs, wellFormed c = true)
    (hl : cfgs.length = cs.length) :
    readStream cfgs cs 0 (sizes cs) =
      List.zipWith (fun cfg c => .ok (c.size, (fullEvents c).filterMap (proj cfg))) cfgs cs :=
  readStream_of_reads (fun cfg c => (fullEvents c).filterMap (proj cfg)) cs cfgs 0 (sizes cs) hl (by omega)
    fun x hx _ hle => delivered_projection (hwf x.2 (List.of_mem_zip hx).2) hle

example : (readStream [exCfg, full, { full with cls := none }] [exClass, exClass, exClass] 0 (3 * exClass.size)).length = 3 := by
  decide +kernel

/-- **accept_events**: replaying a tree with the full configuration into the tree builder reproduces the tree — for
every tree in the shape the builder produces (`Shaped`). The builder files every event under its item and kind, so this
says that `accept` delivers, per item and kind, exactly what the tree holds. -/
theorem accept_events (t : ClassTree) (hs : t.Shaped) : build (accept full t) = some t :=
  build_accept t hs

/-- every tree the builder produces has that shape -/
theorem build_shaped {evs : List Ev} {t : ClassTree} (h : build evs = some t) : t.Shaped :=
  Visit.build_shaped h

/-- reading and then replaying gives back the class: with `t` the tree the builder makes of the full read of `c`,
replaying `t` into a fresh builder yields `t` again (`read ∘ accept ∘ read = read`) -/
theorem replay_reproduces {c : ClassFrame} {t : ClassTree} (h : build (fullEvents c) = some t) :
    build (accept full t) = some t :=
  build_accept t (Visit.build_shaped h)

example : (build (fullEvents exClass)).isSome = true := by decide +kernel

/-- a masked or declining replay delivers the projection (by `projA`, the replay's own projection) of the full replay,
order preserved; declining an item does not disturb the others -/
theorem accept_projection (cfg : Cfg) (t : ClassTree) :
    accept cfg t = (accept full t).filterMap (projA cfg) :=
  accept_proj cfg t

/-- **accept_projection_as_read**: for every configuration — every interest mask at every level,
`fields` / `methods` on or off, any stack map and local variable interests, anything declined — the masked replay is
exactly the reader's projection of the full replay: same events (including `visit_local_variables` with the entries, and
halves of entries, of the tables asked for), same order. No hypothesis on the visitor. The one hypothesis is on the
tree: every local variable vector it holds has entries, part by part (`localsHaveEntries`, decidable). It cannot be
dropped (`accept_empty_local_variables_witness`): a `Some(vec![])` in the tree does not say which table was present and
empty — `Code::accept` hands it to every code visitor interested in one of the two tables, the reader calls
`visit_local_variables` only when a table *the visitor asked for* is present. Trees read from classes whose
`LocalVariableTable`s / `LocalVariableTypeTable`s all have entries satisfy it. -/
theorem accept_projection_as_read (cfg : Cfg) (t : ClassTree) (hne : localsHaveEntries (accept full t) = true) :
    accept cfg t = (accept full t).filterMap (proj cfg) := by
  rw [accept_proj cfg t]
  exact filterMap_congr fun _ he => projA_eq_proj cfg hne he

/-- **accept_projection_as_read_up_to_empty** (no hypothesis at all): for every configuration and every tree, masked
replay and the reader's projection of the full replay agree on everything but `visit_local_variables` calls without
entries (which tell a visitor nothing), order preserved -/
theorem accept_projection_as_read_up_to_empty (cfg : Cfg) (t : ClassTree) :
    (accept cfg t).filter (fun e => !e.vacuous)
      = ((accept full t).filterMap (proj cfg)).filter (fun e => !e.vacuous) := by
  rw [accept_proj cfg t]
  exact filterMap_filter_congr (projA_eq_proj_up_to_vacuous cfg) _

/-- non-vacuity: the tree of the class with every kind of structure (a `LocalVariableTable` and a
`LocalVariableTypeTable` among them) satisfies the hypothesis, and so does its variant with both halves in every entry -/
example : (build (fullEvents exClass)).map (fun t => localsHaveEntries (accept full t)) = some true := by decide +kernel
example : (build (fullEvents exClass)).map (fun t => localsHaveEntries (accept full t.bothHalves)) = some true := by
  decide +kernel

def exCodeMask : Mask := fun k => k != .stackMapTable && k != .lvtt

/-- on that class, a code visitor interested in `LocalVariableTable` only, stack map frames masked, methods of another
visitor off: read and replay deliver the same events per item and kind -/
example : (build (fullEvents exClass)).map (fun t =>
    let cfg : Cfg := { full with method := fun _ => some ⟨allMask, true, some exCodeMask⟩ }
    sameDigest (accept cfg t) ((readWith cfg exClass exClass.size).toOption.map (·.2) |>.getD [])
      && accept cfg t == (accept full t).filterMap (proj cfg)) = some true := by
  decide +kernel

/-- **reader_honours_member_interests**: the reader before 52da0aa visited every field and method whatever
`ClassInterests.fields` / `.methods` said while `ClassFile::accept` honoured the flags. On the input that showed it (one
field, a class visitor with `fields = false`) reading the bytes and replaying the tree deliver the same events: no field
is visited. -/
theorem reader_honours_member_interests :
    let c : ClassFrame := { hdrOk := true, hdr := 10, h := 1, fields := [⟨5, [], true⟩], methods := [], attrs := [] }
    let cfg : Cfg := { full with fieldsI := false }
    (readWith cfg c c.size).toOption.map (·.2) = some [.classBegin 1, .classFlags false false, .classEnd] ∧
    (build (fullEvents c)).map (accept cfg) = some [.classBegin 1, .classFlags false false, .classEnd] := by
  decide +kernel

/-- the same for `methods = false` on the class with every kind of structure: read and replay deliver the same events
per item and kind -/
example : (build (fullEvents exClass)).map (fun t =>
    sameDigest (accept { full with methodsI := false } t)
      ((readWith { full with methodsI := false } exClass exClass.size).toOption.map (·.2) |>.getD [])) = some true := by
  decide +kernel

/-- **accept_honours_stack_map_interest**: `Code::accept` before 47a6ce7 handed the stack map frames to every code
visitor. On the input that showed it (a `Code` with a `StackMapTable`, a code visitor without `stack_map_table` interest)
the reader and the replay both deliver the instructions without frames. -/
theorem accept_honours_stack_map_interest :
    let k : Code := { len := 12 + 2 + (6 + 7), hdr := 12, maxs := 1, insns := 2, exc := 3,
                      attrs := [⟨.stackMapTable, 7, 7, [4]⟩] }
    let c : ClassFrame := { hdrOk := true, hdr := 10, h := 1, fields := [], attrs := [], methods := [⟨2, [.code k], true⟩] }
    let cfg : Cfg := { full with method := fun _ => some { mask := allMask, code := true,
                                                           codeV := some (fun k => k != .stackMapTable) } }
    (readWith cfg c c.size).toOption.map (fun r => r.2.contains (Ev.codeInsns 0 none 2)) = some true ∧
    (build (fullEvents c)).map (fun t => (accept cfg t).contains (Ev.codeInsns 0 none 2)
                                          && !(accept cfg t).contains (Ev.codeInsns 0 (some [4]) 2)) = some true ∧
    (build (fullEvents c)).map (fun t => accept cfg t == (accept full t).filterMap (proj cfg)) = some true := by
  decide +kernel

/-- **accept_honours_local_variable_interests**: `Code::accept` before e55a129 handed the whole local variable vector to a
code visitor as soon as it reported one of `local_variable_table` / `local_variable_type_table`. On the input that showed
it (a `Code` with both tables, a code visitor interested in `LocalVariableTable` only) the reader and the replay both
deliver the `LocalVariableTable` entries only, and the masked replay is the projection of the full one. -/
theorem accept_honours_local_variable_interests :
    let k : Code := { len := 12 + 2 + (6 + 12) + (6 + 12), hdr := 12, maxs := 1, insns := 2, exc := 3,
                      attrs := [⟨.lvt, 12, 12, [1]⟩, ⟨.lvtt, 12, 12, [2]⟩] }
    let c : ClassFrame := { hdrOk := true, hdr := 10, h := 1, fields := [], attrs := [], methods := [⟨2, [.code k], true⟩] }
    let cfg : Cfg := { full with method := fun _ => some { mask := allMask, code := true,
                                                           codeV := some (fun k => k != .lvtt) } }
    (readWith cfg c c.size).toOption.map (fun r => r.2.contains (Ev.codeLocals 0 [(.d, [1])])) = some true ∧
    (build (fullEvents c)).map (fun t => (accept cfg t).contains (Ev.codeLocals 0 [(.d, [1])])
                                          && !(accept cfg t).contains (Ev.codeLocals 0 [(.d, [1]), (.s, [2])])) = some true ∧
    (build (fullEvents c)).map (fun t => accept cfg t == (accept full t).filterMap (proj cfg)) = some true := by
  decide +kernel

/-- **accept_strips_halves**: a tree can hold entries with both a descriptor and a signature (the reader never builds
one). A code visitor interested in one table gets the half that belongs to it, one interested in neither gets no
`visit_local_variables`, one interested in both gets the entries as they are. -/
theorem accept_strips_halves :
    let t : ClassTree := { h := 1, methods := [{ h := 2, code := some { locals := some [(.both, [2]), (.s, [1])] } }] }
    let cfgWith (cm : Mask) : Cfg := { full with method := fun _ => some { mask := allMask, code := true, codeV := some cm } }
    let localsOf (evs : List Ev) : List Ev := evs.filter (fun e => e.isLocals)
    localsOf (accept (cfgWith (fun k => k != .lvtt)) t) = [.codeLocals 0 [(.d, [2])]] ∧
    localsOf (accept (cfgWith (fun k => k != .lvt)) t) = [.codeLocals 0 [(.s, [2]), (.s, [1])]] ∧
    localsOf (accept (cfgWith (fun k => k != .lvt && k != .lvtt)) t) = [] ∧
    localsOf (accept (cfgWith allMask) t) = [.codeLocals 0 [(.both, [2]), (.s, [1])]] := by
  decide +kernel

/-- **accept_empty_local_variables_witness** (why `accept_projection_as_read` asks for `localsHaveEntries`): a `Code`
whose only local variable table is a `LocalVariableTable` without entries gives `local_variables = Some(vec![])` in the
tree. A code visitor interested in `LocalVariableTypeTable` only receives no `visit_local_variables` from the reader
(no table it asked for is there) but `visit_local_variables(vec![])` from `Code::accept` (`was_empty`): the two differ
by an event without entries. -/
theorem accept_empty_local_variables_witness :
    let k : Code := { len := 12 + 2 + (6 + 2), hdr := 12, maxs := 1, insns := 2, exc := 3, attrs := [⟨.lvt, 2, 2, [0]⟩] }
    let c : ClassFrame := { hdrOk := true, hdr := 10, h := 1, fields := [], attrs := [], methods := [⟨2, [.code k], true⟩] }
    let cfg : Cfg := { full with method := fun _ => some { mask := allMask, code := true,
                                                           codeV := some (fun k => k != .lvt) } }
    (readWith cfg c c.size).toOption.map (fun r => r.2.any (fun e => e.isLocals)) = some false ∧
    (build (fullEvents c)).map (fun t => (accept cfg t).contains (Ev.codeLocals 0 [])) = some true ∧
    (build (fullEvents c)).map (fun t => localsHaveEntries (accept full t)) = some false := by
  decide +kernel

/-- **accept_order_witness**: replay does not keep the reader's order — Deprecated/Synthetic come first instead of last,
attributes come in `accept`'s fixed order instead of file order (here `Signature` before `SourceFile`) -/
theorem accept_order_witness :
    let c : ClassFrame := { hdrOk := true, hdr := 10, h := 1, fields := [], methods := [],
                            attrs := [.leaf ⟨.sourceFile, 2, 2, [1]⟩, .leaf ⟨.signature, 2, 2, [2]⟩] }
    fullEvents c = [.classBegin 1, .cAttr false .sourceFile [1], .cAttr false .signature [2],
                    .classFlags false false, .classEnd] ∧
    (build (fullEvents c)).map (accept full) = some [.classBegin 1, .classFlags false false,
                    .cAttr false .signature [2], .cAttr false .sourceFile [1], .classEnd] := by
  decide +kernel

end Thm.C17
