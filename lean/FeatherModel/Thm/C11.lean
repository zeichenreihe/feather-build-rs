import FeatherModel.Lemmas.InnerNames
import FeatherModel.Lemmas.JStrLit

/-!
# C11 — inner-class name extension and contraction are consistent and inverse
The property theorems and the two domains they need (`KeysConsistent`, `Simple`). Model: `FeatherModel/Model/InnerNames.lean`.
-/

namespace Thm.C11
open InnerNames

/-- every class entry is stored under its first-namespace name (`ToKey`) -/
def KeysConsistent (m : Mappings) : Prop :=
  ∀ k c, (k, c) ∈ m.classes → c.names[0]? = some (some k)

theorem split_join {s p i : JStr} (h : split s = some (p, i)) : join p i = s := by
  obtain ⟨h1, _⟩ := split_some h
  simp [join, h1]

theorem join_split {p i : JStr} (hp : p ≠ []) (hi : i ≠ []) (hps : p.getLast? ≠ some SLASH)
    (his : SLASH ∉ i) (hid : DOLLAR ∉ i) : split (join p i) = some (p, i) := by
  unfold split join
  rw [rsplitOnce_append p i hid]
  simp [hp, hi, hps, his]

/-- `split` succeeds exactly on strings of the shape `p ++ "$" ++ i` with a usable parent and a simple inner name -/
theorem split_none_iff {s : JStr} :
    split s = none ↔ ¬ ∃ p i, s = p ++ DOLLAR :: i ∧ DOLLAR ∉ i ∧ p ≠ [] ∧ i ≠ [] ∧
      p.getLast? ≠ some SLASH ∧ SLASH ∉ i := by
  rw [Option.eq_none_iff_forall_ne_some]
  exact ⟨fun h ⟨p, i, hs, hd, hp, hi, hps, his⟩ => h (p, i) (hs ▸ join_split hp hi hps his hd),
    fun h ⟨p, i⟩ hs => h ⟨p, i, split_some hs⟩⟩

example : split (jstr "a/Outer$Inner") = some (jstr "a/Outer", jstr "Inner") := by
  simp -index only [jstr_ofList]
  decide +kernel

/-- the recursion of `map` needs no more fuel than the length of the source name -/
theorem extName_fuel (m : Mappings) (ns : Nat) :
    ∀ (n : Nat) (name b : JStr) (f1 f2 : Nat), name.length < n → name.length < f1 → name.length < f2 →
      extName m ns f1 name b = extName m ns f2 name b :=
  fun _ _ _ _ _ _ h1 h2 => InnerNames.extName_fuel m ns h1 h2

/-- frame: extension changes nothing but the names of the chosen namespace -/
theorem extend_frame {m m' : Mappings} {nsName : JStr} (h : extend m nsName = some m') :
    m'.ns = m.ns ∧ m'.doc = m.doc ∧
    m'.classes.map (fun e => (e.1, e.2.doc, e.2.fields, e.2.methods)) =
      m.classes.map (fun e => (e.1, e.2.doc, e.2.fields, e.2.methods)) ∧
    ∀ ns, m.getNamespace nsName = some ns → ∀ j, j ≠ ns →
      m'.classes.map (fun e => e.2.names[j]?) = m.classes.map (fun e => e.2.names[j]?) := by
  cases hns : m.getNamespace nsName with
  | none => simp [extend, hns] at h
  | some ns =>
    obtain ⟨cs, hcs, rfl⟩ := extend_some hns h
    refine ⟨rfl, rfl, ?_, ?_⟩
    · refine AList.mapValsM_map _ _ hcs fun k v w _ hw => ?_
      obtain ⟨n, _, rfl⟩ := Option.map_eq_some_iff.mp hw
      rfl
    · intro ns' hns' j hj
      cases hns'
      refine AList.mapValsM_map _ _ hcs fun k v w _ hw => ?_
      obtain ⟨n, hn, rfl⟩ := Option.map_eq_some_iff.mp hw
      exact extendNames_getElem?_ne hn hj

/-- spec, top-level classes: the name is unchanged -/
theorem extend_toplevel {m m' : Mappings} {nsName : JStr} {ns : Nat} {k : JStr} {c : Class}
    (h : extend m nsName = some m') (hns : m.getNamespace nsName = some ns)
    (hc : AList.lookup k m.classes = some c) (hsrc : c.names[0]? = some (some k))
    (htop : split k = none) :
    ∃ c', AList.lookup k m'.classes = some c' ∧ c'.names[ns]? = c.names[ns]? := by
  obtain ⟨cs, hcs, rfl⟩ := extend_some hns h
  obtain ⟨w, hw, hl⟩ := AList.mapValsM_lookup_some hcs hc
  obtain ⟨n, hn, rfl⟩ := Option.map_eq_some_iff.mp hw
  refine ⟨_, hl, ?_⟩
  obtain ⟨_, ⟨b, src, b', hb, hs, he, rfl⟩ | ⟨_, rfl⟩⟩ := extendNames_some hn
  · cases hsrc.symm.trans hs
    rw [extName_eq, htop] at he
    cases he
    exact (List.getElem?_set_of_some hb).trans hb.symm
  · rfl

/-- spec, nested classes: the new name is the *new* name of the outer class, `$`, the class's own old name -/
theorem extend_nested {m m' : Mappings} {nsName : JStr} {ns : Nat} {k p i b : JStr} {c : Class}
    (hk : KeysConsistent m)
    (h : extend m nsName = some m') (hns : m.getNamespace nsName = some ns)
    (hc : AList.lookup k m.classes = some c) (hsrc : c.names[0]? = some (some k))
    (hb : c.names[ns]? = some (some b))
    (hsplit : split k = some (p, i)) :
    ∃ c' cp' pn, AList.lookup k m'.classes = some c' ∧ AList.lookup p m'.classes = some cp' ∧
      cp'.names[ns]? = some (some pn) ∧ c'.names[ns]? = some (some (join pn b)) := by
  obtain ⟨cs, hcs, rfl⟩ := extend_some hns h
  obtain ⟨w, hw, hl⟩ := AList.mapValsM_lookup_some hcs hc
  obtain ⟨n, hn, rfl⟩ := Option.map_eq_some_iff.mp hw
  have h0 := (extendNames_some hn).1
  -- the new name is built from the new name `r` of the outer class
  rw [extendNames_named h0 hb hsrc, Option.map_eq_some_iff] at hn
  obtain ⟨_, hb', rfl⟩ := hn
  obtain ⟨mp, hgp, r, hr, rfl⟩ := (extName_nested hsplit).mp hb'
  -- which is what the outer class gets
  obtain ⟨cp, hlp, hmp⟩ := getClassName_some hgp
  obtain ⟨wp, hwp, hlp'⟩ := AList.mapValsM_lookup_some hcs hlp
  rw [extClass, extendNames_named h0 hmp (hk p cp (AList.lookup_mem hlp)), hr] at hwp
  cases hwp
  exact ⟨_, _, r, hl, hlp', List.getElem?_set_of_some hmp, List.getElem?_set_of_some hb⟩

/-- extension fails (rather than guessing) when the outer class is absent from the set or unnamed in the namespace -/
theorem extend_fails_missing_outer {m : Mappings} {nsName : JStr} {ns : Nat} {k p i b : JStr} {c : Class}
    (hns : m.getNamespace nsName = some ns)
    (hc : (k, c) ∈ m.classes) (hsrc : c.names[0]? = some (some k))
    (hb : c.names[ns]? = some (some b))
    (hsplit : split k = some (p, i))
    (hmissing : getClassName m p ns = none) :
    extend m nsName = none := by
  have hen : extendNames m ns c.names = none := by
    by_cases h0 : ns = 0
    · simp [extendNames, h0]
    · rw [extendNames_named h0 hb hsrc, extName_eq, hsplit]
      simp only [hmissing, Option.bind_none, Option.map_none]
  rw [extend_eq, hns, Option.bind_some, AList.mapValsM_none_of_mem hc (congrArg (Option.map _) hen)]
  rfl

/-- the first namespace cannot be extended: it would desynchronise names and keys -/
theorem extend_first_namespace_fails {m : Mappings} {nsName : JStr} {k : JStr} {c : Class}
    (hns : m.getNamespace nsName = some 0) (hc : (k, c) ∈ m.classes) :
    extend m nsName = none := by
  rw [extend_eq, hns, Option.bind_some, AList.mapValsM_none_of_mem hc (by simp [extClass, extendNames])]
  rfl

/-- an unknown namespace is an error for both operations -/
theorem unknown_namespace_fails {m : Mappings} {nsName : JStr} (hns : m.getNamespace nsName = none) :
    extend m nsName = none ∧ contract m nsName = none := by
  simp [extend, contract, hns]

/-- contraction keeps only the innermost simple name, in the chosen namespace only -/
theorem contract_spec {m : Mappings} {nsName : JStr} {ns : Nat} (hns : m.getNamespace nsName = some ns) :
    ∃ m', contract m nsName = some m' ∧ m'.ns = m.ns ∧ m'.doc = m.doc ∧
      m'.classes.map (fun e => (e.1, e.2.doc, e.2.fields, e.2.methods)) =
        m.classes.map (fun e => (e.1, e.2.doc, e.2.fields, e.2.methods)) ∧
      (∀ j, j ≠ ns → m'.classes.map (fun e => e.2.names[j]?) = m.classes.map (fun e => e.2.names[j]?)) ∧
      m'.classes.map (fun e => e.2.names[ns]?) = m.classes.map (fun e =>
        match e.2.names[ns]? with
        | some (some b) => (match split b with | some (_, inner) => some (some inner) | none => some (some b))
        | o => o) := by
  refine ⟨{ m with classes := AList.mapVals (fun c => { c with names := contractNames ns c.names }) m.classes },
    by simp [contract, hns], rfl, rfl, ?_, ?_, ?_⟩
  · simp [AList.mapVals, List.map_map, Function.comp_def]
  · intro j hj
    simp only [AList.mapVals, List.map_map, Function.comp_def]
    refine List.map_congr_left fun e _ => ?_
    simp only [contractNames]
    split
    · split
      · exact List.getElem?_set_ne (Ne.symm hj)
      · rfl
    · rfl
  · simp only [AList.mapVals, List.map_map, Function.comp_def]
    refine List.map_congr_left fun e _ => ?_
    cases hb : e.2.names[ns]? with
    | none => rw [contractNames_of_not_split (fun b hb' => by cases hb.symm.trans hb'), hb]
    | some o =>
      cases o with
      | none => rw [contractNames_of_not_split (fun b hb' => by cases hb.symm.trans hb'), hb]
      | some b =>
        cases hs : split b with
        | none => simp only [contractNames_of_not_split (fun b' hb' => by cases hb.symm.trans hb'; exact hs), hb, hs]
        | some q => simp only [contractNames_of_split hb hs, List.getElem?_set_of_some hb, hs]

/-- the domain on which contraction undoes extension: names in the namespace are non-empty, do not end in `/`,
are simple (no `$`, no `/`) for nested classes and cannot be split for top-level classes -/
def Simple (m : Mappings) (ns : Nat) : Prop :=
  ∀ k c, (k, c) ∈ m.classes → ∀ b, c.names[ns]? = some (some b) →
    b ≠ [] ∧ b.getLast? ≠ some SLASH ∧
      (match split k with
       | some _ => DOLLAR ∉ b ∧ SLASH ∉ b
       | none => split b = none)

/-- every step of `map` appends to the left: the result ends in the name it started from -/
theorem extName_suffix (m : Mappings) (ns : Nat) :
    ∀ (fuel : Nat) (name mapped r : JStr), extName m ns fuel name mapped = some r → ∃ pre, r = pre ++ mapped := by
  intro fuel name mapped r h
  cases fuel with
  | zero => cases h
  | succ f =>
    rw [extName_succ] at h
    cases hs : split name with
    | none =>
      rw [hs] at h
      cases h
      exact ⟨[], rfl⟩
    | some q =>
      rw [hs] at h
      obtain ⟨_, -, h⟩ := Option.bind_eq_some_iff.mp h
      obtain ⟨r', -, rfl⟩ := Option.map_eq_some_iff.mp h
      exact ⟨r' ++ [DOLLAR], List.append_cons r' DOLLAR mapped⟩

/-- contracting an extended set returns the original whenever the original names were simple -/
theorem contract_extend {m m' : Mappings} {nsName : JStr} {ns : Nat}
    (hk : KeysConsistent m) (hns : m.getNamespace nsName = some ns) (hs : Simple m ns)
    (h : extend m nsName = some m') : contract m' nsName = some m := by
  obtain ⟨cs, hcs, rfl⟩ := extend_some hns h
  have hns' : Mappings.getNamespace { m with classes := cs } nsName = some ns := hns
  unfold contract
  rw [hns']
  have : AList.mapVals (fun c => { c with names := contractNames ns c.names }) cs = m.classes := by
    refine AList.mapVals_mapValsM hcs fun k c w hmem hw => ?_
    obtain ⟨n, hn, rfl⟩ := Option.map_eq_some_iff.mp hw
    suffices hsuff : contractNames ns n = c.names by simp only [hsuff]
    obtain ⟨h0, ⟨b, src, b', hb, hsrc, he, rfl⟩ | ⟨hno, rfl⟩⟩ := extendNames_some hn
    · cases (hk k c hmem).symm.trans hsrc
      obtain ⟨hb1, hb2, hb3⟩ := hs k c hmem b hb
      have hset : c.names.set ns (some b) = c.names := List.set_eq_self_of_getElem? hb
      cases hsp : split k with
      | none =>
        rw [extName_eq, hsp] at he
        rw [hsp] at hb3
        cases he
        rw [hset]
        exact contractNames_of_not_split fun b' hb' => by cases hb.symm.trans hb'; exact hb3
      | some q =>
        obtain ⟨p, i⟩ := q
        rw [hsp] at hb3
        obtain ⟨mp, hgp, r, hr, rfl⟩ := (extName_nested hsp).mp he
        -- the outer class's old name is well-shaped, hence so is its new name, which ends in it
        obtain ⟨cp, hlp, hmp⟩ := getClassName_some hgp
        obtain ⟨hp1, hp2, _⟩ := hs p cp (AList.lookup_mem hlp) mp hmp
        obtain ⟨pre, rfl⟩ := extName_suffix m ns _ _ _ _ hr
        have hr1 : pre ++ mp ≠ [] := fun hnil => hp1 (List.append_eq_nil_iff.mp hnil).2
        have hr2 : (pre ++ mp).getLast? ≠ some SLASH := by
          obtain ⟨x, hx⟩ := Option.isSome_iff_exists.mp (List.getLast?_isSome.mpr hp1)
          rw [hx] at hp2
          rw [List.getLast?_append, hx]
          exact hp2
        rw [contractNames_of_split (List.getElem?_set_of_some hb) (join_split hr1 hb1 hr2 hb3.2 hb3.1), List.set_set, hset]
    · exact contractNames_of_not_split fun b hb => absurd hb (hno b)
  simp only
  rw [this]

/-- extension then contraction on a set with a package, a nested class and a missing name: the new names, and the round trip -/
example :
    let m : Mappings := { ns := [jstr "a", jstr "b"], doc := none, classes := [
      (jstr "p/A", { names := [some (jstr "p/A"), some (jstr "q/X")], doc := none, fields := [], methods := [] }),
      (jstr "p/A$B", { names := [some (jstr "p/A$B"), some (jstr "Y")], doc := none, fields := [], methods := [] }),
      (jstr "C", { names := [some (jstr "C"), none], doc := none, fields := [], methods := [] })] }
    (extend m (jstr "b")).map (fun m' => m'.classes.map (fun e => e.2.names[1]?)) =
      some [some (some (jstr "q/X")), some (some (jstr "q/X$Y")), some none] ∧
    ((extend m (jstr "b")).bind (fun m' => contract m' (jstr "b"))) = some m := by
  open Mappings in decide +kernel

/-- when a top-level target name itself contains a usable `$`, contraction does not undo extension -/
theorem contract_extend_dollar_witness :
    let m : Mappings := { ns := [jstr "a", jstr "b"], doc := none, classes := [
      (jstr "A", { names := [some (jstr "A"), some (jstr "X$Y")], doc := none, fields := [], methods := [] })] }
    ((extend m (jstr "b")).bind (fun m' => contract m' (jstr "b"))) ≠ some m := by open Mappings in decide +kernel

end Thm.C11
