import FeatherModel.Lemmas.MergeJarEntries
import FeatherModel.Lemmas.JStrLit

/-!
# C13 — client/server jar merge is a faithful, annotated union
The property theorems of C13, their test vectors (`wClass`, `wField`, `wEntry`), the predicate `ExactUnion` and the
decidable equality of `Outcome` that the evaluated witnesses use. Model: `FeatherModel/Model/MergeJar.lean` (mirrors
`dukebox/src/merge.rs`), domains and observation functions: `FeatherModel/Model/MergeJarDom.lean`.

Reading guide. `mergeJar client server : Outcome Jar` has the outcomes `ok r`, `err` (the `Result::Err` of the Rust
function) and `panic site`. In the code from 9bfd462 on (`merge_from_client` and the InnerClasses closure `bail!` where
the code before had `assert_eq!`/`panic!`) the panic sites of merge.rs are the `unreachable!()` arm of `merge_slice` and
the four `unreachable!()` arms of the loop that builds `keys`. The latter are not modelled (`combine` is the closed form
of that loop for jars whose entry names are unique); `merge_class_no_panic` / `merge_jar_no_panic` prove for all inputs
that the former is never taken. Every statement about the merged jar / class is made for the outcome `ok r`;
`merge_class_total` / `merge_jar_total` give a decidable domain on which the outcome is `ok`; `merge_class_ok_iff` /
`merge_class_err_iff` show that for classes whose fields, methods and InnerClasses entries have duplicate-free keys
(`keysOk`) this domain is exact: outside of it the merge refuses with a clean `Err`. The inputs of the
`merge_*_regression_fixed` theorems are ones on which the code before 9bfd462 panicked; those of `mpo_regression_fixed`
are ones on which the code before the cursor fix of `merge_preserve_order` gave a wrong order.
-/

deriving instance DecidableEq for MergeJar.Outcome

namespace Thm.C13
open MergeJar

/-- `r` lists every element of `a` and every element of `b`, each exactly once, and nothing else -/
def ExactUnion {α : Type} (a b r : List α) : Prop := r.Nodup ∧ ∀ x, x ∈ r ↔ x ∈ a ∨ x ∈ b

section MPO
variable {α : Type} [BEq α] [LawfulBEq α]

/-- the Boolean domain predicates evaluated by driver and harness are the Prop-level hypotheses used below -/
theorem nodupB_iff (l : List α) : nodupB l = true ↔ l.Nodup := nodupB_nodup l

theorem compatibleB_iff (a b : List α) :
    compatibleB a b = true ↔ a.filter (fun x => b.contains x) = b.filter (fun y => a.contains y) := by
  simp [compatibleB]

/-- the outer loop's fuel `|a|+|b|+1` is never exhausted: every larger amount gives the same list -/
theorem mpo_fuel (a b : List α) (fuel : Nat) (h : a.length + b.length < fuel) :
    mpoLoop a b fuel a b = mergePreserveOrder a b :=
  have ⟨_, _, e⟩ := mpoLoop_run a b a b
  (e fuel h).trans (e _ (Nat.lt_succ_self _)).symm

/-- union, exactly once: for duplicate-free lists the result is duplicate-free and has exactly the elements of both -/
theorem mpo_exactly_once (a b : List α) (ha : a.Nodup) (hb : b.Nodup) :
    (mergePreserveOrder a b).Nodup ∧ ∀ x, x ∈ mergePreserveOrder a b ↔ x ∈ a ∨ x ∈ b :=
  ⟨(mpo_perm a b).nodup_iff.mpr (List.nodup_append_filter_not ha hb),
    fun _ => mem_mergePreserveOrder⟩

/-- the client's order is always preserved (no hypothesis at all, duplicates allowed) -/
theorem mpo_client_order (a b : List α) : a.Sublist (mergePreserveOrder a b) :=
  (mpo_run a b).client_sublist

/-- the server's order is preserved whenever the two orders are compatible (`ha`, `hb` are not used: the statement for
lists with duplicates is `MergeJar.mpo_server_sublist`) -/
theorem mpo_server_order (a b : List α) (ha : a.Nodup) (hb : b.Nodup) (hc : compatibleB a b = true) :
    b.Sublist (mergePreserveOrder a b) :=
  mpo_server_sublist a b hc

end MPO

/-- without `compatibleB` the server order can be lost (inherent: no list contains both `[1,2]` and `[2,1]` once) -/
theorem mpo_server_order_witness :
    compatibleB [1, 2] [2, 1] = false ∧ ¬ [2, 1].Sublist (mergePreserveOrder [1, 2] [2, 1]) := by decide +kernel

/-- two inputs on which `merge_preserve_order` before its cursor fix answered client ++ (server \ client), e.g. `[0, 1]` for
the first -/
theorem mpo_regression_fixed : mergePreserveOrder [0] [1, 0] = [1, 0] ∧
    mergePreserveOrder [0, 1] [0, 2, 1] = [0, 2, 1] := by decide +kernel

example : compatibleB [1, 5, 2, 6] [7, 1, 3, 2, 8] = true ∧
    mergePreserveOrder [1, 5, 2, 6] [7, 1, 3, 2, 8] = [7, 1, 5, 3, 2, 6, 8] := by decide +kernel

/-- the merged member list, read by keys, is `merge_preserve_order` of the two key lists -/
theorem slice_keys {c s r : List Member} (h : mergeMembers c s = Outcome.ok r) :
    r.map memberKey = mergePreserveOrder (c.map memberKey) (s.map memberKey) := mergeMembers_keys h

/-- every field/method of either side exactly once -/
theorem slice_exactly_once {c s r : List Member} (h : mergeMembers c s = Outcome.ok r)
    (hc : keysNodup c = true) (hs : keysNodup s = true) :
    ExactUnion (c.map memberKey) (s.map memberKey) (r.map memberKey) := by
  rw [slice_keys h]
  exact mpo_exactly_once _ _ ((nodupB_iff _).mp hc) ((nodupB_iff _).mp hs)

/-- the client's member order is preserved (always) -/
theorem slice_client_order {c s r : List Member} (h : mergeMembers c s = Outcome.ok r) :
    (c.map memberKey).Sublist (r.map memberKey) := by
  rw [slice_keys h]; exact mpo_client_order _ _

/-- the server's member order is preserved whenever the two orders are compatible (`hc`, `hs` are not used) -/
theorem slice_server_order {c s r : List Member} (h : mergeMembers c s = Outcome.ok r)
    (hc : keysNodup c = true) (hs : keysNodup s = true)
    (hcomp : compatibleB (c.map memberKey) (s.map memberKey) = true) :
    (s.map memberKey).Sublist (r.map memberKey) := by
  rw [slice_keys h]
  exact mpo_server_sublist _ _ hcomp

/-- side marks: every merged member is either a shared one — then it is the client's member, *unchanged* (no mark; the
server's copy is dropped even when it differs in access flags, code or attributes) — or the member of the one side that
has it with exactly `@Environment(EnvType.<that side>)` appended to its runtime-invisible annotations (`markMember`) -/
theorem slice_marks {c s r : List Member} (h : mergeMembers c s = Outcome.ok r) : ∀ m ∈ r,
    (∃ mc ∈ c, (∃ ms ∈ s, memberKey ms = memberKey mc) ∧ m = mc) ∨
    (∃ mc ∈ c, (∀ ms ∈ s, memberKey ms ≠ memberKey mc) ∧ m = { mc with anns := mc.anns ++ [Ann.env Side.client] }) ∨
    (∃ ms ∈ s, (∀ mc ∈ c, memberKey mc ≠ memberKey ms) ∧ m = { ms with anns := ms.anns ++ [Ann.env Side.server] }) :=
  mergeMembers_mem h

/-- counted: on inputs that carry no `@Environment` yet, a shared member has none afterwards and a one-sided member has
exactly one, of its side -/
theorem slice_mark_count {c s r : List Member} (h : mergeMembers c s = Outcome.ok r)
    (hc : noEnv c = true) (hs : noEnv s = true) : ∀ m ∈ r,
    envMarks m = if memberKey m ∈ c.map memberKey then
                   (if memberKey m ∈ s.map memberKey then [] else [Side.client])
                 else [Side.server] := by
  intro m hm
  rcases mergeMembers_mem h m hm with ⟨mc, hmc, ⟨ms, hms, hk⟩, rfl⟩ | ⟨mc, hmc, hns, rfl⟩ | ⟨ms, hms, hnc, rfl⟩
  · rw [if_pos (List.mem_map_of_mem hmc), if_pos (hk ▸ List.mem_map_of_mem hms)]
    exact envMarks_of_noEnv hc m hmc
  · have h2 : memberKey mc ∉ s.map memberKey := fun hx =>
      have ⟨ms, hms, hk⟩ := List.mem_map.mp hx
      hns ms hms hk
    rw [memberKey_markMember, if_pos (List.mem_map_of_mem hmc), if_neg h2, envMarks_markMember,
      envMarks_of_noEnv hc mc hmc]
    rfl
  · have h1 : memberKey ms ∉ c.map memberKey := fun hx =>
      have ⟨mc, hmc, hk⟩ := List.mem_map.mp hx
      hnc mc hmc hk
    rw [memberKey_markMember, if_neg h1, envMarks_markMember, envMarks_of_noEnv hs ms hms]
    rfl

example : mergeMembers
    [{ name := jstr "a", desc := jstr "I", access := 1, deprecated := false, synthetic := false, payload := 0, anns := [] },
     { name := jstr "b", desc := jstr "I", access := 1, deprecated := false, synthetic := false, payload := 0, anns := [Ann.other 3] }]
    [{ name := jstr "c", desc := jstr "J", access := 2, deprecated := false, synthetic := false, payload := 0, anns := [] },
     { name := jstr "a", desc := jstr "I", access := 9, deprecated := false, synthetic := false, payload := 7, anns := [] }] =
  Outcome.ok
    [{ name := jstr "c", desc := jstr "J", access := 2, deprecated := false, synthetic := false, payload := 0, anns := [Ann.env Side.server] },
     { name := jstr "a", desc := jstr "I", access := 1, deprecated := false, synthetic := false, payload := 0, anns := [] },
     { name := jstr "b", desc := jstr "I", access := 1, deprecated := false, synthetic := false, payload := 0, anns := [Ann.other 3, Ann.env Side.client] }] := by
  decide +kernel

/-- a merged class consists of: the slice merges of fields, methods and InnerClasses entries, `merge_preserve_order` of
the interfaces, and everything else (version, access flags, name, super class, deprecated/synthetic, visible annotations,
`payload` = all remaining attributes) copied from the client; the invisible annotations of the client followed by one
`@EnvironmentInterfaces` annotation when some interface is one-sided -/
theorem class_parts {c s r : Class} (h : mergeClass c s = Outcome.ok r) :
    mergeMembers c.fields s.fields = Outcome.ok r.fields ∧ mergeMembers c.methods s.methods = Outcome.ok r.methods ∧
    mergeInners c.inners s.inners = Outcome.ok r.inners ∧
    r.interfaces = mergePreserveOrder c.interfaces s.interfaces ∧
    r.version = c.version ∧ r.access = c.access ∧ r.name = c.name ∧ r.super = c.super ∧
    r.deprecated = c.deprecated ∧ r.synthetic = c.synthetic ∧ r.payload = c.payload ∧ r.visAnns = c.visAnns ∧
    r.invisAnns = (if (itfMarks c s r.interfaces).isEmpty then c.invisAnns
                   else c.invisAnns ++ [Ann.envItfs (itfMarks c s r.interfaces)]) := by
  obtain ⟨_, _, _, _, f, hf, m, hm, _, _, inn, hi, rfl⟩ := mergeClass_eq_ok.mp h
  refine ⟨hf, hm, hi, ?_⟩
  simp only [and_self]

/-- a class differing between the sides contains every field, method, interface and InnerClasses entry of either side
exactly once -/
theorem class_exactly_once {c s r : Class} (h : mergeClass c s = Outcome.ok r) (hk : keysOk c s = true)
    (hci : c.interfaces.Nodup) (hsi : s.interfaces.Nodup) :
    ExactUnion (c.fields.map memberKey) (s.fields.map memberKey) (r.fields.map memberKey) ∧
    ExactUnion (c.methods.map memberKey) (s.methods.map memberKey) (r.methods.map memberKey) ∧
    ExactUnion c.interfaces s.interfaces r.interfaces ∧
    ExactUnion (c.inners.map (·.name)) (s.inners.map (·.name)) (r.inners.map (·.name)) := by
  obtain ⟨e1, e2, e3, e4⟩ := mergeClass_keys h
  have k := keysOk_iff.mp hk
  rw [e1, e2, e3, e4]
  exact ⟨mpo_exactly_once _ _ k.cf k.sf, mpo_exactly_once _ _ k.cm k.sm, mpo_exactly_once _ _ hci hsi,
    mpo_exactly_once _ _ k.ci k.si⟩

/-- the relative order of the client's fields, methods, interfaces and InnerClasses entries is preserved (always) -/
theorem class_client_order {c s r : Class} (h : mergeClass c s = Outcome.ok r) :
    (c.fields.map memberKey).Sublist (r.fields.map memberKey) ∧
    (c.methods.map memberKey).Sublist (r.methods.map memberKey) ∧
    c.interfaces.Sublist r.interfaces ∧
    (c.inners.map (·.name)).Sublist (r.inners.map (·.name)) := by
  obtain ⟨e1, e2, e3, e4⟩ := mergeClass_keys h
  rw [e1, e2, e3, e4]
  exact ⟨mpo_client_order _ _, mpo_client_order _ _, mpo_client_order _ _, mpo_client_order _ _⟩

/-- the relative order of the server's fields / methods / interfaces / InnerClasses entries is preserved, for each of
the four lists whose two orders are compatible (`hk`, `hci`, `hsi` are not used) -/
theorem class_server_order {c s r : Class} (h : mergeClass c s = Outcome.ok r) (hk : keysOk c s = true)
    (hci : c.interfaces.Nodup) (hsi : s.interfaces.Nodup) :
    (compatibleB (c.fields.map memberKey) (s.fields.map memberKey) = true →
      (s.fields.map memberKey).Sublist (r.fields.map memberKey)) ∧
    (compatibleB (c.methods.map memberKey) (s.methods.map memberKey) = true →
      (s.methods.map memberKey).Sublist (r.methods.map memberKey)) ∧
    (compatibleB c.interfaces s.interfaces = true → s.interfaces.Sublist r.interfaces) ∧
    (compatibleB (c.inners.map (·.name)) (s.inners.map (·.name)) = true →
      (s.inners.map (·.name)).Sublist (r.inners.map (·.name))) := by
  obtain ⟨e1, e2, e3, e4⟩ := mergeClass_keys h
  rw [e1, e2, e3, e4]
  exact ⟨mpo_server_sublist _ _, mpo_server_sublist _ _, mpo_server_sublist _ _, mpo_server_sublist _ _⟩

/-- interface marks: the merged class keeps the client's invisible annotations and gets one additional
`@EnvironmentInterfaces({…})` iff some interface is one-sided; its elements are exactly the one-sided interfaces, each
once, each with its side (client ones first); shared interfaces are not mentioned -/
theorem itf_marks {c s r : Class} (h : mergeClass c s = Outcome.ok r) :
    r.invisAnns = (if (itfMarks c s r.interfaces).isEmpty then c.invisAnns
                   else c.invisAnns ++ [Ann.envItfs (itfMarks c s r.interfaces)]) ∧
    (∀ sd i, (sd, i) ∈ itfMarks c s r.interfaces ↔ i ∈ r.interfaces ∧
      (match sd with
       | Side.client => i ∈ c.interfaces ∧ i ∉ s.interfaces
       | Side.server => i ∉ c.interfaces ∧ i ∈ s.interfaces)) ∧
    (c.interfaces.Nodup → s.interfaces.Nodup → (itfMarks c s r.interfaces).Nodup) := by
  refine ⟨mergeClass_invisAnns h, mem_itfMarks c s r.interfaces, fun hci hsi => ?_⟩
  obtain ⟨-, -, e, -⟩ := mergeClass_keys h
  rw [e]
  exact itfMarks_nodup c s _ (mpo_exactly_once _ _ hci hsi).1

/-- InnerClasses entries are copied as they are (the code attaches no mark to a one-sided entry) -/
theorem class_inners {c s r : Class} (h : mergeClass c s = Outcome.ok r) : ∀ i ∈ r.inners, i ∈ c.inners ∨ i ∈ s.inners := by
  intro i hi
  obtain ⟨-, -, hinn, -⟩ := class_parts h
  rcases mergeSlice_mem hinn i hi with ⟨ic, hic, _, _, _, e⟩ | ⟨ic, hic, _, e⟩ | ⟨is', his, _, e⟩
  · exact Or.inl (e.elim (· ▸ hic) fun e => nomatch e)
  · exact Or.inl (Outcome.ok.inj e ▸ hic)
  · exact Or.inr (Outcome.ok.inj e ▸ his)

/-- the domain of the class merge: same version, access flags, name, super class, deprecated/synthetic; shared members
agree on deprecated/synthetic; shared InnerClasses entries are equal; keys duplicate-free. There the merge returns `Ok` -/
theorem merge_class_total {c s : Class} (h : mergeOk c s = true) : ∃ r, mergeClass c s = Outcome.ok r :=
  mergeClass_total h

/-- for classes whose fields, methods and InnerClasses entries have duplicate-free keys, `mergeOk` is exactly where the
merge returns `Ok` -/
theorem merge_class_ok_iff {c s : Class} (hk : keysOk c s = true) :
    (∃ r, mergeClass c s = Outcome.ok r) ↔ mergeOk c s = true := by
  refine ⟨fun ⟨r, h⟩ => ?_, mergeClass_total⟩
  obtain ⟨e1, e2, e3, e4, f, hf, m, hm, e5, e6, inn, hi, _⟩ := mergeClass_eq_ok.mp h
  have k := keysOk_iff.mp hk
  exact mergeOk_iff.mpr ⟨⟨e1, e2, e3, e4, e5, e6⟩, hk, mergeMembers_ok_flags hf k.cf k.sf,
    mergeMembers_ok_flags hm k.cm k.sm, mergeInners_ok_shared hi k.ci k.si⟩

/-- the `unreachable!()` arm of `merge_slice` is never taken, whatever the two classes: the outcome is `Ok` or a clean `Err` -/
theorem merge_class_no_panic (c s : Class) : ∀ site, mergeClass c s ≠ Outcome.panic site := noPanic_mergeClass c s

/-- outside `mergeOk` the merge refuses cleanly (same hypothesis as `merge_class_ok_iff`) -/
theorem merge_class_err_iff {c s : Class} (hk : keysOk c s = true) :
    mergeClass c s = Outcome.err ↔ mergeOk c s = false := by
  rw [← Bool.not_eq_true, ← merge_class_ok_iff hk]
  rcases ok_or_err_of_noPanic (noPanic_mergeClass c s) with h | ⟨r, h⟩ <;> simp [h]

/-- a small class used by the witnesses -/
def wClass : Class :=
  { version := 52, access := 0x21, name := jstr "net/minecraft/A", super := some (jstr "java/lang/Object"),
    interfaces := [], fields := [], methods := [], deprecated := false, synthetic := false, inners := [], payload := 0,
    visAnns := [], invisAnns := [] }

def wField (dep : Bool) : Member :=
  { name := jstr "f", desc := jstr "I", access := 1, deprecated := dep, synthetic := false, payload := 0, anns := [] }

/-- the same class, `public` on the client and `public final` on the server, is refused with `Err` (the code before 9bfd462
panicked in `merge_from_client`) -/
theorem merge_class_access_regression_fixed :
    mergeClass wClass { wClass with access := 0x31 } = Outcome.err := by decide +kernel

/-- the same class compiled for different class-file versions on the two sides: `Err` (before 9bfd462: panic) -/
theorem merge_class_version_regression_fixed :
    mergeClass wClass { wClass with version := 61 } = Outcome.err := by decide +kernel

/-- a shared field that is `@Deprecated` on one side only: `Err` (before 9bfd462: panic) -/
theorem merge_class_member_regression_fixed :
    mergeClass { wClass with fields := [wField false] } { wClass with fields := [wField true] } =
      Outcome.err := by
  simp -index only [wClass, jstr_ofList]
  decide +kernel

/-- an InnerClasses entry for the same inner class with different flags: `Err` (the code before 9bfd462 panicked in the
`inner` closure) -/
theorem merge_class_inner_regression_fixed :
    mergeClass { wClass with inners := [{ name := jstr "net/minecraft/A$B", flags := 8 }] }
               { wClass with inners := [{ name := jstr "net/minecraft/A$B", flags := 9 }] } =
      Outcome.err := by
  simp -index only [wClass, jstr_ofList]
  decide +kernel

/-- a different super class is a clean error -/
theorem merge_class_super_err_witness :
    mergeClass wClass { wClass with super := some (jstr "net/minecraft/B") } = Outcome.err := by
  simp -index only [wClass, jstr_ofList]
  decide +kernel

example : mergeOk { wClass with interfaces := [jstr "I", jstr "J"], fields := [wField false] }
                  { wClass with interfaces := [jstr "K", jstr "J"], payload := 3 } = true ∧
    (mergeClass { wClass with interfaces := [jstr "I", jstr "J"], fields := [wField false] }
                { wClass with interfaces := [jstr "K", jstr "J"], payload := 3 } =
      Outcome.ok { wClass with
        interfaces := [jstr "I", jstr "K", jstr "J"],
        fields := [{ wField false with anns := [Ann.env Side.client] }],
        invisAnns := [Ann.envItfs [(Side.client, jstr "I"), (Side.server, jstr "K")]] }) := by
  simp -index only [wClass, wField, jstr_ofList]
  decide +kernel

/-- every entry name of either jar exactly once, minus signature files and bundled server libraries: the names of the
merged jar are the client's names in order followed by the server-only names in order, with the names not `kept` removed
(`kept`: not `META-INF/….SF|.RSA|.DSA|.EC`; not a `.class` name outside `net/minecraft/` with a `/` in it that only the server has) -/
theorem entries_exactly_once {client server r : Jar} (h : mergeJar client server = Outcome.ok r) :
    names r = (names client ++ (names server).filter (fun n => !(names client).contains n)).filter (kept client) := by
  rw [← combine_names]
  exact mergeEntries_names h fun _ hp _ ho => mergeEntry_kept hp ho

/-- the same as a set statement: no name twice; a name is in the merged jar iff it is in one of the jars and `kept` -/
theorem entries_nodup_mem {client server r : Jar} (hc : (names client).Nodup) (hs : (names server).Nodup)
    (h : mergeJar client server = Outcome.ok r) :
    (names r).Nodup ∧ ∀ n, n ∈ names r ↔ (n ∈ names client ∨ n ∈ names server) ∧ kept client n = true := by
  rw [entries_exactly_once h]
  exact ⟨(List.nodup_append_filter_not hc hs).filter _, fun n => by rw [List.mem_filter, List.mem_append_filter_not]⟩

/-- what `kept` says, spelled out -/
theorem kept_iff (client : Jar) (n : JStr) :
    kept client n = true ↔ isSig n = false ∧ ¬ (isBundled n = true ∧ n ∉ names client) := by
  unfold kept
  cases isSig n <;> cases isBundled n <;> simp

/-- nothing else: every entry of the merged jar is the value of one row of the table (`mergeEntry`) for a name of one
of the two jars -/
theorem entry_origin {client server r : Jar} (h : mergeJar client server = Outcome.ok r) {n : JStr} {e : Entry}
    (hm : (n, e) ∈ r) : ∃ cmb, (n, cmb) ∈ combine client server ∧ mergeEntry n cmb = Outcome.ok (some e) :=
  (mergeEntries_mem_iff h).mp hm

/-- with duplicate-free names an entry of the result is determined by its name (so each row theorem below fixes it) -/
theorem entry_unique {r : Jar} (h : (names r).Nodup) {n : JStr} {e e' : Entry}
    (h1 : (n, e) ∈ r) (h2 : (n, e') ∈ r) : e = e' :=
  Option.some.inj ((get_of_mem_nodup h1 h).symm.trans (get_of_mem_nodup h2 h))

/-- row "client only": the entry is taken from the client through `oneSided` -/
theorem entry_client_only {client server r : Jar} (h : mergeJar client server = Outcome.ok r) {n : JStr} {e : Entry}
    (hm : (n, e) ∈ client) (hns : n ∉ names server) (h1 : n ≠ MANIFEST) (h2 : isSig n = false) :
    (n, oneSided e Side.client) ∈ r :=
  (mergeEntries_mem_iff h).mpr ⟨_, combine_client_only hm ((get_none_iff n server).mpr hns), mergeEntry_row _ h1 h2⟩

/-- row "server only": likewise, unless the name is a bundled library -/
theorem entry_server_only {client server r : Jar} (h : mergeJar client server = Outcome.ok r) {n : JStr} {e : Entry}
    (hm : (n, e) ∈ server) (hnc : n ∉ names client) (h1 : n ≠ MANIFEST) (h2 : isSig n = false)
    (h3 : isBundled n = false) : (n, oneSided e Side.server) ∈ r :=
  (mergeEntries_mem_iff h).mpr ⟨_, combine_server_only hm ((get_none_iff n client).mpr hnc), (mergeEntry_row _ h1 h2).trans (if_neg (h3 ▸ Bool.false_ne_true))⟩

/-- a one-sided class is parsed and marked with `@Environment(EnvType.<side>)`, appended to its runtime-*visible*
annotations (members get it as an invisible one); nothing else changes. One-sided resources and directories are
passed through unchanged -/
theorem one_sided_marks (a : Nat) (rp : ClsRepr) (c : Class) (d : Bytes) (sd : Side) :
    oneSided { attr := a, content := Content.cls rp c } sd =
      { attr := a, content := Content.cls ClsRepr.parsed { c with visAnns := c.visAnns ++ [Ann.env sd] } } ∧
    oneSided { attr := a, content := Content.other d } sd = { attr := a, content := Content.other d } ∧
    oneSided { attr := a, content := Content.dir } sd = { attr := a, content := Content.dir } :=
  ⟨rfl, rfl, rfl⟩

/-- row "both, identical class": the client's entry itself is in the result — same attributes, same representation
(`ClassRepr::Vec` bytes are not parsed or re-written), same class -/
theorem entry_identical_class {client server r : Jar} (h : mergeJar client server = Outcome.ok r)
    (hs : (names server).Nodup) {n : JStr} {ac as' : Nat} {rc rs : ClsRepr} {cc : Class}
    (hmc : (n, { attr := ac, content := Content.cls rc cc }) ∈ client)
    (hms : (n, { attr := as', content := Content.cls rs cc }) ∈ server) (h1 : n ≠ MANIFEST) (h2 : isSig n = false) :
    (n, { attr := ac, content := Content.cls rc cc }) ∈ r := by
  refine (mergeEntries_mem_iff h).mpr ⟨_, combine_both hmc (get_of_mem_nodup hms hs), ?_⟩
  rw [mergeEntry_row _ h1 h2]
  show (mergeClassEntry rc cc cc >>= _) = _
  rw [mergeClassEntry, if_pos (beq_self_eq_true cc)]
  rfl

/-- row "both, differing classes": the result holds the class merge (first part of this file), parsed, with the
client's attributes -/
theorem entry_differing_class {client server r : Jar} (h : mergeJar client server = Outcome.ok r)
    (hs : (names server).Nodup) {n : JStr} {ac as' : Nat} {rc rs : ClsRepr} {cc cs : Class}
    (hmc : (n, { attr := ac, content := Content.cls rc cc }) ∈ client)
    (hms : (n, { attr := as', content := Content.cls rs cs }) ∈ server) (h1 : n ≠ MANIFEST) (h2 : isSig n = false)
    (hne : cc ≠ cs) :
    ∃ m, mergeClass cc cs = Outcome.ok m ∧ (n, { attr := ac, content := Content.cls ClsRepr.parsed m }) ∈ r := by
  have hcmb := combine_both hmc (get_of_mem_nodup hms hs)
  obtain ⟨o, ho⟩ := (mergeEntries_eq_ok.mp h).1 _ hcmb
  have hrow := ho
  rw [mergeEntry_row _ h1 h2] at ho
  change (mergeClassEntry rc cc cs >>= _) = _ at ho
  rw [mergeClassEntry, if_neg (by simpa using hne)] at ho
  obtain ⟨_, hc, ho⟩ := bind_ok_iff.mp ho
  obtain ⟨m, hm, e⟩ := bind_ok_iff.mp hc
  cases e
  cases ho
  exact ⟨m, hm, (mergeEntries_mem_iff h).mpr ⟨_, hcmb, hrow⟩⟩

/-- row "both, resource": the client's bytes and attributes win *whatever the server's bytes are* — when the two differ
the code only prints a warning; the server's version is dropped -/
theorem entry_resource_both {client server r : Jar} (h : mergeJar client server = Outcome.ok r)
    (hs : (names server).Nodup) {n : JStr} {ac as' : Nat} {dc ds : Bytes}
    (hmc : (n, { attr := ac, content := Content.other dc }) ∈ client)
    (hms : (n, { attr := as', content := Content.other ds }) ∈ server) (h1 : n ≠ MANIFEST) (h2 : isSig n = false) :
    (n, { attr := ac, content := Content.other dc }) ∈ r :=
  (mergeEntries_mem_iff h).mpr ⟨_, combine_both hmc (get_of_mem_nodup hms hs), mergeEntry_row _ h1 h2⟩

/-- row "both, directory" -/
theorem entry_dir_both {client server r : Jar} (h : mergeJar client server = Outcome.ok r)
    (hs : (names server).Nodup) {n : JStr} {ac as' : Nat}
    (hmc : (n, { attr := ac, content := Content.dir }) ∈ client)
    (hms : (n, { attr := as', content := Content.dir }) ∈ server) (h1 : n ≠ MANIFEST) (h2 : isSig n = false) :
    (n, { attr := ac, content := Content.dir }) ∈ r :=
  (mergeEntries_mem_iff h).mpr ⟨_, combine_both hmc (get_of_mem_nodup hms hs), mergeEntry_row _ h1 h2⟩

/-- row "manifest": whatever the jars hold under `META-INF/MANIFEST.MF` (any kind, equal or not) is replaced by the fixed
two-line manifest; the attributes are those of the client's entry when it has one -/
theorem entry_manifest_client {client server r : Jar} (h : mergeJar client server = Outcome.ok r) {e : Entry}
    (hm : (MANIFEST, e) ∈ client) : (MANIFEST, { attr := e.attr, content := Content.other MANIFEST_BYTES }) ∈ r := by
  cases hg : get MANIFEST server with
  | none => exact (mergeEntries_mem_iff h).mpr ⟨_, combine_client_only hm hg, mergeEntry_manifest_row _⟩
  | some es => exact (mergeEntries_mem_iff h).mpr ⟨_, combine_both hm hg, mergeEntry_manifest_row _⟩

/-- row "manifest" when only the server has the entry: the fixed manifest with the server's attributes -/
theorem entry_manifest_server {client server r : Jar} (h : mergeJar client server = Outcome.ok r) {e : Entry}
    (hm : (MANIFEST, e) ∈ server) (hnc : MANIFEST ∉ names client) :
    (MANIFEST, { attr := e.attr, content := Content.other MANIFEST_BYTES }) ∈ r :=
  (mergeEntries_mem_iff h).mpr ⟨_, combine_server_only hm ((get_none_iff MANIFEST client).mpr hnc), mergeEntry_manifest_row _⟩

/-- the domain of the jar merge (`jarDomain`: for every name both jars have, other than the manifest and signature
files, the kinds agree and two differing classes satisfy `mergeOk`): there `merge` returns `Ok` -/
theorem merge_jar_total {client server : Jar} (h : jarDomain client server = true) :
    ∃ r, mergeJar client server = Outcome.ok r :=
  ⟨_, mergeEntries_eq_ok.mpr ⟨fun _ hp => mergeEntry_total h hp, rfl⟩⟩

/-- the `unreachable!()` arm of `merge_slice` is never taken, whatever the two jars (the four arms of the `keys` loop are
outside the model, see the head of this file) -/
theorem merge_jar_no_panic (client server : Jar) : ∀ site, mergeJar client server ≠ Outcome.panic site :=
  noPanic_mergeEntries _

def wEntry (c : Class) : Entry := { attr := 0, content := Content.cls ClsRepr.parsed c }

/-- two ordinary jars, one class `public` in one and `public final` in the other: `merge` returns `Err` (the code before
9bfd462 panicked) -/
theorem merge_jar_regression_fixed :
    mergeJar [(jstr "net/minecraft/A.class", wEntry wClass)]
             [(jstr "net/minecraft/A.class", wEntry { wClass with access := 0x31 })] = Outcome.err ∧
    jarDomain [(jstr "net/minecraft/A.class", wEntry wClass)]
              [(jstr "net/minecraft/A.class", wEntry { wClass with access := 0x31 })] = false := by
  simp -index only [wClass, jstr_ofList]
  decide +kernel

/-- kinds that do not match are a clean error -/
theorem merge_jar_kind_mismatch_witness :
    mergeJar [(jstr "a", { attr := 0, content := Content.dir })] [(jstr "a", { attr := 0, content := Content.other [1] })] =
      Outcome.err := by decide +kernel

/-- the signature-file rule: `META-INF/*.SF` and the signature block files `.RSA`, `.DSA`, `.EC` (the code before
6bf1276 kept `.DSA` / `.EC` blocks without their `.SF` file); only below `META-INF/` -/
theorem sig_rule : isSig (jstr "META-INF/MOJANG.SF") = true ∧ isSig (jstr "META-INF/MOJANG.RSA") = true ∧
    isSig (jstr "META-INF/MOJANG.DSA") = true ∧ isSig (jstr "META-INF/MOJANG.EC") = true ∧
    isSig (jstr "other/X.SF") = false := by
  simp -index only [jstr_ofList]
  decide +kernel

example : jarDomain
      [(jstr "net/minecraft/A.class", wEntry wClass), (jstr "META-INF/X.SF", { attr := 1, content := Content.other [1] }),
       (jstr "assets/a", { attr := 2, content := Content.other [1, 2] })]
      [(jstr "com/lib/L.class", wEntry wClass), (jstr "assets/a", { attr := 3, content := Content.other [9] }),
       (jstr "net/minecraft/A.class", wEntry { wClass with payload := 1 }), (jstr "S.class", wEntry wClass)] = true ∧
    mergeJar
      [(jstr "net/minecraft/A.class", wEntry wClass), (jstr "META-INF/X.SF", { attr := 1, content := Content.other [1] }),
       (jstr "assets/a", { attr := 2, content := Content.other [1, 2] })]
      [(jstr "com/lib/L.class", wEntry wClass), (jstr "assets/a", { attr := 3, content := Content.other [9] }),
       (jstr "net/minecraft/A.class", wEntry { wClass with payload := 1 }), (jstr "S.class", wEntry wClass)] =
    Outcome.ok
      [(jstr "net/minecraft/A.class", wEntry wClass), (jstr "assets/a", { attr := 2, content := Content.other [1, 2] }),
       (jstr "S.class", wEntry { wClass with visAnns := [Ann.env Side.server] })] := by
  simp -index only [wClass, jstr_ofList]
  decide +kernel

end Thm.C13
