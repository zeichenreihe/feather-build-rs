import FeatherModel.Lemmas.TinyRoundTrip
import FeatherModel.Lemmas.JStrLit

/-!
# C03 — Tiny v2 files round-trip and are written canonically

Model: `FeatherModel/Model/Tiny.lean` (`Tiny.write`, `Tiny.write?`, `Tiny.read n` for `quill::tiny_v2::{write_vec, read::<N>}`,
`quill/src/lines.rs`, `add_child`): the code from a79b1fd (injective comment escaping), 4f3eba6 (`write` refuses cells a
tiny file cannot hold) and 32a66ed (the header section change: `read` consumes the property lines of the header, so the comment of
the mapping set itself round-trips) on. Mapping sets are association lists in `IndexMap` order; `n` (the const generic
`N`) is a value, so every theorem below is for **every** number of namespaces (`2 ≤ n` is part of the domain), not only 2..4.

* round trip: `read_write`, `read_write_content`, `read_write_canonical`, `write_succeeds` on the decidable domain
  `Tiny.writable n m` (all comments, also the one of the mapping set itself, are arbitrary); `unescape_escape`,
  `escape_injective`;
* what `write` refuses: `write_rejects_iff`, `write_rejects_where`, `write_accepts` — a refused set is an `Err`, never a
  corrupted file or a panic (regressions `name_tab_cr_lf_rejected`, `non_utf8_rejected`);
* order independence: `write_perm`, `write_perm_dec`, `write_perm_classes`, `write_canon`, `sort_key_separates_*`;
* fixed point: `write_fixed_point`;
* reading never merges, loses or re-parents: `step_appends`, `read_counts`, `read_wf`, `read_closed_classes_final`,
  `read_dup_class / _field / _method / _param`, `read_dup`, `read_error_propagates`;
* the header's own section: `read_toplevel_doc` (the comment of the set comes from the comment line of the header section
  and from nowhere else), `header_unknown_property_ignored`, `header_two_comments_error`, `header_deeper_line_error`,
  `read_header_bad`, `indented_after_ignored_toplevel_error`, `comment_after_class_is_class_comment`;
* regressions: `toplevel_doc_roundtrip` and section 5.
-/

namespace Thm.C03
open Tiny

/-! ## 0. non-vacuity: concrete members of the domains -/

/-- two namespaces; a nested class name, a non-BMP name (U+1F600), absent names, multi-line comments, a parameter without
source name; classes and parameters inserted in non-canonical order -/
def exM : Mappings :=
  { ns := [[97], [98]], doc := none,
    classes := [
      ([112, 47, 65, 36, 66],
        { names := [some [112, 47, 65, 36, 66], some [128512]], doc := some [120, 10, 121],
          fields := [(([102], [73]), { desc := [73], names := [some [102], none], doc := none })],
          methods := [(([109], [40, 41, 86]),
            { desc := [40, 41, 86], names := [some [109], some [110]], doc := some [100],
              params := [(1, { index := 1, names := [none, some [122]], doc := some [112, 10, 113] }),
                         (0, { index := 0, names := [none, none], doc := none })] })] }),
      ([65], { names := [some [65], none], doc := none, fields := [], methods := [] })] }

/-- the same content, other insertion order at two levels -/
def exM' : Mappings :=
  { exM with classes := [
      ([65], { names := [some [65], none], doc := none, fields := [], methods := [] }),
      ([112, 47, 65, 36, 66],
        { names := [some [112, 47, 65, 36, 66], some [128512]], doc := some [120, 10, 121],
          fields := [(([102], [73]), { desc := [73], names := [some [102], none], doc := none })],
          methods := [(([109], [40, 41, 86]),
            { desc := [40, 41, 86], names := [some [109], some [110]], doc := some [100],
              params := [(0, { index := 0, names := [none, none], doc := none }),
                         (1, { index := 1, names := [none, some [122]], doc := some [112, 10, 113] })] })] })] }

def exM3 : Mappings :=
  { ns := [[97], [98], [99]], doc := none,
    classes := [([66], { names := [some [66], none, some [67]], doc := none, fields := [], methods := [] }),
                ([65], { names := [some [65], some [120], none], doc := some [100], fields := [], methods := [] })] }

def exM4 : Mappings :=
  { ns := [[97], [98], [99], [100]], doc := none,
    classes := [
      ([66],
        { names := [some [66], none, none, some [67]], doc := none, fields := [],
          methods := [(([60, 105, 110, 105, 116, 62], [40, 41, 86]),
            { desc := [40, 41, 86], names := [some [60, 105, 110, 105, 116, 62], none, none, none], doc := none,
              params := [(3, { index := 3, names := [none, none, none, none], doc := none })] })] })] }

/-- a class comment holding the two characters backslash, `n` (the input of `comment_backslash_n_regression`) -/
def exBsN : Mappings :=
  { ns := [[97], [98]], doc := none,
    classes := [([65], { names := [some [65], some [66]], doc := some [120, 92, 110, 121], fields := [], methods := [] })] }

example : writable 2 exM = true := by decide +kernel
example : canon exM ≠ exM := by decide +kernel
example : writable 2 exM' = true ∧ contentEqB exM exM' = true ∧ exM ≠ exM' := by decide +kernel
example : writable 3 exM3 = true ∧ canon exM3 ≠ exM3 := by decide +kernel
example : writable 4 exM4 = true := by decide +kernel
example : writable 2 exBsN = true := by decide +kernel

/-- comments with everything escaping has to get right: `a\\b`, backslash-`n`, TAB, LF, a trailing CR, a lone backslash at the end -/
def exDocs : Mappings :=
  { ns := [[97], [98]], doc := none,
    classes := [
      ([65],
        { names := [some [65], some [66]], doc := some [97, 92, 92, 98, 92, 110, 9, 10, 13],
          fields := [(([102], [73]), { desc := [73], names := [some [102], none], doc := some [92] })],
          methods := [(([109], [40, 41, 86]),
            { desc := [40, 41, 86], names := [some [109], none], doc := some [92, 116, 92, 114, 13, 10, 92, 92, 110],
              params := [(0, { index := 0, names := [none, none], doc := some [9, 9, 92] })] })] })] }

private theorem exDocs_writable : writable 2 exDocs = true := by decide +kernel
example : writable 2 exDocs = true := exDocs_writable
example : read 2 (write exDocs) = some (canon exDocs) := by decide +kernel

/-- a comment on the mapping set itself: two lines, a TAB, a backslash, backslash-`n`, a CR at the end -/
def exTop : Mappings := { exM with doc := some [116, 111, 112, 10, 9, 92, 32, 92, 110, 13] }
/-- the empty comment on the mapping set (written as `\tc\t`) -/
def exTopEmpty : Mappings := { exM3 with doc := some [] }

example : writable 2 exTop = true ∧ writable 3 exTopEmpty = true := by decide +kernel
-- also conjuncts of `toplevel_doc_roundtrip`
private theorem exTop_read_write : read 2 (write exTop) = some (canon exTop) := by decide +kernel
private theorem exTopEmpty_read_write : read 3 (write exTopEmpty) = some (canon exTopEmpty) := by decide +kernel
example : read 2 (write exTop) = some (canon exTop) ∧ (canon exTop).doc = exTop.doc := ⟨exTop_read_write, by decide +kernel⟩
example : read 3 (write exTopEmpty) = some (canon exTopEmpty) := exTopEmpty_read_write
/-- the domain is inhabited for every `n ≥ 2`, with and without a comment on the set -/
example (n : Nat) (h : 2 ≤ n) (d : Option JStr) : writable n { ns := List.replicate n [97], doc := d, classes := [] } = true := by
  simp [writable, wf, keysNodup, h, cellOk, isSurrogate]

/-! ## 1. round trip -/

/-- on the domain `write` returns its text -/
theorem write_succeeds {n : Nat} {m : Mappings} (h : writable n m = true) : write? m = some (write m) := by
  simp [write?, writable_writeOk h]

/-- **`unescape` undoes `escape` for every comment** -/
theorem unescape_escape (d : JStr) : unescape (escape d) = d := Tiny.unescape_escape d

/-- `escape` is injective: two comments are never written alike -/
theorem escape_injective {a b : JStr} (h : escape a = escape b) : a = b := Tiny.escape_injective h

/-- an escaped comment is one cell of one line: no TAB, LF, CR -/
theorem escape_one_cell (d : JStr) : 9 ∉ escape d ∧ 10 ∉ escape d ∧ 13 ∉ escape d := escape_clean d

/-- **`read (write m) = ok (canon m)`**: everything comes back — namespaces, the comment of the mapping set itself, every
class / field / method / parameter with its names per namespace, descriptor, index and comment (any comment) — each level
in the order `write` emits it. For every `n`. -/
theorem read_write {n : Nat} {m : Mappings} (h : writable n m = true) : read n (write m) = some (canon m) := by
  obtain ⟨hn, hlen, hns, hwf, hcls⟩ := writable_iff.mp h
  -- the text splits back into the written lines (`htext`); on them the class loop appends the sorted classes, each as
  -- `read` builds it (`hrun`), and the header section gives the comment (`hsec`); what is built is `canon m`
  have hparsed := writeLines_parsed (fun s hs => (hns s hs).2) hcls
  have htext : textLines (write m)
      = { indent := 0, first := TINY, fields := [50] :: [48] :: m.ns } ::
          (docT 1 m.doc ++ (sortBy classLe m.classes.values).flatMap classT) := by
    unfold textLines write
    rw [lines_write _ hparsed.ok, hparsed.eq]
  obtain ⟨d', k', _, hrun⟩ := Block.sorted (n := n) classLe classT canonClass (fun _ _ => rfl) m.classes (wf_classes hwf).1
    (fun e he => class_block (hcls e he) ((wf_classes hwf).2 e he).2 ((wf_classes hwf).2 e he).1)
    [] 0 .field [] trivial (fun _ _ => rfl)
  simp only [List.append_nil, List.nil_append, run, id] at hrun
  have hn2 : ¬ n < 2 := by omega
  have hany : m.ns.any (·.isEmpty) = false :=
    List.any_eq_false.mpr fun s hs => by rw [(hns s hs).1]; exact Bool.false_ne_true
  have hsec := headerSec_written m.doc _ (classT_head (sortBy classLe m.classes.values))
  unfold Tiny.read
  rw [htext]
  simp only [hn2, if_false, ne_eq, not_true_eq_false, hlen, hany, Bool.false_eq_true, hsec, hrun]
  rfl

/-- `canon` only reorders: same entries under the same keys at every level -/
theorem canon_content (m : Mappings) : ContentEq m (canon m) := contentEq_canon m

/-- the round trip gives back the same mapping set up to insertion order -/
theorem read_write_content {n : Nat} {m : Mappings} (h : writable n m = true) :
    ∃ r, read n (write m) = some r ∧ ContentEq m r :=
  ⟨canon m, read_write h, contentEq_canon m⟩

/-- sets in canonical order come back exactly -/
theorem read_write_canonical {n : Nat} {m : Mappings} (h : writable n m = true) :
    read n (write (canon m)) = some (canon m) := by
  rw [Tiny.write_canon]
  exact read_write h

private theorem exM_read_write : read 2 (write exM) = some (canon exM) := by decide +kernel
example : read 2 (write exM) = some (canon exM) := exM_read_write

/-! ## 2. the text depends on the content only -/

/-- **`write` is invariant under the insertion order at every level** (`ContentEq`: the entry lists are permutations of
each other, recursively). `wf` = keys unique and derived from the entries, the invariant of every set built through
quill's API; `write_perm_wf_witness` shows it is needed. -/
theorem write_perm {a b : Mappings} (ha : wf a = true) (hb : wf b = true) (h : ContentEq a b) : write? a = write? b := by
  rw [← write?_canon a, ← write?_canon b, canon_congr h ha]

/-- the same with the decidable content test the oracle uses -/
theorem write_perm_dec {a b : Mappings} (ha : wf a = true) (hb : wf b = true) (h : contentEqB a b = true) :
    write? a = write? b :=
  write_perm ha hb (contentEqB_sound h)

/-- special case: any permutation of the class list -/
theorem write_perm_classes {m : Mappings} {cs : AList JStr Class} (hm : wf m = true)
    (hcs : wf { m with classes := cs } = true) (h : m.classes.Perm cs) : write? { m with classes := cs } = write? m :=
  (write_perm hm hcs (contentEq_of_perm h)).symm

/-- `write` does not distinguish a set from its canonical form (no hypotheses) -/
theorem write_canon (m : Mappings) : write? (canon m) = write? m := write?_canon m

example : write? exM = write? exM' := write_perm_dec (by decide +kernel) (by decide +kernel) (by decide +kernel)

/-- the sort keys separate the entries of a well-formed level (so the stable sort has exactly one result) -/
theorem sort_key_separates_classes {m : Mappings} (h : wf m = true) :
    ∀ p q, p ∈ m.classes.values → q ∈ m.classes.values → classLe p q = true → classLe q p = true → p = q :=
  separates_values (wf_classes_sep h)

theorem sort_key_separates_fields {c : Class} (h : wfClass c = true) :
    ∀ p q, p ∈ c.fields.values → q ∈ c.fields.values → fieldLe p q = true → fieldLe q p = true → p = q :=
  separates_values (wfClass_fields_sep h)

theorem sort_key_separates_methods {c : Class} (h : wfClass c = true) :
    ∀ p q, p ∈ c.methods.values → q ∈ c.methods.values → methodLe p q = true → methodLe q p = true → p = q :=
  separates_values (wfClass_methods_sep h)

theorem sort_key_separates_params {m : Method} (h : wfMethod m = true) :
    ∀ p q, p ∈ m.params.values → q ∈ m.params.values → paramLe p q = true → paramLe q p = true → p = q :=
  separates_values (wfMethod_params_sep h)

/-- two entries with the same names under different keys (impossible through quill's API, possible through the public
fields): the comment of whichever was inserted first is written first -/
def exBadKeys (first second : JStr) : Mappings :=
  { ns := [[97], [98]], doc := none,
    classes := [([88], { names := [some [65], none], doc := some first, fields := [], methods := [] }),
                ([89], { names := [some [65], none], doc := some second, fields := [], methods := [] })] }

/-- without `wf` the text depends on the insertion order -/
theorem write_perm_wf_witness :
    (exBadKeys [49] [50]).classes.Perm
        [([89], { names := [some [65], none], doc := some [50], fields := [], methods := [] }),
         ([88], { names := [some [65], none], doc := some [49], fields := [], methods := [] })] ∧
      wf (exBadKeys [49] [50]) = false ∧
      write? (exBadKeys [49] [50]) ≠ write? { exBadKeys [49] [50] with classes :=
        [([89], { names := [some [65], none], doc := some [50], fields := [], methods := [] }),
         ([88], { names := [some [65], none], doc := some [49], fields := [], methods := [] })] } :=
  ⟨List.Perm.swap _ _ _, by decide +kernel, by decide +kernel⟩

/-! ## 3. fixed point -/

/-- **`write (read (write m)) = write m`**, byte for byte -/
theorem write_fixed_point {n : Nat} {m : Mappings} (h : writable n m = true) :
    ∃ r, read n (write m) = some r ∧ write? r = write? m ∧ write? m = some (write m) :=
  ⟨canon m, read_write h, write?_canon m, write_succeeds h⟩

/-- stated through the canonical form -/
theorem write_fixed_point_canon {n : Nat} {m : Mappings} (h : writable n m = true) :
    read n (write m) = some (canon m) ∧ write? (canon m) = some (write m) := by
  refine ⟨read_write h, ?_⟩
  rw [write?_canon, write_succeeds h]

example : ∃ r, read 2 (write exDocs) = some r ∧ write? r = write? exDocs :=
  let ⟨r, h1, h2, _⟩ := write_fixed_point (n := 2) (m := exDocs) exDocs_writable
  ⟨r, h1, h2⟩

/-! ## 3b. what `write` refuses -/

/-- **`write` fails exactly when** some namespace, present name or descriptor does not pass `cell`
(`writeOk` is the conjunction over all of them); the failure is a clean `Err` (`write? = none`), there is no other outcome -/
theorem write_rejects_iff (m : Mappings) : write? m = none ↔ writeOk m = false := write?_none_iff m

/-- spelled out: a refused set has a namespace, a present name (class, field, method or parameter row) or a descriptor
containing TAB, LF, CR or a lone surrogate (`BadCell`) — and every such set is refused -/
theorem write_rejects_where (m : Mappings) : write? m = none ↔
    (∃ s ∈ m.ns, BadCell s) ∨
    ∃ e ∈ m.classes, BadNames e.2.names ∨
      (∃ f ∈ e.2.fields, BadCell f.2.desc ∨ BadNames f.2.names) ∨
      (∃ me ∈ e.2.methods, BadCell me.2.desc ∨ BadNames me.2.names ∨ ∃ p ∈ me.2.params, BadNames p.2.names) :=
  (write?_none_iff m).trans (writeOk_false_iff m)

theorem bad_cell_iff (s : JStr) : cellOk s = false ↔ (9 ∈ s ∨ 10 ∈ s ∨ 13 ∈ s ∨ ∃ c ∈ s, isSurrogate c = true) :=
  cellOk_false_iff s

/-- everything else is written (comments never make `write` fail) -/
theorem write_accepts {m : Mappings} (h : writeOk m = true) : write? m = some (write m) := write?_of_writeOk h

/-- no file corruption: on the domain, splitting the written text into lines gives back exactly the lines `write` emitted
(no cell or comment can break the line structure) -/
theorem written_lines_intact {n : Nat} {m : Mappings} (h : writable n m = true) :
    lines (write m) = writeLines m := by
  obtain ⟨_, _, hns, _, hcls⟩ := writable_iff.mp h
  have hparsed := writeLines_parsed (fun s hs => (hns s hs).2) hcls
  unfold write
  exact lines_write _ hparsed.ok

/-! ## 4. reading never merges, loses or re-parents -/

/-- **one accepted line, one change**: `TreeStep κ` (file `Lemmas/TinyRead.lean`) lists the only possibilities —
nothing (`skip`); a fresh class appended under a key not yet present; or a change of the *last* class only: its absent
comment set, a fresh field / method appended under a new key, or a change of its *last* field (absent comment set) / *last*
method (absent comment set, fresh parameter appended under a new index, absent comment of its last parameter set). `κ` is
determined by the line and the kind of the member opened last (`lineKind`). -/
theorem step_appends {n : Nat} {s s' : St} {l : TLine} (h : step n s l = some s') :
    TreeStep (lineKind s.kind l) s.classes s'.classes ∧ s'.kind = kindAfter s.kind l :=
  ⟨(step_treeStep h).1, (step_treeStep h).2.1⟩

/-- **no merge, no loss**: a successful `read` yields exactly one class / field / method / parameter / comment per line
that `lineKinds` (a function of the text alone) classifies as such, and the mapping set has a comment exactly when the
header section has a comment line. The body (`bodyPart`) is what stands from the first line at indentation 0 on, the
header section (`headerPart`) what stands before it. -/
theorem read_counts {n : Nat} {t : List Nat} {m : Mappings} (h : read n t = some m) (κ : LineKind) (hκ : κ ≠ .skip) :
    countOf κ m.classes = (lineKinds .field (bodyPart (textLines t).tail)).count κ ∧
    docN m.doc = (headerDocLines (textLines t).tail).length := by
  obtain ⟨_, s, _, _, _, _, hsec, hrun, hc⟩ := read_some h
  rw [hc, run_counts κ hκ _ _ s hrun]
  refine ⟨?_, (headerSec_none_doc hsec).2⟩
  cases κ <;> simp [countOf] at hκ ⊢

/-- **no duplicate or misfiled entry**: in the result every key is unique and is the key derived from its entry (first
name, descriptor / index) -/
theorem read_wf {n : Nat} {t : List Nat} {m : Mappings} (h : read n t = some m) : wf m = true := by
  obtain ⟨_, s, _, _, _, _, _, hrun, hc⟩ := read_some h
  rw [wf_eq_wfCs, hc]
  exact run_wf hrun rfl

/-- **no re-parenting**: once a class entry is followed by another one it is final — whatever the rest of the text is,
it stays, unchanged, at its place (stated for `run`, the loop of `read` over the body, from any state) -/
theorem read_closed_classes_final {n : Nat} {s s' : St} {ls : List TLine} (h : run n s ls = some s')
    {closed : AList JStr Class} {last : JStr × Class} (hs : s.classes = closed ++ [last]) :
    ∃ rest, rest ≠ [] ∧ s'.classes = closed ++ rest :=
  (isRun n).invariant (I := fun s => ∃ rest, rest ≠ [] ∧ s.classes = closed ++ rest)
    (fun ⟨_, hne, hr⟩ h1 => treeStep_frozen (step_treeStep h1).1 hne hr) h ⟨[last], by simp, hs⟩

/-- **duplicate keys are errors** (positions `i < j` in the body, i.e. counted from the first line at indentation 0; `m`
the method line for parameters): two class lines with the same first name; two field (method) lines of one class with the
same descriptor and first name; two parameter lines of one method with the same index -/
theorem read_dup {n : Nat} {t : List Nat} {m i j : Nat} (h : dupAt (bodyPart (textLines t).tail) m i j = true) :
    read n t = none :=
  read_none_of (.inr fun _ => run_dupAt h)

theorem read_dup_class {n : Nat} {t : List Nat} {hd : TLine} {pre mid post : List TLine} {l1 l2 : TLine}
    (ht : textLines t = hd :: (pre ++ l1 :: (mid ++ l2 :: post)))
    (h1 : l1.indent = 0 ∧ l1.first = C_) (h2 : l2.indent = 0 ∧ l2.first = C_)
    (hk : l1.fields.head? = l2.fields.head?) : read n t = none :=
  read_none_of_block ht (.inr ⟨l1, rfl, h1.1⟩) fun _ => run_dup_class h1 h2 hk

/-- `hbody`: the two lines stand in the body, not in the header section (where `f` lines are ignored property lines) -/
theorem read_dup_field {n : Nat} {t : List Nat} {hd : TLine} {pre mid post : List TLine} {l1 l2 : TLine}
    (ht : textLines t = hd :: (pre ++ l1 :: (mid ++ l2 :: post))) (hbody : ∃ l ∈ pre, l.indent = 0)
    (h1 : l1.indent = 1 ∧ l1.first = F_) (h2 : l2.indent = 1 ∧ l2.first = F_) (hmid : ∀ l ∈ mid, 1 ≤ l.indent)
    (hk : l1.fields.take 2 = l2.fields.take 2) : read n t = none :=
  read_none_of_block ht (.inl hbody) fun _ => run_dup_member (.inl rfl) h1 h2 hmid hk

theorem read_dup_method {n : Nat} {t : List Nat} {hd : TLine} {pre mid post : List TLine} {l1 l2 : TLine}
    (ht : textLines t = hd :: (pre ++ l1 :: (mid ++ l2 :: post))) (hbody : ∃ l ∈ pre, l.indent = 0)
    (h1 : l1.indent = 1 ∧ l1.first = M_) (h2 : l2.indent = 1 ∧ l2.first = M_) (hmid : ∀ l ∈ mid, 1 ≤ l.indent)
    (hk : l1.fields.take 2 = l2.fields.take 2) : read n t = none :=
  read_none_of_block ht (.inl hbody) fun _ => run_dup_member (.inr rfl) h1 h2 hmid hk

theorem read_dup_param {n : Nat} {t : List Nat} {hd : TLine} {pre mid0 mid post : List TLine} {lm l1 l2 : TLine}
    (ht : textLines t = hd :: (pre ++ lm :: (mid0 ++ l1 :: (mid ++ l2 :: post)))) (hbody : ∃ l ∈ pre, l.indent = 0)
    (hm : lm.indent = 1 ∧ lm.first = M_) (hmid0 : ∀ l ∈ mid0, 2 ≤ l.indent)
    (h1 : l1.indent = 2 ∧ l1.first = P_) (h2 : l2.indent = 2 ∧ l2.first = P_) (hmid : ∀ l ∈ mid, 2 ≤ l.indent)
    (hk : (l1.fields.head?).bind parseUsize = (l2.fields.head?).bind parseUsize) : read n t = none :=
  read_none_of_block ht (.inl hbody) fun _ => run_dup_param hm hmid0 h1 h2 hmid hk

/-- two `f` lines with one key directly after the header are property lines of the header section, ignored like every
unknown line: `hbody` cannot be dropped. `tiny 2 0 a b / ⇥f I x y / ⇥f I x y` -/
theorem read_dup_field_header_witness :
    read 2 [116, 105, 110, 121, 9, 50, 9, 48, 9, 97, 9, 98, 10, 9, 102, 9, 73, 9, 120, 9, 121, 10, 9, 102, 9, 73, 9, 120, 9, 121, 10]
      = some { ns := [[97], [98]], doc := none, classes := [] } := by decide +kernel

/-- a line the reader rejects makes the whole run fail, whatever follows (and `read` fails when its run over the body does) -/
theorem read_error_propagates {n : Nat} {s0 s : St} {pre post : List TLine} {l : TLine}
    (h1 : run n s0 pre = some s) (h2 : step n s l = none) : run n s0 (pre ++ l :: post) = none := by
  rw [(isRun n).append, h1]
  simp only [Option.bind_some, run, h2]

/-- `tiny 2 0 a b / c A B / c A C` -/
example : read 2 [116, 105, 110, 121, 9, 50, 9, 48, 9, 97, 9, 98, 10, 99, 9, 65, 9, 66, 10, 99, 9, 65, 9, 67, 10] = none :=
  read_dup (m := 0) (i := 0) (j := 1) (by decide +kernel)

example : ∃ m, read 2 (write exM) = some m ∧ countOf .par m.classes = 2 ∧ countOf .doc m.classes = 3 := by
  exact ⟨canon exM, exM_read_write, by decide +kernel, by decide +kernel⟩

/-! ## 4b. the header's own section: the property lines (indentation 1) directly after the header line -/

/-- **where the comment of the mapping set comes from**: it is the (unescaped) cell of the comment line of the header
section — the lines before the first line at indentation 0 — and nothing that stands later can set or change it; there
is a comment exactly when there is such a line (`read_counts`) -/
theorem read_toplevel_doc {n : Nat} {t : List Nat} {m : Mappings} (h : read n t = some m) :
    m.doc = headerDoc (textLines t).tail ∧ ∀ l ∈ headerPart (textLines t).tail, l.indent = 1 := by
  obtain ⟨_, s, _, _, _, _, hsec, _, _⟩ := read_some h
  exact ⟨(headerSec_none_doc hsec).1, (headerSec_some hsec).2.1⟩

/-- **unknown header properties are ignored**: a property line other than `c` in the header section (e.g.
`⇥escaped-names`) can be deleted without changing the outcome of `read` — result or error -/
theorem header_unknown_property_ignored {n : Nat} {t t' : List Nat} {hd : TLine} {pre post : List TLine} {l : TLine}
    (ht : textLines t = hd :: (pre ++ l :: post)) (ht' : textLines t' = hd :: (pre ++ post))
    (hpre : ∀ x ∈ pre, x.indent ≠ 0) (hl : l.indent = 1) (hf : l.first ≠ C_) : read n t = read n t' :=
  read_congr (by rw [ht, ht']; rfl) (by rw [ht, ht']; exact headerSec_ignores pre none l post hpre hl hf)

/-- the same through the decidable position test the oracle uses -/
theorem header_unknown_property_ignored_at {n : Nat} {t t' : List Nat} {k : Nat}
    (hh : (textLines t).head? = (textLines t').head?) (h : ignoredAt (textLines t).tail (textLines t').tail k = true) :
    read n t = read n t' := by
  unfold ignoredAt at h
  split at h
  · rename_i l hl
    simp only [Bool.and_eq_true, List.all_eq_true, bne_iff_ne, ne_eq, beq_iff_eq] at h
    obtain ⟨⟨⟨hpre, h1⟩, hf⟩, h'⟩ := h
    refine read_congr hh ?_
    rw [h', List.eraseIdx_eq_take_drop_succ]
    exact (congrArg _ (split_one hl)).trans (headerSec_ignores _ none l _ hpre h1 hf)
  · simp at h

/-- **two comments in the header section are an error** (`add_comment`: only one comment is allowed) -/
theorem header_two_comments_error {n : Nat} {t : List Nat} {hd : TLine} {pre mid post : List TLine} {l1 l2 : TLine}
    (ht : textLines t = hd :: (pre ++ l1 :: (mid ++ l2 :: post)))
    (hpre : ∀ x ∈ pre, x.indent ≠ 0) (hmid : ∀ x ∈ mid, x.indent ≠ 0)
    (h1 : l1.indent = 1 ∧ l1.first = C_) (h2 : l2.indent = 1 ∧ l2.first = C_) : read n t = none :=
  read_none_of_headerBad (by rw [ht]; exact headerBad_two_comments hpre hmid h1 h2)

/-- **a line deeper than a property line is an error** in the header section (e.g. a comment at indentation 2) -/
theorem header_deeper_line_error {n : Nat} {t : List Nat} {hd : TLine} {pre post : List TLine} {l : TLine}
    (ht : textLines t = hd :: (pre ++ l :: post)) (hpre : ∀ x ∈ pre, x.indent ≠ 0) (hl : 2 ≤ l.indent) : read n t = none :=
  read_none_of_headerBad (by rw [ht]; exact headerBad_deep hpre hl)

/-- both through the decidable test the oracle uses -/
theorem read_header_bad {n : Nat} {t : List Nat} (h : headerBad (textLines t).tail = true) : read n t = none :=
  read_none_of_headerBad h

/-- **the header section is only accepted directly after the header**: later, an indented line directly after a line at
indentation 0 that is no class line (an ignored line opens nothing) is an error -/
theorem indented_after_ignored_toplevel_error {n : Nat} {t : List Nat} {hd : TLine} {pre post : List TLine} {l0 l : TLine}
    (ht : textLines t = hd :: (pre ++ l0 :: l :: post)) (h0 : l0.indent = 0 ∧ l0.first ≠ C_) (hl : 1 ≤ l.indent) :
    read n t = none :=
  read_none_of_block ht (.inr ⟨l0, rfl, h0.1⟩) fun _ => run_orphan_indent h0.1 h0.2 hl

/-- through the decidable position test the oracle uses -/
theorem indented_after_ignored_toplevel_error_at {n : Nat} {t : List Nat} {k : Nat}
    (h : orphanAt (textLines t).tail k = true) : read n t = none := by
  unfold orphanAt at h
  split at h
  · rename_i l0 l hl0 hl
    simp only [Bool.and_eq_true, beq_iff_eq, bne_iff_ne, ne_eq, decide_eq_true_eq] at h
    obtain ⟨⟨h0, hf⟩, h1⟩ := h
    refine read_none_of (.inr fun s => ?_)
    rw [split_one hl0, drop_of_getElem? hl, bodyPart_append (.inr ⟨l0, rfl, h0⟩)]
    exact (isRun n).append_none (fun _ => run_orphan_indent h0 hf h1) _ _
  · simp at h

/-- `tiny 2 0 a b / ⇥x y / ⇥c top / ⇥escaped-names / c A B` against the same text without the two unknown property lines -/
example : read 2 (jstr "tiny\t2\t0\ta\tb\n\tx\ty\n\tc\ttop\n\tescaped-names\nc\tA\tB\n")
    = read 2 (jstr "tiny\t2\t0\ta\tb\n\tc\ttop\nc\tA\tB\n") ∧
    read 2 (jstr "tiny\t2\t0\ta\tb\n\tc\ttop\nc\tA\tB\n") =
      some { ns := [[97], [98]], doc := some (jstr "top"),
             classes := [([65], { names := [some [65], some [66]], doc := none, fields := [], methods := [] })] } := by
  -- each text is read once: both sides are compared with the expected result
  refine (fun h => ⟨Eq.trans h.2 (Eq.symm h.1), h.1⟩ : _ ∧ _ → _) ?_
  simp -index only [jstr_ofList]
  decide +kernel

/-- two header comments; a header comment at indentation 2; a header comment after an ignored line at indentation 0 -/
example : read 2 (jstr "tiny\t2\t0\ta\tb\n\tc\tone\n\tc\ttwo\n") = none ∧
    read 2 (jstr "tiny\t2\t0\ta\tb\n\t\tc\tdeep\n") = none ∧
    read 2 (jstr "tiny\t2\t0\ta\tb\nx\n\tc\tlate\n") = none := by
  simp -index only [jstr_ofList]
  decide +kernel

/-- **after the first class there is no header section**: a `c` line at indentation 1 there is the comment of that class
(a second one the usual error), the comment of the set stays absent; other property lines there are the class's unknown
sub-lines (ignored) -/
theorem comment_after_class_is_class_comment :
    read 2 (jstr "tiny\t2\t0\ta\tb\nc\tA\tB\n\tc\tx\n\tescaped-names\n") =
      some { ns := [[97], [98]], doc := none,
             classes := [([65], { names := [some [65], some [66]], doc := some [120], fields := [], methods := [] })] } ∧
    read 2 (jstr "tiny\t2\t0\ta\tb\n\tc\ttop\nc\tA\tB\n\tc\tx\n\tc\ty\n") = none := by
  simp -index only [jstr_ofList]
  decide +kernel

/-! ## 5. regressions: inputs on which earlier versions of the code went wrong -/

/-- a comment `x\ny` (backslash, `n`) comes back as it was (the code before a79b1fd gave a line feed) -/
theorem comment_backslash_n_regression : read 2 (write exBsN) = some (canon exBsN) ∧ canon exBsN = exBsN := by decide +kernel

/-- a line feed and the two characters backslash, `n` are written differently -/
theorem escape_lf_vs_backslash_n_regression : escape [10] = [92, 110] ∧ escape [92, 110] = [92, 92, 110] := by decide +kernel

def exDoc (d : JStr) : Mappings :=
  { ns := [[97], [98]], doc := none,
    classes := [([65], { names := [some [65], some [66]], doc := some d, fields := [], methods := [] })] }

/-- a comment ending in CR and a comment containing TAB come back as they were -/
theorem doc_cr_tab_regression :
    read 2 (write (exDoc [100, 13])) = some (exDoc [100, 13]) ∧ read 2 (write (exDoc [100, 9, 101])) = some (exDoc [100, 9, 101]) := by
  decide +kernel

/-- the comment of the mapping set itself is written as a property line of the header section and comes back (the code
before 32a66ed rejected that line: "expected an indentation of 0") — also the empty comment and one
with two lines, a TAB, backslashes and a CR -/
theorem toplevel_doc_roundtrip :
    write? { exM3 with doc := some [116] } = some (write { exM3 with doc := some [116] }) ∧
    read 3 (write { exM3 with doc := some [116] }) = some (canon { exM3 with doc := some [116] }) ∧
    read 3 (write exTopEmpty) = some (canon exTopEmpty) ∧ (canon exTopEmpty).doc = some [] ∧
    read 2 (write exTop) = some (canon exTop) ∧ (canon exTop).doc = some [116, 111, 112, 10, 9, 92, 32, 92, 110, 13] :=
  ⟨by decide +kernel, by decide +kernel, exTopEmpty_read_write, by decide +kernel, exTop_read_write, by decide +kernel⟩

def exName (name : JStr) : Mappings :=
  { ns := [[97], [98]], doc := none,
    classes := [([65], { names := [some [65], some name], doc := none, fields := [], methods := [] })] }

def exDesc (desc : JStr) : Mappings :=
  { ns := [[97], [98]], doc := none,
    classes := [
      ([65],
        { names := [some [65], none], doc := none, methods := [],
          fields := [(([102], desc), { desc := desc, names := [some [102], none], doc := none })] })] }

/-- names with TAB, with a trailing CR, with LF and TABs (`B⏎c⇥C⇥D`, which the code before 4f3eba6 wrote, so that the
reader saw a second class) are refused by `write` -/
theorem name_tab_cr_lf_rejected :
    write? (exName [66, 9, 67]) = none ∧ write? (exName [66, 13]) = none ∧ write? (exName [66, 10]) = none ∧
    write? (exName [66, 10, 99, 9, 67, 9, 68]) = none ∧ write? (exDesc [73, 9, 120]) = none ∧
    write? { exName [66] with ns := [[97], [98, 13]] } = none := by decide +kernel

/-- a name or descriptor that is not UTF-8 (lone surrogate U+D800) is refused: an `Err`, where the code before 4f3eba6
panicked (name) or wrote U+FFFD (descriptor) -/
theorem non_utf8_rejected : write? (exName [66, 55296]) = none ∧ write? (exDesc [76, 55296, 59]) = none := by decide +kernel

/-- a class without a name in the first namespace is written but cannot be read back (outside `wf`) -/
theorem no_source_name_witness :
    read 2 (write { exBsN with classes := [([65], { names := [none, some [66]], doc := none, fields := [], methods := [] })] }) = none := by
  decide +kernel

end Thm.C03
