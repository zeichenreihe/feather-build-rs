import FeatherModel.Lemmas.DescGrammar
import FeatherModel.Lemmas.RemapperSearch
import FeatherModel.Lemmas.RemapProv
import FeatherModel.Lemmas.JStrLit

/-!
# C06 — remappers answer names and descriptors consistently with the mappings

The property theorems, the concrete mapping sets of their witnesses and examples (`mU`, `mD`, `mW`, `mG`, …), the member kind
`Kind` the statements are indexed by, and two helper lemmas (`bclassOf_sel`, `mapClassFail_spec`). Models: `Model/Remapper.lean`
(A/B remapper of `quill/src/remapper.rs`), `Model/MapDesc.lean` (`map_desc`), `Model/RemapperSpec.lean` (the automaton `accepts`),
`Model/RemapProv.lean`; specification of descriptors: `Spec/DescGrammar.lean` (JVMS §4.3 derivation trees and their printer).

Reading guide
* descriptors: `mapDesc_grammar` (shape preserved, exactly the class names rewritten, for every field / method / return
  descriptor of the grammar and any renaming), `mapDesc_tokens`/`mapDesc_accepts`/`mapDesc_rejects` (the same on raw
  strings, and the exact set of rejected strings), `mapDesc_rejects_automaton` (the decidable form the oracle evaluates);
* classes: `mapClass_spec` (counterpart of the last row naming the class in both namespaces, else unchanged),
  `mapClass_unmapped`, `mapClass_mapped`, `mapClassAny_array`, `remapperB_class`;
* members: `declares_spec` (what a class table contains), `member_resolution` (+ `fuel_independent`, `acyclic_fuel`):
  first declaration in pre-order over the provider's graph from the owner (the owner, then its super types in
  declaration order, recursively). `member_resolution_nearest` is the statement of the property text
  (classes without a mapping are searched through and contribute nothing), `member_resolution_unmapped_regression` a
  concrete hierarchy with such a class (the code before `c873813` let it hide the declarations of its super types),
  `unmapped_owner`, `member_resolution_own` (shadowing), `member_resolution_nowhere`;
* fallbacks: `fallback_spec`, `fallback_grammar`, `mref_array`, `ref_obj`;
* round trips X→Y→X: `roundtrip_class`, `roundtrip_desc`, `roundtrip_member` (+ `_query`) under the decidable hypothesis
  `injOn pairs img c` ("every row whose target is the image of `c` has source `c`": for a mapped name that it is the only
  source of its image, for an unmapped name that it is not a target), with `_witness`es outside it.
  `roundtrip_desc` additionally needs the images to be usable inside `L…;` (`validName`: non-empty, no `;`), which every
  checked `ObjClassName` satisfies; `roundtrip_desc_witness` is an unchecked name with a `;`.
* the provider carried into the other namespace (`JarSuperProv::remap`, `Model/RemapProv.lean`): `prov_remap_spec`
  (row-wise characterisation), `prov_remap_keys`, `prov_remap_set`, `prov_remap_keeps_edges` (every edge `(c, s)` of a
  surviving row becomes the edge `(map c, map s)`, nothing is dropped or added; names the mappings do not know stay,
  `prov_remap_unmapped`), `prov_remap_keeps_edges_inj` (unique keys + injective renaming: every row survives),
  `prov_remap_collision_witness` (two keys with one image: the earlier row's edges are gone — `IndexMap::insert`),
  `prov_remap_preorder` (the search order on the carried provider is the image of the search order), and the round trip
  of an *inherited* member through the carried provider, `roundtrip_inherited` (+ `roundtrip_inherited_hit`);
* history independence: `seq_pointwise`, `seq_history_independent`, `seq_prefix_irrelevant` (+ `seq_fresh`, `seq_length`,
  `seq_append`, `seq_reverse`, `seq_repeat`): the answers of one instance to a sequence of questions are its answers
  to every single question (ops `map-seq`, `oracle-seq-history-independent`).
-/

namespace Thm.C06
open Remapper MapDesc Spec.Desc

/-- On a raw string that is a sequence of non-`L` characters and `L name ;` groups, `map_desc` rewrites exactly the
names and copies everything else. -/
theorem mapDesc_tokens (f : JStr → JStr) (ts : List Tok) (h : ∀ t ∈ ts, t.WF) :
    mapDesc f (render ts) = some (render (ts.map (Tok.map f))) :=
  mapDesc_render f ts h

/-- For every field, method and return descriptor of the JVMS grammar (any array nesting, any class names) and every
renaming `f`: the result is the descriptor of the same shape with every class name `n` replaced by `f n`. -/
theorem mapDesc_grammar (f : JStr → JStr) (d : Desc) (h : d.WF) :
    mapDesc f (print d) = some (print (d.map f)) := by
  rw [← render_toks d, mapDesc_render f (toks d) (wf_toks d h), map_toks, render_toks]

/-- renaming a field type renames its class names, left to right -/
theorem mapDesc_grammar_names (f : JStr → JStr) (t : FieldTy) : (t.map f).names = t.names.map f := by
  induction t with
  | prim p => rfl
  | obj n => rfl
  | arr e ih => simpa [FieldTy.map, FieldTy.names] using ih

example : mapDesc (fun n => n ++ jstr "!") (jstr "([[LL;IL$;)[La/b;") = some (jstr "([[LL!;IL$!;)[La/b!;") := by
  simp -index only [jstr_ofList]
  decide +kernel

example : (Desc.method { params := [.arr (.arr (.obj (jstr "L"))), .prim .I], ret := some (.obj (jstr "é")) }).WF :=
  (parse?_sound (s := jstr "([[LL;I)Lé;") (by decide +kernel)).2

/-- `map_desc` accepts exactly the renderings of well-formed token lists -/
theorem mapDesc_accepts (f : JStr → JStr) (s : JStr) :
    (mapDesc f s).isSome ↔ ∃ ts, (∀ t ∈ ts, t.WF) ∧ s = render ts :=
  mapDesc_isSome_iff f s

/-- `map_desc` fails exactly on strings that, after a well-scanned prefix, have an `L` followed by `;` or by no `;` -/
theorem mapDesc_rejects (f : JStr → JStr) (s : JStr) :
    mapDesc f s = none ↔
      ∃ ts rest, (∀ t ∈ ts, t.WF) ∧ s = render ts ++ MapDesc.CH_L :: rest ∧
        (rest.head? = some MapDesc.SEMI ∨ MapDesc.SEMI ∉ rest) := by
  constructor
  · intro h
    obtain ⟨ts, hwf, hs | ⟨rest, hs, hbad⟩⟩ := scan_cases s
    · rw [hs, mapDesc_render f ts hwf] at h
      cases h
    · exact ⟨ts, rest, hwf, hs, hbad⟩
  · rintro ⟨ts, rest, hwf, rfl, hbad⟩
    exact mapDesc_bad f hwf hbad

/-- rejection does not depend on the mappings -/
theorem mapDesc_rejects_indep (f g : JStr → JStr) (s : JStr) : (mapDesc f s).isNone = (mapDesc g s).isNone := by
  rw [← Option.not_isSome, ← Option.not_isSome, mapDesc_isSome_accepts, mapDesc_isSome_accepts]

/-- decidable form: `map_desc` fails exactly on the strings outside the regular language
`( non-L | L non-; non-;* ; )*` (automaton `MapDesc.accepts`, evaluated by the oracle `oracle-desc-rejects`) -/
theorem mapDesc_rejects_automaton (f : JStr → JStr) (s : JStr) : mapDesc f s = none ↔ accepts s = false := by
  rw [← mapDesc_isSome_accepts f s]
  cases mapDesc f s <;> simp

example : accepts (jstr "([[LL;IL$;)[La/b;") = true ∧ accepts (jstr "(L;)V") = false ∧ accepts (jstr "[La") = false := by
  simp -index only [jstr_ofList]
  decide +kernel

/-- a descriptor of the grammar is never rejected -/
theorem mapDesc_grammar_total (f : JStr → JStr) (d : Desc) (h : d.WF) : mapDesc f (print d) ≠ none := by
  rw [mapDesc_grammar f d h]; simp

theorem mapClassFail_spec (m : Mappings) (src dst : Nat) (c : JStr) :
    mapClassFail (aTable m src dst) c = lastPair (classPairs m src dst) c :=
  lookup_tableOf c _

/-- `remapper_a(src, dst).map_class`: the `dst`-name of the *last* row that has `c` as `src`-name and a `dst`-name;
`c` itself if there is no such row. -/
theorem mapClass_spec (m : Mappings) (src dst : Nat) (c : JStr) :
    mapClass (aTable m src dst) c =
      match lastPair (classPairs m src dst) c with
      | some y => y
      | none => c := by
  rw [mapClass, mapClassFail_spec]
  rfl

/-- unmapped names are left alone -/
theorem mapClass_unmapped (m : Mappings) (src dst : Nat) (c : JStr)
    (h : ∀ p ∈ classPairs m src dst, p.1 ≠ c) : mapClass (aTable m src dst) c = c := by
  rw [mapClass_spec]
  cases hl : lastPair (classPairs m src dst) c with
  | none => rfl
  | some y => exact absurd rfl (h _ (lastPair_some hl))

/-- a mapped name goes to a name some row pairs it with -/
theorem mapClass_mapped (m : Mappings) (src dst : Nat) (c y : JStr)
    (h : mapClassFail (aTable m src dst) c = some y) : (c, y) ∈ classPairs m src dst := by
  rw [mapClassFail_spec] at h
  exact lastPair_some h

/-- the rows: both names present -/
theorem classPairs_spec (m : Mappings) (src dst : Nat) (p : JStr × JStr) :
    p ∈ classPairs m src dst ↔
      ∃ e ∈ m.classes, nameAt e.2.names src = some p.1 ∧ nameAt e.2.names dst = some p.2 :=
  mem_pairsOf

/-- namespaces that do not exist are refused -/
theorem remapperA_none_iff (m : Mappings) (src dst : Nat) :
    remapperA m src dst = none ↔ ¬ (src < m.ns.length ∧ dst < m.ns.length) := by
  unfold remapperA
  split
  · exact ⟨nofun, fun hn => absurd ‹_› hn⟩
  · exact ⟨fun _ => ‹_›, fun _ => rfl⟩

/-- the class half of `remapper_b(src, dst)` is `remapper_a(src, dst)` -/
theorem remapperB_class {m : Mappings} {src dst : Nat} {r : BTable} (h : remapperB m src dst = some r) (c : JStr) :
    mapClassFail (classTable r) c = mapClassFail (aTable m src dst) c ∧
    mapClass (classTable r) c = mapClass (aTable m src dst) c := by
  rw [classTable_eq h]
  exact ⟨rfl, rfl⟩

/-- array class names: the element type is rewritten like a field descriptor -/
theorem mapClassAny_array (t : ATable) (e : FieldTy) (h : e.WF) :
    mapClassAny t (printField (.arr e)) = some (printField (.arr (e.map (mapClass t)))) :=
  (if_pos rfl).trans (mapDesc_grammar (mapClass t) (.field (.arr e)) h)

theorem mapClassAny_obj (t : ATable) (c : JStr) (h : c.head? ≠ some Remapper.LBRACK) :
    mapClassAny t c = some (mapClass t c) := by
  simp [mapClassAny, h]

inductive Kind where
  | field | method

def Kind.sel : Kind → BClass → AList MemberKey MemberKey
  | .field => BClass.fields
  | .method => BClass.methods

def Kind.members : Kind → Class → List (JStr × Names)
  | .field => fieldMembers
  | .method => methodMembers

theorem bclassOf_sel (k : Kind) (ts td : ATable) (s d : Nat) (c : Class) :
    k.sel (bclassOf ts td s d c) = tableOf ((memberRows ts td s d (k.members c)).getD []) := by
  cases k <;> rfl

/-- the rows of a member table: members with both names, keyed by the `src`-name and the stored descriptor renamed
from the first namespace to `src`; values likewise for `dst` -/
theorem memberRows_spec (ts td : ATable) (s d : Nat) (mems : List (JStr × Names)) (rows : List (MemberKey × MemberKey))
    (h : memberRows ts td s d mems = some rows) :
    rows = mems.filterMap (fun e =>
      match nameAt e.2 s, nameAt e.2 d, mapDescWith ts e.1, mapDescWith td e.1 with
      | some nf, some nt, some df, some dt => some ((nf, df), (nt, dt))
      | _, _, _, _ => none) := by
  induction mems generalizing rows with
  | nil => cases h; rfl
  | cons e rest ih =>
    obtain ⟨desc, names⟩ := e
    rw [memberRows] at h
    rw [List.filterMap_cons]
    cases h1 : nameAt names s <;> cases h2 : nameAt names d <;> rw [h1, h2] at h
    -- a member without one of the names is skipped
    · exact ih rows h
    · exact ih rows h
    · exact ih rows h
    -- both names present: every later step succeeds, since the result is `some`
    · cases h3 : mapDescWith ts desc <;> cases h4 : mapDescWith td desc <;>
        cases h5 : memberRows ts td s d rest <;> rw [h3, h4, h5] at h <;> cases h
      rw [← ih _ h5]

/-- what a class of the B remapper declares for a key: taken from the last row carrying the class name (with a
`dst`-name); inside it the last member row with that key wins -/
theorem declares_spec (k : Kind) {m : Mappings} {src dst : Nat} {r : BTable} (h : remapperB m src dst = some r)
    (o : JStr) (key : MemberKey) :
    declares k.sel r key o =
      match selectedRow m src dst o with
      | none => none
      | some row =>
        match memberRows (aTable m 0 src) (aTable m 0 dst) src dst (k.members row) with
        | none => none
        | some rows => lastPair rows key := by
  rw [declares, remapperB_lookup h]
  cases selectedRow m src dst o with
  | none => rfl
  | some row =>
    simp only [Option.map_some, bclassOf_sel, lookup_tableOf]
    cases memberRows (aTable m 0 src) (aTable m 0 dst) src dst (k.members row) <;> rfl

/-- a definite answer does not depend on the fuel -/
theorem fuel_independent (sel : BClass → AList MemberKey MemberKey) (r : BTable) (sup : Supers) (key : MemberKey)
    {f1 f2 : Nat} {o : JStr} {r1 r2 : Option MemberKey}
    (h1 : mapMemberFail sel r sup f1 o key = some r1) (h2 : mapMemberFail sel r sup f2 o key = some r2) : r1 = r2 := by
  have a := mapMemberFail_mono sel r sup key (Nat.le_max_left f1 f2) h1
  have b := mapMemberFail_mono sel r sup key (Nat.le_max_right f1 f2) h2
  exact Option.some.inj (a.symm.trans b)

theorem fuel_mono (sel : BClass → AList MemberKey MemberKey) (r : BTable) (sup : Supers) (key : MemberKey)
    {f f' : Nat} (hle : f ≤ f') {o : JStr} {res : Option MemberKey}
    (h : mapMemberFail sel r sup f o key = some res) : mapMemberFail sel r sup f' o key = some res :=
  mapMemberFail_mono sel r sup key hle h

/-- `map_field_fail` / `map_method_fail` = the first class, in pre-order over the provider's graph from the owner (the
owner, then its super types in declaration order, recursively), that declares the key. `order` is that pre-order, which
exists as soon as the traversal from `o` terminates (`acyclic_fuel`). Classes without a mapping declare nothing
(`declares_unmapped`) but are searched through. -/
theorem member_resolution (sel : BClass → AList MemberKey MemberKey) (r : BTable) (sup : Supers) (key : MemberKey)
    {f f' : Nat} {o : JStr} {order : List JStr} (hd : dfs sup f o = some order) (hle : f ≤ f') :
    mapMemberFail sel r sup f' o key = some (order.findSome? (declares sel r key)) :=
  mapMemberFail_mono sel r sup key hle (mapMemberFail_dfs sel r sup key f o order hd)

/-- a class without a mapping declares nothing -/
theorem declares_unmapped (sel : BClass → AList MemberKey MemberKey) (r : BTable) (key : MemberKey) (c : JStr)
    (h : AList.lookup c r = none) : declares sel r key c = none := by
  simp [declares, h]

/-- **Nearest declaring super type.** The statement of the property text: the answer is the declaration of the first class
along the pre-order of the provider's graph that has a mapping declaring the key — no hypothesis about which classes of
the hierarchy have a mapping (the code before `c873813` stopped at a class without one). -/
theorem member_resolution_nearest (sel : BClass → AList MemberKey MemberKey) (r : BTable) (sup : Supers)
    (key : MemberKey) {f f' : Nat} {o : JStr} {order : List JStr} (hd : dfs sup f o = some order) (hle : f ≤ f') :
    mapMemberFail sel r sup f' o key =
      some ((order.filter fun c => (AList.lookup c r).isSome).findSome? (declares sel r key)) := by
  -- the first declaration is the head of the list of declarations, which the classes filtered out do not contribute to
  rw [member_resolution sel r sup key hd hle, ← List.head?_filterMap, ← List.head?_filterMap, List.filterMap_filter]
  congr 3
  funext c
  cases hl : AList.lookup c r with
  | none => exact declares_unmapped sel r key c hl
  | some _ => rfl

/-- more fuel does not change the pre-order -/
theorem dfs_fuel_mono (sup : Supers) {f f' : Nat} (hle : f ≤ f') {o : JStr} {order : List JStr}
    (h : dfs sup f o = some order) : dfs sup f' o = some order :=
  dfs_mono sup hle h

/-- what the pre-order is: the class followed by the pre-orders of its super types -/
theorem dfs_unfold (sup : Supers) (f : Nat) (o : JStr) :
    dfs sup (f + 1) o =
      match AList.lookup o sup with
      | none => some [o]
      | some ss =>
        match concatM (fun s => dfs sup f s) ss with
        | none => none
        | some l => some (o :: l) := by
  rw [dfs]
  rfl

/-- acyclic provider (a rank decreasing along its super-type edges): the fuel the driver uses, `number of provider
rows + 1`, always suffices -/
theorem acyclic_fuel (sup : Supers) (rank : JStr → Nat) (hr : Ranked sup rank) (o : JStr) :
    ∃ order, dfs sup (defaultFuel sup) o = some order :=
  dfs_ranked sup _ hr.count _ o (Nat.lt_succ_of_le List.countP_le_length)

theorem member_resolution_acyclic (sel : BClass → AList MemberKey MemberKey) (r : BTable) (sup : Supers)
    (rank : JStr → Nat) (hr : Ranked sup rank) (o : JStr) (key : MemberKey) :
    ∃ order, dfs sup (defaultFuel sup) o = some order ∧
      ∀ f, defaultFuel sup ≤ f → mapMemberFail sel r sup f o key = some (order.findSome? (declares sel r key)) := by
  obtain ⟨order, h⟩ := acyclic_fuel sup rank hr o
  exact ⟨order, h, fun f hf => member_resolution sel r sup key h hf⟩

/-- an owner without a mapping passes the question on to its super types (the code before `c873813` answered "no mapping") -/
theorem unmapped_owner (sel : BClass → AList MemberKey MemberKey) (r : BTable) (sup : Supers) (key : MemberKey)
    (f : Nat) (o : JStr) (h : AList.lookup o r = none) :
    mapMemberFail sel r sup (f + 1) o key =
      match AList.lookup o sup with
      | none => some none
      | some ss => firstSomeM (fun s => mapMemberFail sel r sup f s key) ss := by
  rw [mapMemberFail, declares_unmapped sel r key o h]
  rfl

/-- the owner declares the member itself: its own answer, whatever the super types say (shadowing) -/
theorem member_resolution_own (sel : BClass → AList MemberKey MemberKey) (r : BTable) (sup : Supers) (key v : MemberKey)
    (f : Nat) (o : JStr) (h : declares sel r key o = some v) : mapMemberFail sel r sup (f + 1) o key = some (some v) := by
  rw [mapMemberFail, h]

/-- declared nowhere along the search order: no answer (the caller falls back, `fallback_spec`) -/
theorem member_resolution_nowhere (sel : BClass → AList MemberKey MemberKey) (r : BTable) (sup : Supers) (key : MemberKey)
    {f f' : Nat} {o : JStr} {order : List JStr} (hd : dfs sup f o = some order) (hle : f ≤ f')
    (h : ∀ c ∈ order, declares sel r key c = none) : mapMemberFail sel r sup f' o key = some none := by
  rw [member_resolution sel r sup key hd hle]
  congr 1
  exact List.findSome?_eq_none_iff.mpr h

def fldU : MemberKey × Field :=
  ((jstr "f", jstr "I"), { desc := jstr "I", names := [some (jstr "f"), some (jstr "g")], doc := none })

def clsU (n t : String) (fields : AList MemberKey Field) : JStr × Class :=
  (jstr n, { names := [some (jstr n), some (jstr t)], doc := none, fields := fields, methods := [] })

/-- only `P` has a mapping (`P ↦ Q`, declaring `f:I ↦ g`) -/
def mU : Mappings := { ns := [jstr "official", jstr "named"], doc := none, classes := [clsU "P" "Q" [fldU]] }

/-- `C extends P` -/
def supU : Supers := [(jstr "C", [jstr "P"])]

/-- `P` declares `f:I ↦ g`, `C` (not in the mappings) extends `P`. The pre-order from `C` is `[C, P]`, its first declaration
of `f:I` is `g:I`, and that is the answer for `C.f` (the code before `c873813` answered "no mapping", leaving `C.f`
unrenamed while `P.f` became `g`). -/
theorem member_resolution_unmapped_regression :
    dfs supU (defaultFuel supU) (jstr "C") = some [jstr "C", jstr "P"] ∧
    (remapperB mU 0 1).bind (fun r => AList.lookup (jstr "C") r) = none ∧
    (remapperB mU 0 1).bind (fun r => [jstr "C", jstr "P"].findSome? (declares BClass.fields r (jstr "f", jstr "I"))) =
      some (jstr "g", jstr "I") ∧
    (remapperB mU 0 1).bind (fun r => mapMemberFail BClass.fields r supU (defaultFuel supU) (jstr "C") (jstr "f", jstr "I")) =
      some (some (jstr "g", jstr "I")) ∧
    (remapperB mU 0 1).bind (fun r => mapMember BClass.fields r supU (defaultFuel supU) (jstr "C") (jstr "f", jstr "I")) =
      some (some (jstr "g", jstr "I")) ∧
    (remapperB mU 0 1).bind (fun r => mapMember BClass.fields r supU (defaultFuel supU) (jstr "P") (jstr "f", jstr "I")) =
      some (some (jstr "g", jstr "I")) := by
  decide +kernel

/-- a diamond with a class that has no mapping in the middle: `D extends B, C`; `B extends A`; `C extends A`; `A` and `C`
declare `f:I` (to different names), `B` is not in the mappings. Pre-order `[D, B, A, C, A]`; the first declaration is
`A`'s, found through `B`, although `C` is a direct super type — depth first, in declaration order. -/
def mD : Mappings :=
  { ns := [jstr "official", jstr "named"], doc := none,
    classes := [clsU "A" "A1" [fldU], clsU "D" "D1" [],
      clsU "C" "C1" [((jstr "f", jstr "I"), { desc := jstr "I", names := [some (jstr "f"), some (jstr "h")], doc := none })]] }

def supD : Supers := [(jstr "D", [jstr "B", jstr "C"]), (jstr "B", [jstr "A"]), (jstr "C", [jstr "A"])]

example :
    dfs supD (defaultFuel supD) (jstr "D") = some [jstr "D", jstr "B", jstr "A", jstr "C", jstr "A"] ∧
    (remapperB mD 0 1).bind (fun r => AList.lookup (jstr "B") r) = none ∧
    (remapperB mD 0 1).bind (fun r => mapMemberFail BClass.fields r supD (defaultFuel supD) (jstr "D") (jstr "f", jstr "I")) =
      some (some (jstr "g", jstr "I")) ∧
    (remapperB mD 0 1).bind (fun r => mapMemberFail BClass.fields r supD (defaultFuel supD) (jstr "C") (jstr "f", jstr "I")) =
      some (some (jstr "h", jstr "I")) ∧
    (remapperB mD 0 1).bind (fun r => mapMemberFail BClass.fields r supD (defaultFuel supD) (jstr "B") (jstr "x", jstr "I")) =
      some none := by
  decide +kernel

/-- `map_field` / `map_method`: the search result if there is one, else the unchanged name with the remapped descriptor;
an error iff the descriptor is rejected -/
theorem fallback_spec (sel : BClass → AList MemberKey MemberKey) (r : BTable) (sup : Supers) (fuel : Nat)
    (o : JStr) (key : MemberKey) (res : Option MemberKey) (h : mapMemberFail sel r sup fuel o key = some res) :
    mapMember sel r sup fuel o key =
      some (match (generalizing := false) res with
        | some v => some v
        | none => (mapDescWith (classTable r) key.2).map (fun d => (key.1, d))) := by
  unfold mapMember fallback
  rw [h]
  cases res with
  | some v => rfl
  | none => cases mapDescWith (classTable r) key.2 <;> rfl

/-- the fallback on a descriptor of the grammar -/
theorem fallback_grammar (sel : BClass → AList MemberKey MemberKey) (r : BTable) (sup : Supers) (fuel : Nat)
    (o n : JStr) (d : Desc) (hd : d.WF) (h : mapMemberFail sel r sup fuel o (n, print d) = some none) :
    mapMember sel r sup fuel o (n, print d) = some (some (n, print (d.map (mapClass (classTable r))))) := by
  rw [fallback_spec sel r sup fuel o _ none h]
  simp [mapDescWith, mapDesc_grammar _ d hd]

/-- `map_method_ref` on an array owner: name and descriptor untouched, the class through `map_desc` -/
theorem mref_array (r : BTable) (sup : Supers) (fuel : Nat) (cls : JStr) (key : MemberKey)
    (h : cls.head? = some Remapper.LBRACK) :
    mapMethodRef r sup fuel cls key = some ((mapDescWith (classTable r) cls).map (fun c => (c, key))) := by
  unfold mapMethodRef
  simp only [h, if_true]
  cases mapDescWith (classTable r) cls <;> rfl

theorem mref_array_grammar (r : BTable) (sup : Supers) (fuel : Nat) (e : FieldTy) (he : e.WF) (key : MemberKey) :
    mapMethodRef r sup fuel (printField (.arr e)) key =
      some (some (printField (.arr (e.map (mapClass (classTable r)))), key)) := by
  rw [mref_array r sup fuel _ key rfl]
  exact congrArg (fun c => some (c.map (·, key))) (mapDesc_grammar _ (.field (.arr e)) he)

/-- references to members of object classes: member through `map_field`/`map_method`, class through `map_class` -/
theorem ref_obj (sel : BClass → AList MemberKey MemberKey) (r : BTable) (sup : Supers) (fuel : Nat) (cls : JStr)
    (key k' : MemberKey) (h : mapMember sel r sup fuel cls key = some (some k')) :
    mapRefObj sel r sup fuel cls key = some (some (mapClass (classTable r) cls, k')) := by
  unfold mapRefObj
  rw [h]

/-- class names: X→Y→X is the identity on every name that is the only source of its image (for an unmapped name:
that is not a target name) -/
theorem roundtrip_class (m : Mappings) (x y : Nat) (c : JStr)
    (h : injOn (classPairs m x y) (mapClass (aTable m x y) c) c = true) :
    mapClass (aTable m y x) (mapClass (aTable m x y) c) = c := by
  simp only [mapClass_eq_getD, mapClassFail, aTable, lookup_tableOf, classPairs_swap m x y] at h ⊢
  exact roundtrip_getD (classPairs m x y) c rfl h

/-- the same through the B remappers -/
theorem roundtrip_class_b {m : Mappings} {x y : Nat} {rf rb : BTable}
    (hf : remapperB m x y = some rf) (hb : remapperB m y x = some rb) (c : JStr)
    (h : injOn (classPairs m x y) (mapClass (classTable rf) c) c = true) :
    mapClass (classTable rb) (mapClass (classTable rf) c) = c := by
  rw [classTable_eq hf] at h ⊢
  rw [classTable_eq hb]
  exact roundtrip_class m x y c h

def fldW (n t : String) : MemberKey × Field :=
  ((jstr n, jstr "I"), { desc := jstr "I", names := [some (jstr n), some (jstr t)], doc := none })

def clsW (n t : String) (fields : AList MemberKey Field) : JStr × Class :=
  (jstr n, { names := [some (jstr n), some (jstr t)], doc := none, fields := fields, methods := [] })

def mW : Mappings :=
  { ns := [jstr "official", jstr "named"], doc := none,
    classes := [clsW "A" "Z" [], clsW "B" "Z" [fldW "f" "h", fldW "g" "h"], clsW "S" "a;b" []] }

/-- two classes with the same target: `A ↦ Z ↦ B` -/
theorem roundtrip_class_witness :
    injOn (classPairs mW 0 1) (mapClass (aTable mW 0 1) (jstr "A")) (jstr "A") = false ∧
    mapClass (aTable mW 1 0) (mapClass (aTable mW 0 1) (jstr "A")) = jstr "B" := by
  decide +kernel

/-- the hypothesis holds for the other class -/
example : injOn (classPairs mW 0 1) (mapClass (aTable mW 0 1) (jstr "S")) (jstr "S") = true := by decide +kernel

/-- descriptors: X→Y→X is the identity on every descriptor of the grammar all of whose class names are the only source of
their image, the images being usable inside `L…;` (non-empty, no `;` — the invariant of a checked `ObjClassName`,
`duke::tree::names::is_valid_obj_class_name`; the mapping readers construct names checked) -/
theorem roundtrip_desc (m : Mappings) (x y : Nat) (d : Desc) (hwf : d.WF)
    (hinj : ∀ c ∈ d.names, injOn (classPairs m x y) (mapClass (aTable m x y) c) c = true)
    (hval : ∀ c ∈ d.names, validName (mapClass (aTable m x y) c)) :
    ∃ d', mapDescWith (aTable m x y) (print d) = some d' ∧ mapDescWith (aTable m y x) d' = some (print d) := by
  rw [← render_toks d]
  exact ⟨_, mapDesc_render _ _ (wf_toks d hwf),
    mapDesc_render_back (wf_toks d hwf) (by rw [names_toks]; exact fun c hc => roundtrip_class m x y c (hinj c hc))
      (by rw [names_toks]; exact hval)⟩

theorem roundtrip_desc_b {m : Mappings} {x y : Nat} {rf rb : BTable}
    (hf : remapperB m x y = some rf) (hb : remapperB m y x = some rb) (d : Desc) (hwf : d.WF)
    (hinj : ∀ c ∈ d.names, injOn (classPairs m x y) (mapClass (classTable rf) c) c = true)
    (hval : ∀ c ∈ d.names, validName (mapClass (classTable rf) c)) :
    ∃ d', mapDescWith (classTable rf) (print d) = some d' ∧ mapDescWith (classTable rb) d' = some (print d) := by
  rw [classTable_eq hf] at hinj hval ⊢
  rw [classTable_eq hb]
  exact roundtrip_desc m x y d hwf hinj hval

/-- a target name containing `;` breaks the descriptor round trip although the class name itself is injectively named -/
theorem roundtrip_desc_witness :
    injOn (classPairs mW 0 1) (mapClass (aTable mW 0 1) (jstr "S")) (jstr "S") = true ∧
    (mapDescWith (aTable mW 0 1) (jstr "LS;")).bind (mapDescWith (aTable mW 1 0)) = some (jstr "La;b;") := by
  decide +kernel

/-- members: if the owner's table maps `key ↦ key'`, the owner is the only source of its image and, inside the row the
table was built from, `key` is the only source of `key'`, then the reverse remapper maps `key'` back to `key` in the
image of the owner. `row` and `rows` (`hrow`, `hrows`) only name that row and its member rows, which exist whenever the
owner has a table (`roundtrip_member_rows`). (Declared members; an *inherited* reference maps back through the provider of
the other namespace, `JarSuperProv::remap`: `roundtrip_inherited`.) -/
theorem roundtrip_member (k : Kind) {m : Mappings} {x y : Nat} {rf rb : BTable}
    (hf : remapperB m x y = some rf) (hb : remapperB m y x = some rb)
    {o : JStr} {cls : BClass} {row : Class} {rows : List (MemberKey × MemberKey)} {key key' : MemberKey}
    (ho : AList.lookup o rf = some cls) (hk : AList.lookup key (k.sel cls) = some key')
    (hrow : selectedRow m x y o = some row)
    (hrows : memberRows (aTable m 0 x) (aTable m 0 y) x y (k.members row) = some rows)
    (hc : injOn (classPairs m x y) cls.name o = true) (hm : injOn rows key' key = true) :
    declares k.sel rb key' cls.name = some key := by
  -- both remappers build the class's table from the same mapping row, the reverse one from the mirrored member rows
  rw [remapperB_lookup hf, hrow] at ho
  cases ho
  rw [bclassOf_sel, hrows] at hk
  rw [declares, remapperB_lookup hb, selectedRow_back _ _ hrow hc]
  simp only [Option.map_some, bclassOf_sel, memberRows_swap (aTable m 0 x) (aTable m 0 y) x y, hrows]
  exact roundtrip_lookup rows key key' hk hm

/-- the row and its member rows named in `roundtrip_member` exist whenever the owner has a table -/
theorem roundtrip_member_rows (k : Kind) {m : Mappings} {x y : Nat} {rf : BTable} (hf : remapperB m x y = some rf)
    {o : JStr} {cls : BClass} (ho : AList.lookup o rf = some cls) :
    ∃ row rows, selectedRow m x y o = some row ∧
      memberRows (aTable m 0 x) (aTable m 0 y) x y (k.members row) = some rows ∧ k.sel cls = tableOf rows := by
  rw [remapperB_lookup hf] at ho
  obtain ⟨row, hrow, rfl⟩ := Option.map_eq_some_iff.mp ho
  have hok := remapperB_rowOk hf hrow
  obtain ⟨rows, hrows⟩ : ∃ rows, memberRows (aTable m 0 x) (aTable m 0 y) x y (k.members row) = some rows := by
    cases k
    · exact Option.isSome_iff_exists.mp hok.1
    · exact Option.isSome_iff_exists.mp hok.2
  exact ⟨row, rows, hrow, hrows, by rw [bclassOf_sel, hrows]; rfl⟩

/-- two fields of one class with the same target name and descriptor: `B.f ↦ Z.h ↦ B.g` -/
theorem roundtrip_member_witness :
    (remapperB mW 0 1).bind (fun rf => declares BClass.fields rf (jstr "f", jstr "I") (jstr "B")) =
      some (jstr "h", jstr "I") ∧
    (remapperB mW 1 0).bind (fun rb => declares BClass.fields rb (jstr "h", jstr "I") (jstr "Z")) =
      some (jstr "g", jstr "I") := by
  decide +kernel

/-- `roundtrip_desc`: a method descriptor with an array of a mapped class, an unmapped class and a mapped return type -/
example :
    parse? (jstr "([LA;LX;)LD;") =
      some (.method { params := [.arr (.obj (jstr "A")), .obj (jstr "X")], ret := some (.obj (jstr "D")) }) ∧
    (∀ c ∈ [jstr "A", jstr "X", jstr "D"],
      injOn (classPairs mD 0 1) (mapClass (aTable mD 0 1) c) c = true ∧ validName (mapClass (aTable mD 0 1) c)) ∧
    mapDescWith (aTable mD 0 1) (jstr "([LA;LX;)LD;") = some (jstr "([LA1;LX;)LD1;") ∧
    mapDescWith (aTable mD 1 0) (jstr "([LA1;LX;)LD1;") = some (jstr "([LA;LX;)LD;") := by
  simp -index only [jstr_ofList]
  decide +kernel

/-- `roundtrip_member`: `A.f:I ↦ A1.g:I ↦ A.f:I` -/
example :
    injOn (classPairs mD 0 1) (jstr "A1") (jstr "A") = true ∧
    (remapperB mD 0 1).bind (fun rf => declares BClass.fields rf (jstr "f", jstr "I") (jstr "A")) = some (jstr "g", jstr "I") ∧
    (remapperB mD 1 0).bind (fun rb => declares BClass.fields rb (jstr "g", jstr "I") (jstr "A1")) = some (jstr "f", jstr "I") := by
  decide +kernel

/-! ## the provider carried into the other namespace: `JarSuperProv::remap`

`remapper_b(X→Y, prov)` answers questions about names of X and walks the super types of `prov`, which are names of X.
The way back, `remapper_b(Y→X, prov')`, needs the inheritance graph in names of Y: `prov' = JarSuperProv::remap(re, prov)`
with `re` the X→Y remapper (`src/specialized_methods`, `src/sus.rs` of the binary crate do exactly this). `t` below is the
class table of `re` (`classTable rf` for a B remapper, `aTable` for an A remapper; equal by `remapperB_class`). -/

/-- **Row-wise characterisation.** The carried provider answers for a name `k` with the image of the *last* row whose key
has the image `k` (`IndexMap::insert` replaces the value of a key met again) — key and super types through `map_class`,
the super types collected by a loop of `IndexSet::insert` (`setOf`) — and knows no other names. -/
theorem prov_remap_spec (t : ATable) (s : Supers) (k : JStr) :
    AList.lookup k (remapSupers t s) =
      (lastMatch (fun e => mapClass t e.1 == k) s).map fun e => setOf (e.2.map (mapClass t)) :=
  lookup_remapSupers t s k

/-- the names the carried provider knows are exactly the images of the names the provider knows -/
theorem prov_remap_keys (t : ATable) (s : Supers) (k : JStr) :
    (AList.lookup k (remapSupers t s)).isSome ↔ ∃ e ∈ s, mapClass t e.1 = k := by
  rw [lookup_remapSupers, Option.isSome_map, lastMatch_eq, List.find?_isSome]
  simp only [List.mem_reverse, beq_iff_eq]

/-- the `IndexSet` of a row: the same elements, each once; a duplicate-free list is kept as it is -/
theorem prov_remap_set (l : List JStr) :
    (∀ x, x ∈ setOf l ↔ x ∈ l) ∧ (setOf l).Nodup ∧ (l.Nodup → setOf l = l) :=
  ⟨mem_setOf l, nodup_setOf l, setOf_of_nodup l⟩

/-- `remap` works provider by provider -/
theorem prov_remap_vec (t : ATable) (ps : List Supers) (i : Nat) :
    (remapProvs t ps)[i]? = (ps[i]?).map (remapSupers t) := by
  simp [remapProvs]

/-- **Every edge is kept.** If `(c, ss)` is the row that survives for its image (the last row among the keys with the image
of `c`; with an injective renaming: every row, `prov_remap_keeps_edges_inj`), the carried provider has a row for `map c`,
and its super types are exactly the images of `ss`: every edge `(c, s)` became `(map c, map s)`, nothing was dropped,
nothing was added. Super types the mappings do not name are kept under their own name (`prov_remap_unmapped`). -/
theorem prov_remap_keeps_edges (t : ATable) (s : Supers) (c : JStr) (ss : List JStr)
    (hsurv : lastMatch (fun e => mapClass t e.1 == mapClass t c) s = some (c, ss)) :
    ∃ ss', AList.lookup (mapClass t c) (remapSupers t s) = some ss' ∧
      (∀ sup ∈ ss, mapClass t sup ∈ ss') ∧ (∀ x ∈ ss', ∃ sup ∈ ss, mapClass t sup = x) ∧ ss'.Nodup := by
  refine ⟨setOf (ss.map (mapClass t)), ?_, ?_, ?_, nodup_setOf _⟩
  · rw [prov_remap_spec, hsurv]; rfl
  · exact fun sup hs => (mem_setOf _ _).mpr (List.mem_map_of_mem hs)
  · exact fun x hx => List.mem_map.mp ((mem_setOf _ _).mp hx)

/-- names the remapper does not know are kept unchanged, as key and as super type -/
theorem prov_remap_unmapped (t : ATable) (c : JStr) (ss : List JStr) (h : ∀ x ∈ c :: ss, mapClassFail t x = none) :
    remapRow t (c, ss) = (c, setOf ss) := by
  have hm : ∀ x ∈ c :: ss, mapClass t x = x := fun x hx => by rw [mapClass, h x hx]
  rw [remapRow, hm c List.mem_cons_self,
    List.map_congr_left (g := id) fun x hx => hm x (List.mem_cons_of_mem _ hx), List.map_id]

/-- with the invariants of a `JarSuperProv` (unique keys, duplicate-free super types) and a renaming injective on the class
names involved, *every* row survives, with its super types in the same order -/
theorem prov_remap_keeps_edges_inj (t : ATable) (s : Supers) (c : JStr) (N : List JStr)
    (hinj : injOnList (mapClass t) N = true) (hc : c ∈ N) (hkeys : ∀ e ∈ s, e.1 ∈ N) (hsups : ∀ e ∈ s, ∀ x ∈ e.2, x ∈ N)
    (hnd : (s.map Prod.fst).Nodup) (hnds : ∀ e ∈ s, e.2.Nodup) :
    AList.lookup (mapClass t c) (remapSupers t s) = (AList.lookup c s).map (List.map (mapClass t)) :=
  lookup_remapSupers_inj t s c N hinj hc hkeys hsups hnd hnds

/-- the search order (`dfs`, what `map_*_fail` walks) on the carried `Vec` of providers from the image of `c` is the image of
the search order from `c` -/
theorem prov_remap_preorder (t : ATable) (ps : List Supers) (N : List JStr)
    (hinj : injOnList (mapClass t) N = true) (hN : ∀ x ∈ nodesOf ps, x ∈ N) (hwf : wfProvs ps = true)
    (fuel : Nat) (c : JStr) (hc : c ∈ N) :
    dfs (flattenProvs (remapProvs t ps)) fuel (mapClass t c) = (dfs (flattenProvs ps) fuel c).map (List.map (mapClass t)) :=
  dfs_remapProvs t ps N hinj hN hwf fuel c hc

/-- `A ↦ Z`, `B ↦ Z` -/
def tCol : ATable := [(jstr "A", jstr "Z"), (jstr "B", jstr "Z")]

/-- two keys with one image: the carried provider has one row `Z`, at the position of the first, with the super types of
the last — the edge `A → P` is gone. This is `IndexMap::insert`, and outside "everything the mappings name injectively". -/
theorem prov_remap_collision_witness :
    remapSupers tCol [(jstr "A", [jstr "P"]), (jstr "C", [jstr "A"]), (jstr "B", [jstr "Q"])] =
      [(jstr "Z", [jstr "Q"]), (jstr "C", [jstr "Z"])] ∧
    survives tCol [(jstr "A", [jstr "P"]), (jstr "C", [jstr "A"]), (jstr "B", [jstr "Q"])] (jstr "A") = false ∧
    survives tCol [(jstr "A", [jstr "P"]), (jstr "C", [jstr "A"]), (jstr "B", [jstr "Q"])] (jstr "B") = true := by
  decide +kernel

/-- **Round trip of an inherited member through the carried provider.** `rf` = `remapper_b(X→Y)`, `rb` = `remapper_b(Y→X)`,
`ps` the `Vec<JarSuperProv>` in names of X, `order` the search order from the owner `o`. If

* the providers satisfy their invariants and the X→Y class renaming is injective on the owner and the class names of the
  providers (`injOnList`, decidable: "the mappings name the classes involved injectively"),
* the X→Y remapper answers `key ↦ key'` for `o` — declared by `o` or inherited through any chain of super types, mapped
  or not (`hfwd`; by `member_resolution` this is `map_*_fail`'s answer),
* no class of the search order that does not declare `key` declares something else that is called `key'` in Y (`hmiss`:
  `key'` is not the image of another member on the way), and the classes declaring `key ↦ key'` declare `key' ↦ key` on the
  way back (`hhit`; by `roundtrip_member` / `roundtrip_inherited_hit` this follows from `injOn` for the class and the member),

then asking the Y→X remapper, built over `JarSuperProv::remap(rf, ps)`, about `key'` in the image of `o` gives `key` back. -/
theorem roundtrip_inherited (sel : BClass → AList MemberKey MemberKey) (rf rb : BTable) (ps : List Supers) (o : JStr)
    (key key' : MemberKey) {f f' : Nat} {order : List JStr}
    (hd : dfs (flattenProvs ps) f o = some order) (hle : f ≤ f')
    (hwf : wfProvs ps = true)
    (hinj : injOnList (mapClass (classTable rf)) (o :: nodesOf ps) = true)
    (hfwd : order.findSome? (declares sel rf key) = some key')
    (hmiss : ∀ d ∈ order, declares sel rf key d = none → declares sel rb key' (mapClass (classTable rf) d) = none)
    (hhit : ∀ d ∈ order, declares sel rf key d = some key' →
      declares sel rb key' (mapClass (classTable rf) d) = some key) :
    mapMemberFail sel rf (flattenProvs ps) f' o key = some (some key') ∧
    mapMemberFail sel rb (flattenProvs (remapProvs (classTable rf) ps)) f' (mapClass (classTable rf) o) key' =
      some (some key) := by
  constructor
  · rw [member_resolution sel rf _ key hd hle, hfwd]
  · have hd' := prov_remap_preorder (classTable rf) ps (o :: nodesOf ps) hinj
      (fun x hx => List.mem_cons_of_mem _ hx) hwf f o List.mem_cons_self
    rw [hd] at hd'
    rw [member_resolution sel rb _ key' hd' hle]
    congr 1
    exact findSome_back _ _ _ key key' order hfwd hmiss hhit

/-- `hhit` of `roundtrip_inherited` for one class, from the hypotheses of `roundtrip_member`: the class is the only source of
its image and, inside the row its table was built from, `key` is the only source of `key'` -/
theorem roundtrip_inherited_hit (k : Kind) {m : Mappings} {x y : Nat} {rf rb : BTable}
    (hf : remapperB m x y = some rf) (hb : remapperB m y x = some rb)
    {d : JStr} {cls : BClass} {row : Class} {rows : List (MemberKey × MemberKey)} {key key' : MemberKey}
    (ho : AList.lookup d rf = some cls) (hk : AList.lookup key (k.sel cls) = some key')
    (hrow : selectedRow m x y d = some row)
    (hrows : memberRows (aTable m 0 x) (aTable m 0 y) x y (k.members row) = some rows)
    (hc : injOn (classPairs m x y) cls.name d = true) (hm : injOn rows key' key = true) :
    declares k.sel rf key d = some key' ∧ declares k.sel rb key' (mapClass (classTable rf) d) = some key := by
  rw [mapClass_of_lookup ho]
  exact ⟨by simp [declares, ho, hk], roundtrip_member k hf hb ho hk hrow hrows hc hm⟩

/-- consequence for the queries: asking the reverse remapper about the mapped member of the mapped owner gives the
original back, whatever provider it uses (own table first) -/
theorem roundtrip_member_query (k : Kind) {m : Mappings} {x y : Nat} {rf rb : BTable}
    (hf : remapperB m x y = some rf) (hb : remapperB m y x = some rb)
    {o : JStr} {cls : BClass} {row : Class} {rows : List (MemberKey × MemberKey)} {key key' : MemberKey}
    (ho : AList.lookup o rf = some cls) (hk : AList.lookup key (k.sel cls) = some key')
    (hrow : selectedRow m x y o = some row)
    (hrows : memberRows (aTable m 0 x) (aTable m 0 y) x y (k.members row) = some rows)
    (hc : injOn (classPairs m x y) cls.name o = true) (hm : injOn rows key' key = true)
    (sup sup' : Supers) (f f' : Nat) :
    mapMemberFail k.sel rf sup (f + 1) o key = some (some key') ∧
    mapMemberFail k.sel rb sup' (f' + 1) (mapClass (classTable rf) o) key' = some (some key) := by
  obtain ⟨h1, h2⟩ := roundtrip_inherited_hit k hf hb ho hk hrow hrows hc hm
  exact ⟨member_resolution_own k.sel rf sup key key' f o h1, member_resolution_own k.sel rb sup' key' key f' _ h2⟩

/-- `a ↦ pkg/Base` declaring `x:I ↦ counter`, `c ↦ pkg/Child`, `d ↦ pkg/Direct`; `lib/Mid` is not in the mappings -/
def mG : Mappings :=
  { ns := [jstr "obf", jstr "named"], doc := none,
    classes := [
      clsW "a" "pkg/Base" [((jstr "x", jstr "I"), { desc := jstr "I", names := [some (jstr "x"), some (jstr "counter")], doc := none })],
      (jstr "c", { names := [some (jstr "c"), some (jstr "pkg/Child")], doc := none, fields := [], methods := [] }),
      (jstr "d", { names := [some (jstr "d"), some (jstr "pkg/Direct")], doc := none, fields := [], methods := [] })] }

/-- `c extends lib/Mid extends a`, `d extends a` -/
def psG : List Supers :=
  [[(jstr "c", [jstr "lib/Mid"]), (jstr "lib/Mid", [jstr "a", jstr "java/io/Serializable"]), (jstr "d", [jstr "a"]),
    (jstr "a", [jstr "java/lang/Object"])]]

/-- non-vacuity with an unmapped intermediate class: the carried provider keeps the edges into and out of `lib/Mid`
(`pkg/Child → lib/Mid → pkg/Base`); the hypotheses of `roundtrip_inherited` hold for the field `x:I` asked through `c`;
`c.x ↦ counter` on the way there and `pkg/Child.counter ↦ x` on the way back -/
example :
    (remapperB mG 0 1).map (fun rf => remapProvs (classTable rf) psG) =
      some [[(jstr "pkg/Child", [jstr "lib/Mid"]), (jstr "lib/Mid", [jstr "pkg/Base", jstr "java/io/Serializable"]),
        (jstr "pkg/Direct", [jstr "pkg/Base"]), (jstr "pkg/Base", [jstr "java/lang/Object"])]] ∧
    wfProvs psG = true ∧
    (remapperB mG 0 1).map (fun rf => injOnList (mapClass (classTable rf)) (jstr "c" :: nodesOf psG)) = some true ∧
    dfs (flattenProvs psG) 5 (jstr "c") =
      some [jstr "c", jstr "lib/Mid", jstr "a", jstr "java/lang/Object", jstr "java/io/Serializable"] ∧
    (remapperB mG 0 1).bind (fun rf => (remapperB mG 1 0).map fun rb =>
      [jstr "c", jstr "lib/Mid", jstr "a", jstr "java/lang/Object", jstr "java/io/Serializable"].all fun d =>
        match declares BClass.fields rf (jstr "x", jstr "I") d with
        | none => declares BClass.fields rb (jstr "counter", jstr "I") (mapClass (classTable rf) d) == none
        | some v => v == (jstr "counter", jstr "I") &&
            declares BClass.fields rb (jstr "counter", jstr "I") (mapClass (classTable rf) d) == some (jstr "x", jstr "I")) =
      some true ∧
    (remapperB mG 0 1).bind (fun rf =>
      mapMemberFail BClass.fields rf (flattenProvs psG) 5 (jstr "c") (jstr "x", jstr "I")) =
      some (some (jstr "counter", jstr "I")) ∧
    (remapperB mG 0 1).bind (fun rf => (remapperB mG 1 0).bind fun rb =>
      mapMemberFail BClass.fields rb (flattenProvs (remapProvs (classTable rf) psG)) 5 (jstr "pkg/Child")
        (jstr "counter", jstr "I")) = some (some (jstr "x", jstr "I")) := by
  simp -index only [mG, psG, clsW, jstr_ofList]
  decide +kernel

/-! ## sequences of questions to one instance: answers do not depend on history

These are simple statements about the model — `mapSeq` is written without any state carried from one question to the
next, because the Rust remappers have none (`&self` methods over immutable tables). Their value is in the tie: the op
`map-seq` runs a whole list of questions against ONE `remapper_a` / `remapper_b` instance of the implementation and
compares with `mapSeq`, and `oracle-seq-history-independent` compares, on the implementation alone, the answers of one
instance to the sequence with the answers of a newly built instance to every single question (in the model both are
`mapOne i`: an instance is its tables, so the right-hand side of `seq_pointwise` stands for either). A remapper that caches in a way that changes answers fails both. -/

/-- the answers of one instance to a sequence of questions are the answers to the single questions -/
theorem seq_pointwise (i : Instance) (qs : List Query) : mapSeq i qs = qs.map (mapOne i) := by
  -- `mapSeq i` is `List.map (mapOne i)` written out as a recursion
  set_option smartUnfolding false in rfl

theorem seq_fresh (i : Instance) (q : Query) : mapSeq i [q] = [mapOne i q] := rfl

theorem seq_length (i : Instance) (qs : List Query) : (mapSeq i qs).length = qs.length := by
  simp [seq_pointwise]

theorem seq_append (i : Instance) (xs ys : List Query) : mapSeq i (xs ++ ys) = mapSeq i xs ++ mapSeq i ys := by
  simp [seq_pointwise]

/-- **history independence**: whatever was asked before (`pre`) and is asked afterwards (`post`), the answer to `q` is
`mapOne i q`, what the instance answers when asked `q` alone -/
theorem seq_history_independent (i : Instance) (pre post : List Query) (q : Query) :
    (mapSeq i (pre ++ q :: post))[pre.length]? = some (mapOne i q) := by
  rw [seq_pointwise, List.getElem?_map, List.getElem?_append_right (Nat.le_refl _), Nat.sub_self]
  rfl

/-- the same, comparing two histories directly: the answer to `q` does not depend on the prefix before it -/
theorem seq_prefix_irrelevant (i : Instance) (pre pre' post post' : List Query) (q : Query) :
    (mapSeq i (pre ++ q :: post))[pre.length]? = (mapSeq i (pre' ++ q :: post'))[pre'.length]? := by
  rw [seq_history_independent, seq_history_independent]

/-- asking in the opposite order gives the same answers in the opposite order (hit-then-miss = miss-then-hit) -/
theorem seq_reverse (i : Instance) (qs : List Query) : mapSeq i qs.reverse = (mapSeq i qs).reverse := by
  simp [seq_pointwise]

/-- asking a question twice gives the same answer twice -/
theorem seq_repeat (i : Instance) (q : Query) (mid : List Query) :
    (mapSeq i (q :: mid ++ [q])).head? = (mapSeq i (q :: mid ++ [q])).getLast? := by
  rw [seq_append, seq_fresh, List.getLast?_concat]
  rfl

/-- non-vacuity, on the diamond `mD` / `supD` (`B` has no mapping and sits between `D` and `A`): a miss through `B`
(`B.x:I`, declared nowhere), then hits through the same class (`B.f:I` and `D.f:I`, both found in `A` through `B`), then
the miss again - every question is answered as if it were the first -/
example :
    (instanceOf mD 0 1 supD).map (fun i => mapSeq i
      [.member true (jstr "B") (jstr "x", jstr "I"), .member true (jstr "B") (jstr "f", jstr "I"),
       .member true (jstr "D") (jstr "f", jstr "I"), .member true (jstr "B") (jstr "x", jstr "I"),
       .cls false (jstr "D"), .desc true (jstr "[LA;")]) =
    some [.member none (some (jstr "x", jstr "I")) (some (jstr "B", jstr "x", jstr "I")),
          .member (some (jstr "g", jstr "I")) (some (jstr "g", jstr "I")) (some (jstr "B", jstr "g", jstr "I")),
          .member (some (jstr "g", jstr "I")) (some (jstr "g", jstr "I")) (some (jstr "D1", jstr "g", jstr "I")),
          .member none (some (jstr "x", jstr "I")) (some (jstr "B", jstr "x", jstr "I")),
          .cls (some (jstr "D1")) (jstr "D1") (some (jstr "D1")), .desc (some (jstr "[LA1;"))] := by
  simp -index only [mD, supD, clsU, fldU, jstr_ofList]
  decide +kernel

end Thm.C06
