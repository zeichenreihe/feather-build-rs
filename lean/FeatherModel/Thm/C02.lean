import FeatherModel.Lemmas.CodeWriteMain
import FeatherModel.Lemmas.CodeWitness
import FeatherModel.Lemmas.CodeTables
import FeatherModel.Lemmas.PoolWrite
import FeatherModel.Lemmas.CodeNoPanic
import FeatherModel.Lemmas.ClassParse
import FeatherModel.Lemmas.BootstrapWrite
import FeatherModel.Lemmas.FramePositions
import FeatherModel.Lemmas.FrameReadBackCode
import FeatherModel.Lemmas.ClassWriteFullExamples
import FeatherModel.Lemmas.ClassWriteFullNoPanic
import FeatherModel.Lemmas.ArmsWriterModel

/-!
# C02 — the class writer emits a well-formed file denoting exactly the given class

Sections 1–5 and 7 are about the models of `write_code` (`Model/CodeWrite.lean`: the code array with its branch-offset
fixpoint, the label table and the tables written from it) and of `PoolWrite` (`Model/PoolWrite.lean`). They quantify over **every**
instruction list of the modelled instruction set (operand-less instructions, pushes, `ldc` family, local variable
instructions in all three widths, `iinc`, `ret`, the 16 conditional branches, `goto`, `jsr`, both switches, field
access, `invokevirtual/special/static/interface`, `new`, `newarray`, `anewarray`, `checkcast`, `instanceof`,
`multianewarray`, `invokedynamic` — every variant of duke's `Instruction`; the pool index of an instruction with a
constant is the one the pool model hands out) — there is no bound on the length of the method, the
number of jumps or the number of attempts.

What "denotes" means is *not* defined by inverting the writer: `Spec/CodeDecode.lean` is a decoder transcribed from
JVMS §6.5 (absolute branch targets, `wide` forms, switch padding computed from the address) and `Spec/CodeDenote.lean`
says when a decoded sequence denotes an instruction list (`matchAll`), allowing `goto_w`/`jsr_w` for `goto`/`jsr` and
the trampoline `if<not c> +8; goto_w target` for `if<c> target`.

Section 6 is about framing: `Spec/ClassParse.lean` (a parser written from the structure definitions of JVMS §4) reads
back what `Model/ClassWrite.lean` lays out, so every count and `attribute_length` is exact.

Section 8 is about the `StackMapTable` attribute (the writer writes it from commit 6210871 on): `Model/FrameWrite.lean`
mirrors the Rust writer, `Spec/FrameDecode.lean` is a decoder transcribed from JVMS §4.7.4 and `Spec/FrameDenote.lean` says
when the decoded table denotes the frames of the tree. Section 9 runs C01's reader model on the written table.

Section 10 is about the whole class writer (`Model/ClassWriteFull.lean`): the written file is the JVMS encoding of a legal
layout denoting the class, C01's reader model reads it back, and `write` never panics. The last section compares the
tables generated from the Rust source of `write_code` with those of the reader, with the JVMS tables and with the model.

Statements that cover only the Code attribute, or only the fragment `InWriterFragment`, although the property speaks
about every class file are named `…_partial`. The `…_is_err` theorems of section 7 are the inputs on which the Rust code
before the commits named there panicked.
-/

namespace Thm.C02
open CodeWrite CodeDecode CodeDenote

/-! ## 1. The retry loop terminates -/

/-- a failed attempt marks an instruction that is not yet marked: `wide` grows strictly inside `{0, …, n-1}` -/
theorem retry_grows_wide {is : List Insn} {wide : List Nat} {s : St} {idx : Nat}
    (hs : pass wide is St.init = .ok s)
    (hres : resolve (labelPos s.pos s.w.size) s.unw.toList s.w = .retry idx) :
    idx < is.length ∧ wide.contains idx = false :=
  retry_fresh hs hres

/-- `n + 1` attempts always suffice: the fuel of `writeCode` is never exhausted -/
theorem write_terminates (is : List Insn) : writeCode is ≠ .outOfFuel :=
  write_fuel is (is.length + 1) [] (Nat.lt_succ_of_le (free_le _ _))

/-- any larger fuel gives the same result (the fuel is not observable) -/
theorem write_fuel_independent (is : List Insn) (fuel : Nat) (h : is.length < fuel) :
    write is fuel [] = writeCode is :=
  write_fuel_mono is (is.length + 1) [] fuel (write_terminates is) h

/-- at most `n` failed attempts precede the successful one -/
theorem write_attempts_bound (is : List Insn) (res : Result) (h : writeCode is = .ok res) :
    res.wide.length ≤ is.length := by
  have := write_wide_bound is _ [] res h (by simpa using free_le is.length [])
  omega

example : writeCode [.goto 1, .simple 0xb1] ≠ .outOfFuel := write_terminates _

/-! ## 2. A successful attempt: lengths, labels -/

/-- `code_length` is within the limits of JVMS §4.7.3 -/
theorem code_limit (is : List Insn) (res : Result) (h : writeCode is = .ok res) :
    1 ≤ res.code.length ∧ res.code.length ≤ 65535 :=
  (writeCode_ok is res h).length

/-- the label of instruction `k` is the position recorded for it -/
theorem label_of_instruction (is : List Insn) (res : Result) (h : writeCode is = .ok res) (k : Nat)
    (hk : k < is.length) : ∃ p, res.label k = some p ∧ res.pos[k]? = some p := by
  have hlt : k < res.pos.size := by rw [writeCode_pos_size is res h]; exact hk
  exact ⟨res.pos[k], by rw [label_eq is res h, if_neg (by omega)]; simp [hlt], by simp [hlt]⟩

/-- the last label is `code_length` exactly: the truncating `w.len() as u16` is not observable on success -/
theorem label_of_end (is : List Insn) (res : Result) (h : writeCode is = .ok res) :
    res.label is.length = some res.code.length := by
  rw [label_eq is res h, if_pos rfl]

/-- no other label has an offset -/
theorem label_unknown (is : List Insn) (res : Result) (h : writeCode is = .ok res) (t : Nat) (ht : is.length < t) :
    res.label t = none := by
  rw [label_eq is res h, if_neg (by omega)]
  exact Array.getElem?_eq_none (by rw [writeCode_pos_size is res h]; omega)

/-! ## 3. What was written denotes the instruction list -/

/-- **Reading back the code array.** For every list of well-typed instructions: if `write_code` succeeds, the
independent decoder decodes the whole code array, the decoded sequence denotes the instruction list, instruction `k`
starts at the position recorded for label `k`, and every jump, every switch default and arm lands on the position of
its label — whether it was written narrow, as `goto_w`/`jsr_w`, or as inverted-condition trampoline.
`_partial`: covers the code array of the Code attribute and the modelled instruction set; the property speaks about the
whole class file. -/
theorem code_write_read_partial (is : List Insn) (hwt : ∀ i ∈ is, wt i = true) (res : Result)
    (h : writeCode is = .ok res) :
    ∃ ds, decode res.code = some ds ∧ matchAll res.label (fun k => res.pos[k]?) 0 is ds = true := by
  obtain ⟨fins, hcf, hl⟩ := writeCode_layout is hwt res h
  obtain ⟨ds, hds, hm⟩ := layout_decode hl fins.flatten.length (Nat.le_refl _)
  exact ⟨ds, by simpa only [decode, hcf] using hds, hm⟩

/-- the same, instruction by instruction: at `pos[k]` stand bytes that decode (whatever follows) to instruction `k` -/
theorem insn_at_partial (is : List Insn) (hwt : ∀ i ∈ is, wt i = true) (res : Result)
    (h : writeCode is = .ok res) (k : Nat) (i : Insn) (hk : is[k]? = some i) :
    ∃ pc fin rest, res.pos[k]? = some pc ∧ Decoded res.label pc i fin ∧ res.code.drop pc = fin ++ rest := by
  obtain ⟨pc, fin, rest, h1, h2, h3, _⟩ := writeCode_insn is hwt res h k i hk
  exact ⟨pc, fin, rest, h1, h2, h3⟩

/-- **positions are exact**: the label following instruction `k` (the next instruction, or `code_length` after the
last one) is the position of `k` plus the number of bytes written for `k`; so the position of every instruction is the
sum of the encoded sizes before it, padding and long forms included -/
theorem attempt_positions (is : List Insn) (hwt : ∀ i ∈ is, wt i = true) (res : Result)
    (h : writeCode is = .ok res) (k : Nat) (i : Insn) (hk : is[k]? = some i) :
    ∃ pc fin rest, res.pos[k]? = some pc ∧ res.code.drop pc = fin ++ rest ∧ 1 ≤ fin.length ∧
      res.label (k + 1) = some (pc + fin.length) := by
  obtain ⟨pc, fin, rest, h1, h2, h3, h4⟩ := writeCode_insn is hwt res h k i hk
  refine ⟨pc, fin, rest, h1, h3, ?_, h4⟩
  cases h2 with
  | single d hl _ _ => exact hl
  | tramp c t g _ hl _ _ _ => omega

example : ∀ i ∈ [Insn.ifc .lt 2, .tableswitch 0 (-1) 0 [1, 2], .ldc 300 false], wt i = true := by decide

/-- every `goto`, decoded at its position, is a `goto` or `goto_w` to the position of its target label -/
theorem goto_lands (is : List Insn) (hwt : ∀ i ∈ is, wt i = true) (res : Result) (h : writeCode is = .ok res)
    (k t : Nat) (hk : is[k]? = some (.goto t)) :
    ∃ pc tp len, res.pos[k]? = some pc ∧ res.label t = some tp ∧
      decodeAt res.code pc = some (.goto (tp : Int), len) := by
  obtain ⟨pc, d, len, h1, hd, hden⟩ := writeCode_decoded_at is hwt res h k _ hk nofun
  cases d <;> simp only [denote1, Bool.false_eq_true] at hden
  obtain ⟨tp, htp, rfl⟩ := lands_eq hden
  exact ⟨pc, tp, len, h1, htp, hd⟩

/-- the same for `jsr` / `jsr_w` -/
theorem jsr_lands (is : List Insn) (hwt : ∀ i ∈ is, wt i = true) (res : Result) (h : writeCode is = .ok res)
    (k t : Nat) (hk : is[k]? = some (.jsr t)) :
    ∃ pc tp len, res.pos[k]? = some pc ∧ res.label t = some tp ∧
      decodeAt res.code pc = some (.jsr (tp : Int), len) := by
  obtain ⟨pc, d, len, h1, hd, hden⟩ := writeCode_decoded_at is hwt res h k _ hk nofun
  cases d <;> simp only [denote1, Bool.false_eq_true] at hden
  obtain ⟨tp, htp, rfl⟩ := lands_eq hden
  exact ⟨pc, tp, len, h1, htp, hd⟩

/-- every conditional branch is either the same branch to the position of its target, or the opposite branch over a
`goto_w` to that position (`if<not c> pc+8; goto_w target`) -/
theorem if_lands (is : List Insn) (hwt : ∀ i ∈ is, wt i = true) (res : Result) (h : writeCode is = .ok res)
    (k t : Nat) (c : Cond) (hk : is[k]? = some (.ifc c t)) :
    ∃ pc tp, res.pos[k]? = some pc ∧ res.label t = some tp ∧
      ((∃ len, decodeAt res.code pc = some (.ifc c.opcode (tp : Int), len)) ∨
       (decodeAt res.code pc = some (.ifc (negIf c.opcode) ((pc + 8 : Nat) : Int), 3) ∧
        decodeAt res.code (pc + 3) = some (.goto (tp : Int), 5))) := by
  obtain ⟨pc, fin, rest, h1, h2, h3, _⟩ := writeCode_insn is hwt res h k _ hk
  cases h2 with
  | single d hlen hdec hden =>
    cases d <;> simp only [denote1, Bool.false_eq_true] at hden
    simp only [Bool.and_eq_true, beq_iff_eq] at hden
    obtain ⟨rfl, hl⟩ := hden
    obtain ⟨tp, htp, rfl⟩ := lands_eq hl
    exact ⟨pc, tp, h1, htp, Or.inl ⟨fin.length, by simp only [decodeAt, h3]; exact hdec rest⟩⟩
  | tramp c' t' g hi hlen hd1 hd2 hland =>
    cases hi
    obtain ⟨tp, htp, rfl⟩ := lands_eq hland
    refine ⟨pc, tp, h1, htp, Or.inr ⟨by simp only [decodeAt, h3]; exact hd1 rest, ?_⟩⟩
    rw [decodeAt, ← List.drop_drop, h3]
    exact hd2 rest

/-- `tableswitch`: bounds unchanged, default and every arm land on the position of their labels (32-bit offsets,
padding as required at this address) -/
theorem tableswitch_lands (is : List Insn) (hwt : ∀ i ∈ is, wt i = true) (res : Result) (h : writeCode is = .ok res)
    (k d : Nat) (lo hi : Int) (tb : List Nat) (hk : is[k]? = some (.tableswitch d lo hi tb)) :
    ∃ pc dtp os len, res.pos[k]? = some pc ∧ res.label d = some dtp ∧
      decodeAt res.code pc = some (.tableswitch (dtp : Int) lo hi os, len) ∧ landsAll res.label tb os = true := by
  obtain ⟨pc, dd, len, h1, hd, hden⟩ := writeCode_decoded_at is hwt res h k _ hk nofun
  cases dd <;> simp only [denote1, Bool.false_eq_true] at hden
  simp only [Bool.and_eq_true, beq_iff_eq] at hden
  obtain ⟨⟨⟨hl, rfl⟩, rfl⟩, hall⟩ := hden
  obtain ⟨tp, htp, rfl⟩ := lands_eq hl
  exact ⟨pc, tp, _, len, h1, htp, hd, hall⟩

/-- `lookupswitch`: keys unchanged and in order, default and every arm land on the position of their labels -/
theorem lookupswitch_lands (is : List Insn) (hwt : ∀ i ∈ is, wt i = true) (res : Result) (h : writeCode is = .ok res)
    (k d : Nat) (ps : List (Int × Nat)) (hk : is[k]? = some (.lookupswitch d ps)) :
    ∃ pc dtp qs len, res.pos[k]? = some pc ∧ res.label d = some dtp ∧
      decodeAt res.code pc = some (.lookupswitch (dtp : Int) qs, len) ∧ landsPairs res.label ps qs = true := by
  obtain ⟨pc, dd, len, h1, hd, hden⟩ := writeCode_decoded_at is hwt res h k _ hk nofun
  cases dd <;> simp only [denote1, Bool.false_eq_true] at hden
  simp only [Bool.and_eq_true] at hden
  obtain ⟨tp, htp, rfl⟩ := lands_eq hden.1
  exact ⟨pc, tp, _, len, h1, htp, hd, hden.2⟩

/-- the zero bytes after a switch opcode at `p`: between 0 and 3, and the default offset starts at a multiple of 4;
it is the padding the decoder of JVMS §6.5 expects at that address -/
theorem switch_padding (p : Nat) : padLen p ≤ 3 ∧ (p + 1 + padLen p) % 4 = 0 ∧ padLen p = switchPad p := by
  exact ⟨padLen_le p, by unfold padLen; omega, padLen_eq_switchPad p⟩

/-- the writer's choice of form: `ldc` for indices up to 255, `ldc_w` above, `ldc2_w` for long and double -/
theorem ldc_form (idx : Nat) :
    encLdc idx true = 0x14 :: u16b idx ∧
    (idx ≤ 255 → encLdc idx false = [0x12, idx]) ∧ (255 < idx → encLdc idx false = 0x13 :: u16b idx) := by
  refine ⟨rfl, fun h => by simp [encLdc, h], fun h => ?_⟩
  have : ¬ idx ≤ 255 := by omega
  simp [encLdc, this]

/-! ## 4. Tables written from the label table -/

/-- exception table: one row per entry, each `pc` is the position of the label (with `label_of_instruction`,
`label_of_end`: the position of that instruction, resp. `code_length`) -/
theorem exception_rows_land (lp : Nat → Option Nat) (es : List Exc) (rows : List (List Nat))
    (h : excRows lp es = some rows) :
    rows.length = es.length ∧
    ∀ (j : Nat) (e : Exc), es[j]? = some e → ∃ a b c, lp e.start = some a ∧ lp e.stop = some b ∧
      lp e.handler = some c ∧ rows[j]? = some [a, b, c, e.catchIdx] := by
  fun_induction excRows lp es generalizing rows <;> cases h
  · exact ⟨rfl, nofun⟩
  · rename_i ih
    obtain ⟨hl, hj⟩ := ih _ ‹_›
    refine ⟨by simp [hl], fun j e' hje => ?_⟩
    cases j with
    | zero => cases hje; exact ⟨_, _, _, ‹_›, ‹_›, ‹_›, rfl⟩
    | succ j => exact hj j e' hje

theorem line_rows_land (lp : Nat → Option Nat) (ls : List (Nat × Nat)) (rows : List (List Nat))
    (h : lineRows lp ls = some rows) :
    rows.length = ls.length ∧
    ∀ (j : Nat) (e : Nat × Nat), ls[j]? = some e → ∃ a, lp e.1 = some a ∧ rows[j]? = some [a, e.2] := by
  fun_induction lineRows lp ls generalizing rows <;> cases h
  · exact ⟨rfl, nofun⟩
  · rename_i ih
    obtain ⟨hl, hj⟩ := ih _ ‹_›
    refine ⟨by simp [hl], fun j e' hje => ?_⟩
    cases j with
    | zero => cases hje; exact ⟨_, ‹_›, rfl⟩
    | succ j => exact hj j e' hje

/-- local variable tables: `start_pc` is the position of the start label and `start_pc + length` the position of
the end label (`length = pos end − pos start ≥ 0`) -/
theorem local_variable_rows_land (lp : Nat → Option Nat) (vs : List Lv) (rows : List (List Nat))
    (h : lvRows lp vs = .ok rows) :
    rows.length = vs.length ∧
    ∀ (j : Nat) (v : Lv), vs[j]? = some v → ∃ s e, lp v.start = some s ∧ lp v.stop = some e ∧ s ≤ e ∧
      rows[j]? = some [s, e - s, v.nameIdx, v.descIdx, v.index] := by
  fun_induction lvRows lp vs generalizing rows <;> cases h
  · exact ⟨rfl, nofun⟩
  · rename_i hr _ _ ih
    obtain ⟨hl, hj⟩ := ih _ ‹_›
    refine ⟨by simp [hl], fun j v' hjv => ?_⟩
    cases j with
    | zero =>
      cases hjv
      obtain ⟨s, e, hs, he, hle, rfl⟩ := range_ok hr
      exact ⟨s, e, hs, he, hle, rfl⟩
    | succ j => exact hj j v' hjv

/-- a local variable table is refused only for a label without offset or a range that ends before it starts -/
theorem local_variable_rows_error (lp : Nat → Option Nat) (vs : List Lv) (h : lvRows lp vs = .error .err) :
    ∃ v ∈ vs, lp v.start = none ∨ lp v.stop = none ∨ ∃ s e, lp v.start = some s ∧ lp v.stop = some e ∧ e < s := by
  fun_induction lvRows lp vs
  · cases h
  · exact ⟨_, List.mem_cons_self, (range_err ‹_›).2⟩
  · rename_i ih
    cases h
    obtain ⟨v', hv', hp⟩ := ih ‹_›
    exact ⟨v', List.mem_cons_of_mem _ hv', hp⟩
  · cases h

/-! ## 5. The constant pool -/

theorem pool_empty_wf : PoolWrite.empty.WF := PoolWrite.wf_empty

/-- `put` keeps the pool well formed (entries stacked without gaps from 1, two slots for long/double, no duplicates) -/
theorem pool_put_wf {p p' : PoolWrite.Pool} {e : PoolWrite.Entry} {i : Nat} (hw : p.WF)
    (h : PoolWrite.put p e = some (i, p')) : p'.WF :=
  PoolWrite.put_wf hw h

/-- hash-consing: putting an entry again returns the same index and changes nothing -/
theorem pool_put_idem {p p' : PoolWrite.Pool} {e : PoolWrite.Entry} {i : Nat}
    (h : PoolWrite.put p e = some (i, p')) : PoolWrite.put p' e = some (i, p') :=
  PoolWrite.put_idem h

/-- the index returned for `e` denotes `e`; indices returned earlier keep their meaning -/
theorem pool_put_get {p p' : PoolWrite.Pool} {e : PoolWrite.Entry} {i : Nat} (hw : p.WF)
    (h : PoolWrite.put p e = some (i, p')) :
    p'.get i = some e ∧ ∀ j e', p.get j = some e' → p'.get j = some e' :=
  ⟨PoolWrite.put_get hw h, fun _ _ hg => PoolWrite.put_stable hw h hg⟩

/-- indices are in `1 .. constant_pool_count - 1` (both slots of a long/double), the count stays a `u16` -/
theorem pool_index_range {p p' : PoolWrite.Pool} {e : PoolWrite.Entry} {i : Nat} (hw : p.WF)
    (hc : p.count ≤ 65535) (h : PoolWrite.put p e = some (i, p')) :
    1 ≤ i ∧ i + PoolWrite.slots e ≤ p'.count ∧ p'.count ≤ 65535 :=
  PoolWrite.put_range hw hc h

/-- `constant_pool_count = 1 + Σ slots` (JVMS §4.4.5: long and double take two) -/
theorem pool_count_exact {p : PoolWrite.Pool} (hw : p.WF) :
    p.count = 1 + (p.entries.map (fun x => PoolWrite.slots x.1)).sum :=
  PoolWrite.wf_count hw

/-- the index after a long/double is never handed out -/
theorem pool_two_slot {p : PoolWrite.Pool} (hw : p.WF) {e : PoolWrite.Entry} {i : Nat} (hg : p.get i = some e)
    (h2 : PoolWrite.slots e = 2) : p.get (i + 1) = none :=
  PoolWrite.upper_half_unused hw hg h2

/-- bootstrap methods are de-duplicated on (handle, argument indices): the same pair gets the same index of the
`BootstrapMethods` table and the table does not grow -/
theorem bootstrap_put_idem {bs bs' : List BootstrapWrite.Bsm} {b : BootstrapWrite.Bsm} {i : Nat}
    (h : BootstrapWrite.put bs b = some (i, bs')) : BootstrapWrite.put bs' b = some (i, bs') :=
  BootstrapWrite.put_idem h

/-- the index written into a `Dynamic` / `InvokeDynamic` entry designates that bootstrap method in the table, and
indices handed out earlier keep their meaning -/
theorem bootstrap_put_get {bs bs' : List BootstrapWrite.Bsm} {b : BootstrapWrite.Bsm} {i : Nat}
    (h : BootstrapWrite.put bs b = some (i, bs')) :
    bs'[i]? = some b ∧ ∀ (j : Nat) (b' : BootstrapWrite.Bsm), bs[j]? = some b' → bs'[j]? = some b' :=
  ⟨BootstrapWrite.put_get h, fun _ _ hj => BootstrapWrite.put_stable h hj⟩

/-- bootstrap method indices fit `u16` -/
theorem bootstrap_index_range {bs bs' : List BootstrapWrite.Bsm} {b : BootstrapWrite.Bsm} {i : Nat}
    (hl : bs.length ≤ 65536) (h : BootstrapWrite.put bs b = some (i, bs')) : i ≤ 65535 ∧ bs'.length ≤ 65536 :=
  BootstrapWrite.put_range hl h

/-- the pool refuses (cleanly) only when `constant_pool_count` would leave `u16` -/
theorem pool_put_fails {p : PoolWrite.Pool} {e : PoolWrite.Entry} (h : PoolWrite.put p e = none) :
    PoolWrite.find e p.entries = none ∧ p.count + PoolWrite.slots e > 65535 :=
  FramePool.put_none h

example : ∃ i p', PoolWrite.put PoolWrite.empty (.long 7) = some (i, p') ∧ p'.count = 3 := ⟨1, _, rfl, rfl⟩

/-! ## 6. Framing: every count and every `attribute_length` is exact

`Spec/ClassParse.lean` is a parser written from the structure definitions of JVMS §4 that trusts every count and
length field it reads. It reads back exactly what `Model/ClassWrite.lean` (the framing of `write_attribute`,
`write_code`, `write_method`, `write`) lays out. -/

/-- a list of attributes: each `attribute_length` is the length of the body that follows -/
theorem attribute_length_exact (as : List ClassWrite.Attr)
    (hr : ∀ a ∈ as, a.1 ≤ 65535 ∧ a.2.length ≤ 4294967295) (rest : Bytes) :
    ClassParse.attrs as.length (ClassWrite.attrsBytes as ++ rest) = some (as, rest) :=
  ClassParse.attrs_attrsBytes as hr rest

/-- `LineNumberTable` (w = 2) / `LocalVariable(Type)Table` (w = 5) bodies: the count is the number of rows, the body
ends with the last row -/
theorem table_attribute_exact (w : Nat) (rows : List (List Nat)) (hn : rows.length ≤ 65535)
    (hr : ∀ row ∈ rows, row.length = w ∧ ∀ x ∈ row, x ≤ 65535) :
    ClassParse.table w (ClassWrite.tableBody rows) = some rows := by
  open ClassParse ClassWrite PoolWrite in
  have h2 := rows_rowsBytes w rows hr []
  rw [List.append_nil] at h2
  exact table_step (u16_u16b _ hn _) h2

/-- the `Code` attribute: `code_length`, `exception_table_length`, `attributes_count` and the nested lengths are exact -/
theorem code_attribute_exact (c : ClassWrite.CodeAttr) (h : ClassParse.codeFits c) :
    ClassParse.code (ClassWrite.codeBody c) = some c := by
  open ClassParse ClassWrite PoolWrite in
  obtain ⟨h1, h2, h3, h4, h5, h6, h7⟩ := h
  have ha := attrs_attrsBytes c.attrs h7 []
  rw [List.append_nil] at ha
  have e : codeBody c = u16b c.maxStack ++ (u16b c.maxLocals ++ (u32b c.code.length ++ (c.code ++
      (u16b c.excRows.length ++ (rowsBytes c.excRows ++ (u16b c.attrs.length ++ attrsBytes c.attrs)))))) := by
    simp [codeBody]
  rw [e]
  exact code_step (u16_u16b _ h1 _) (u16_u16b _ h2 _) (u32_u32b _ h3 _) (takeN_append _ _) (u16_u16b _ h4 _)
    (rows_rowsBytes 4 _ h5 _) (u16_u16b _ h6 _) ha

/-- the whole file: `constant_pool_count` with the two-slot rule, interface / field / method / attribute counts and all
lengths are exact — the parser consumes the file to the last byte and returns the image that was written.
`_partial`: attribute bodies other than `Code` and the tables are opaque byte strings here, and the image is tied to
the Rust writer only for the skeleton class of the correspondence run. -/
theorem class_file_reads_back_partial (c : ClassWrite.ClassImg) (h : ClassParse.classFits c) :
    ClassParse.classFile (ClassWrite.classBytes c) = some c := by
  open ClassParse ClassWrite PoolWrite in
  obtain ⟨h1, h2, h3, h4, h5, h6, h7, h8, h9, h10, h11, h12, h13, h14, h15, h16⟩ := h
  have e : classBytes c = 0xca :: 0xfe :: 0xba :: 0xbe ::
      ([c.minor, c.major, c.poolCount].flatMap u16b ++ (c.poolEntries.flatMap entryBytes ++
      ([c.access, c.thisIdx, c.superIdx, c.interfaces.length].flatMap u16b ++ (c.interfaces.flatMap u16b ++
      (u16b c.fields.length ++ (c.fields.flatMap memberBytes ++ (u16b c.methods.length ++
      (c.methods.flatMap memberBytes ++ (u16b c.attrs.length ++ attrsBytes c.attrs))))))))) := by
    simp [classBytes, membersBytes]
  rw [e]
  have ha := attrs_attrsBytes c.attrs h16 []
  rw [List.append_nil] at ha
  refine classFile_step
    (row_u16bs [c.minor, c.major, c.poolCount]
      (by intro x hx; simp at hx; rcases hx with rfl | rfl | rfl <;> assumption) _)
    ?_
    (row_u16bs [c.access, c.thisIdx, c.superIdx, c.interfaces.length]
      (by intro x hx; simp at hx; rcases hx with rfl | rfl | rfl | rfl <;> assumption) _)
    (row_u16bs c.interfaces h10 _) (u16_u16b _ h11 _) (members_bytes _ h12 _) (u16_u16b _ h13 _)
    (members_bytes _ h14 _) (u16_u16b _ h15 _) ha
  rw [h4]
  exact pool_entries c.poolEntries h5 _ _ 1 (by have := @entries_le_count c.poolEntries; omega)

example : ClassParse.code (ClassWrite.codeBody ⟨1, 2, [0xb1], [[0, 1, 0, 0]], [(5, [0, 1, 0, 0, 0, 7])]⟩) =
    some ⟨1, 2, [0xb1], [[0, 1, 0, 0]], [(5, [0, 1, 0, 0, 0, 7])]⟩ := by decide

/-! ## 7. Failure is always a clean error

The Rust code before the commits 136eeb3 (`if_helper`: `opcode_pos + 1 + 2` in `u16`), dc41ad9 (`tableswitch`:
`high - low + 1` in `i32`) and f538c01 (`Labels::try_get_range`: `end - start` in `u16`) panicked at these three places;
the `…_is_err` theorems below are inputs that reach them. -/

/-- **Clean failure**: for every instruction list `write_code`'s code array succeeds or returns the
explicit error — it never panics and never loops. -/
theorem write_fails_cleanly (is : List Insn) :
    writeCode is ≠ .panic ∧ writeCode is ≠ .outOfFuel :=
  ⟨write_no_panic is _ _, write_terminates is⟩

/-- regression of 136eeb3: conditional branch at offset 65533 whose (backward) target is out of `i16` range: the long
form does not fit the method any more — an error -/
theorem if_at_end_is_err :
    writeCode (List.replicate 65533 (.simple 0) ++ [.ifc .eq 0]) = .err := by
  obtain ⟨s, hs, hw, hp, _, h0⟩ := pass_nops 0 65532 (by omega)
  exact if_end_err _ s (hs []) hw (by omega) h0 .eq

/-- regression of 136eeb3: the last label of a 65536-byte attempt is truncated to 0 (`w.len() as u16`); the jump to it is
then "out of range", the retry marks it wide, and the second attempt is an error -/
theorem truncated_last_label_is_err :
    writeCode (List.replicate 65533 (.simple 0) ++ [.ifc .eq 65534]) = .err := by
  obtain ⟨s, hs, hw, hp, hu, _⟩ := pass_nops 0 65532 (by omega)
  exact if_last_label_err _ s hs hw List.length_replicate hp hu .eq

/-- regression of dc41ad9: `high - low + 1` would leave `i32` — an error -/
theorem tableswitch_range_is_err :
    writeCode [.tableswitch 0 (-2147483648) 2147483647 [0]] = .err := by
  rfl

/-- regression of f538c01: a local variable whose range ends before it starts is refused with an error -/
theorem lv_range_is_err :
    ∃ res, writeCode [.simple 0, .simple 0xb1] = .ok res ∧ lvRows res.label [⟨1, 0, 5, 6, 1⟩] = .error .err := by
  refine ⟨⟨[0, 0xb1], #[0, 1], []⟩, by rfl, by rfl⟩

theorem local_variable_rows_no_panic (lp : Nat → Option Nat) (vs : List Lv) : lvRows lp vs ≠ .error .panic := by
  fun_induction lvRows lp vs <;> intro h
  · cases h
  · cases h; cases (range_err ‹_›).1
  · cases h; exact ‹_ ≠ _› ‹_›
  · cases h

/-! ## 8. The `StackMapTable` attribute

`Model/FrameWrite.lean` mirrors the writer: the `frames` vector of `write_code` (`writeF`, `collect`), the body closure
(`body`: `number_of_entries`, `offset_delta`, short / extended forms, `write_verification_type_info` with `put_class` /
`labels.try_get`) and `write_attribute` (`attr`). `Spec/FrameDecode.lean` decodes a `StackMapTable` body as JVMS §4.7.4
describes it (absolute offsets: `offset_delta` for the first frame, `previous + offset_delta + 1` afterwards);
`Spec/FrameDenote.lean` says when the decoded table denotes the frames of the tree (`denotesAll`: same offsets, same
kinds, `Object` indices designate a `CONSTANT_Class_info` of that name in the pool that is written, `Uninitialized`
offsets are the offsets of their labels). All theorems hold for any number of frames, locals and stack items. -/

section Frames
open FrameWrite FrameDecode FrameDenote

/-- the positions `write_code` records for the instructions increase strictly and fit `u16`: every instruction is
written with at least one byte (no `wt` hypothesis needed) -/
theorem instruction_positions_increase (is : List Insn) (res : Result) (h : writeCode is = .ok res) :
    res.pos.toList.Pairwise (· < ·) ∧ ∀ x ∈ res.pos.toList, x ≤ 65535 :=
  (writeCode_ok is res h).pos_u16

/-- **`frames.clear()`**: the retry loop with the `frames` vector (`writeF`) computes what the loop without it
computes, and on success the vector holds the pushes of the final attempt only — each frame once, at the final
position of its instruction (without the `clear` the frames of every abandoned attempt would precede them) -/
theorem frames_of_final_attempt (is : List Insn) (fs : List (Option Frame)) :
    (writeF is fs (is.length + 1) [] []).1 = writeCode is ∧
    ∀ res, writeCode is = .ok res → (writeF is fs (is.length + 1) [] []).2 = framesOf res fs :=
  writeF_spec is fs (is.length + 1) []

/-- the frames `write_code` hands to the `StackMapTable` writer are at strictly increasing `u16` offsets: the
hypothesis `Incr none` of the theorems below always holds there -/
theorem collected_frames_increase (is : List Insn) (res : Result) (h : writeCode is = .ok res)
    (fs : List (Option Frame)) : Incr none (framesOf res fs) :=
  framesOf_incr is res h fs

/-- …and its label table has `u16` offsets only -/
theorem result_labels_u16 (is : List Insn) (res : Result) (h : writeCode is = .ok res) : LpOk res.label :=
  fun t x ht => result_label_le is res h t x ht

/-- a frame is collected for instruction `k` exactly when instruction `k` carries one, and it is attached to the
position of instruction `k` -/
theorem collected_frame_iff (res : Result) (fs : List (Option Frame)) (pc : Nat) (f : Frame) :
    (pc, f) ∈ framesOf res fs ↔ ∃ k : Nat, res.pos[k]? = some pc ∧ fs[k]? = some (some f) := by
  simpa [framesOf] using mem_collect_iff res.pos.toList fs pc f

/-- **Reading back the `StackMapTable`.** For every list of frames at strictly increasing `u16` offsets (any number
of frames, locals, stack items): if the body closure succeeds, the decoder of JVMS §4.7.4 decodes the *whole* body
(nothing left over) to a table that denotes exactly these frames: as many, in this order, each at the same absolute
offset, of the same kind, every verification type the same item; an `Object` type's index designates a class entry of
that name in the resulting pool, an `Uninitialized` type's offset is the offset of its label. -/
theorem frames_write_read (lp : Nat → Option Nat) (hlp : LpOk lp) (p p' : PoolWrite.Pool) (hw : p.WF)
    (hc : p.count ≤ 65535) (fs : List (Nat × Frame)) (hinc : Incr none fs) (b : Bytes)
    (h : body lp p fs = .ok (b, p')) :
    ∃ ds, table b = some ds ∧ denotesAll lp p' fs ds = true := by
  exact (body_spec hlp fs ⟨hw, hc⟩ hinc h).2

/-- the same for the frames of a method: what `write_code` writes for the frames attached to the instructions `is`
decodes to frames that denote them -/
theorem code_frames_write_read (is : List Insn) (res : Result) (hres : writeCode is = .ok res)
    (fs : List (Option Frame)) (p p' : PoolWrite.Pool) (hw : p.WF) (hc : p.count ≤ 65535) (b : Bytes)
    (h : body res.label p (framesOf res fs) = .ok (b, p')) :
    ∃ ds, table b = some ds ∧ denotesAll res.label p' (framesOf res fs) ds = true :=
  frames_write_read res.label (result_labels_u16 is res hres) p p' hw hc _ (collected_frames_increase is res hres fs) b h

/-- **every frame stays attached to its instruction**: the decoded table has a frame at the position of
instruction `k` denoting the frame instruction `k` carries — and no other frames -/
theorem frame_at_instruction (is : List Insn) (res : Result) (hres : writeCode is = .ok res)
    (fs : List (Option Frame)) (p p' : PoolWrite.Pool) (hw : p.WF) (hc : p.count ≤ 65535) (b : Bytes)
    (h : body res.label p (framesOf res fs) = .ok (b, p')) :
    ∃ ds, table b = some ds ∧
      (∀ (k : Nat) (pc : Nat) (f : Frame), res.pos[k]? = some pc → fs[k]? = some (some f) →
        ∃ d, (pc, d) ∈ ds ∧ denotesF res.label p' f d = true) ∧
      (∀ (o : Nat) (d : DFrame), (o, d) ∈ ds →
        ∃ (k : Nat) (f : Frame), res.pos[k]? = some o ∧ fs[k]? = some (some f) ∧ denotesF res.label p' f d = true) := by
  obtain ⟨ds, h1, h2⟩ := code_frames_write_read is res hres fs p p' hw hc b h
  obtain ⟨_, h3, h4⟩ := denotesAll_spec _ _ h2
  refine ⟨ds, h1, fun k pc f hk hf => h3 pc f ((collected_frame_iff res fs pc f).mpr ⟨k, hk, hf⟩), fun o d hm => ?_⟩
  obtain ⟨f, hf, hden⟩ := h4 o d hm
  obtain ⟨k, hk1, hk2⟩ := (collected_frame_iff res fs o f).mp hf
  exact ⟨k, f, hk1, hk2, hden⟩

/-- `number_of_entries` is exact: the body starts with the number of frames as a `u2`, at most 65535, and the
decoder finds exactly that many frames -/
theorem frames_count_exact (lp : Nat → Option Nat) (hlp : LpOk lp) (p p' : PoolWrite.Pool) (hw : p.WF)
    (hc : p.count ≤ 65535) (fs : List (Nat × Frame)) (hinc : Incr none fs) (b : Bytes)
    (h : body lp p fs = .ok (b, p')) :
    fs.length ≤ 65535 ∧ (∃ bs, b = u16b fs.length ++ bs) ∧ ∀ ds, table b = some ds → ds.length = fs.length := by
  obtain ⟨_, ds, h1, h2⟩ := body_spec hlp fs ⟨hw, hc⟩ hinc h
  obtain ⟨hl, bs, hb, _⟩ := body_ok h
  refine ⟨hl, ⟨bs, hb⟩, fun ds' hds' => ?_⟩
  rw [h1] at hds'; cases hds'
  exact (denotesAll_spec _ _ h2).1

/-- the pool only grows while the frames are written: it stays well formed, the count stays a `u16`, and every index
handed out before keeps its meaning (so the indices used by the instructions and the exception table stay valid) -/
theorem frames_pool_grows (lp : Nat → Option Nat) (hlp : LpOk lp) (p p' : PoolWrite.Pool) (hw : p.WF)
    (hc : p.count ≤ 65535) (fs : List (Nat × Frame)) (hinc : Incr none fs) (b : Bytes)
    (h : body lp p fs = .ok (b, p')) :
    p'.WF ∧ p'.count ≤ 65535 ∧ p.count ≤ p'.count ∧ ∀ j e, p.get j = some e → p'.get j = some e := by
  have g := (body_spec hlp fs ⟨hw, hc⟩ hinc h).1
  exact ⟨g.good.1, g.good.2, g.count, g.le⟩

/-- **short or extended form**: `same_frame` (`frame_type = offset_delta`) and `same_locals_1_stack_item_frame`
(`frame_type = 64 + offset_delta`) are used exactly for `offset_delta ≤ 63`, otherwise `same_frame_extended` (251) and
`same_locals_1_stack_item_frame_extended` (247) with a `u2 offset_delta`; chop, append and full frames always carry the
`u2` -/
theorem frame_form_choice (lp : Nat → Option Nat) (p : PoolWrite.Pool) (d : Nat) :
    (d ≤ 63 → writeFrame lp p d .same = .ok ([d], p)) ∧
    (63 < d → writeFrame lp p d .same = .ok (251 :: u16b d, p)) ∧
    (∀ v b p', writeVType lp p v = .ok (b, p') →
      (d ≤ 63 → writeFrame lp p d (.same1 v) = .ok ((64 + d) :: b, p')) ∧
      (63 < d → writeFrame lp p d (.same1 v) = .ok (247 :: (u16b d ++ b), p'))) ∧
    (∀ k, 1 ≤ k → k ≤ 3 → writeFrame lp p d (.chop k) = .ok ((251 - k) :: u16b d, p)) := by
  refine ⟨fun h => by simp [writeFrame, h], fun h => ?_, fun v b p' hv => ⟨fun h => by simp [writeFrame, hv, h], fun h => ?_⟩,
    fun k h1 h2 => by simp [writeFrame, h1, h2]⟩
  · have : ¬ d ≤ 63 := by omega
    simp [writeFrame, this]
  · have : ¬ d ≤ 63 := by omega
    simp [writeFrame, hv, this]

/-- `offset_delta` is the offset itself for the first frame and the distance to the previous frame minus one
afterwards; the decoder's rule (`previous + offset_delta + 1`) gives the offset back -/
theorem offset_delta_exact (prev : Option Nat) (o : Nat)
    (h : match prev with | none => True | some q => q < o) (ho : o ≤ 65535) :
    ∃ d, offsetDelta prev o = .ok d ∧ d ≤ 65535 ∧ applyOffset prev d = o :=
  offsetDelta_ok h ho

/-- an `Uninitialized` type is written as tag 8 and the bytecode offset of its label -/
theorem uninitialized_offset_is_label_position (lp : Nat → Option Nat) (p p' : PoolWrite.Pool) (l : Nat) (b : Bytes)
    (h : writeVType lp p (.uninit l) = .ok (b, p')) : ∃ o, lp l = some o ∧ b = 8 :: u16b o ∧ p' = p := by
  simp only [writeVType] at h
  split at h
  · cases h
  · rename_i o ho
    cases h
    exact ⟨o, ho, rfl, rfl⟩

/-- an `Object` type is written as tag 7 and the index `put_class` returns; that index designates a
`CONSTANT_Class_info` naming the class, now and in every later pool -/
theorem object_index_is_class (lp : Nat → Option Nat) (p p' : PoolWrite.Pool) (hw : p.WF) (hc : p.count ≤ 65535)
    (c : JStr) (b : Bytes) (h : writeVType lp p (.object c) = .ok (b, p')) :
    ∃ i, PoolWrite.putClass p c = some (i, p') ∧ b = 7 :: u16b i ∧ i ≤ 65535 ∧ clsAt p' c i = true ∧
      ∀ q : PoolWrite.Pool, (∀ j e, p'.get j = some e → q.get j = some e) → clsAt q c i = true := by
  simp only [writeVType] at h
  split at h
  · cases h
  · rename_i i p1 hp
    cases h
    obtain ⟨_, hcl, hi⟩ := FramePool.putClass_good ⟨hw, hc⟩ hp
    exact ⟨i, hp, rfl, hi, hcl, fun q hq => FramePool.clsAt_le hq hcl⟩

/-- **Clean failure**: for frames at increasing offsets neither the body closure nor `write_attribute` around it
panics (the unchecked `offset - previous - 1` cannot underflow) -/
theorem frames_write_fails_cleanly (lp : Nat → Option Nat) (p : PoolWrite.Pool) (fs : List (Nat × Frame))
    (hinc : Incr none fs) : body lp p fs ≠ .error .panic ∧ attr lp p fs ≠ .error .panic :=
  ⟨fun h => Fail.noConfusion (body_err lp fs p hinc _ h), fun h => Fail.noConfusion (attr_err lp fs p hinc _ h)⟩

/-- …so the `StackMapTable` of a method is written or refused with the explicit error, whatever frames the
instructions carry -/
theorem code_frames_never_panic (is : List Insn) (res : Result) (hres : writeCode is = .ok res)
    (fs : List (Option Frame)) (p : PoolWrite.Pool) : attr res.label p (framesOf res fs) ≠ .error .panic :=
  (frames_write_fails_cleanly res.label p _ (collected_frames_increase is res hres fs)).2

/-- success ⇒ at most 65535 frames, every chop count and append length in `1..=3`, every count a `u2`, every
`Uninitialized` label has an offset -/
theorem frames_write_ok_only (lp : Nat → Option Nat) (p p' : PoolWrite.Pool) (fs : List (Nat × Frame)) (b : Bytes)
    (h : body lp p fs = .ok (b, p')) : tableOk lp fs = true := by
  obtain ⟨hlen, bs, _, h1⟩ := body_ok h
  simp only [tableOk, Bool.and_eq_true, decide_eq_true_eq]
  exact ⟨hlen, writeFrames_ok_imp fs h1⟩

/-- **Failure, exactly.** While the constant pool has room for the classes of the `Object` types (two entries each
at most), writing fails — with the explicit error — exactly when the table is not expressible: more than 65535
frames, a chop count or append length outside `1..=3`, more than 65535 locals or stack items, or an `Uninitialized`
label without bytecode offset. -/
theorem frames_write_fails_iff (lp : Nat → Option Nat) (p : PoolWrite.Pool) (fs : List (Nat × Frame))
    (hinc : Incr none fs) (hroom : p.count + 2 * objectsAll fs ≤ 65535) :
    body lp p fs = .error .err ↔ tableOk lp fs = false := by
  have := body_out lp fs p hinc
  cases hb : body lp p fs with
  | ok r => rw [hb] at this; simp [this.1]
  | error e =>
    rw [hb] at this
    obtain ⟨rfl, h | h⟩ := this
    · simp [h]
    · omega

/-- without the room hypothesis the only further reason is the constant pool overflowing (`put_class`) -/
theorem frames_write_error_reasons (lp : Nat → Option Nat) (p : PoolWrite.Pool) (fs : List (Nat × Frame))
    (hinc : Incr none fs) (e : Fail) (h : body lp p fs = .error e) :
    e = .err ∧ (tableOk lp fs = false ∨ 65535 < p.count + 2 * objectsAll fs) := by
  have := body_out lp fs p hinc
  rwa [h] at this

/-- `write_attribute`: the body closure runs first (the classes of `Object` types enter the pool), then the name
`StackMapTable`, and `attribute_length` fits `u4`; no frames, no attribute -/
theorem frames_attribute_layout (lp : Nat → Option Nat) (p p2 : PoolWrite.Pool) (fs : List (Nat × Frame))
    (a : Option (Nat × Bytes)) (h : attr lp p fs = .ok (a, p2)) :
    (fs = [] → a = none ∧ p2 = p) ∧
    (fs ≠ [] → ∃ i b p1, a = some (i, b) ∧ body lp p fs = .ok (b, p1) ∧
      PoolWrite.putUtf8 p1 sStackMapTable = some (i, p2) ∧ b.length ≤ 4294967295) := by
  revert h
  fun_cases attr lp p fs <;> intro h <;> cases h
  · rename_i he
    exact ⟨fun _ => ⟨rfl, rfl⟩, fun hne => absurd (List.isEmpty_iff.mp he) hne⟩
  · rename_i he b p1 hb i hlen hp
    exact ⟨fun h0 => absurd (List.isEmpty_iff.mpr h0) he, fun _ => ⟨i, b, p1, rfl, hb, hp, by omega⟩⟩

/-- its `attribute_length` is the length of the body: the framing parser of section 6 reads the attribute back -/
theorem frames_attribute_length_exact (i : Nat) (b rest : Bytes) (hi : i ≤ 65535) (hb : b.length ≤ 4294967295) :
    ClassParse.attrs 1 (ClassWrite.attrsBytes [(i, b)] ++ rest) = some ([(i, b)], rest) :=
  ClassParse.attrs_attrsBytes [(i, b)] (fun a ha => by simp at ha; subst ha; exact ⟨hi, hb⟩) rest

/-- regression shapes: a chop frame removing 0 or 4 locals, an append frame adding 0 or 4, an `Uninitialized` type
whose label no instruction carries — all refused with the explicit error -/
theorem chop_append_out_of_range_is_err (lp : Nat → Option Nat) (p : PoolWrite.Pool) (o : Nat) :
    body lp p [(o, .chop 0)] = .error .err ∧ body lp p [(o, .chop 4)] = .error .err ∧
    body lp p [(o, .append [])] = .error .err ∧
    body lp p [(o, .append [.int, .int, .int, .int])] = .error .err := by
  refine ⟨?_, ?_, ?_, ?_⟩ <;> simp [body, writeFrames, offsetDelta, writeFrame]

theorem uninitialized_unknown_label_is_err (lp : Nat → Option Nat) (p : PoolWrite.Pool) (o l : Nat) (hl : lp l = none) :
    body lp p [(o, .same1 (.uninit l))] = .error .err := by
  simp [body, writeFrames, offsetDelta, writeFrame, writeVType, hl]

/-- non-vacuity: a method `nop; new C; return` (label 1 on the `new`) with an append frame at offset 0 (Integer,
`Object C` at the class entry the `new` uses, index 2), a same-locals-1 frame at offset 1 whose stack item is the
uninitialised object created at label 1, and a chop frame 70 bytes further on (extended delta); the decoder of
JVMS §4.7.4 reads the body back -/
example :
    let lp : Nat → Option Nat := fun t => if t = 1 then some 1 else none
    let p0 := PoolWrite.empty
    ∃ i p1 b p2, PoolWrite.putClass p0 (jstr "C") = some (i, p1) ∧
      body lp p1 [(0, .append [.int, .object (jstr "C")]), (1, .same1 (.uninit 1)), (72, .chop 2)] = .ok (b, p2) ∧
      b = [0, 3, 253, 0, 0, 1, 7, 0, 2, 64, 8, 0, 1, 249, 0, 70] ∧ p2.count = 3 ∧
      table b = some [(0, .append [.int, .object 2]), (1, .same1 (.uninit 1)), (72, .chop 2)] := by
  refine ⟨2, _, _, _, rfl, rfl, ?_, ?_, ?_⟩ <;> decide

example : Incr none [(0, Frame.same), (64, .chop 1), (65535, .full [] [.top])] := by simp [Incr]

/-- why `Incr` is a hypothesis of `frames_write_fails_cleanly`: two frames at the same offset would make the unchecked
`offset - previous - 1` underflow (a panic with overflow checks on); `collected_frames_increase` shows that
`write_code` never produces such a list -/
example : body (fun _ => none) PoolWrite.empty [(5, .same), (5, .same)] = .error .panic := by rfl

end Frames

/-! ## 9. The written `StackMapTable`, read by the reader model of C01

`Model/ClassReadCode.lean` (`ClassRead.readFrames`) is C01's model of duke's *reader*; `ClassRead.Spec.encFrames`
(Spec/ClassEncode.lean) is the JVMS §4.7.4 encoder C01's round-trip theorem is stated with. -/

section ReadBack
open FrameWrite FrameDenote FrameReadBack

/-- **writer = specification encoder.** The entries the writer emits for frames attached to instruction indices are,
byte for byte, what C01's specification encoder assigns to the layout `sFrames` (instruction index, compact form iff
`offset_delta ≤ 63`, pool index of every `Object` type): the writer and the specification the reader is proved against
agree on the format -/
theorem frames_write_is_spec_encoding (lp : Nat → Option Nat) (ifs : List (Nat × Frame)) (p p' : PoolWrite.Pool)
    (hinc : IdxIncr lp none ifs) (bs : Bytes) (h : writeFrames lp p none (atPositions lp ifs) = .ok (bs, p')) :
    ∃ sfs, sFrames lp p none ifs = some (sfs, p') ∧ bs = ClassRead.Spec.encFrames (posOf lp) none sfs ∧
      sfs.length = ifs.length :=
  writeFrames_enc ifs none h

/-- **Write, then read with the reader model.** For a method of well-typed instructions whose frames were written
(`body … = .ok`): C01's reader model `ClassRead.readFrames`, run on the written entries (whatever follows them) with

* any reader pool that resolves the written class indices to the class names (`PoolAgrees`),
* any well-formed reader label table for this code array with room for the labels it needs (`labelDemand`),

succeeds, consumes exactly the written bytes and returns exactly the frames of the tree: the frame of instruction `k`
attached to the reader's label of the offset of instruction `k`, every type the same item, `Uninitialized` types
carrying the reader's label of the offset of their (instruction) label. -/
theorem frames_read_back (is : List Insn) (hwt : ∀ i ∈ is, wt i = true) (res : Result)
    (hres : writeCode is = .ok res) (fs : List (Option Frame)) (p p' : PoolWrite.Pool) (hw : p.WF)
    (hc : p.count ≤ 65535) (b : Bytes) (h : body res.label p (framesOf res fs) = .ok (b, p'))
    (hu : ∀ f, some f ∈ fs → frameUninitBelow is.length f)
    (rp : ClassRead.Pool) (ha : PoolAgrees p' rp)
    (l : ClassRead.Labels) (hwf : l.WF) (hcl : l.codeLength = res.code.length)
    (hroom : l.count + ((framesOf res fs).map (fun x => labelDemand x.2)).sum < 65536) (r : Bytes) :
    ∃ (ifs : List (Nat × Frame)) (bs : Bytes) (v : List (Nat × ClassRead.Frame)) (l' : ClassRead.Labels),
      framesOf res fs = atPositions res.label ifs ∧
      (∀ x ∈ ifs, x.1 < is.length ∧ fs[x.1]? = some (some x.2)) ∧
      b = u16b ifs.length ++ bs ∧
      ClassRead.readFrames rp ifs.length true 0 l (bs ++ r) = .ok (v, l', r) ∧ l'.WF ∧ ClassRead.Labels.Le l l' ∧
      ∀ lf, ClassRead.Labels.Le l' lf →
        v = ifs.map (fun x => (ClassRead.labOf lf (posOf res.label) x.1, readFrameOf lf res.label x.2)) := by
  have hpos := result_posMono is res hres
  have heq := framesOf_atPositions res fs
  obtain ⟨hinc, hidx⟩ := collectIdx_zero res.label is.length hpos.mono
    (Nat.le_trans (hpos.le _ (Nat.le_refl _)) hpos.small) res.pos.toList fs
    (Array.length_toList.trans (writeCode_pos_size is res hres))
  obtain ⟨_, bs, hb, hws⟩ := body_ok h
  rw [heq] at hb hws hroom
  rw [atPositions, List.map_map] at hroom
  obtain ⟨v, l', h1, h2, h3, h4⟩ := readFrames_written _ ⟨hw, hc⟩ hws is.length res.code.length hpos hinc
    (fun x hx => (hidx x hx).1)
    (fun x hx => hu x.2 (List.mem_of_getElem? (hidx x hx).2)) rp ha l hwf hcl hroom r
  exact ⟨_, bs, v, l', heq, hidx, by rw [hb, atPositions, List.length_map], h1, h2, h3, h4⟩

/-- non-vacuity: the entries written in the example of section 8 (`append [Integer, Object C]` at offset 0,
`same_locals_1 [Uninitialized(label 1)]` at offset 1, `chop 2` at offset 72), read by the reader model with a pool whose
entry 2 is the class `C` and a fresh label table for 75 bytes of code: the three frames come back attached to the
labels of the offsets 0, 1, 72 (ids 0, 1, 2), the uninitialised object carrying the label of offset 1 -/
example :
    (match ClassRead.readFrames [none, some (.utf8 (jstr "C")), some (.cls 1)] 3 true 0 (ClassRead.Labels.new 75)
        [253, 0, 0, 1, 7, 0, 2, 64, 8, 0, 1, 249, 0, 70] with
      | .ok (v, l, r) => some (v, l.get 0, l.get 1, l.get 72, l.count, r)
      | _ => none) =
    some ([(0, .append [.int, .object (jstr "C")]), (1, .same1 (.uninit 1)), (2, .chop 2)], some 0, some 1, some 2, 3, []) := by
  rfl

end ReadBack

/-! ## 10. The whole class writer (`Model/ClassWriteFull.lean` = `write`, `write_field`, `write_method`, `write_code`,
`write_record_component`, `write_module`, the annotation writers, `PoolWrite::write`)

`ClassWriteFull.writeClass : ClassRead.ClassFacts → Except Fail Bytes` takes the class description C01's reader model
delivers (the model of duke's `ClassFile` tree) and mirrors the Rust writer function by function, pool puts in the
Rust's order.  It is tied to `duke::write_class` byte for byte by the op `class-write` (read with duke / the reader model,
write with duke / this model, identical bytes) on the javac corpus and on random classes with every attribute kind.

The headline statement, at full strength, is

    ∀ t bytes r, writeClass t = .ok bytes →
      ∃ raw t', ClassRead.read (bytes ++ r) = .ok (raw, r) ∧ t.resolve = some t' ∧ raw.resolve = some t'

— C01's reader model (`Thm.C01.class_read_encode_partial` makes it the reader of every JVMS-legal encoding) reads the
written file back to exactly the facts of `t` and stops at its end.  "The facts of `t`" are `t.resolve` (C01,
`Model/ClassReadResolve.lean`): the class description with the opaque label ids of every method body read as the
index of the instruction that carries them — the form in which two trees with differently numbered labels are
compared; a class description without method bodies is its own resolved form (`class_write_read_no_code_partial` is the
statement with `raw.resolve = some t`).  It is proved below for the decidable fragment
`ClassWriteFull.InWriterFragment t` (hence `_partial`):

* header (class file version at most 67.0, what the reader accepts), super types, interfaces; fields with `Deprecated Synthetic ConstantValue Signature
  Runtime(In)VisibleAnnotations Runtime(In)VisibleTypeAnnotations` + unknown attributes;
  methods with `Deprecated Synthetic Code Exceptions Signature Runtime(In)VisibleAnnotations
  Runtime(In)VisibleTypeAnnotations AnnotationDefault MethodParameters` + unknown attributes;
  **`Code`** (`ClassWriteFull.CodeOk`, `Lemmas/ClassWriteFullCode.lean`): every instruction kind — constants, locals in
  all widths, all 16 conditional branches, `goto`, `jsr`, `ret`, both switches, field / method / interface-method
  references, method handles and method types, class operands, **`invokedynamic` and `ldc` of `Dynamic` constants**
  (bootstrap arguments nested within the reader's limit of 16 levels) with the **`BootstrapMethods`** attribute the
  writer assembles after the members (`Lemmas/ClassWriteFullInsn.lean`: rows are only appended, so the row index in
  a `Dynamic` / `InvokeDynamic` entry designates the same row of the final table; the handles enter the pool when the
  attribute is written) — in a method body of **at most 32767 bytes by the syntactic bound** `maxSizeR` (the
  longest form of every instruction: then no jump is widened and no conditional branch becomes an inverted-condition
  trampoline, which the reader would read back as two instructions), with its `StackMapTable` (frames of all five
  kinds on any instructions, `Object` types with valid class names, `Uninitialized` labels on instructions: the written
  table is `Spec.encFrames` of a legal frame layout, `frames_write_is_spec_encoding`, and every frame comes back attached
  to the instruction that carried it), with its exception table (`end_pc = code_length` allowed), `LineNumberTable`, `LocalVariableTable` / `LocalVariableTypeTable` (every
  entry exactly one of descriptor / signature, descriptor entries first: the order in which the two tables are written
  and read back), `Runtime(In)VisibleTypeAnnotations` with the targets `localvar` / `resource` / `catch` / `offset` /
  `type_argument`, unknown attributes of `Code` not named like an attribute the reader interprets there (written last,
  `code_unknown_attributes_written`), fewer than 65535 label references;
  class attributes `Deprecated Synthetic InnerClasses EnclosingMethod Signature SourceFile SourceDebugExtension
  Runtime(In)VisibleAnnotations Runtime(In)VisibleTypeAnnotations Module ModulePackages ModuleMainClass NestHost
  NestMembers PermittedSubclasses Record` + unknown attributes; `Record` components with `Signature
  Runtime(In)VisibleAnnotations Runtime(In)VisibleTypeAnnotations` + unknown attributes; `Module` with its `requires`
  (optional version), `exports` / `opens` (target modules), `uses`, `provides … with …` and their `Module` / `Package` /
  `Class` constants; annotations with every element-value kind (`B C D F I J S Z s e c @ [`),
  nested up to the reader's limit of 255 levels, type annotations with every target the owner admits and any type path;
* names valid where the reader validates them, access flags within the masks the tree can hold, unknown attributes not
  named like a known one (`ClassOk`), every constant and string of the pool the writer builds within its field
  (`PoolOkOf`: the operand ranges of duke's tree types);
* not yet in the fragment (modelled and tied byte-exactly, no read-back theorem): method bodies beyond the 32767-byte bound (widened jumps: covered
  for the code array alone by sections 1-4).

Route: the bytes are `(layout).encode` for the `ClassRead.Spec.ClassLayout` the writer chooses (its pool, its indices,
its attribute order: `class_write_layout_partial`), every index the writer used resolves **in the final pool** to the
constant it was put for (`pool_index_stable`: put → get, then monotonicity under every later put, then the reader's
table of the written pool image), so the layout is `Legal`; its facts are `t.resolve`; `Thm.C01.class_read_encode_partial`.
For `Code`: the code array of the successful (first) attempt is `Spec.encInsns` of the layout with the writer's own form
choices (`Lemmas/ClassWriteFullInsn.lean`: per instruction, then chunk by chunk, positions = `codePos`), the tables are
written from that label table (`Lemmas/ClassWriteFullCode.lean`), and `Code.resolve` is the relabelling the writer
performs (`relabel`, `code_resolve_eq`). -/

open ClassWriteFull in
/-- an index at which the writer's pool holds an entry resolves, in the table C01's reader builds from the pool image of
**any later pool** (`Ext p q`: reachable by further puts), to that entry: indices keep their meaning until the file is
written -/
theorem pool_index_stable (p q : PoolWrite.Pool) (h : Ext p q) (i : Nat) (e : PoolWrite.Entry) (hg : p.get i = some e) :
    (rpool q).get i = .ok (conv e) :=
  rget_of_get h.good.1 (h.le i e hg)

open ClassWriteFull in
/-- every put keeps the pool good (well formed, `constant_pool_count ≤ 65535`), keeps all earlier indices, and returns
an index below 65536 that holds the entry -/
theorem pool_put_step (p p' : PoolWrite.Pool) (e : PoolWrite.Entry) (i : Nat) (hg : FramePool.Good p)
    (h : ClassWriteFull.put p e = .ok (i, p')) : Ext p p' ∧ p'.get i = some e ∧ i < 65536 := by
  obtain ⟨s, a, b⟩ := put_spec hg h
  exact ⟨⟨s.good, s.le⟩, a, b⟩

open ClassWriteFull in
/-- the written file is the JVMS encoding (`ClassRead.Spec.ClassLayout.encode`, the specification side of C01) of a
layout that is legal and denotes exactly `t` -/
theorem class_write_layout_partial (t : ClassRead.ClassFacts) (hfrag : InWriterFragment t) (bytes : Bytes)
    (hw : writeClass t = .ok bytes) :
    ∃ c : ClassRead.Spec.ClassLayout, bytes = c.encode ∧ c.Legal ∧ ∃ t', t.resolve = some t' ∧ c.facts = some t' :=
  writeClass_layout t hfrag bytes hw

open ClassWriteFull in
/-- **written files are read back** (fragment: see the section header; full statement there): the reader model reads
the written file, stops at its end, and what it read denotes the same class as `t` — both with their labels resolved -/
theorem class_write_read_partial (t : ClassRead.ClassFacts) (hfrag : InWriterFragment t) (bytes : Bytes)
    (hw : writeClass t = .ok bytes) (r : Bytes) :
    ∃ raw t', ClassRead.read (bytes ++ r) = .ok (raw, r) ∧ t.resolve = some t' ∧ raw.resolve = some t' := by
  obtain ⟨c, hb, hleg, t', hres, hfacts⟩ := writeClass_layout t hfrag bytes hw
  obtain ⟨raw, h1, h2⟩ := ClassRead.read_encode c hleg t' hfacts r
  exact ⟨raw, t', hb ▸ h1, hres, h2⟩

open ClassWriteFull in
/-- the same for class descriptions without method bodies, which are their own resolved form: read back to exactly `t` -/
theorem class_write_read_no_code_partial (t : ClassRead.ClassFacts) (hfrag : InWriterFragment t)
    (hnc : ∀ m ∈ t.methods, m.code = none) (bytes : Bytes) (hw : writeClass t = .ok bytes) (r : Bytes) :
    ∃ raw, ClassRead.read (bytes ++ r) = .ok (raw, r) ∧ raw.resolve = some t := by
  obtain ⟨raw, t', h1, h2, h3⟩ := class_write_read_partial t hfrag bytes hw r
  rw [resolve_no_code t hnc] at h2
  cases h2
  exact ⟨raw, h1, h3⟩

/-- **`write` never panics** — for *every* class description (the whole tree type: `Code` with the retry loop and the
`StackMapTable`, annotations of any nesting, type annotations, `Record`, `Module`, bootstrap methods, counts of any
size): the outcome of the model of `duke::write_class` is the bytes or the explicit error, never the panic outcome.
The only unchecked arithmetic of the Rust writer left (`offset - previous - 1` of the `StackMapTable`, `as u16` of the
last label) is unreachable / unobservable: `write_fails_cleanly`, `code_frames_never_panic`. -/
theorem class_write_never_panics (t : ClassRead.ClassFacts) : ClassWriteFull.writeClass t ≠ .error .panic := by
  show ClassWriteFull.NP _
  simp only [ClassWriteFull.writeClass, ClassWriteFull.poolBytes, np]

example : ClassWriteFull.InWriterFragment exampleTree := ClassWriteFull.wrote_fragment (by decide +kernel) exampleTree_wrote
example : (match ClassWriteFull.writeClass exampleTree with | .ok _ => true | .error _ => false) = true := by
  obtain ⟨b, h, _⟩ := (ClassWriteFull.wrote_bytes exampleTree_wrote).2
  rw [h]

example : ClassWriteFull.InWriterFragment exampleRecord := ClassWriteFull.wrote_fragment (by decide +kernel) exampleRecord_wrote
example : (match ClassWriteFull.writeClass exampleRecord with | .ok _ => true | .error _ => false) = true := by
  obtain ⟨b, h, _⟩ := (ClassWriteFull.wrote_bytes exampleRecord_wrote).2
  rw [h]

example : ClassWriteFull.InWriterFragment exampleModule := ClassWriteFull.wrote_fragment (by decide +kernel) exampleModule_wrote
example : (match ClassWriteFull.writeClass exampleModule with | .ok _ => true | .error _ => false) = true := by
  obtain ⟨b, h, _⟩ := (ClassWriteFull.wrote_bytes exampleModule_wrote).2
  rw [h]

example : ClassWriteFull.InWriterFragment exampleCode := ClassWriteFull.wrote_fragment (by decide +kernel) exampleCode_wrote
example : (match ClassWriteFull.writeClass exampleCode with | .ok _ => true | .error _ => false) = true := by
  obtain ⟨b, h, _⟩ := (ClassWriteFull.wrote_bytes exampleCode_wrote).2
  rw [h]

/-- **the unknown attributes of a method body are written** (`write_code` before the commit `fix: class writer writes the
unknown attributes of a method body` had no loop over `Code.attributes` and dropped them).  Every successful `write_code`,
no fragment hypothesis: the
attribute table of `Code` states the count of the known attributes that were written plus `Code.attributes.length`,
then come the known attributes and then — last, as at class / field / method / record-component level — each unknown
attribute as name index, `u32` length, bytes (`Spec.attrFrame`), the name indices being the ones the loop's `put_utf8`
calls returned (`runAttrs (unknownAttrs c.attrs)` from the pool `q` after the known attributes). -/
theorem code_unknown_attributes_written (c : ClassRead.Code) (p p' : PoolWrite.Pool) (bs bs' : List BootstrapWrite.Bsm)
    (b : Bytes) (h : ClassWriteFull.writeCode c p bs = .ok (b, p', bs')) :
    ∃ (pre : Bytes) (known : List Bytes) (q : PoolWrite.Pool) (ncs : List Nat), ncs.length = c.attrs.length ∧
      ClassWriteFull.runAttrs (ClassWriteFull.unknownAttrs c.attrs) q
        = .ok ((ncs.zip c.attrs).map (fun x => ClassRead.Spec.attrFrame x.1 x.2.bytes), p') ∧
      known.length + c.attrs.length ≤ 65535 ∧ (∀ a ∈ c.attrs, a.bytes.length < 4294967296) ∧
      b = pre ++ ClassRead.be16 (known.length + c.attrs.length) ++ known.flatten ++
        ((ncs.zip c.attrs).map fun x => ClassRead.be16 x.1 ++ ClassRead.be32 x.2.bytes.length ++ x.2.bytes).flatten :=
  ClassWriteFull.writeCode_unknown_written h

/-- the unknown attribute of `exampleCode`'s method body reaches the written class: the bytes end with the class's
attribute count after the method, whose `Code` attribute ends with `Foo`'s frame (name index, length 3, `1 2 3`) -/
example : (match ClassWriteFull.writeClass exampleCode with
    | .ok b => decide (([0, 0, 0, 3, 1, 2, 3] : Bytes) <:+: b)
    | .error _ => false) = true := by
  obtain ⟨b, h, hc⟩ := (ClassWriteFull.wrote_bytes exampleCode_wrote).2
  rw [h]
  exact hc

/-! ## 11. Generated tables: the translator tie for `write_code` (independent of any test generator)

`translate/insn_arms_to_lean.py` reads the `match &instruction.instruction` of `write_code`, `if_helper`,
`write_verification_type_info` (`duke/src/simple_class_writer.rs`) and `PoolWrite::write` (`simple_class_writer/pool.rs`)
before every build and writes the arms as data into `Gen/WriterArms.lean` (next to `Gen/ReaderArms.lean` and
`Gen/Constants.lean`, see `Thm/C01.lean`). The theorems compare the generated writer table with the generated reader table,
with the JVMS tables (`Spec/Opcodes.lean`) and with the hand-written writer model, over the WHOLE tables.
Vocabulary: `Lemmas/ArmsWriterDefs.lean`, `Lemmas/ArmsDefs.lean`. -/

section GeneratedTables

open Arms JvmsTables

/-- **The arms of `write_code` are exactly the inverse of the arms of `read_code`'s second loop.** Reader and writer are
generated from the same `enum Instruction`; every opcode the reader turns into constructor `c` is one the writer's arm for
`c` writes as the instruction's own opcode, with the same operand layout (widths and pool function where both sides are
mechanical, the same switch kind, a `*load_<n>` index below the writer's limit); every constructor has an arm that writes
something, and every opcode it writes is read back as that constructor; the same for the opcodes behind the `wide` prefix,
and that prefix is the opcode of the reader's `wide` arm. -/
theorem writer_arms_inverse_reader :
    Gen.WriterArms.ctorNames = Gen.ReaderArms.ctorNames ∧
    (∀ op c, op < 256 → (rArm op).ctor? = some c → op ∈ (wArm c).plain ∧ sameLayout (rArm op) (wArm c) = true) ∧
    (∀ c, c < Gen.WriterArms.ctorNames.length → (wArm c).plain ≠ [] ∧ ∀ op ∈ (wArm c).plain, (rArm op).ctor? = some c) ∧
    (∀ w c, w < 256 → (rWideArm w).ctor? = some c → (Gen.ReaderArms.wideOpcode, w) ∈ (wArm c).prefixed) ∧
    (∀ c, c < Gen.WriterArms.ctorNames.length → ∀ pw ∈ (wArm c).prefixed,
      pw.1 = Gen.ReaderArms.wideOpcode ∧ (rWideArm pw.2).ctor? = some c) :=
  Arms.writer_arms_inverse_reader

/-- the two small tag tables of the writer are the reader's: `write_verification_type_info` writes the tag and as many
bytes as `read_verification_type_info` reads for the same variant; `PoolWrite::write` writes each `PoolEntry` variant under
the tag `PoolRead::read` reads it from, with the same payload widths -/
theorem writer_tag_arms_inverse_reader :
    Gen.WriterArms.vtypeArms = Gen.ReaderArms.vtypeArms ∧
    (Gen.WriterArms.poolArms.map fun a => (a.2.1, a.1, a.2.2.1.sum, a.2.2.2)) =
      (Gen.ReaderArms.poolArms.map fun a => (a.1, a.2.1, a.2.2.1.sum, a.2.2.2.1)) :=
  Arms.writer_tag_arms_inverse_reader

/-- **The writer's arms are the JVMS instruction set** (`jvmsWriterCheck`, per constructor): the opcode is the one whose
mnemonic (general form) is the constructor's name; operand widths add up to the JVMS operand count; `if_helper` is given
the JVMS negation as opposite opcode; `goto_helper` the `_w` form with a 32-bit offset; the local-variable families compute
exactly the `<t>load_<n>` / `<t>store_<n>` opcodes with index `n`, use the one-byte form and the JVMS `wide` prefix; `Ldc` /
`IInc` / `Ret` write only forms of their own instruction; the trampoline jump is `goto_w`. -/
theorem writer_arms_are_jvms (c : Nat) (hc : c < Gen.WriterArms.ctorNames.length) :
    jvmsWriterCheck c (Gen.WriterArms.wDense.getD c (7, 0, 0, [])) = true ∧
    mnemonic? Gen.WriterArms.trampolineOpcode = some (jstr "goto_w") :=
  Arms.writer_arms_are_jvms c hc

/-- **Whatever the hand-written writer model emits for an instruction starts the way the Rust arm for that instruction
starts** — for every instruction value in `CwDomain`, every operand, position, label table, narrow or wide attempt: there
is a constructor named like the instruction (`cwMnemonic`, up to case and underscores) whose arm in `write_code` writes
the first byte as the instruction's own opcode, or writes the first two bytes as prefix and opcode, or (conditional branch
with a wide offset) passes the first byte to `if_helper` as the opposite opcode and the jump three bytes on is
`if_helper`'s trampoline opcode. -/
theorem writer_arms_match_model (wd : Bool) (lbl : Nat → Option Nat) (p k : Nat) (ci : CodeWrite.Insn) (bytes : Bytes)
    (u : List CodeWrite.Unwritten) (hd : CwDomain ci) (h : CodeWrite.encInsn wd lbl p k ci = .ok (bytes, u)) :
    ∃ c, c < Gen.WriterArms.ctorNames.length ∧ squash (ctorName c) = squash (cwMnemonic ci) ∧
      headOk (wArm c) Gen.WriterArms.trampolineOpcode bytes = true :=
  Arms.encInsn_head wd lbl p k ci bytes u hd h

/-- on the way from the reader model's instruction type to the writer model's (`putInsn`: constants become pool indices,
labels become instruction indices) the instruction stays the same instruction and stays in the domain — so the chain
reader arm → reader model → `putInsn` → writer model → writer arm → (`writer_arms_inverse_reader`) reader arm closes -/
theorem put_insn_keeps_instruction (lab : Nat → Nat) (p p' : ClassWriteFull.Pool) (bs bs' : List ClassWriteFull.Bsm)
    (i : ClassRead.Insn) (ci : CodeWrite.Insn) (hd : RdDomain i) (h : ClassWriteFull.putInsn lab p bs i = .ok (ci, p', bs')) :
    cwMnemonic ci = insnMnemonic i ∧ CwDomain ci :=
  Arms.putInsn_name lab p p' bs bs' i ci hd h

/-- non-vacuity: `IAdd` is written as `0x60`; `ALoad` as `0x19`, `0x2a..0x2d` or behind `wide`; `IfEq` with opposite `ifne` -/
example : (wArmNamed (jstr "IAdd"), wArmNamed (jstr "ALoad"), wArmNamed (jstr "IfEq")) =
    (some (.unit 0x60), some (.local_ 4 0x15 2 0x1a 0xc4 0x19), some (.cond 0x99 0x9a)) ∧
    (WArm.local_ 4 0x15 2 0x1a 0xc4 0x19).plain = [0x19, 0x2a, 0x2b, 0x2c, 0x2d] := by decide +kernel

end GeneratedTables

end Thm.C02
