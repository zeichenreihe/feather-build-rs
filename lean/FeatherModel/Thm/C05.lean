import FeatherModel.Lemmas.VersionGraphPaths
import FeatherModel.Lemmas.VersionGraphScan
import FeatherModel.Lemmas.JStrLit

/-!
# C05 — version graph resolves each version to root plus the diffs on its path
Theorems hold for every content pipeline `c : Content M D` (the driver instantiates it with the tiny-diff application and
inner-class-name models; reading of `.tiny` / `.tinydiff` text is C03 / C04).

Vocabulary (`Model/VersionGraph.lean`):
* `resolve c dir` — `VersionGraph::resolve` on the directory listing `dir` (file name, content) in `read_dir` order;
* `applyDiffs c r v` — the *admissible* results of `apply_diffs(v)`: one per shortest root path (`petgraph::astar` with
  unit weights is assumed to return some shortest path; which one is not specified), `[]` = "there is no path";
* `IsPath g a b p` — `p` is a chain of edges from `a` to `b`; `live g` — the edges `find_edge` can return.

What the file names of a directory *say* (functions of the set of files, `Model/VersionGraph.lean`): `dirVersions` (the
version strings: file stems, both sides of `#`), `nodeStrings` (those that name a node: every `client~server` string, and
every plain string that is not a half of one), `nodeOf` (the node a version string stands for: a plain string that is a
half of a `client~server` string of the directory is an *alias* of that node), `nodeEdges`, `dirRoots`;
`Ambiguous` (two different `client~server` strings share a half) and `DupEdges` (two diff files join the same ordered pair
of nodes) are two of the ways a directory can be rejected.
The closed form `scan_spec` also uses `VersionsSpec g vss` / `NodesSpec g vss` (`Lemmas/VersionGraph.lean`: the lookup
table of `g` holds exactly the strings `vss`, each under its keys / its nodes are `vss`, each once) and `pairs`, `rootAt`
(`Lemmas/VersionGraphScan.lean`: the (parent, child) pairs of an edge list; a root file with its version replaced by
`nodeOf`).

`resolve` first sorts the listing, registers every `client~server` string, and only then walks over the files: the graph
is a function of the set of files (`resolve_perm`, all directories, no hypothesis), and of a real directory (no two
entries with the same name) even literally the same value in every listing order (`resolve_perm_eq`).
-/

namespace Thm.C05
open VG

variable {M D : Type}

set_option smartUnfolding false in
/-- `resolve` as a chain: the scan, the root it found, the root file, the loop check -/
theorem resolve_eq (c : Content M D) (dir : List (JStr × Bytes)) :
    resolve c dir =
      (scan dir).bind fun g => g.root.bind fun root => (c.readRoot root.2).bind fun m =>
        if walkOk g (g.edges.length + 1) [] root.1 then some { graph := g, rootName := root.1, rootMapping := m }
        else none := rfl

theorem resolve_some {c : Content M D} {dir : List (JStr × Bytes)} {r : Resolved M} (h : resolve c dir = some r) :
    ∃ rb, scan dir = some r.graph ∧ r.graph.root = some (r.rootName, rb) ∧
      c.readRoot rb = some r.rootMapping ∧ walkOk r.graph (r.graph.edges.length + 1) [] r.rootName = true := by
  simp only [resolve_eq, Option.bind_eq_some_iff, Option.ite_none_right_eq_some, Option.some.injEq] at h
  obtain ⟨g, ha, root, hr, m, hm, hw, rfl⟩ := h
  exact ⟨root.2, ha, hr, hm, hw⟩

/-- **answer = left fold of the diffs along a root path, then inner-class-name extension**; the path is a shortest one
among ALL root paths of the graph (this is what the `astar` call with unit weights contributes) -/
theorem apply_is_fold (c : Content M D) (r : Resolved M) (target : JStr) :
    ∀ a, a ∈ applyDiffs c r target → ∃ p, IsPath r.graph r.rootName target p ∧
      (∀ q, IsPath r.graph r.rootName target q → p.length ≤ q.length) ∧
      a = (foldPath c r.rootMapping p).bind c.extend := by
  intro a ha
  simp only [applyDiffs, List.mem_map] at ha
  obtain ⟨p, hp, rfl⟩ := ha
  obtain ⟨h1, h2, _⟩ := mem_shortestPaths_iff.mp hp
  refine ⟨p, h1.of_live, ?_, ?_⟩
  · intro q hq
    obtain ⟨q', hq1, hq2⟩ := hq.to_live
    rw [← hq2]
    exact h2 q' hq1
  · simp only [applyAlong]
    cases foldPath c r.rootMapping p <;> rfl

/-- the diff file used for a step `a -> b` of that path is the one `find_edge(a, b)` returns -/
theorem apply_path_live (r : Resolved M) (target : JStr) {p : List Edge}
    (hp : p ∈ shortestPaths r.graph r.rootName target) :
    ∀ e, e ∈ p → findEdge r.graph e.parent e.child = some e := by
  exact fun e he => (mem_liveEdges.mp ((mem_shortestPaths_iff.mp hp).1.mem_edges e he)).2

/-- on a graph that passed the loop check every version that can be reached from the root has an answer -/
theorem reachable_has_answer (c : Content M D) {dir : List (JStr × Bytes)} {r : Resolved M}
    (h : resolve c dir = some r) {target : JStr} {p : List Edge} (hp : IsPath r.graph r.rootName target p) :
    applyDiffs c r target ≠ [] := by
  obtain ⟨_, _, _, _, hw⟩ := resolve_some h
  obtain ⟨q, hq1, hq2⟩ := hp.to_live
  have hlen := ((walkOk_iff _ _ _).mp hw _ _ hp).1
  intro hnil
  rw [applyDiffs, List.map_eq_nil_iff] at hnil
  exact shortestPaths_ne_nil hq1 (by omega) hnil

/-- **unreachable version**: `apply_diffs` has no admissible answer ("there is no path") -/
theorem unreachable_is_error (c : Content M D) (r : Resolved M) (target : JStr)
    (h : ∀ p, ¬ IsPath r.graph r.rootName target p) : applyDiffs c r target = [] := by
  rw [applyDiffs, List.map_eq_nil_iff, List.eq_nil_iff_forall_not_mem]
  exact fun p hp => h p (mem_shortestPaths_iff.mp hp).1.of_live

/-- every node carries a mapping set and every edge file is a diff that turns the parent's set into the child's -/
def Consistent (c : Content M D) (g : Graph) (label : JStr → Option M) : Prop :=
  ∀ e, e ∈ g.edges → ∀ mp, label e.parent = some mp →
    ∃ d mc, c.readDiff e.content = some d ∧ c.apply d mp = some mc ∧ label e.child = some mc

/-- on a consistent graph the fold along ANY path from a labelled node ends in the label of the end node -/
theorem fold_path_label (c : Content M D) {g : Graph} {label : JStr → Option M} (hc : Consistent c g label)
    {src dst : JStr} {p : List Edge} (hp : IsPath g src dst p) :
    ∀ m, label src = some m → ∃ m', foldPath c m p = some m' ∧ label dst = some m' := by
  induction hp with
  | nil n => intro m hm; exact ⟨m, rfl, hm⟩
  | cons he _ ih =>
    intro m hm
    obtain ⟨d, mc, hd, ha, hl⟩ := hc _ he m hm
    obtain ⟨m', hf, hl'⟩ := ih mc hl
    exact ⟨m', by simp [foldPath, hd, ha, hf], hl'⟩

/-- **path independence**: when every node carries `M_v` and every edge file is a diff from its parent's set to its
child's, every admissible answer for `v` is `extend M_v` — whatever path is taken (hence whatever the listing order made
the path search prefer) -/
theorem path_independent (c : Content M D) (r : Resolved M) {label : JStr → Option M}
    (hc : Consistent c r.graph label) (hroot : label r.rootName = some r.rootMapping) (target : JStr) :
    ∀ a, a ∈ applyDiffs c r target → ∃ mv, label target = some mv ∧ a = c.extend mv := by
  intro a ha
  obtain ⟨p, hp, _, rfl⟩ := apply_is_fold c r target a ha
  obtain ⟨m', hf, hl⟩ := fold_path_label c hc hp _ hroot
  exact ⟨m', hl, by rw [hf]; rfl⟩

/-- a version with a single incoming edge per node on the way (a tree) has a single root path: if no node has two
incoming edges and the root has none, any two root paths to the same version are equal -/
theorem tree_unique_path {g : Graph} {root : JStr}
    (hin : ∀ e1, e1 ∈ g.edges → ∀ e2, e2 ∈ g.edges → e1.child = e2.child → e1 = e2)
    (hroot : ∀ e, e ∈ g.edges → e.child ≠ root) :
    ∀ (n : Nat) (v : JStr) (p q : List Edge), p.length = n → IsPath g root v p → IsPath g root v q → p = q := by
  intro n
  induction n with
  | zero =>
    intro v p q hn hp hq
    cases List.eq_nil_of_length_eq_zero hn
    cases hp.nil_inv
    -- `q` is a path root -> root; a non-empty one would end in an edge into the root
    rcases hq.snoc_cases with ⟨rfl, _⟩ | ⟨_, e, _, _, he, hch⟩
    · rfl
    · exact absurd hch (hroot e he)
  | succ n ih =>
    intro v p q hn hp hq
    rcases hp.snoc_cases with ⟨rfl, _⟩ | ⟨p', e, rfl, hp1, he, hch⟩
    · cases hn
    · rcases hq.snoc_cases with ⟨_, rfl⟩ | ⟨q', e', rfl, hq1, he', hch'⟩
      · exact absurd hch (hroot e he)
      · -- both paths end in an edge into `v`
        cases hin e' he' e he (hch'.trans hch.symm)
        rw [ih _ p' q' (by simpa using hn) hp1 hq1]

/-- closed form of the scan in terms of what the file names of `dir` say, for EVERY directory and listing order (the
sorted listing `resolve` works on is a permutation of `dir`) -/
theorem scan_spec (dir : List (JStr × Bytes)) :
    match scan dir with
    | some g => dir.any badDiffName = false ∧ KeysDisjoint (splitsOf (dirVersions dir)) ∧
        (dirRoots dir).length ≤ 1 ∧ (pairs (nodeEdges dir)).Nodup ∧
        VersionsSpec g (nodeStrings (dirVersions dir)) ∧ NodesSpec g (nodeStrings (dirVersions dir)) ∧
        g.edges.Perm (nodeEdges dir) ∧ g.root = ((dirRoots dir).map (rootAt (dirVersions dir))).head?
    | none => dir.any badDiffName = true ∨ ¬ KeysDisjoint (splitsOf (dirVersions dir)) ∨
        2 ≤ (dirRoots dir).length ∨ ¬ (pairs (nodeEdges dir)).Nodup := by
  have h := scan_spec_perm (List.Perm.refl dir)
  revert h
  cases scan dir with
  | none => exact id
  | some g => exact fun ⟨h1, h2, h3, h4, h5, h6, h7, h8⟩ => ⟨h1, h2, h3, h4, h5, h6, h7, h8⟩

/-- **the scan fails exactly for four reasons** (any directory, any listing order): a `.tinydiff` stem without `#`, an
ambiguous half, a second `.tiny` file, a second diff for an edge -/
theorem scan_error_iff (dir : List (JStr × Bytes)) :
    scan dir = none ↔ (dir.any badDiffName = true ∨ Ambiguous (dirVersions dir) ∨ 2 ≤ (dirRoots dir).length ∨
      DupEdges dir) :=
  scan_none_iff_of_perm (List.Perm.refl dir)

/-- `Ambiguous` spelled out: two different `client~server` version strings of the directory have a half in common
(`a~b` with `c~b`, `a~c`, `b~c`, `b~a`, `a~a`, …) -/
theorem ambiguous_iff (vss : List JStr) :
    Ambiguous vss ↔ ∃ v1 v2 k, v1 ∈ vss ∧ v2 ∈ vss ∧ isSplit v1 = true ∧ isSplit v2 = true ∧ v1 ≠ v2 ∧
      k ∈ keysOf v1 ∧ k ∈ keysOf v2 := by
  constructor
  · intro h
    refine Classical.byContradiction fun h' => h fun v1 h1 v2 h2 hne k hk hk2 => h' ?_
    obtain ⟨m1, s1⟩ := mem_splitsOf.mp h1
    obtain ⟨m2, s2⟩ := mem_splitsOf.mp h2
    exact ⟨v1, v2, k, m1, m2, s1, s2, hne, hk, hk2⟩
  · intro ⟨v1, v2, k, m1, m2, s1, s2, hne, hk, hk2⟩ hd
    exact hd v1 (mem_splitsOf.mpr ⟨m1, s1⟩) v2 (mem_splitsOf.mpr ⟨m2, s2⟩) hne k hk hk2

/-- the predicates of the error characterisation are decidable (the driver and the harness evaluate them) -/
theorem ambiguous_decidable (vss : List JStr) : ambiguousB vss = true ↔ Ambiguous vss := by
  unfold ambiguousB Ambiguous
  rw [← keysDisjointB_iff]
  cases keysDisjointB (splitsOf vss) <;> simp

theorem distinctB_iff {α : Type} [BEq α] [LawfulBEq α] : ∀ (l : List α), distinctB l = true ↔ l.Nodup := by
  intro l
  induction l with
  | nil => simp [distinctB]
  | cons x xs ih => simp [distinctB, ih]

theorem dupEdges_decidable (dir : List (JStr × Bytes)) : dupEdgesB dir = true ↔ DupEdges dir := by
  unfold dupEdgesB DupEdges
  rw [← distinctB_iff]
  cases distinctB (List.map (fun e => (e.parent, e.child)) (nodeEdges dir)) <;> simp

/-- closed form of the graph of ANY directory that scans: the lookup table holds exactly the node strings, each under its
keys; the nodes are the node strings (each once); the edges are those of the diff files between the nodes their two
version strings stand for; the root is the node of the one `.tiny` file -/
theorem graph_closed_form {dir : List (JStr × Bytes)} {g : Graph} (h : scan dir = some g) :
    (∀ k sp n, AList.lookup k g.versions = some (sp, n) ↔ (n ∈ nodeStrings (dirVersions dir) ∧ keyKind k n = some sp)) ∧
    (∀ n, n ∈ g.nodes ↔ n ∈ nodeStrings (dirVersions dir)) ∧ g.nodes.Nodup ∧
    g.edges.Perm (nodeEdges dir) ∧
    ((dirRoots dir = [] ∧ g.root = none) ∨
      (∃ r, dirRoots dir = [r] ∧ g.root = some (nodeOf (dirVersions dir) r.1, r.2))) := by
  have hs := scan_some (List.Perm.refl dir) h
  refine ⟨hs.vers, hs.nodes.1, hs.nodes.2, hs.edges, ?_⟩
  have h8 := hs.root
  cases hr : dirRoots dir with
  | nil => left; rw [hr] at h8; exact ⟨rfl, h8⟩
  | cons r rest =>
    cases rest with
    | nil => right; rw [hr] at h8; exact ⟨r, rfl, h8⟩
    | cons r2 rest2 => exact absurd hs.oneRoot (by simp [hr])

/-- **every plain version is reachable under its name and every `client~server` version under either half** — full
strength, every directory that scans. A plain string that is a half of a `client~server` string of the directory is an
alias of that version (with the `Split` of the half), whatever file comes first -/
theorem lookup_names {dir : List (JStr × Bytes)} {g : Graph} (h : scan dir = some g) {vs : JStr}
    (hvs : vs ∈ dirVersions dir) :
    (splitOnce TILDE vs = none →
      AList.lookup vs g.versions =
        match ownerOf (dirVersions dir) vs with
        | some (sp, n) => some (sp, n)
        | none => some (Split.none, vs)) ∧
    (∀ c s, splitOnce TILDE vs = some (c, s) →
      AList.lookup c g.versions = some (Split.first, vs) ∧
      (s ≠ c → AList.lookup s g.versions = some (Split.second, vs))) := by
  obtain ⟨hl, _, _, _, _⟩ := graph_closed_form h
  constructor
  · intro hs
    cases ho : ownerOf (dirVersions dir) vs with
    | some q =>
      obtain ⟨sp, n⟩ := q
      obtain ⟨hn, hk⟩ := ownerOf_some ho
      exact (hl vs sp n).mpr ⟨splitsOf_sub_nodeStrings hn, hk⟩
    | none =>
      exact (hl vs Split.none vs).mpr ⟨mem_nodeStrings.mpr ⟨hvs, Or.inr ho⟩, by simp [keyKind, hs]⟩
  · intro c s hs
    have hns : vs ∈ nodeStrings (dirVersions dir) :=
      mem_nodeStrings.mpr ⟨hvs, Or.inl (isSplit_iff.mpr ⟨_, hs⟩)⟩
    exact ⟨(hl c Split.first vs).mpr ⟨hns, by simp [keyKind, hs]⟩,
      fun hne => (hl s Split.second vs).mpr ⟨hns, by simp [keyKind, hs, hne]⟩⟩

/-- the node a version string of a file name stands for is a node of the graph -/
theorem nodeOf_is_node {dir : List (JStr × Bytes)} {g : Graph} (h : scan dir = some g) {vs : JStr}
    (hvs : vs ∈ dirVersions dir) : nodeOf (dirVersions dir) vs ∈ g.nodes := by
  obtain ⟨_, hn, _, _, _⟩ := graph_closed_form h
  rw [hn]
  rcases nodeOf_cases (dirVersions dir) vs with ⟨hor, hno⟩ | ⟨_, sp, ho⟩
  · rw [hno]
    exact mem_nodeStrings.mpr ⟨hvs, hor⟩
  · exact splitsOf_sub_nodeStrings (ownerOf_some ho).1

/-- **unknown version**: a name that is no key of any version string of the directory is unknown (`get` fails) -/
theorem unknown_version {dir : List (JStr × Bytes)} {g : Graph} (h : scan dir = some g) {k : JStr}
    (hk : ∀ n, n ∈ dirVersions dir → keyKind k n = none) : AList.lookup k g.versions = none := by
  obtain ⟨hl, _, _, _, _⟩ := graph_closed_form h
  refine Option.eq_none_iff_forall_ne_some.mpr fun q hq => ?_
  obtain ⟨hn, hkk⟩ := (hl k q.1 q.2).mp hq
  rw [hk _ (mem_nodeStrings.mp hn).1] at hkk
  cases hkk

theorem dirVersions_perm {d d' : List (JStr × Bytes)} (hp : d'.Perm d) (n : JStr) :
    n ∈ dirVersions d' ↔ n ∈ dirVersions d := dirVersions_mem_perm hp n

/-- each of the four reasons is a property of the set of files -/
theorem scan_error_perm {dir dir' : List (JStr × Bytes)} (hp : dir'.Perm dir) : scan dir' = none ↔ scan dir = none :=
  (scan_none_iff_of_perm hp).trans (scan_error_iff dir).symm

/-- **order independence of the graph**: any two listing orders of ANY directory give the same lookup
table, the same nodes, the same edge set and the same root -/
theorem scan_perm {dir dir' : List (JStr × Bytes)} {g g' : Graph} (hp : dir'.Perm dir)
    (h : scan dir = some g) (h' : scan dir' = some g') :
    (∀ k, AList.lookup k g'.versions = AList.lookup k g.versions) ∧ g'.nodes.Perm g.nodes ∧
      g'.edges.Perm g.edges ∧ g'.root = g.root := by
  have hs := scan_some (List.Perm.refl dir) h
  have hs' := scan_some hp h'
  refine ⟨?_, ?_, hs'.edges.trans hs.edges.symm, hs'.root.trans hs.root.symm⟩
  · exact fun k => Option.ext fun q => (hs'.vers k q.1 q.2).trans (hs.vers k q.1 q.2).symm
  · rw [List.perm_ext_iff_of_nodup hs'.nodes.2 hs.nodes.2]
    intro n
    rw [hs'.nodes.1 n, hs.nodes.1 n]

/-- **order independence of `resolve`**, every directory `dir` and every permutation `dir'` of it: it
fails in one listing order iff it fails in every other (bad diff name, ambiguous half, second root, second diff for an
edge, missing root, unreadable root, loop), and two successful runs agree on every lookup, on the nodes, on the edge set, on
the root and on the root mappings -/
theorem resolve_perm (c : Content M D) {dir dir' : List (JStr × Bytes)} (hp : dir'.Perm dir) :
    (resolve c dir' = none ↔ resolve c dir = none) ∧
    ∀ r r', resolve c dir = some r → resolve c dir' = some r' →
      (∀ k, get r' k = get r k) ∧ r'.graph.nodes.Perm r.graph.nodes ∧ r'.graph.edges.Perm r.graph.edges ∧
        r'.rootName = r.rootName ∧ r'.rootMapping = r.rootMapping := by
  cases ha : scan dir with
  | none =>
    simp [resolve_of_scan_none c ha, resolve_of_scan_none c ((scan_error_perm hp).mpr ha)]
  | some g =>
    cases ha' : scan dir' with
    | none => rw [(scan_error_perm hp).mp ha'] at ha; cases ha
    | some g' =>
      obtain ⟨hl, hn, he, hr⟩ := scan_perm hp ha ha'
      -- root and loop check are the same for `g'` and `g`: the second run is the first with `g'` in place of `g`
      have hmap : resolve c dir' = (resolve c dir).map fun r => { r with graph := g' } := by
        rw [resolve_eq, resolve_eq, ha, ha', Option.bind_some, Option.bind_some, hr, he.length_eq]
        cases g.root with
        | none => rfl
        | some q =>
          simp only [Option.bind_some, walkOk_congr fun _ => he.mem_iff]
          cases c.readRoot q.2 with
          | none => rfl
          | some m => cases walkOk g (g.edges.length + 1) [] q.1 <;> rfl
      refine ⟨by rw [hmap, Option.map_eq_none_iff], fun r r' h h' => ?_⟩
      rw [hmap, h] at h'
      cases h'
      obtain ⟨_, hs, _⟩ := resolve_some h
      cases ha.symm.trans hs
      exact ⟨hl, hn, he, rfl, rfl⟩

/-- **a real directory resolves to literally the same value in every listing order** (node list and edge list in the
same order as well): `resolve` sorts the listing, and a listing without repeated file names has one sorted form. Hence
everything computed from the result — also by code that is not modelled here, like the choice `petgraph::astar` makes
among equally short paths — is the same in every listing order -/
theorem resolve_perm_eq (c : Content M D) {dir dir' : List (JStr × Bytes)} (hp : dir'.Perm dir)
    (hnd : (dir.map Prod.fst).Nodup) : resolve c dir' = resolve c dir := by
  unfold resolve scan
  rw [sortFiles_eq_of_perm hp hnd]

/-- a resolved graph never has two edges for one ordered pair of nodes (`find_edge` has nothing to choose) -/
theorem resolved_noParallel (c : Content M D) {dir : List (JStr × Bytes)} {r : Resolved M}
    (h : resolve c dir = some r) : NoParallel r.graph := by
  obtain ⟨_, ha, _, _, _⟩ := resolve_some h
  have hs := scan_some (List.Perm.refl dir) ha
  intro e1 h1 e2 h2 hp hc
  exact List.eq_of_nodup_map ((pairs_perm hs.edges).nodup_iff.mpr hs.noDup) h1 h2 (by simp [hp, hc])

/-- **order independence of the answers**: the admissible answers for every version are the same in
every listing order of every directory -/
theorem answers_perm (c : Content M D) {dir dir' : List (JStr × Bytes)} (hp : dir'.Perm dir) {r r' : Resolved M}
    (h : resolve c dir = some r) (h' : resolve c dir' = some r') (target : JStr) :
    ∀ a, a ∈ applyDiffs c r' target ↔ a ∈ applyDiffs c r target := by
  obtain ⟨_, _, he, hrn, hrm⟩ := (resolve_perm c hp).2 r r' h h'
  -- without parallel edges every edge is live: the two live graphs have the same edge set, hence the same paths
  have hlive : ∀ e, e ∈ (live r'.graph).edges ↔ e ∈ (live r.graph).edges := by
    simp only [live, liveEdges_of_noParallel (resolved_noParallel c h), liveEdges_of_noParallel (resolved_noParallel c h')]
    exact fun e => he.mem_iff
  have hpath : ∀ q, IsPath (live r'.graph) r.rootName target q ↔ IsPath (live r.graph) r.rootName target q :=
    fun q => ⟨IsPath.mono fun e => (hlive e).mp, IsPath.mono fun e => (hlive e).mpr⟩
  intro a
  simp only [applyDiffs, applyAlong, List.mem_map, mem_shortestPaths_iff, hrn, hrm, he.length_eq, hpath]

/-- `b` is both a plain version string and the server half of `a~b` -/
def collisionDir : List (JStr × Bytes) :=
  [(jstr "r.tiny", [0]), (jstr "r#a~b.tinydiff", [1]), (jstr "r#b.tinydiff", [2])]

/-- **regression**: the code before 822163a made `b` the node `a~b` when this directory was listed forwards and a node of
its own when it was listed backwards. `b` stands for `a~b` in every listing order, which makes `r#a~b.tinydiff` and
`r#b.tinydiff` two diffs for the one edge `r → a~b`: the directory is rejected, in both listing orders (and by
`resolve_perm` in every other) -/
theorem resolve_perm_collision_regression :
    collisionDir.reverse.Perm collisionDir ∧
    nodeOf (dirVersions collisionDir) (jstr "b") = jstr "a~b" ∧ DupEdges collisionDir ∧
    scan collisionDir = none ∧ scan collisionDir.reverse = none := by
  have hd : DupEdges collisionDir := (dupEdges_decidable _).mp (by
    simp -index only [collisionDir, jstr_ofList]
    decide +kernel)
  have hs := (scan_error_iff _).mpr (Or.inr (Or.inr (Or.inr hd)))
  exact ⟨List.reverse_perm _, by decide +kernel, hd, hs, (scan_error_perm (List.reverse_perm _)).mpr hs⟩

/-- a diff names its parent `a~b` by the half `b` only -/
def aliasDir : List (JStr × Bytes) :=
  [(jstr "r.tiny", [0]), (jstr "r#a~b.tinydiff", [1]), (jstr "b#c.tinydiff", [2])]

/-- **regression**: `b` is the node `a~b` (three nodes, the chain `r → a~b → c`) forwards and backwards; in the
code before 822163a, listing `b#c.tinydiff` first made `b` a node of its own and left `a~b` without its second half -/
theorem alias_regression :
    (scan aliasDir).map (fun g => (AList.lookup (jstr "b") g.versions, g.nodes.length,
        g.edges.map fun e => (e.parent, e.child))) =
      some (some (Split.second, jstr "a~b"), 3, [(jstr "a~b", jstr "c"), (jstr "r", jstr "a~b")]) ∧
    scan aliasDir.reverse = scan aliasDir := by
  refine ⟨?_, ?_⟩
  · simp -index only [aliasDir, jstr_ofList]
    decide +kernel
  · unfold scan
    rw [sortFiles_eq_of_perm (List.reverse_perm _) (by decide +kernel)]

/-- **no root**: a directory without a `.tiny` file is rejected (any directory, any listing order) -/
theorem no_root_is_error (c : Content M D) {dir : List (JStr × Bytes)} (h : dirRoots dir = []) :
    resolve c dir = none := by
  cases ha : scan dir with
  | none => exact resolve_of_scan_none c ha
  | some g =>
    rw [resolve_eq, ha, Option.bind_some, (scan_some (List.Perm.refl dir) ha).root, h]
    rfl

/-- **two roots**: a directory with two `.tiny` files is rejected (any directory, any listing order) -/
theorem two_roots_is_error (c : Content M D) {dir : List (JStr × Bytes)} (h : 2 ≤ (dirRoots dir).length) :
    resolve c dir = none :=
  resolve_of_scan_none c ((scan_error_iff dir).mpr (Or.inr (Or.inr (Or.inl h))))

/-- a `.tinydiff` whose stem has no `#` is rejected (any directory, any listing order) -/
theorem bad_diff_name_is_error (c : Content M D) {dir : List (JStr × Bytes)} {f : JStr × Bytes} (hf : f ∈ dir)
    (hb : badDiffName f = true) : resolve c dir = none :=
  resolve_of_scan_none c ((scan_error_iff dir).mpr (Or.inl (List.any_eq_true.mpr ⟨f, hf, hb⟩)))

/-- **ambiguous half**: two different `client~server` version strings with a common half are rejected (any directory, any
listing order); no listing order decides who owns the half -/
theorem ambiguous_is_error (c : Content M D) {dir : List (JStr × Bytes)} {v1 v2 k : JStr}
    (h1 : v1 ∈ dirVersions dir) (h2 : v2 ∈ dirVersions dir) (s1 : isSplit v1 = true) (s2 : isSplit v2 = true)
    (hne : v1 ≠ v2) (hk1 : k ∈ keysOf v1) (hk2 : k ∈ keysOf v2) : resolve c dir = none :=
  resolve_of_scan_none c ((scan_error_iff dir).mpr
    (Or.inr (Or.inl ((ambiguous_iff _).mpr ⟨v1, v2, k, h1, h2, s1, s2, hne, hk1, hk2⟩))))

/-- **second diff for an edge**: two diff files whose version strings stand for the same ordered pair of nodes are
rejected (any directory, any listing order); no listing order decides which diff is used -/
theorem second_diff_is_error (c : Content M D) {dir : List (JStr × Bytes)} (h : DupEdges dir) : resolve c dir = none :=
  resolve_of_scan_none c ((scan_error_iff dir).mpr (Or.inr (Or.inr (Or.inr h))))

/-- **cycle**: a cycle that can be reached from the root is rejected by `resolve` (the recursion
bound `edges.length + 1` of the model's walk does not hide it) -/
theorem cycle_is_error (c : Content M D) {dir : List (JStr × Bytes)} {g : Graph} {rootName : JStr} {rb : Bytes}
    (ha : scan dir = some g) (hroot : g.root = some (rootName, rb))
    (hcyc : ReachableCycle g rootName) : resolve c dir = none := by
  rw [resolve_eq, ha, Option.bind_some, hroot, Option.bind_some, walk_false_cycle.mpr hcyc]
  cases c.readRoot rb <;> rfl

/-- **the loop check has no false alarms** (fuel sufficiency of the model's walk): a scanned directory with a readable
root and no cycle reachable from the root resolves -/
theorem acyclic_resolves (c : Content M D) {dir : List (JStr × Bytes)} {g : Graph} {rootName : JStr} {rb : Bytes}
    {m : M} (ha : scan dir = some g) (hroot : g.root = some (rootName, rb))
    (hm : c.readRoot rb = some m) (hac : ¬ ReachableCycle g rootName) :
    resolve c dir = some { graph := g, rootName := rootName, rootMapping := m } := by
  rw [resolve_eq, ha, Option.bind_some, hroot, Option.bind_some, hm, Option.bind_some,
    eq_true_of_ne_false (mt walk_false_cycle.mp hac)]
  rfl

/-- **a version on a cycle never gets an arbitrary answer**: either the directory is rejected, or (the cycle cannot be
reached from the root) `apply_diffs` reports that there is no path -/
theorem cycle_node_error (c : Content M D) {dir : List (JStr × Bytes)} {r : Resolved M}
    (h : resolve c dir = some r) {v : JStr} {q : List Edge} (hq : IsPath r.graph v v q) (hne : q ≠ []) :
    applyDiffs c r v = [] := by
  obtain ⟨_, _, _, _, hw⟩ := resolve_some h
  refine unreachable_is_error c r v fun p hp => ?_
  rw [walk_false_cycle.mpr ⟨v, p, q, hp, hq, hne⟩] at hw
  cases hw

/-- with well-formed diff names and at most one `.tiny` file, the scan fails iff a half is ambiguous or an edge has two
diffs -/
theorem ambiguous_or_second_diff_iff_error {dir : List (JStr × Bytes)} (hb : dir.any badDiffName = false)
    (hr : (dirRoots dir).length ≤ 1) : scan dir = none ↔ (Ambiguous (dirVersions dir) ∨ DupEdges dir) := by
  have : ¬ 2 ≤ (dirRoots dir).length := by omega
  simp only [scan_error_iff, hb, Bool.false_eq_true, this, false_or]

/-- **every way `resolve` can fail**, for every directory in every listing order: the four scan errors, no root, an
unreadable root file, a cycle that can be reached from the root — and nothing else -/
theorem resolve_error_iff (c : Content M D) (dir : List (JStr × Bytes)) :
    resolve c dir = none ↔
      (dir.any badDiffName = true ∨ Ambiguous (dirVersions dir) ∨ 2 ≤ (dirRoots dir).length ∨ DupEdges dir ∨
        dirRoots dir = [] ∨
        ∃ g rn rb, scan dir = some g ∧ g.root = some (rn, rb) ∧ (c.readRoot rb = none ∨ ReachableCycle g rn)) := by
  -- the first four reasons are those of the scan
  have hassoc : ∀ {a b c d e : Prop}, (a ∨ b ∨ c ∨ d ∨ e) ↔ ((a ∨ b ∨ c ∨ d) ∨ e) := by
    intros
    simp only [or_assoc]
  rw [hassoc, ← scan_error_iff]
  cases ha : scan dir with
  | none => simp [resolve_of_scan_none c ha]
  | some g =>
    have hcf := (graph_closed_form ha).2.2.2.2
    constructor
    · intro hres
      rcases hcf with ⟨hnil, _⟩ | ⟨r, hr, hroot⟩
      · exact Or.inr (Or.inl hnil)
      · refine Or.inr (Or.inr ⟨g, _, _, rfl, hroot, ?_⟩)
        cases hm : c.readRoot r.2 with
        | none => exact Or.inl rfl
        | some m =>
          refine Or.inr (Classical.byContradiction fun h => ?_)
          rw [acyclic_resolves c ha hroot hm h] at hres
          cases hres
    · rintro (h | h | ⟨g', rn, rb, hg, hroot, h⟩)
      · cases h
      · exact no_root_is_error c h
      · cases hg
        rcases h with h | h
        · rw [resolve_eq, ha, Option.bind_some, hroot, Option.bind_some, h]
          rfl
        · exact cycle_is_error c ha hroot h

/-- a diamond `r -> a~x -> c`, `r -> b -> c` plus a stray file, in some listing order -/
def exampleDir : List (JStr × Bytes) :=
  [(jstr "a~x#c.tinydiff", [1]), (jstr "r.tiny", [0]), (jstr "r#a~x.tinydiff", [2]),
   (jstr "b#c.tinydiff", [3]), (jstr "r#b.tinydiff", [4]), (jstr "notes.txt", [9])]

/-- a content pipeline that records what happened: mappings = list of file ids applied so far -/
def traceContent : Content (List Nat) Nat where
  readRoot b := some b
  readDiff b := b.head?
  apply d m := some (m ++ [d])
  extend m := some (m ++ [100])

private theorem exampleDir_nodup : (exampleDir.map Prod.fst).Nodup := by
  simp -index only [exampleDir, jstr_ofList]
  decide +kernel
example : (exampleDir.map Prod.fst).Nodup := exampleDir_nodup

/- Instance search does not build `DecidableEq` of the wide tuples below in one go (its size bound); the steps are given
by hand, so that the equations are checked by kernel evaluation alone. -/
local instance : DecidableEq (List (Option (List Nat)) × Nat) := inferInstance
local instance : DecidableEq (List (Option (List Nat)) × List (Option (List Nat)) × List (Option (List Nat)) × Nat) :=
  inferInstance
local instance : DecidableEq
    (Nat × JStr × List (Option (List Nat)) × List (Option (List Nat)) × List (Option (List Nat)) × Nat) := inferInstance
local instance : DecidableEq (Option (Split × JStr) × List (JStr × JStr)) := inferInstance

/-- nodes in the order the sorted listing creates them (`a~x` in the first pass) -/
example :
    (resolve traceContent exampleDir).map (fun r => (r.graph.nodes, get r (jstr "x"), r.graph.edges.length, r.rootName,
      applyDiffs traceContent r (jstr "c"), applyDiffs traceContent r (jstr "b"), applyDiffs traceContent r (jstr "q"),
      depth r (jstr "c"))) =
    some ([jstr "a~x", jstr "c", jstr "b", jstr "r"], some (Split.second, jstr "a~x"), 4, jstr "r",
      [some [0, 2, 1, 100], some [0, 4, 3, 100]], [some [0, 4, 100]], [], 2) := by
  simp -index only [exampleDir, jstr_ofList]
  decide +kernel

/-- the same files listed backwards: the same value (`resolve_perm_eq`) -/
example : resolve traceContent exampleDir.reverse = resolve traceContent exampleDir :=
  resolve_perm_eq traceContent (List.reverse_perm _) exampleDir_nodup

/-- a half shared by two `client~server` strings in each of its places (`a~b` with `c~b`, `b~c`, `a~c`, `b~a`), a half
that is `a~a`'s only key, and a second diff for the edge `r → a~b` spelled `r#a`: rejected, forwards and backwards; the
last four conjuncts: hypotheses of `ambiguous_is_error` (two members, one split, the shared key) hold of such a directory -/
example :
    (∀ other, other ∈ [jstr "r#c~b.tinydiff", jstr "r#b~c.tinydiff", jstr "r#a~c.tinydiff", jstr "r#b~a.tinydiff",
        jstr "a~a#b.tinydiff", jstr "r#a.tinydiff"] →
      scan [(jstr "r.tiny", [0]), (jstr "r#a~b.tinydiff", [1]), (other, [2])] = none ∧
      scan [(other, [2]), (jstr "r#a~b.tinydiff", [1]), (jstr "r.tiny", [0])] = none) ∧
    (jstr "a~b" ∈ dirVersions [(jstr "r.tiny", [0]), (jstr "r#a~b.tinydiff", [1]), (jstr "r#c~b.tinydiff", [2])] ∧
      isSplit (jstr "a~b") = true ∧ jstr "b" ∈ keysOf (jstr "a~b") ∧ jstr "b" ∈ keysOf (jstr "c~b")) := by
  simp -index only [jstr_ofList]
  decide +kernel

/-- not ambiguous: the same `client~server` string in several file names, its halves as names of their own, `a~a` -/
example :
    (scan [(jstr "b#c.tinydiff", [3]), (jstr "a~b#d.tinydiff", [2]), (jstr "r#a~b.tinydiff", [1]), (jstr "r.tiny", [0]),
      (jstr "a#e~e.tinydiff", [4])]).map (fun g => (g.nodes, AList.lookup (jstr "a") g.versions,
        AList.lookup (jstr "e") g.versions, g.edges.map fun e => (e.parent, e.child))) =
    some ([jstr "e~e", jstr "a~b", jstr "d", jstr "c", jstr "r"], some (Split.first, jstr "a~b"),
      some (Split.first, jstr "e~e"),
      [(jstr "a~b", jstr "e~e"), (jstr "a~b", jstr "d"), (jstr "a~b", jstr "c"), (jstr "r", jstr "a~b")]) := by
  simp -index only [jstr_ofList]
  decide +kernel

/-- a cycle below the root is rejected; a cycle the root cannot reach is not, its versions have no answer -/
example :
    resolve traceContent [(jstr "r.tiny", [0]), (jstr "r#a.tinydiff", [1]), (jstr "a#b.tinydiff", [2]),
      (jstr "b#a.tinydiff", [3])] = none ∧
    (resolve traceContent [(jstr "r.tiny", [0]), (jstr "c#b.tinydiff", [2]), (jstr "b#c.tinydiff", [3])]).map
      (fun r => applyDiffs traceContent r (jstr "b")) = some [] := by
  simp -index only [jstr_ofList]
  exact ⟨by decide +kernel, by decide +kernel⟩

end Thm.C05
