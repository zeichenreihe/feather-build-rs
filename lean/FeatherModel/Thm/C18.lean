import FeatherModel.Lemmas.DescriptorArgs
import FeatherModel.Lemmas.InnerNames
import FeatherModel.Thm.C11
import FeatherModel.Lemmas.JStrLit

/-!
# C18 — descriptor and name types accept and print exactly the JVMS grammar they claim

The property theorems and their test vectors.  Model: `FeatherModel/Model/Descriptor.lean` (+ `Model/InnerNames.lean` for split/join);
specification: `FeatherModel/Spec/DescriptorGrammar.lean` (JVMS §4.2, §4.3, transcribed independently of the model).
All statements are over arbitrary strings (`JStr = List Nat`, any length, any code points).
-/

namespace Thm.C18
open Descriptor DescriptorGrammar

/-- `FieldDescriptorSlice::parse` succeeds with `t` exactly when `s` is a JVMS field descriptor denoting `t` -/
theorem parse_accepts_iff (s : JStr) (t : Ty) : parseField s = some t ↔ FieldTy s t :=
  parseField_iff s t

/-- `MethodDescriptorSlice::parse` -/
theorem parse_method_accepts_iff (s : JStr) (ps : List Ty) (rt : Option Ty) :
    parseMethod s = some (ps, rt) ↔ MethodTy s (ps, rt) :=
  parseMethod_iff s (ps, rt)

/-- `ReturnDescriptorSlice::parse` -/
theorem parse_return_accepts_iff (s : JStr) (t : Option Ty) : parseReturn s = some t ↔ ReturnTy s t :=
  parseReturn_iff s t

/-- rejection is exactly "outside the grammar" (trailing garbage, missing parentheses, illegal class names, …) -/
theorem parse_rejects_iff (s : JStr) :
    (parseField s = none ↔ ¬ ∃ t, FieldTy s t) ∧
    (parseMethod s = none ↔ ¬ ∃ m, MethodTy s m) ∧
    (parseReturn s = none ↔ ¬ ∃ t, ReturnTy s t) :=
  ⟨eq_none_iff_of_some_iff (parseField_iff s), eq_none_iff_of_some_iff (parseMethod_iff s),
    eq_none_iff_of_some_iff (parseReturn_iff s)⟩

/-- the fuel of the parameter loop is irrelevant once it covers the input (`parseMethod` passes the length) -/
theorem read_params_fuel (s : JStr) (f1 f2 : Nat) (h1 : s.length ≤ f1) (h2 : s.length ≤ f2) :
    readParams f1 s = readParams f2 s :=
  readParams_fuel s f1 f2 h1 h2

/-- the strings that the unfixed code accepted (`L;`, `La.b;`, `La//b;`, `L[I;`) are rejected now, also as
parameters, array elements and return types -/
theorem lax_class_names_rejected :
    parseField (jstr "L;") = none ∧ parseField (jstr "La.b;") = none ∧ parseField (jstr "La//b;") = none ∧
    parseField (jstr "L[I;") = none ∧ parseField (jstr "[La/;") = none ∧
    parseMethod (jstr "(L;)V") = none ∧ parseMethod (jstr "()L/a;") = none ∧ parseReturn (jstr "[[L;") = none := by
  simp -index only [jstr_ofList]
  decide +kernel

example : parseMethod (jstr "(I[[Ljava/lang/Object;D)V") =
    some ([.prim .I, .arr 2 (.obj (jstr "java/lang/Object")), .prim .D], none) := by
  simp -index only [jstr_ofList]
  decide +kernel

/-- whatever the grammar relates to a structure is what the printer prints for it -/
theorem grammar_print {s : JStr} {t : Ty} (h : FieldTy s t) : printTy t = some s :=
  printTy_of_FieldTy h

/-- parse then print reproduces the original string (field) -/
theorem parse_print {s : JStr} {t : Ty} (h : parseField s = some t) : printTy t = some s :=
  printTy_of_FieldTy ((parseField_iff s t).mp h)

theorem parse_print_method {s : JStr} {ps : List Ty} {rt : Option Ty} (h : parseMethod s = some (ps, rt)) :
    printMethod ps rt = some s :=
  printMethod_of_MethodTy ((parseMethod_iff s (ps, rt)).mp h)

theorem parse_print_return {s : JStr} {t : Option Ty} (h : parseReturn s = some t) : printReturn t = some s :=
  printReturn_of_ReturnTy ((parseReturn_iff s t).mp h)

/-- print then parse reproduces the structure, for every well-formed structure (`Array` dimension 1..255, class
names valid object class names); in particular the printer's `assert!` does not fire on well-formed values.
`wf` is not an ad-hoc restriction: by `wf_iff_denoted` it is exactly "the structure of some descriptor"; the two kinds
of Rust values outside it are exhibited by `print_parse_dim0_witness` (documented in the Rust doc comment of `Type`:
"you should never construct the `Type::Array` variant with a dimension of zero") and `print_assert_witness`. -/
theorem print_parse {t : Ty} (h : t.wf = true) : ∃ s, printTy t = some s ∧ parseField s = some t := by
  obtain ⟨s, h1, h2⟩ := FieldTy_of_wf h
  exact ⟨s, h1, (parseField_iff s t).mpr h2⟩

theorem print_parse_method {ps : List Ty} {rt : Option Ty} (hp : ∀ t ∈ ps, t.wf = true)
    (hr : ∀ t, rt = some t → t.wf = true) :
    ∃ s, printMethod ps rt = some s ∧ parseMethod s = some (ps, rt) := by
  obtain ⟨a, ha1, ha2⟩ := ParamsTy_of_wf ps hp
  obtain ⟨b, hb1, hb2⟩ := ReturnTy_of_wf hr
  exact ⟨LPAREN :: a ++ RPAREN :: b, by simp [printMethod, ha1, hb1],
    (parseMethod_iff _ _).mpr (MethodTy.mk ha2 hb2)⟩

theorem print_parse_return {t : Option Ty} (h : ∀ x, t = some x → x.wf = true) :
    ∃ s, printReturn t = some s ∧ parseReturn s = some t := by
  obtain ⟨s, h1, h2⟩ := ReturnTy_of_wf h
  exact ⟨s, h1, (parseReturn_iff s t).mpr h2⟩

/-- the parser only produces well-formed structures (so the two round trips compose) -/
theorem parse_wf {s : JStr} {t : Ty} (h : parseField s = some t) : t.wf = true :=
  wf_of_FieldTy ((parseField_iff s t).mp h)

/-- the well-formed structures are exactly the structures the grammar assigns to some descriptor -/
theorem wf_iff_denoted (t : Ty) : t.wf = true ↔ ∃ s, FieldTy s t := by
  constructor
  · intro h
    obtain ⟨s, _, hf⟩ := FieldTy_of_wf h
    exact ⟨s, hf⟩
  · intro ⟨s, hf⟩
    exact wf_of_FieldTy hf

/-- outside `wf` (1): `Type::Array(0, ArrayType::D)` is a Rust value different from `Type::D`; it prints as `D`, which
parses to `Type::D` -/
theorem print_parse_dim0_witness :
    (Ty.arr 0 (.prim .D)).wf = false ∧ printTy (.arr 0 (.prim .D)) = some (jstr "D") ∧
    parseField (jstr "D") = some (.prim .D) ∧ Ty.arr 0 (.prim .D) ≠ .prim .D := by decide +kernel

/-- a descriptor denotes one structure and a structure has one descriptor -/
theorem grammar_functional {s s' : JStr} {t t' : Ty} (h : FieldTy s t) (h' : FieldTy s' t') : s = s' ↔ t = t' := by
  constructor
  · rintro rfl
    exact Option.some.inj (((parseField_iff s t).mpr h).symm.trans ((parseField_iff s t').mpr h'))
  · rintro rfl
    exact Option.some.inj ((printTy_of_FieldTy h).symm.trans (printTy_of_FieldTy h'))

example : (Ty.arr 3 (.obj (jstr "a/B$C"))).wf = true ∧
    printTy (.arr 3 (.obj (jstr "a/B$C"))) = some (jstr "[[[La/B$C;") := by decide +kernel

/-- the printer's `assert!(!class_name.starts_with('['))` in the `Type::Object` arm cannot fire for a value built
through safe API (`Type::Object` holds an `ObjClassName`, valid object class names do not start with `[`;
`from_inner_unchecked` is `unsafe`) -/
theorem print_obj_assert_unreachable {n : JStr} (h : validObj n = true) : printTy (.obj n) = some (cL :: n ++ [SEMI]) := by
  have hn := (validObj_iff n).mp h
  simp [printTy, ClassName_startsWithBracket hn]

/-- outside `wf` (2): …but the one in the `ArrayType::Object` arm can: that slot holds a `ClassName`, `ClassName::try_from("[I")`
succeeds (also after b182f7d: `[I` is an array field descriptor, hence a valid class name), and `ParsedFieldDescriptor(Type::Array(1, ArrayType::Object("[I"))).write()` panics.  (The correspondence
run replays this: request `desc-print field (arr 1 (obj #5b.49))`, both sides answer `ok panic`.) -/
theorem print_assert_witness :
    validClass (jstr "[I") = true ∧ printTy (.arr 1 (.obj (jstr "[I"))) = none := by decide +kernel

/-- 255 dimensions are accepted … -/
theorem dims_cap_accept {p : JStr} {b : Base} (h : BaseTy p b) :
    parseField (List.replicate 255 LBRACKET ++ p) = some (.arr 255 b) :=
  (parseField_iff _ _).mpr (FieldTy_of_flat ⟨by omega, by omega, p, h, rfl⟩)

/-- … 256 or more are rejected (an error: no wrap-around of the `u8` counter, no truncation, no panic), whatever
follows; as a field, as a return descriptor and as the first parameter of a method descriptor.  This is the JVMS rule
(§4.3.2: "valid only if it represents 255 or fewer dimensions"), so the cap is *not* a deviation from the grammar:
`parse_accepts_iff` is stated against `FieldTy`, which carries the same bound. -/
theorem dims_cap_reject (n : Nat) (h : 256 ≤ n) (s : JStr) :
    parseField (List.replicate n LBRACKET ++ s) = none ∧ parseReturn (List.replicate n LBRACKET ++ s) = none ∧
    parseMethod (LPAREN :: (List.replicate n LBRACKET ++ s)) = none := by
  have ho := readReturn_readParams_over n h s
  exact ⟨by simp only [parseField, readFieldType_over n h s], by simp only [parseReturn, (ho 0).1],
    by simp only [parseMethod, if_true, (ho _).2]⟩

/-- the other JVMS validity rule for descriptors, §4.3.3 "total length of 255 or less", is *not* enforced by
`MethodDescriptorSlice::parse`: 256 `int` parameters parse.  (It is not part of the grammar the property names;
recorded so that the comparison with JVMS is complete.  `get_arguments_size` refuses such input with an error, see
`args_size_spec`.) -/
theorem method_length_limit_not_enforced :
    parseMethod (LPAREN :: (List.replicate 256 cI ++ jstr ")V")) = some (List.replicate 256 (.prim .I), none) :=
  (parseMethod_iff _ _).mpr (MethodTy.mk (ParamsTy_replicate .I 256) ReturnTy.void)

theorem dims_cap :
    parseField (List.replicate 255 LBRACKET ++ jstr "I") = some (.arr 255 (.prim .I)) ∧
    parseField (List.replicate 256 LBRACKET ++ jstr "I") = none :=
  ⟨dims_cap_accept (BaseTy.prim .I), (dims_cap_reject 256 (Nat.le_refl _) _).1⟩

/-- on a method descriptor: 1 (the implicit `this`, always counted) + 2 per `long`/`double` + 1 per other parameter
(arrays of `long`/`double` included); the return descriptor is ignored.  The accumulator is a `u8`: above 255 the
result is an error (cf30e8c; it was a panic of the overflow-checked build before; JVMS §4.3.3 limits method descriptors
to 255 slots, so this is outside valid class files). -/
theorem args_size_spec {s : JStr} {ps : List Ty} {rt : Option Ty} (h : MethodTy s (ps, rt)) :
    argsSize s = if 1 + slotsSum ps ≤ 255 then .ok (1 + slotsSum ps) else .err := by
  cases h with
  | mk hp hr =>
    rename_i a r
    have e : (LPAREN :: a) ++ RPAREN :: r = LPAREN :: (a ++ RPAREN :: r) := rfl
    rw [e]
    simp only [argsSize, if_true]
    exact argsLoop_params hp _ 1 r (by simp) (by omega)

example : argsSize (jstr "(IDLjava/lang/Thread;[J)Ljava/lang/Object;") = .ok 6 := by
  simp -index only [jstr_ofList]
  decide +kernel

/-- field, parameter and local variable names: non-empty, none of `. ; [ /` -/
theorem valid_unqualified_spec (s : JStr) :
    validUnqualified s = true ↔ s ≠ [] ∧ ∀ c ∈ s, c ≠ DOT ∧ c ≠ SEMI ∧ c ≠ LBRACKET ∧ c ≠ SLASH :=
  validUnqualified_iff s

/-- method names: additionally no `<` `>`, except for the two special names -/
theorem valid_method_spec (s : JStr) :
    validMethod s = true ↔ s = jstr "<init>" ∨ s = jstr "<clinit>" ∨
      (s ≠ [] ∧ ∀ c ∈ s, c ≠ DOT ∧ c ≠ SEMI ∧ c ≠ LBRACKET ∧ c ≠ SLASH ∧ c ≠ cLT ∧ c ≠ cGT) :=
  validMethod_iff s

/-- object class names: the JVMS `ClassName` -/
theorem valid_obj_spec (s : JStr) : validObj s = true ↔ ClassName s := validObj_iff s

/-- … i.e. `/`-joined unqualified names (which implies: does not start with `[`) -/
theorem valid_obj_joined (s : JStr) :
    validObj s = true ↔ ∃ parts : List JStr, parts ≠ [] ∧ (∀ p ∈ parts, Ident p) ∧ s = [SLASH].intercalate parts := by
  rw [validObj_iff, ClassName_iff_joined]

theorem valid_obj_not_bracket {s : JStr} (h : validObj s = true) : s.head? ≠ some LBRACKET :=
  fun e => ClassName_no_bracket ((validObj_iff s).mp h) (List.mem_of_mem_head? e)

/-- array class names **as coded** (since b182f7d): starts with `[` and `FieldDescriptorSlice::parse` accepts it -/
theorem valid_arr_as_coded (s : JStr) :
    validArr s = true ↔ s.head? = some LBRACKET ∧ (parseField s).isSome = true := by
  rw [validArr_iff, ArrayDescriptor_iff_parse]

/-- `ArrClassName` = its **documentation** ("Array class names always start with `[` followed by a field descriptor" /
error text "must be an array field descriptor"): exactly the JVMS array field descriptors (1 to 255 dimensions, then a
base type or `L ClassName ;`), for every string. -/
theorem valid_arr_doc (s : JStr) : validArr s = true ↔ ArrayDescriptor s := validArr_iff s

/-- `ClassName` = its documentation: an object class name or an array class name, for every string. -/
theorem valid_class_doc (s : JStr) : validClass s = true ↔ AnyClassName s := validClass_iff s

/-- every array field descriptor is accepted as `ArrClassName` and as `ClassName` -/
theorem arr_name_complete {s : JStr} (h : ArrayDescriptor s) : validArr s = true ∧ validClass s = true :=
  ⟨(validArr_iff s).mpr h, (validClass_iff s).mpr (Or.inr h)⟩

/-- nothing outside the documented meaning is accepted by either predicate (the code before b182f7d accepted every
`[`-prefixed string), and the three name types partition as documented -/
theorem arr_name_gap (s : JStr) :
    (validArr s = true → ArrayDescriptor s) ∧ (validClass s = true → AnyClassName s) ∧
    (validClass s = true ↔ validObj s = true ∨ validArr s = true) ∧ ¬ (validObj s = true ∧ validArr s = true) := by
  refine ⟨(valid_arr_doc s).mp, (valid_class_doc s).mp, ?_, ?_⟩
  · rw [validClass_iff, validObj_iff, validArr_iff]
  · intro ⟨ho, ha⟩
    exact valid_obj_not_bracket ho (ArrayDescriptor_head ((validArr_iff s).mp ha))

example : validArr (jstr "[[La/b;") = true ∧ validClass (jstr "[[La/b;") = true ∧ validClass (jstr "a/b") = true := by
  decide +kernel

/-- `[`, `[x`, `[V`, `[L;` (accepted by the code before b182f7d) are rejected as
`ArrClassName` and as `ClassName` (the repo's `#[ignore]`d tests `invalid_arr_class_names` / `invalid_class_names`
list `[` and `[V`) -/
theorem arr_name_bracket_only_rejected :
    validArr (jstr "[") = false ∧ validClass (jstr "[") = false ∧ validArr (jstr "[x") = false ∧
    validClass (jstr "[x") = false ∧ validArr (jstr "[V") = false ∧ validClass (jstr "[V") = false ∧
    validArr (jstr "[L;") = false ∧ validArr (jstr "[I") = true := by decide +kernel

/-- more than 255 dimensions are not an array class name, whatever follows -/
theorem arr_name_over_255_rejected (n : Nat) (h : 256 ≤ n) (s : JStr) :
    validArr (List.replicate n LBRACKET ++ s) = false ∧ validClass (List.replicate n LBRACKET ++ s) = false := by
  have hp := (dims_cap_reject n h s).1
  have ha : validArr (List.replicate n LBRACKET ++ s) = false := by simp [validArr, hp]
  exact ⟨ha, by rw [validClass, startsWithBracket_replicate (by omega), if_pos rfl, ha]⟩

/-- the descriptor *newtypes* (`FieldDescriptor`, `MethodDescriptor`, `ReturnDescriptor`) do not validate at all:
their `check_valid` is `Ok(())` with a `TODO: parse the desc and fail if invalid`, so `FieldDescriptor::is_valid("foo")`
and `TryFrom` succeed and only `parse()` rejects (the repo's `#[ignore]`d tests `invalid_field_descriptors`,
`invalid_method_descriptors`, `invalid_return_descriptors` list this).  The property statement speaks about *parsing*
for descriptors, which is exact (`parse_accepts_iff`); this witness records the difference between the type and its
parser. -/
theorem descriptor_newtype_unchecked_witness :
    validDescriptorNewtype (jstr "foo") = true ∧ parseField (jstr "foo") = none ∧
    parseMethod (jstr "foo") = none ∧ parseReturn (jstr "foo") = none := by decide +kernel

/-- `ArrClassNameSlice::dimension` on array descriptors -/
theorem dimension_spec {s : JStr} {d : Nat} {b : Base} (h : FieldTy s (.arr d b)) : dimension s = some d :=
  dimension_of_FieldTy h

/-- For every valid `ArrClassName` the count fits the `u8` (`as u8` does not truncate) and is not 0 (the `assert_ne!` cannot
fire): `dimension()` is total on the type and returns the number of leading `[`, 1..255. (Guards against the code before
b182f7d, where 256 brackets were a valid `ArrClassName` on which `dimension()` panicked.) -/
theorem dimension_total {s : JStr} (h : validArr s = true) :
    ∃ d, dimension s = some d ∧ 1 ≤ d ∧ d ≤ 255 ∧ d = countBrackets s := by
  obtain ⟨d, b, hf⟩ := (validArr_iff s).mp h
  obtain ⟨h1, h2, _⟩ := flat_of_FieldTy hf
  exact ⟨d, dimension_of_FieldTy hf, h1, h2, (countBrackets_of_FieldTy hf).symm⟩

/-- the model's `none` (= panic) answer of `dimension` is unreachable through a valid `ArrClassName` -/
theorem dimension_no_panic (s : JStr) (h : validArr s = true) : dimension s ≠ none := by
  obtain ⟨d, hd, _⟩ := dimension_total h
  rw [hd]
  exact Option.some_ne_none d

/-- `FieldDescriptor::from_class` -/
theorem from_class_spec (n : JStr) :
    (ClassName n → FieldTy (fromClass n) (.obj n)) ∧ (ArrayDescriptor n → fromClass n = n) := by
  constructor
  · intro h
    rw [fromClass, ClassName_startsWithBracket h]
    exact FieldTy.obj h
  · intro h
    rw [fromClass, (startsWithBracket_iff n).mpr (ArrayDescriptor_head h), if_pos rfl]

/-- `ObjClassNameSlice::get_simple_name`: "the part after the last `/`", the whole name if there is none -/
theorem simple_name_spec (p q : JStr) (h : SLASH ∉ q) :
    simpleName (p ++ SLASH :: q) = q ∧ simpleName q = q :=
  ⟨simpleName_after_last p q h, simpleName_no_slash q h⟩

example : simpleName (jstr "org/example/ClassName") = jstr "ClassName" := by
  simp -index only [jstr_ofList]
  decide +kernel

theorem split_join {s p i : JStr} (h : InnerNames.split s = some (p, i)) : InnerNames.join p i = s :=
  Thm.C11.split_join h

/-- the two accessors `get_inner_class_parent` / `get_inner_class_name` are the two halves of the split: they are both
present or both absent, and when present they recombine to the name -/
theorem inner_parts_are_split (s : JStr) :
    (InnerNames.innerParent s).isSome = (InnerNames.innerName s).isSome ∧
    ∀ p i, InnerNames.innerParent s = some p → InnerNames.innerName s = some i → InnerNames.join p i = s := by
  unfold InnerNames.innerParent InnerNames.innerName
  cases h : InnerNames.split s with
  | none => simp
  | some pi =>
    refine ⟨rfl, ?_⟩
    rintro _ _ ⟨⟩ ⟨⟩
    exact Thm.C11.split_join h

example : InnerNames.innerParent (jstr "a/B$C") = some (jstr "a/B") ∧ InnerNames.innerName (jstr "a/B$C") = some (jstr "C") ∧
    InnerNames.innerName (jstr "com/sun/proxy/$Proxy0") = none := by
  simp -index only [jstr_ofList]
  decide +kernel

theorem join_split {p i : JStr} (hp : p ≠ []) (hi : i ≠ []) (hps : p.getLast? ≠ some InnerNames.SLASH)
    (his : InnerNames.SLASH ∉ i) (hid : InnerNames.DOLLAR ∉ i) :
    InnerNames.split (InnerNames.join p i) = some (p, i) :=
  Thm.C11.join_split hp hi hps his hid

/-- the `// SAFETY:` claim of `from_inner_class`: joining two object class names gives an object class name -/
theorem join_valid {p i : JStr} (hp : validObj p = true) (hi : validObj i = true) :
    validObj (InnerNames.join p i) = true :=
  (validObj_iff _).mpr
    (ClassName_join (c := InnerNames.DOLLAR) (by decide) ((validObj_iff p).mp hp) ((validObj_iff i).mp hi))

/-- on valid names `join` is undone by `split` whenever the inner name is simple (no `/`, no `$`) -/
theorem join_split_valid {p i : JStr} (hp : validObj p = true) (hi : validUnqualified i = true)
    (hid : InnerNames.DOLLAR ∉ i) : InnerNames.split (InnerNames.join p i) = some (p, i) := by
  have hcp := (validObj_iff p).mp hp
  have hii := (validUnqualified_iff i).mp hi
  -- `InnerNames.SLASH` and `Descriptor.SLASH` are two names of 47, so the facts about the one serve for the other
  exact Thm.C11.join_split (ClassName_ne_nil hcp) hii.1 (ClassName_getLast hcp) (Ident_no_slash hii) hid

example : InnerNames.split (jstr "a/Outer$Inner") = some (jstr "a/Outer", jstr "Inner") := by
  simp -index only [jstr_ofList]
  decide +kernel

end Thm.C18
