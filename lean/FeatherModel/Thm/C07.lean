import FeatherModel.Lemmas.RemapTree
import FeatherModel.Lemmas.RemapShape
import FeatherModel.Gen.RemapFields

/-!
# C07 — remapping a jar renames every reference consistently and nothing else

The property theorems, the concrete remappers and class trees of their test vectors (`rAB`, `exampleClass`, `indyClass`, …) and
the lists the coverage statements are about (`customHandled`, `opaqueKept`, `exceptions`). Model of `dukebox/src/remap.rs`:
`FeatherModel/Model/RemapTree.lean` (impl by impl); independent traversal `refsClass`, the remapper's answers `applyRef`, the shape `eraseClass`:
`FeatherModel/Model/RemapSpec.lean`; `Gen/RemapFields.lean` is translated from `remap.rs` and duke's tree definitions
on every run.

The remapper is an arbitrary `Remapper` (four possibly failing functions): `remap_refs`, `remap_shape`, `remap_inner_name`, the
entry and jar theorems hold for every remapper and every class tree (annotations and bootstrap arguments nested to any depth).
The `remap_refs_*_fixed`, `remap_shape_fixed` and `signature_unmapped_witness` theorems are test vectors with the remapper `rAB`,
`remap_inner_name_fixed` and `remap_jar_collision_witness` with its variants `rInner`, `rMergeB`, `rMerge`;
`element_name_unmapped_witness` holds for every remapper; the coverage theorems (and `field_coverage_witness`) are about the
translated table `Gen.RemapFields.table`.
-/

namespace Thm.C07
open RemapTree

/-- **`remap_refs`.** The references of the result, collected by the independent traversal `refsClass`
(declarations, instructions, handles, bootstrap arguments, exception tables, stack-map types, annotations incl. enum
constants, inner-class / enclosing-method / nest / permitted-subclass records, descriptors of locals, module services and
main class, record components with their annotations), are — position by position, in order — what the remapper answers
for the original references (`applyRef`, owner = the class being remapped); and the remap fails exactly when one of these
answers fails. No hypothesis on the class or on the remapper. -/
theorem remap_refs (r : Remapper) (c : ClassFile) :
    (remapClass r c).map refsClass = omapM (applyRef r c.name) (refsClass c) :=
  (Asks.view_iff.1 (class_remaps r c)).1

/-- the remap fails only when the remapper fails on one of the class's references -/
theorem remap_fails_only_on_reference (r : Remapper) (c : ClassFile) (h : remapClass r c = none) :
    ∃ x ∈ refsClass c, applyRef r c.name x = none := by
  have h1 := remap_refs r c
  rw [h] at h1
  exact List.mapM_eq_none_iff.mp ((omapM_eq _ _).symm.trans h1.symm)

/-- the class an enum constant is looked up in is read off the descriptor text by the specification (`classOfDesc`:
between `L` and the final `;`) and asked of duke's descriptor parser by `remap.rs` (`objectClassOf`): the same, namely
the JVMS production `ObjectType: L ClassName ;` -/
theorem enum_class_of_descriptor (t k : JStr) :
    (classOfDesc t = some k ↔ DescriptorGrammar.ClassName k ∧ t = Descriptor.cL :: k ++ [Descriptor.SEMI]) ∧
    classOfDesc t = objectClassOf t :=
  ⟨classOfDesc_iff t k, classOfDesc_eq t⟩

/-! ### Concrete values for the examples and witnesses: a remapper renaming class `A` to `B`. Strings are written as code
points: `[65]` = `A`, `[66]` = `B`, `[88]` = `X` (the class most test trees belong to), `[81]` = `Q`, `91` = `[`, `47` = `/`,
`36` = `$`, `49`/`50` = `1`/`2`. -/

def A : JStr := [65]
def B : JStr := [66]
def LA : JStr := [76, 65, 59]          -- "LA;"
def LB : JStr := [76, 66, 59]
def unitLA : JStr := [40, 41, 76, 65, 59]  -- "()LA;"
def unitLB : JStr := [40, 41, 76, 66, 59]
def nameF : JStr := [102]              -- "f"
def nameG : JStr := [103]              -- "g"

/-- `A -> B`, field `A.f:LA; -> g`; descriptors `LA;`, `()LA;` rewritten accordingly -/
def rAB : Remapper where
  mapClass n := some (if n = A then B else n)
  mapDesc d := some (if d = LA then LB else if d = unitLA then unitLB else d)
  mapField o n d := some (if o = A ∧ n = nameF then nameG else n, if d = LA then LB else d)
  mapMethod _ n d := some (n, if d = unitLA then unitLB else d)

def nil : Opaque := .list []

def emptyClass (name : JStr) : ClassFile :=
  { shape := nil, name := name, superClass := none, interfaces := [], fields := [], methods := [], innerClasses := none,
    enclosingMethod := none, signature := none, rva := [], ria := [], rvta := [], rita := [], module := none,
    modulePackages := none, moduleMainClass := none, nestHost := none, nestMembers := none,
    permittedSubclasses := none, recordComponents := [], attributes := [] }

def emptyRecordComponent (name desc : JStr) : RecordComponent :=
  { name := name, desc := desc, signature := none, rva := [], ria := [], rvta := [], rita := [], attributes := [] }

def emptyMethod (name desc : JStr) : Method :=
  { shape := nil, name := name, desc := desc, code := none, exceptions := none, signature := none, rva := [], ria := [],
    rvta := [], rita := [], annotationDefault := none, parameters := nil, attributes := [] }

def codeOf (is : List Insn) : Code :=
  { shape := nil, insns := is.map fun i => ⟨nil, none, i⟩, exceptions := [], lvs := none, rvta := [], rita := [],
    attributes := [] }

def someHandle : Handle := .method nil ⟨B, nameF, unitLB⟩

/-- a class `X extends A` with a field `f:LA;`, a method using `A` in a type instruction, a field access, a call on an array of `A` and a handle constant, and an annotation -/
def exampleClass : ClassFile :=
  { emptyClass [88] with
    superClass := some A
    fields := [{ shape := nil, name := nameF, desc := LA, signature := none, rva := [.mk LA [.mk nameF (.cls LA)]],
                 ria := [], rvta := [], rita := [], attributes := [] }]
    methods := [{ emptyMethod nameG unitLA with
      code := some (codeOf [.cls nil A, .field nil ⟨A, nameF, LA⟩, .method nil ⟨[91, 76, 65, 59], nameG, unitLA⟩,
                            .ldc (.handle (.field nil ⟨A, nameF, LA⟩)), .plain nil]) }] }

/-- non-vacuity: on a class full of references the remap succeeds and changes them -/
example : (remapClass rAB exampleClass).map refsClass = omapM (applyRef rAB exampleClass.name) (refsClass exampleClass) ∧
    (remapClass rAB exampleClass).map refsClass ≠ some (refsClass exampleClass) ∧
    (remapClass rAB exampleClass).isSome = true := by decide +kernel

/-- a lambda `() -> A`: `invokedynamic f()LA;` -/
def indyClass : ClassFile :=
  { emptyClass [88] with methods := [{ emptyMethod nameG unitLA with code := some (codeOf [.indy nameF unitLA someHandle []]) }] }

/-- The descriptor `()LA;` of the `invokedynamic` is renamed to `()LB;` (the code before 45d38a4 copied it). -/
theorem remap_refs_indy_fixed :
    (remapClass rAB indyClass).map refsClass = omapM (applyRef rAB indyClass.name) (refsClass indyClass) ∧
    (remapClass rAB indyClass).map refsClass =
      some [.cls [88], .methodDecl nameG unitLB, .dynDesc unitLB, .methodRef ⟨B, nameF, unitLB⟩] := by decide +kernel

/-- `ldc` of a dynamic constant of type `LA;` -/
def condyClass : ClassFile :=
  { emptyClass [88] with
    methods := [{ emptyMethod nameG unitLA with code := some (codeOf [.ldc (.dynamic (.mk nameF LA someHandle []))]) }] }

/-- The descriptor `LA;` of the dynamic constant is renamed to `LB;`. -/
theorem remap_refs_condy_fixed :
    (remapClass rAB condyClass).map refsClass = omapM (applyRef rAB condyClass.name) (refsClass condyClass) ∧
    (remapClass rAB condyClass).map refsClass =
      some [.cls [88], .methodDecl nameG unitLB, .dynDesc LB, .methodRef ⟨B, nameF, unitLB⟩] := by decide +kernel

/-- `@Q(g = A.f, g = A[].f, g = A."f/")` where the mappings rename the enum constant `A.f` to `g` -/
def enumClass : ClassFile :=
  { emptyClass [88] with
    rva := [.mk [76, 81, 59] [.mk nameG (.enum LA nameF), .mk nameG (.enum (91 :: LA) nameF),
                              .mk nameG (.enum LA [102, 47])]] }

/-- The constant `f` of the enum `A` is renamed to `g` along with the field `A.f`; with an array descriptor (no class to look
the constant up in) or a name that cannot be a field name it is kept. -/
theorem remap_refs_enum_fixed :
    (remapClass rAB enumClass).map refsClass = omapM (applyRef rAB enumClass.name) (refsClass enumClass) ∧
    (remapClass rAB enumClass).map refsClass =
      some [.cls [88], .desc [76, 81, 59], .enumConst LB nameG, .enumConst (91 :: LA) nameF, .enumConst LB [102, 47]] := by
  decide +kernel

/-- a record `A(A f, A "f/")` whose first component is annotated `@A(A.f)` -/
def recordClass : ClassFile :=
  { emptyClass A with
    recordComponents := [{ emptyRecordComponent nameF LA with ria := [.mk LA [.mk nameG (.enum LA nameF)]] },
                         emptyRecordComponent [102, 47] LA] }

/-- The component `f:LA;` is renamed like the field `A.f:LA;` (to `g:LB;`), its annotation is remapped; a component whose
name cannot be a field name keeps it and has its descriptor remapped. -/
theorem remap_refs_record_fixed :
    (remapClass rAB recordClass).map refsClass = omapM (applyRef rAB recordClass.name) (refsClass recordClass) ∧
    (remapClass rAB recordClass).map refsClass =
      some [.cls B, .recordDecl nameG LB, .desc LB, .enumConst LB nameG, .recordDecl [102, 47] LB] := by decide +kernel

/-- a module descriptor: `uses A; provides A with X, A;`, main class `A` -/
def moduleClass : ClassFile :=
  { emptyClass [88] with
    module := some { shape := nil, uses := [A], provides := [⟨A, [[88], A]⟩] }
    modulePackages := some [A]
    moduleMainClass := some A }

/-- The service classes and the main class are renamed; the package list is not a list of classes and is copied. -/
theorem remap_refs_module_fixed :
    (remapClass rAB moduleClass).map refsClass = omapM (applyRef rAB moduleClass.name) (refsClass moduleClass) ∧
    (remapClass rAB moduleClass).map refsClass =
      some [.cls [88], .clsAny B, .clsAny B, .clsAny [88], .clsAny B, .clsAny B] ∧
    (remapClass rAB moduleClass).map (·.modulePackages) = some (some [A]) := by decide +kernel

/-- **`remap_shape`.** Everything that is not a reference position — flags, version, the instruction
stream with operands and labels, constants, line numbers, type-annotation targets, signatures, element names, module and
package names, unknown attributes at every level, the number and order of all lists — is unchanged. No hypothesis. -/
theorem remap_shape (r : Remapper) (c c' : ClassFile) (h : remapClass r c = some c') :
    eraseClass c' = eraseClass c :=
  (Asks.view_iff.1 (class_remaps r c)).2 c' h

example : ∃ c', remapClass rAB exampleClass = some c' ∧ eraseClass c' = eraseClass exampleClass := by
  cases h : remapClass rAB exampleClass with
  | none => exact absurd h (by decide +kernel)
  | some c' => exact ⟨c', rfl, remap_shape rAB _ _ h⟩

/-- a class with an unknown attribute at every level, module data and a record component -/
def fullClass : ClassFile :=
  { emptyClass A with
    attributes := [nil]
    module := some { shape := nil, uses := [A], provides := [] }
    modulePackages := some [A]
    moduleMainClass := some A
    fields := [{ shape := nil, name := nameF, desc := LA, signature := none, rva := [], ria := [], rvta := [], rita := [],
                 attributes := [nil] }]
    methods := [{ emptyMethod nameG unitLA with code := some { codeOf [] with attributes := [nil] }, attributes := [nil] }]
    recordComponents := [{ emptyRecordComponent nameF LA with attributes := [nil] }] }

/-- Unknown attributes of the class, a field, a method, its code and a record component, the module data and the record
components are all still there after the remap, and the shape is the shape of the input. -/
theorem remap_shape_fixed :
    ∀ c', remapClass rAB fullClass = some c' →
      eraseClass c' = eraseClass fullClass ∧
      c'.attributes.length = 1 ∧ c'.fields.map (·.attributes.length) = [1] ∧
      c'.methods.map (·.attributes.length) = [1] ∧
      c'.methods.map (fun m => m.code.map (·.attributes.length)) = [some 1] ∧
      c'.recordComponents.map (fun rc => (rc.name, rc.desc, rc.attributes.length)) = [(nameG, LB, 1)] ∧
      c'.module.map (·.uses) = some [B] ∧ c'.modulePackages = some [A] ∧ c'.moduleMainClass = some B := by
  intro c' h
  refine ⟨remap_shape rAB _ _ h, ?_⟩
  revert c'
  show ∀ c' ∈ remapClass rAB fullClass, _
  decide +kernel

/-- a field with generic signature `LA;` and descriptor `LA;` -/
def sigClass : ClassFile :=
  { emptyClass [88] with
    fields := [{ shape := nil, name := nameF, desc := LA, signature := some LA, rva := [], ria := [], rvta := [],
                 rita := [], attributes := [] }] }

/-- **witness (signatures).** Signatures are outside the traversal (no remapper primitive answers for them) and are
copied: after renaming `A` to `B` the field's descriptor says `LB;`, its generic signature still `LA;`. -/
theorem signature_unmapped_witness :
    (remapClass rAB sigClass).map (fun c => c.fields.map fun f => (f.desc, f.signature)) = some [(LB, some LA)] := by
  decide +kernel

/-- **witness (annotation element names).** `@A(f = …)` names the method `f` of the annotation interface `A`: it is
copied whatever the remapper says (a statement about every remapper and every annotation with one pair, not a test vector). -/
theorem element_name_unmapped_witness (r : Remapper) (t n : JStr) (v : ElementValue) (a : Annotation)
    (h : remapAnnotation r (.mk t [.mk n v]) = some a) : ∃ t' v', a = .mk t' [.mk n v'] := by
  simp only [remapAnnotation, remapPairs, remapPair] at h
  cases h1 : r.mapDesc t <;> simp only [h1] at h
  · simp at h
  cases h2 : remapElementValue r v <;> simp only [h2] at h
  · simp at h
  simp at h
  exact ⟨_, _, h.symm⟩

/-- **`remap_inner_name`.** `InnerClass.inner_name` is no question a remapper answers; it follows from the answer for
the class name. What `remap.rs` makes of it is `expectedInnerName`: an inner name that was the simple name spelled out
by the old class name (after the last `$` of the last `/`-separated part, digits of a local class skipped) is the simple
name spelled out by the new class name, when that spells one; every other inner name is unchanged. -/
theorem remap_inner_name (r : Remapper) (i j : InnerClass) (h : remapInnerClass r i = some j) :
    j.innerName = expectedInnerName i.inner j.inner i.innerName :=
  innerClass_innerName r i j h

/-- … in particular an entry whose class is not renamed keeps its inner name, whatever it is -/
theorem remap_inner_name_unrenamed (r : Remapper) (i j : InnerClass) (h : remapInnerClass r i = some j)
    (hn : j.inner = i.inner) : j.innerName = i.innerName := by
  rw [remap_inner_name r i j h, hn]
  simp only [expectedInnerName]
  cases i.innerName with
  | none => rfl
  | some s =>
    by_cases hs : spelledSimpleName i.inner = some s <;> simp [hs]

/-- the meaning of "after the last": `rsplit_once` in `remap.rs`, `reverse`/`takeWhile` in the specification -/
theorem inner_name_after_last (c : Nat) (s : JStr) : afterLast c s = lastPiece c s ∧ simpleName s = spelledSimpleName s :=
  ⟨afterLast_eq_lastPiece c s, simpleName_eq s⟩

def dollar (a b : JStr) : JStr := a ++ [36] ++ b

/-- every class becomes `B` (a name without `$`) -/
def rMergeB : Remapper := { rAB with mapClass := fun _ => some B }

/-- `A$f → B$g`, `A$1f → B$2g`, everything else as `rAB` -/
def rInner : Remapper :=
  { rAB with mapClass := fun n => some (if n = dollar A nameF then dollar B nameG
                                        else if n = dollar A (49 :: nameF) then dollar B (50 :: nameG) else n) }

/-- The member class `A$f` and the local class `A$1f`, both with inner name `f`, are renamed to `B$g` and `B$2g`: the inner
name becomes `g`. An inner name that is not what the class name spells out (`g` for `A$f`) and the inner name of a class
whose new name has no `$` are kept. -/
theorem remap_inner_name_fixed :
    (omapM (remapInnerClass rInner)
        [⟨dollar A nameF, some A, some nameF, nil⟩, ⟨dollar A (49 :: nameF), none, some nameF, nil⟩,
         ⟨dollar A nameF, some A, some nameG, nil⟩, ⟨dollar A nameF, none, none, nil⟩]).map
      (·.map fun j => (j.inner, j.innerName)) =
      some [(dollar B nameG, some nameG), (dollar B (50 :: nameG), some nameG), (dollar B nameG, some nameG),
            (dollar B nameG, none)] ∧
    (remapInnerClass rMergeB ⟨dollar A nameF, none, some nameF, nil⟩).map (fun j => (j.inner, j.innerName)) =
      some (B, some nameF) := by decide +kernel

/-- an entry named `<n>.class` is stored under `map_class(n).class` -/
theorem entry_name_class (r : Remapper) (n : JStr) :
    remapEntryName r (n ++ dotClass) = (r.mapClass n).map (· ++ dotClass) := by
  simp [remapEntryName, stripDotClass_append]

/-- every other entry keeps its name -/
theorem entry_name_other (r : Remapper) (n : JStr) (h : stripDotClass n = none) : remapEntryName r n = some n := by
  simp [remapEntryName, h]

/-- **a class entry is stored under the name of its remapped class**: an entry named after its class (`wellNamed`)
is named after its remapped class again, and its class is `remapClass` of the original -/
theorem entry_class_stored (r : Remapper) (n : JStr) (a : Opaque) (c : ClassFile) (n' : JStr) (e' : Entry)
    (hw : wellNamed (n, ⟨a, .cls c⟩) = true) (h : remapEntry r (n, ⟨a, .cls c⟩) = some (n', e')) :
    ∃ c', remapClass r c = some c' ∧ e' = ⟨a, .cls c'⟩ ∧ n' = c'.name ++ dotClass ∧ r.mapClass c.name = some c'.name := by
  simp only [wellNamed, beq_iff_eq] at hw
  subst hw
  simp only [remapEntry, entry_name_class, remapContent] at h
  cases h2 : remapClass r c with
  | none => cases h1 : r.mapClass c.name <;> simp [h1, h2] at h
  | some c' =>
    simp only [remapClass_name h2, h2, Option.map_some, Option.some.injEq, Prod.mk.injEq] at h
    exact ⟨c', rfl, h.2.symm, h.1.symm, remapClass_name h2⟩

/-- **non-class entries and their content are unchanged** (name decided by the name, content by the content) -/
theorem entry_other_unchanged (r : Remapper) (n : JStr) (a : Opaque) (d : Opaque) (h : stripDotClass n = none) :
    remapEntry r (n, ⟨a, .other d⟩) = some (n, ⟨a, .other d⟩) ∧ remapEntry r (n, ⟨a, .dir⟩) = some (n, ⟨a, .dir⟩) := by
  simp [remapEntry, remapContent, entry_name_other r n h]

/-- the jar: fold of `IndexMap::insert` over the entry-wise image, failing when one entry fails -/
theorem remap_jar_fold (r : Remapper) (j : Jar) :
    remapJar r j = (omapM (remapEntry r) j).map (fun es => es.foldl (fun a ne => AList.insert ne.1 ne.2 a) []) :=
  remapJarLoop_fold r j []

/-- `remapJar` where no two entries collide ("partial": the case without a name collision; with one, see
`remap_jar_collision_witness`): when the remapped entry names are pairwise different, the result is the entry-wise image of
the jar, in order (nothing lost, nothing added). -/
theorem remap_jar_partial (r : Remapper) (j : Jar) (es : List (JStr × Entry)) (h : omapM (remapEntry r) j = some es)
    (hn : (es.map Prod.fst).Nodup) : remapJar r j = some es := by
  rw [remap_jar_fold, h]
  simp only [Option.map_some]
  exact congrArg some (AList.foldl_insert_of_nodup es [] hn)

def dirEntry : Entry := ⟨nil, .dir⟩

/-- a remapper sending two classes to one name -/
def rMerge : Remapper := { rAB with mapClass := fun _ => some B }

example : remapJar rAB [(A ++ dotClass, dirEntry), ([120], dirEntry)] =
    some [(B ++ dotClass, dirEntry), ([120], dirEntry)] := by
  exact remap_jar_partial _ _ _ rfl (by decide +kernel)

/-- **witness (colliding names).** Two entries whose names the remapper maps to one name: the second replaces the
first (`IndexMap::insert`), one entry is lost. -/
theorem remap_jar_collision_witness :
    (remapJar rMerge [(A ++ dotClass, dirEntry), ([88] ++ dotClass, dirEntry)]).map List.length = some 1 := by decide +kernel

open Gen.RemapFields

/-- `custom` positions: computed by the impl from a remapper call on several fields at once; the model shows they are
the remapper's answers (`remap_refs`: `fieldDecl`, `methodDecl`, `recordDecl`, `enumConst`, `methodRef` / `clsAny` of
`EnclosingMethod`) resp. follow from them (`remap_inner_name`) -/
def customHandled : List Nat :=
  [id_Field_name, id_Field_descriptor, id_Method_name, id_Method_descriptor, id_EnclosingMethod_class,
   id_EnclosingMethod_method, id_RecordComponent_name, id_RecordComponent_descriptor, id_ElementValue_Enum_const_name,
   id_InnerClass_inner_name]

/-- unknown attributes: raw bytes that nobody can interpret (they may or may not name something); copied byte for byte
at every level, which is all a remapper can do with them (`remap_shape`) -/
def opaqueKept : List Nat :=
  [id_ClassFile_attributes, id_Field_attributes, id_Method_attributes, id_Code_attributes, id_RecordComponent_attributes]

/-- positions whose type can carry a reference and which `remap.rs` copies -/
def exceptions : List Nat :=
  [ id_InvokeDynamic_name, id_ConstantDynamic_name,
    id_ClassFile_signature, id_Field_signature, id_Method_signature, id_Lv_signature, id_RecordComponent_signature,
    id_ElementValuePair_name ]

/-- the full statement: every position that can carry a reference is remapped (or is an uninterpretable attribute) -/
def FullCoverage : Prop :=
  ∀ row ∈ table, row.carries = true →
    row.treat = .remapped ∨ (row.treat = .custom ∧ row.id ∈ customHandled) ∨ (row.treat = .kept ∧ row.id ∈ opaqueKept)

example : exceptions.length = 8 ∧ opaqueKept.length = 5 := by decide +kernel

/-- every field of every struct and every payload of every enum variant with a `Mappable` impl whose type can carry a
reference is remapped, or is an unknown attribute copied verbatim — except the listed positions. Decided on the table
translated from `remap.rs` and duke's tree definitions. -/
theorem field_coverage_partial :
    ∀ row ∈ table, row.carries = true →
      row.treat = .remapped ∨ (row.treat = .custom ∧ row.id ∈ customHandled) ∨
      (row.treat = .kept ∧ row.id ∈ opaqueKept) ∨ row.id ∈ exceptions := by
  decide +kernel

/-- the statement without the exception list is false: a field's signature is copied -/
theorem field_coverage_witness : ¬ FullCoverage := by
  intro h
  exact absurd (h ⟨id_Field_signature, .kept, true⟩ (by decide +kernel) rfl) (by decide +kernel)

/-- the exception list is tight: every entry is a reference-carrying position that is copied -/
theorem field_coverage_exceptions_tight :
    ∀ i ∈ exceptions, ∃ row ∈ table, row.id = i ∧ row.carries = true ∧ row.treat = .kept := by
  decide +kernel

/-- no position of the tree is dropped by `remap.rs` (record components, module data and unknown attributes are carried
over) -/
theorem nothing_dropped : ∀ row ∈ table, row.treat ≠ .dropped := by
  decide +kernel

/-- no position without references is touched: what is remapped carries references -/
theorem nothing_else_touched : ∀ row ∈ table, row.carries = false → row.treat = .kept := by
  decide +kernel

end Thm.C07
